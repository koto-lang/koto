/-
C05 `compile_wf`: the code the C01 compiler core (`Model/Compile.lean`) emits is well-formed bytecode.
Here: along a derivation of `compile` the frame only moves to later states (`Ext`, `Compiled.ext` of
C01FrameFacts), so every register the code mentions is below the final `registers_used()`
(`Compiled.regsN`) and that count fits a `u8`; the jumps of the flattened stream stay inside it; the byte
encoding of the stream (`encFlat`, `encodeMain`).
-/
import KotoVerif.Lemmas.C01FrameFacts
import KotoVerif.Model.WF

namespace KotoVerif.Compile
open KotoVerif.Gen KotoVerif.Bytecode

def instrRegs : Instr → List Reg
  | .setNull r => [r]
  | .setBool r _ => [r]
  | .setInt r _ => [r]
  | .copy d s => [d, s]
  | .unop _ d s => [d, s]
  | .binop _ d a b => [d, a, b]
  | .compound _ l r => [l, r]

def codeRegs : Code → List Reg
  | .nil => []
  | .instr i => instrRegs i
  | .seq a b => codeRegs a ++ codeRegs b
  | .jumpIfFalse r b => r :: codeRegs b
  | .jumpIfTrue r b => r :: codeRegs b
  | .ifElse r t _ e => r :: (codeRegs t ++ codeRegs e)

def CB (c : Code) (n : Nat) : Prop := ∀ r ∈ codeRegs c, r < n

@[simp] theorem CB_nil (n : Nat) : CB .nil n := by simp [CB, codeRegs]
@[simp] theorem CB_seq (a b : Code) (n : Nat) : CB (.seq a b) n ↔ CB a n ∧ CB b n := by
  simp only [CB, codeRegs, List.mem_append]
  exact ⟨fun h => ⟨fun r hr => h r (.inl hr), fun r hr => h r (.inr hr)⟩,
    fun h r hr => hr.elim (h.1 r) (h.2 r)⟩
@[simp] theorem CB_jif (r : Reg) (b : Code) (n : Nat) : CB (.jumpIfFalse r b) n ↔ r < n ∧ CB b n := by
  simp [CB, codeRegs]
@[simp] theorem CB_jit (r : Reg) (b : Code) (n : Nat) : CB (.jumpIfTrue r b) n ↔ r < n ∧ CB b n := by
  simp [CB, codeRegs]
@[simp] theorem CB_ifElse (r : Reg) (t e : Code) (w : Bool) (n : Nat) :
    CB (.ifElse r t w e) n ↔ r < n ∧ CB t n ∧ CB e n := by
  simp only [CB, codeRegs, List.mem_cons, List.mem_append]
  constructor
  · intro h
    exact ⟨h r (.inl rfl), fun q hq => h q (.inr (.inl hq)), fun q hq => h q (.inr (.inr hq))⟩
  · rintro ⟨h1, h2, h3⟩ q (rfl | hq | hq)
    · exact h1
    · exact h2 q hq
    · exact h3 q hq
@[simp] theorem CB_instr (i : Instr) (n : Nat) : CB (.instr i) n ↔ ∀ r ∈ instrRegs i, r < n := by
  simp [CB, codeRegs]

theorem CB_instrIf (o : Option Reg) (f : Reg → Instr) (n : Nat)
    (h : ∀ r, o = some r → CB (.instr (f r)) n) : CB (instrIf o f) n := by
  cases o with
  | none => exact CB_nil n
  | some r => exact h r rfl

theorem CB_regs1 {i : Instr} {a n : Nat} (hi : instrRegs i = [a]) (ha : a < n) : CB (.instr i) n := by
  simp [hi, ha]
theorem CB_regs2 {i : Instr} {a b n : Nat} (hi : instrRegs i = [a, b]) (ha : a < n) (hb : b < n) :
    CB (.instr i) n := by
  simp [hi, ha, hb]
theorem CB_regs3 {i : Instr} {a b c n : Nat} (hi : instrRegs i = [a, b, c]) (ha : a < n) (hb : b < n) (hc : c < n) :
    CB (.instr i) n := by
  simp [hi, ha, hb, hc]

/-- the part of `Ext` that `compile_regs` is stated with: `Ext.le.tb`, `Ext.tmax` -/
structure Mono (F F' : Frame) : Prop where
  tb : F'.tb = F.tb
  tmax : F.tmax ≤ F'.tmax

/-- `compile` never makes the frame's register count exceed 255: `push_register` refuses register 255 -/
theorem compile_fits (e : Expr) (m : Mode) (F : Frame) (code : Code) (out : Out) (F' : Frame)
    (h : compile e m F = some (code, out, F')) : U F → U F' :=
  (Compiled.of_compile h).ext.u

/-- what the register bound needs of a frame: well formed, live temporaries covered by the mark -/
def Ok (F : Frame) : Prop := WF F ∧ T F

theorem Ext.ok {F F' : Frame} (h : Ext F F') (hk : Ok F) : Ok F' := ⟨h.wf hk.1, h.t hk.2⟩

theorem noFix_any {n : Nat} : ∀ r, Mode.any = .fixed r → r < n := by intro r h; cases h
theorem noFix_none {n : Nat} : ∀ r, Mode.none = .fixed r → r < n := by intro r h; cases h
theorem fix_of {q n : Nat} (h : q < n) : ∀ r, Mode.fixed q = .fixed r → r < n := by
  intro r hr; cases hr; exact h
theorem branch_fix {o : Option Reg} {n : Nat} (h : ∀ r, o = some r → r < n) :
    ∀ r, branchMode o = .fixed r → r < n := by
  intro r hr
  cases o with
  | none => simp [branchMode] at hr
  | some q => simp [branchMode] at hr; subst hr; exact h _ rfl

/-- the result register: the fixed target, or a temporary just pushed -/
theorem res_lt {m : Mode} {F F1 : Frame} {res : Out} {N : Nat} (h : assignResult m F = some (res, F1))
    (hN : F1.tb + F1.tmax ≤ N) (hfix : ∀ r, m = .fixed r → r < N) : ∀ r, res.reg = some r → r < N := by
  intro r hr
  rcases assignResult_cases h with ⟨q, rfl, rfl, _⟩ | ⟨_, rfl, _⟩ | ⟨_, rfl, hp⟩
  · cases hr; exact hfix _ rfl
  · cases hr
  · cases hr; exact Nat.lt_of_lt_of_le (pushReg_ext hp).2.2 hN

/-- the node's own register: the result register, or a temporary just pushed -/
theorem own_lt {m : Mode} {F F1 F2 : Frame} {res : Out} {reg : Reg} {N : Nat}
    (ha : assignResult m F = some (res, F1)) (hrt : resultOrTemp res F1 = some (reg, F2))
    (hN : F2.tb + F2.tmax ≤ N) (hfix : ∀ r, m = .fixed r → r < N) : reg < N := by
  obtain ⟨g, hreg⟩ := resultOrTemp_ext hrt
  rcases (resultOrTemp_spec hrt).2.2 with ⟨u, _⟩ | ⟨u, _, _⟩
  · exact res_lt ha (g.le_of hN) hfix reg u
  · exact Nat.lt_of_lt_of_le (hreg u) hN

/-- the register of a local -/
theorem has_lt {F : Frame} {r : Reg} {x : VarId} {N : Nat} (hk : Ok F) (hN : F.tb + F.tmax ≤ N) (h : Has F r x) :
    r < N := by
  have := Has.lt_tb hk.1 h
  omega

/-- **register bound**: every register the code mentions, and the output register, is below any `N`
that covers the final frame's `registers_used()` and the fixed target. `N` does not move: `Ok` goes
forward along `Ext`, the bound goes backward (`Ext.le_of`). -/
theorem Compiled.regsN {e : Expr} {m : Mode} {F F' : Frame} {code : Code} {out : Out}
    (h : Compiled e m F code out F') : Ok F → ∀ N, F'.tb + F'.tmax ≤ N → (∀ r, m = .fixed r → r < N) →
      CB code N ∧ ∀ r, out.reg = some r → r < N := by
  induction h with
  | null ha | bool ha | int ha =>
    intro hk N hN hfix
    exact ⟨CB_instrIf _ _ _ fun r hr => CB_regs1 rfl (res_lt ha hN hfix r hr), res_lt ha hN hfix⟩
  | varNone => exact fun _ _ _ _ => ⟨CB_nil _, nofun⟩
  | varAny hg => exact fun hk N hN _ => ⟨CB_nil _, fun r hr => by cases hr; exact has_lt hk hN (getAssigned_has hg)⟩
  | varFixed hg =>
    intro hk N hN hfix
    exact ⟨CB_regs2 rfl (hfix _ rfl) (has_lt hk hN (getAssigned_has hg)), fun r hr => by cases hr; exact hfix _ rfl⟩
  | un ha hc hvr hp ih =>
    intro hk N hN hfix
    have hN2 := (popIf_ext hp).le_of hN
    obtain ⟨cb, hv⟩ := ih ((assignResult_ext ha).ok hk) N hN2 noFix_any
    have hres := res_lt ha (hc.ext.le_of hN2) hfix
    exact ⟨(CB_seq ..).2 ⟨cb, CB_instrIf _ _ _ fun r hr => CB_regs2 rfl (hres r hr) (hv _ hvr)⟩, hres⟩
  | binReg ha hr hca hra hcb hrb hpa hpb iha ihb =>
    intro hk N hN hfix
    have k1 := (assignResult_ext ha).ok hk
    have hN3 := ((popIf_ext hpa).trans (popIf_ext hpb)).le_of hN
    have hN2 := hcb.ext.le_of hN3
    obtain ⟨ca, hva⟩ := iha k1 N hN2 noFix_any
    obtain ⟨cb, hvb⟩ := ihb (hca.ext.ok k1) N hN3 noFix_any
    have hres := res_lt ha (hca.ext.le_of hN2) hfix
    exact ⟨(CB_seq ..).2 ⟨ca, (CB_seq ..).2 ⟨cb, CB_regs3 rfl (hres _ hr) (hva _ hra) (hvb _ hrb)⟩⟩, hres⟩
  | binNone ha _ hca hcb iha ihb =>
    intro hk N hN hfix
    have k1 := (assignResult_ext ha).ok hk
    have hN2 := hcb.ext.le_of hN
    exact ⟨(CB_seq ..).2 ⟨(iha k1 N hN2 noFix_none).1, (ihb (hca.ext.ok k1) N hN noFix_none).1⟩,
      res_lt ha (hca.ext.le_of hN2) hfix⟩
  | cmp ha hrt hca hra hcb hrb iha ihb =>
    intro hk N hN hfix
    have k1 := (resultOrTemp_ext hrt).1.ok ((assignResult_ext ha).ok hk)
    have hN3 : _ ≤ N := hN
    have hN2 := hcb.ext.le_of hN3
    obtain ⟨ca, hva⟩ := iha k1 N hN2 noFix_any
    obtain ⟨cb, hvb⟩ := ihb (hca.ext.ok k1) N hN3 noFix_any
    have hres := res_lt ha ((resultOrTemp_ext hrt).1.le_of (hca.ext.le_of hN2)) hfix
    exact ⟨(CB_seq ..).2 ⟨ca, (CB_seq ..).2 ⟨cb, CB_instrIf _ _ _ fun r hr =>
      CB_regs3 rfl (hres r hr) (hva _ hra) (hvb _ hrb)⟩⟩, hres⟩
  | chain3 ha hrt hca hra hcb hrb hcc hrc iha ihb ihc =>
    intro hk N hN hfix
    have k1 := (resultOrTemp_ext hrt).1.ok ((assignResult_ext ha).ok hk)
    have hN4 : _ ≤ N := hN
    have hN3 := hcc.ext.le_of hN4
    have hN2 := hcb.ext.le_of hN3
    obtain ⟨ca, hva⟩ := iha k1 N hN2 noFix_any
    obtain ⟨cb, hvb⟩ := ihb (hca.ext.ok k1) N hN3 noFix_any
    obtain ⟨cc, hvc⟩ := ihc (hcb.ext.ok (hca.ext.ok k1)) N hN4 noFix_any
    have hcr := own_lt ha hrt (hca.ext.le_of hN2) hfix
    have hres := res_lt ha ((resultOrTemp_ext hrt).1.le_of (hca.ext.le_of hN2)) hfix
    exact ⟨(CB_seq ..).2 ⟨ca, (CB_seq ..).2 ⟨cb, (CB_seq ..).2 ⟨CB_regs3 rfl hcr (hva _ hra) (hvb _ hrb),
      (CB_jif ..).2 ⟨hcr, (CB_seq ..).2 ⟨cc, CB_instrIf _ _ _ fun r hr =>
        CB_regs3 rfl (hres r hr) (hvb _ hrb) (hvc _ hrc)⟩⟩⟩⟩⟩, hres⟩
  | and ha hrt hca hcb hp iha ihb | or ha hrt hca hcb hp iha ihb =>
    intro hk N hN hfix
    have k2 := (resultOrTemp_ext hrt).1.ok ((assignResult_ext ha).ok hk)
    have hN4 := (popIf_ext hp).le_of hN
    have hN3 := hcb.ext.le_of hN4
    have hreg := own_lt ha hrt (hca.ext.le_of hN3) hfix
    have hres := res_lt ha ((resultOrTemp_ext hrt).1.le_of (hca.ext.le_of hN3)) hfix
    have cba := (iha k2 N hN3 (fix_of hreg)).1
    have cbb := (ihb (hca.ext.ok k2) N hN4 (fix_of hreg)).1
    first
      | exact ⟨(CB_seq ..).2 ⟨cba, (CB_jif ..).2 ⟨hreg, cbb⟩⟩, hres⟩
      | exact ⟨(CB_seq ..).2 ⟨cba, (CB_jit ..).2 ⟨hreg, cbb⟩⟩, hres⟩
  | @assign x e m F rx F1 c o F2 vr F3 hres hc hvr hcm ih =>
    intro hk N hN hfix
    obtain ⟨e1, _, r1⟩ := reserve_ext hres
    have k1 := e1.ok hk
    have hN2 := (commitIf_ext hcm).1.le_of hN
    have hrx : rx < N := by
      have := Nat.lt_of_lt_of_le r1.lt k1.1.len
      have := hc.ext.le_of hN2
      omega
    obtain ⟨cb, _⟩ := ih k1 N hN2 (fix_of hrx)
    have so : o = ⟨some rx, false⟩ := hc.bal.shape
    subst so
    cases hvr
    cases m with
    | none => exact ⟨cb, nofun⟩
    | any => exact ⟨cb, fun r hr => by cases hr; exact hrx⟩
    | fixed r =>
      refine ⟨?_, fun q hq => by cases hq; exact hfix _ rfl⟩
      simp only [assignOut]
      split
      · exact (CB_seq ..).2 ⟨cb, CB_regs2 rfl (hfix r rfl) hrx⟩
      · exact cb
  | compound ha hc hrr hrl hp ih =>
    intro hk N hN hfix
    have k1 := (assignResult_ext ha).ok hk
    have hN2 := (popIf_ext hp).le_of hN
    obtain ⟨cb, hv⟩ := ih k1 N hN2 noFix_any
    have hl := has_lt (hc.ext.ok k1) hN2 (getAssigned_has hrl)
    have hres := res_lt ha (hc.ext.le_of hN2) hfix
    exact ⟨(CB_seq ..).2 ⟨cb, (CB_seq ..).2 ⟨CB_regs2 rfl hl (hv _ hrr),
      CB_instrIf _ _ _ fun r hr => CB_regs2 rfl (hres r hr) hl⟩⟩, hres⟩
  | seq hca hcb iha ihb =>
    intro hk N hN hfix
    obtain ⟨cb, hv⟩ := ihb (hca.ext.ok hk) N hN hfix
    exact ⟨(CB_seq ..).2 ⟨(iha hk N (hcb.ext.le_of hN) noFix_none).1, cb⟩, hv⟩
  | ite ha hcc hrc hp hct hce ihc iht ihe =>
    intro hk N hN hfix
    have k1 := (assignResult_ext ha).ok hk
    have k3 := (popIf_ext hp).ok (hcc.ext.ok k1)
    have hN4 := hce.ext.le_of hN
    have hN2 := (popIf_ext hp).le_of (hct.ext.le_of hN4)
    obtain ⟨cc, hvc⟩ := ihc k1 N hN2 noFix_any
    have hres := res_lt ha (hcc.ext.le_of hN2) hfix
    exact ⟨(CB_seq ..).2 ⟨cc, (CB_ifElse ..).2 ⟨hvc _ hrc, (iht k3 N hN4 (branch_fix hres)).1,
      (ihe (hct.ext.ok k3) N hN (branch_fix hres)).1⟩⟩, hres⟩
  | ifThen ha hcc hrc hp hct ihc iht =>
    intro hk N hN hfix
    have k1 := (assignResult_ext ha).ok hk
    have hN2 := (popIf_ext hp).le_of (hct.ext.le_of hN)
    obtain ⟨cc, hvc⟩ := ihc k1 N hN2 noFix_any
    have hres := res_lt ha (hcc.ext.le_of hN2) hfix
    exact ⟨(CB_seq ..).2 ⟨cc, (CB_ifElse ..).2 ⟨hvc _ hrc,
      (iht ((popIf_ext hp).ok (hcc.ext.ok k1)) N hN (branch_fix hres)).1,
      CB_instrIf _ _ _ fun r hr => CB_regs1 rfl (hres r hr)⟩⟩, hres⟩

/-- every register mentioned by the code `compile` emits is below the final frame's `registers_used()` -/
theorem compile_regs (e : Expr) (m : Mode) (F : Frame) (code : Code) (out : Out) (F' : Frame)
    (h : compile e m F = some (code, out, F')) (hw : WF F) (ht : T F)
    (hfix : ∀ r, m = .fixed r → r < F.tb + F.tmax) :
    Mono F F' ∧ T F' ∧ CB code (F'.tb + F'.tmax) :=
  have hc := Compiled.of_compile h
  ⟨⟨hc.ext.le.tb, hc.ext.tmax⟩, hc.ext.t ht, (hc.regsN ⟨hw, ht⟩ _ (Nat.le_refl _) fun r hr => hc.ext.lt (hfix r hr)).1⟩

/-! ### jumps of the flattened stream stay inside their block -/

def Flat.skip : Flat → Nat
  | .op _ => 0
  | .jumpIfFalse _ s => s
  | .jumpIfTrue _ s => s
  | .jump s => s

/-- every jump skips at most the instructions that follow it in the list: its target is the
boundary of a later instruction of the list, or the end of the list -/
def jumpsOk : List Flat → Bool
  | [] => true
  | f :: rest => decide (f.skip ≤ rest.length) && jumpsOk rest

theorem jumpsOk_append (a b : List Flat) (ha : jumpsOk a = true) (hb : jumpsOk b = true) :
    jumpsOk (a ++ b) = true := by
  induction a with
  | nil => simpa using hb
  | cons f rest ih =>
    simp only [jumpsOk, Bool.and_eq_true, decide_eq_true_eq] at ha
    simp only [List.cons_append, jumpsOk, Bool.and_eq_true, decide_eq_true_eq, List.length_append]
    exact ⟨by omega, ih ha.2⟩

theorem flatten_ifElse_true (r : Reg) (t e : Code) :
    flatten (.ifElse r t true e)
      = .jumpIfFalse r ((flatten t).length + 1) :: (flatten t ++ .jump (flatten e).length :: flatten e) := by
  simp [flatten]

theorem flatten_ifElse_false (r : Reg) (t e : Code) :
    flatten (.ifElse r t false e) = .jumpIfFalse r (flatten t).length :: (flatten t ++ flatten e) := by
  simp [flatten]

theorem flatten_jumpsOk (c : Code) : jumpsOk (flatten c) = true := by
  induction c with
  | nil => rfl
  | instr i => simp [flatten, jumpsOk, Flat.skip]
  | seq a b iha ihb => exact jumpsOk_append _ _ iha ihb
  | jumpIfFalse r body ih => simp [flatten, jumpsOk, Flat.skip, ih]
  | jumpIfTrue r body ih => simp [flatten, jumpsOk, Flat.skip, ih]
  | ifElse r t w e iht ihe =>
    cases w with
    | true =>
      rw [flatten_ifElse_true]
      simp only [jumpsOk, Flat.skip, Bool.and_eq_true]
      refine ⟨by simp, ?_⟩
      exact jumpsOk_append _ _ iht (by simp [jumpsOk, Flat.skip, ihe])
    | false =>
      rw [flatten_ifElse_false]
      simp only [jumpsOk, Flat.skip, Bool.and_eq_true]
      exact ⟨by simp, jumpsOk_append _ _ iht ihe⟩

def flatRegs : Flat → List Reg
  | .op i => instrRegs i
  | .jumpIfFalse r _ => [r]
  | .jumpIfTrue r _ => [r]
  | .jump _ => []

theorem flatMap_flatRegs_flatten (c : Code) : (flatten c).flatMap flatRegs = codeRegs c := by
  induction c with
  | nil => rfl
  | instr i => simp [flatten, flatRegs, codeRegs]
  | seq a b iha ihb => simp [flatten, codeRegs, iha, ihb]
  | jumpIfFalse r body ih => simp [flatten, flatRegs, codeRegs, ih]
  | jumpIfTrue r body ih => simp [flatten, flatRegs, codeRegs, ih]
  | ifElse r t w e iht ihe =>
    cases w
    · rw [flatten_ifElse_false]; simp [flatRegs, codeRegs, iht, ihe]
    · rw [flatten_ifElse_true]; simp [flatRegs, codeRegs, iht, ihe]

theorem flatten_regs (c : Code) (n : Nat) (h : CB c n) : ∀ f ∈ flatten c, ∀ r ∈ flatRegs f, r < n :=
  fun f hf r hr => h r (by rw [← flatMap_flatRegs_flatten]; exact List.mem_flatMap.2 ⟨f, hf, hr⟩)

/-! ### bytes: the flat stream encoded with `Model/Encode.lean` -/

def unOpcode : UnOp → Op
  | .neg => .Negate
  | .not => .Not

def binOpcode : BinOp → Op
  | .add => .Add | .sub => .Subtract | .mul => .Multiply | .div => .Divide | .rem => .Remainder
  | .pow => .Power | .lt => .Less | .le => .LessOrEqual | .gt => .Greater | .ge => .GreaterOrEqual
  | .eq => .Equal | .ne => .NotEqual

/-- compound assignment opcodes (`compile_compound_assignment_op` only exists for the arithmetic
operators; the parser produces no other `compound`) -/
def compoundOpcode : BinOp → Op
  | .add => .AddAssign | .sub => .SubtractAssign | .mul => .MultiplyAssign | .div => .DivideAssign
  | .rem => .RemainderAssign | .pow => .PowerAssign | _ => .AddAssign

/-- `compile_node` for `SmallInt` / `Int`: `Set0`, `Set1`, `SetNumberU8`, `SetNumberNegU8`, or
`LoadInt` with the constant's index `cidx n`. -/
def setIntInstr (cidx : Int → Nat) (r : Nat) (n : Int) : Bytecode.Instr :=
  if n = 0 then ⟨.Set0, [r]⟩
  else if n = 1 then ⟨.Set1, [r]⟩
  else if 0 ≤ n ∧ n ≤ 255 then ⟨.SetNumberU8, [r, n.toNat]⟩
  else if -255 ≤ n ∧ n < 0 then ⟨.SetNumberNegU8, [r, (-n).toNat]⟩
  else ⟨.LoadInt, [r, cidx n]⟩

def encInstr (cidx : Int → Nat) : Instr → Bytecode.Instr
  | .setNull r => ⟨.SetNull, [r]⟩
  | .setBool r b => ⟨if b then .SetTrue else .SetFalse, [r]⟩
  | .setInt r n => setIntInstr cidx r n
  | .copy d s => ⟨.Copy, [d, s]⟩
  | .unop op d s => ⟨unOpcode op, [d, s]⟩
  | .binop op d a b => ⟨binOpcode op, [d, a, b]⟩
  | .compound op l r => ⟨compoundOpcode op, [l, r]⟩

def flatSize (cidx : Int → Nat) : Flat → Nat
  | .op i => (encode (encInstr cidx i)).length
  | .jumpIfFalse _ _ => 4
  | .jumpIfTrue _ _ => 4
  | .jump _ => 3

def sizeOf (cidx : Int → Nat) (fs : List Flat) : Nat := (fs.map (flatSize cidx)).sum

/-- the flat stream as bytecode instructions: a skip of `k` instructions becomes the byte size of
the `k` instructions that follow (`update_offset_placeholder`: offset = bytes emitted since the
placeholder) -/
def encFlat (cidx : Int → Nat) : List Flat → List Bytecode.Instr
  | [] => []
  | .op i :: rest => encInstr cidx i :: encFlat cidx rest
  | .jumpIfFalse r k :: rest => ⟨.JumpIfFalse, [r, sizeOf cidx (rest.take k)]⟩ :: encFlat cidx rest
  | .jumpIfTrue r k :: rest => ⟨.JumpIfTrue, [r, sizeOf cidx (rest.take k)]⟩ :: encFlat cidx rest
  | .jump k :: rest => ⟨.Jump, [sizeOf cidx (rest.take k)]⟩ :: encFlat cidx rest

/-- `compile_frame` for a main block: `NewFrame registers_used`, the body, `Return result` -/
def encodeMain (cidx : Int → Nat) (registersUsed : Nat) (fs : List Flat) (result : Reg) : List Nat :=
  (⟨.NewFrame, [registersUsed]⟩ :: (encFlat cidx fs ++ [⟨.Return, [result]⟩])).flatMap encode

def compileMain (cidx : Int → Nat) (e : Expr) (lc : Nat) : Option (List Nat) :=
  match compile e .any { tb := 1 + lc } with
  | some (code, out, F') =>
    match out.reg with
    | some r => some (encodeMain cidx F'.registersUsed (flatten code) r)
    | none => none
  | none => none

/-- **compile_wf, part proved for all expressions of the core**: in a main block compiled with `Any`,
every register of the stream and the returned register are below the `registers_used()` written into
`NewFrame`, every jump lands on a later instruction boundary of the stream or on its end (where `Return`
follows), and the frame keeps room for `self` and the locals. The stream contains no builder or try
instruction, so it is balanced. -/
theorem compile_wf_flat (e : Expr) (lc : Nat) (code : Code) (out : Out) (F' : Frame)
    (h : compile e .any { tb := 1 + lc } = some (code, out, F')) :
    (∀ f ∈ flatten code, ∀ r ∈ flatRegs f, r < F'.registersUsed)
    ∧ (∃ r, out.reg = some r ∧ r < F'.registersUsed)
    ∧ jumpsOk (flatten code) = true
    ∧ 1 + lc ≤ F'.registersUsed := by
  have hc := Compiled.of_compile h
  obtain ⟨hcb, hv⟩ := hc.regsN ⟨C01.mainFrame_wf lc, Nat.le_refl _⟩ _ (Nat.le_refl _) noFix_any
  obtain ⟨r, hr⟩ := hc.bal.shape.any_reg
  refine ⟨flatten_regs code _ hcb, ⟨r, hr, hv r hr⟩, flatten_jumpsOk code, ?_⟩
  have := hc.ext.le.tb
  simp only [Frame.registersUsed] at *
  omega

end KotoVerif.Compile
