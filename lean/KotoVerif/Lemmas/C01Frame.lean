/-
C01 layer 5: the compile-time frame (`Model/Compile.lean`, `Frame`): which slot holds which local
(`Has`, `Named`), the invariant `WF` (locals below the temporaries, one slot per name), and what the
lookups (`findSlot`, `getAssigned`, `getAssignedOrReserved`), `pushReg` / `popReg` and `reserve` /
`commit` do to a well-formed frame; the frame of a main block (`mainFrame`) is well-formed.
-/
import KotoVerif.Model.Compile

namespace KotoVerif.Compile

def Has (F : Frame) (r : Reg) (x : VarId) : Prop := F.locals[r]? = some (.assigned x)

/-- slot `r` is named `x` (assigned or reserved) -/
def Named (F : Frame) (r : Reg) (x : VarId) : Prop := (F.locals[r]?).bind Slot.id? = some x

theorem Has.named {F : Frame} {r : Reg} {x : VarId} (h : Has F r x) : Named F r x := by
  simp [Named, Has] at *; simp [h, Slot.id?]

theorem named_unique_name {F : Frame} {r : Reg} {x y : VarId} (h1 : Named F r x) (h2 : Named F r y) : x = y := by
  unfold Named at h1 h2
  rw [h1] at h2
  exact Option.some.inj h2

structure WF (F : Frame) : Prop where
  len : F.locals.length ≤ F.tb
  uniq : ∀ i j x, Named F i x → Named F j x → i = j

theorem Named.lt {F : Frame} {r : Reg} {x : VarId} (h : Named F r x) : r < F.locals.length := by
  unfold Named at h
  by_cases hr : r < F.locals.length
  · exact hr
  · have : F.locals[r]? = none := List.getElem?_eq_none (by omega)
    simp [this] at h

theorem has_unique {F : Frame} (hw : WF F) {r q : Reg} {x : VarId} (h1 : Has F r x) (h2 : Has F q x) : r = q :=
  hw.uniq r q x h1.named h2.named

theorem Has.lt_tb {F : Frame} {r : Reg} {x : VarId} (hw : WF F) (h : Has F r x) : r < F.tb :=
  Nat.lt_of_lt_of_le h.named.lt hw.len

theorem findSlot_eq (p : Slot → Bool) : ∀ (ls : List Slot) (i : Nat),
    findSlot p ls i = (ls.findIdx? p).map (· + i) := by
  intro ls
  induction ls with
  | nil => intro i; rfl
  | cons s rest ih =>
    intro i
    rw [findSlot, List.findIdx?_cons]
    split
    · simp
    · rw [ih, Option.map_map]
      congr 1
      funext j
      simp only [Function.comp]
      omega

theorem findSlot_zero_some {p : Slot → Bool} {ls : List Slot} {r : Nat} (h : findSlot p ls 0 = some r) :
    ∃ s, ls[r]? = some s ∧ p s = true := by
  rw [findSlot_eq, Option.map_eq_some_iff] at h
  obtain ⟨j, hj, rfl⟩ := h
  obtain ⟨hlt, hp, _⟩ := List.findIdx?_eq_some_iff_getElem.1 hj
  exact ⟨ls[j], List.getElem?_eq_getElem hlt, hp⟩

theorem findSlot_zero_none {p : Slot → Bool} {ls : List Slot} (h : findSlot p ls 0 = none) {k : Nat} {s : Slot}
    (hk : ls[k]? = some s) : p s = false := by
  rw [findSlot_eq, Option.map_eq_none_iff] at h
  exact List.findIdx?_eq_none_iff.1 h s (List.mem_of_getElem? hk)

theorem getAssigned_has {F : Frame} {x : VarId} {r : Reg} (h : F.getAssigned x = some r) : Has F r x := by
  obtain ⟨s, h1, h2⟩ := findSlot_zero_some h
  simp at h2
  simp [Has, h1, h2]

theorem has_getAssigned {F : Frame} {x : VarId} {r : Reg} (hw : WF F) (h : Has F r x) : F.getAssigned x = some r := by
  cases hg : F.getAssigned x with
  | none => simpa using findSlot_zero_none hg h
  | some r' => rw [hw.uniq r' r x (getAssigned_has hg).named h.named]

theorem getAOR_named {F : Frame} {x : VarId} {r : Reg} (h : F.getAssignedOrReserved x = some r) : Named F r x := by
  obtain ⟨s, h1, h2⟩ := findSlot_zero_some h
  simp at h2
  simp [Named, h1, h2]

theorem getAOR_none {F : Frame} {x : VarId} (h : F.getAssignedOrReserved x = none) : ∀ r, ¬ Named F r x := by
  intro r hn
  unfold Named at hn
  cases hs : F.locals[r]? with
  | none => simp [hs] at hn
  | some s =>
    have := findSlot_zero_none h hs
    simp [hs] at hn
    simp [hn] at this

theorem pushReg_spec {F F' : Frame} {r : Reg} (h : F.pushReg = some (r, F')) :
    r = F.tb + F.tc ∧ F'.locals = F.locals ∧ F'.tb = F.tb ∧ F'.tc = F.tc + 1 := by
  unfold Frame.pushReg at h
  simp only at h
  split at h
  · cases h
  · cases h; simp

theorem popReg_spec {F F' : Frame} (h : F.popReg = some F') :
    F'.locals = F.locals ∧ F'.tb = F.tb ∧ F'.tc + 1 = F.tc := by
  unfold Frame.popReg at h
  split at h
  · cases h
  · cases h; simp; omega

/-- 1 for `true`, 0 for `false` (kept opaque to `omega`) -/
def bcount (b : Bool) : Nat := if b then 1 else 0
@[simp] theorem bcount_true : bcount true = 1 := rfl
@[simp] theorem bcount_false : bcount false = 0 := rfl

theorem popIf_spec {b : Bool} {F F' : Frame} (h : popIf b F = some F') :
    F'.locals = F.locals ∧ F'.tb = F.tb ∧ F'.tc + bcount b = F.tc := by
  unfold popIf at h
  cases b with
  | true => simpa using popReg_spec h
  | false => simp at h; subst h; simp

theorem WF.of_locals_eq {F F' : Frame} (hw : WF F) (h1 : F'.locals = F.locals) (h2 : F'.tb = F.tb) : WF F' := by
  refine ⟨by rw [h1, h2]; exact hw.len, ?_⟩
  intro i j x hi hj
  exact hw.uniq i j x (by simpa [Named, h1] using hi) (by simpa [Named, h1] using hj)

theorem getElem?_snoc {α} (l : List α) (a : α) (k : Nat) :
    (l ++ [a])[k]? = if k = l.length then some a else l[k]? := by
  by_cases h : k = l.length
  · subst h
    simp
  · rw [if_neg h]
    by_cases h' : k < l.length
    · exact List.getElem?_append_left h'
    · rw [List.getElem?_eq_none (by simp; omega), List.getElem?_eq_none (by omega)]

theorem reserve_cases {F F' : Frame} {x : VarId} {r : Reg} (h : F.reserve x = some (r, F')) :
    (F' = F ∧ Named F r x) ∨
    (F' = { F with locals := F.locals ++ [.reserved x] } ∧ r = F.locals.length ∧ r < F.tb ∧
      F.getAssignedOrReserved x = none) := by
  unfold Frame.reserve at h
  cases hg : F.getAssignedOrReserved x with
  | some r0 =>
    rw [hg] at h
    cases h
    exact Or.inl ⟨rfl, getAOR_named hg⟩
  | none =>
    simp only [hg] at h
    split at h
    · cases h; exact Or.inr ⟨rfl, rfl, ‹_›, rfl⟩
    · cases h

/-- what `reserve` does whether or not the frame is well formed -/
theorem reserve_slots {F F' : Frame} {x : VarId} {r : Reg} (h : F.reserve x = some (r, F')) :
    Named F' r x ∧ F'.tb = F.tb ∧ F'.tc = F.tc ∧ F'.tmax = F.tmax ∧
    (∀ (k : Nat) (s : Slot), F.locals[k]? = some s → F'.locals[k]? = some s) ∧
    (∀ k y, Has F' k y → Has F k y) := by
  rcases reserve_cases h with ⟨rfl, hn⟩ | ⟨rfl, rfl, _, _⟩
  · exact ⟨hn, rfl, rfl, rfl, fun _ _ h => h, fun _ _ h => h⟩
  · refine ⟨by simp [Named, Slot.id?], rfl, rfl, rfl, fun k s hk => ?_, fun k y hk => ?_⟩
    · have : k ≠ F.locals.length := fun hk' => by rw [hk', List.getElem?_eq_none (Nat.le_refl _)] at hk; cases hk
      simp only [getElem?_snoc, if_neg this, hk]
    · simp only [Has, getElem?_snoc] at hk
      split at hk
      · cases hk
      · exact hk

theorem reserve_spec {F F' : Frame} {x : VarId} {r : Reg} (hw : WF F) (h : F.reserve x = some (r, F')) :
    Named F' r x ∧ WF F' ∧ F'.tb = F.tb ∧ F'.tc = F.tc ∧
    (∀ (k : Nat) (s : Slot), F.locals[k]? = some s → F'.locals[k]? = some s) ∧
    (∀ k y, Has F' k y → Has F k y) := by
  obtain ⟨s1, s2, s3, _, s5, s6⟩ := reserve_slots h
  refine ⟨s1, ?_, s2, s3, s5, s6⟩
  rcases reserve_cases h with ⟨rfl, _⟩ | ⟨rfl, rfl, hlt, hg⟩
  · exact hw
  · have named (k y) (hk : Named { F with locals := F.locals ++ [.reserved x] } k y) :
        (k = F.locals.length ∧ y = x) ∨ (k ≠ F.locals.length ∧ Named F k y) := by
      simp only [Named, getElem?_snoc] at hk
      split at hk
      · exact Or.inl ⟨‹_›, (Option.some.inj hk).symm⟩
      · exact Or.inr ⟨‹_›, hk⟩
    refine ⟨by simp only [List.length_append, List.length_singleton]; exact hlt, fun i j y hi hj => ?_⟩
    rcases named i y hi with ⟨h1, rfl⟩ | ⟨_, h1⟩ <;> rcases named j _ hj with ⟨h2, hy⟩ | ⟨_, h2⟩
    · rw [h1, h2]
    · exact absurd h2 (getAOR_none hg j)
    · exact absurd (hy ▸ h1) (getAOR_none hg i)
    · exact hw.uniq i j y h1 h2

theorem reserve_reserved {F F' : Frame} {x : VarId} {r : Reg} (h : F.reserve x = some (r, F')) :
    ∀ (k : Nat) (y : VarId), F'.locals[k]? = some (Slot.reserved y) → k = r ∨ F.locals[k]? = some (Slot.reserved y) := by
  intro k y hk
  rcases reserve_cases h with ⟨rfl, _⟩ | ⟨rfl, rfl, _, _⟩
  · exact Or.inr hk
  · replace hk : (F.locals ++ [Slot.reserved x])[k]? = some (Slot.reserved y) := hk
    rw [getElem?_snoc] at hk
    split at hk
    · exact Or.inl ‹_›
    · exact Or.inr hk

theorem commit_cases {F F' : Frame} {r : Reg} (h : F.commit r = some F') :
    (F' = F ∧ ∃ x, F.locals[r]? = some (.assigned x)) ∨
    ∃ x, F.locals[r]? = some (.reserved x) ∧ F' = { F with locals := F.locals.set r (.assigned x) } := by
  unfold Frame.commit at h
  split at h
  · cases h; exact Or.inl ⟨rfl, _, ‹_›⟩
  · cases h; exact Or.inr ⟨_, ‹_›, rfl⟩
  · cases h

theorem named_set_commit {F : Frame} {r : Reg} {x : VarId} (hs : F.locals[r]? = some (.reserved x)) (k : Reg) (y : VarId) :
    Named { F with locals := F.locals.set r (.assigned x) } k y ↔ Named F k y := by
  have hlt : r < F.locals.length := by
    by_cases h : r < F.locals.length
    · exact h
    · rw [List.getElem?_eq_none (by omega)] at hs; cases hs
  simp only [Named]
  by_cases hk : k = r
  · subst hk
    rw [List.getElem?_set_self hlt, hs]
    simp [Slot.id?]
  · rw [List.getElem?_set_ne (Ne.symm hk)]

/-- what `commit` does whether or not the frame is well formed -/
theorem commit_slots {F F' : Frame} {r : Reg} (h : F.commit r = some F') :
    F'.tb = F.tb ∧ F'.tc = F.tc ∧ F'.tmax = F.tmax ∧ (WF F → WF F') ∧
    (∀ k y, Has F k y → Has F' k y) ∧ (∀ k y, Named F' k y ↔ Named F k y) ∧
    (∀ k y, Has F' k y → k ≠ r → Has F k y) := by
  rcases commit_cases h with ⟨rfl, _⟩ | ⟨x, hs, rfl⟩
  · exact ⟨rfl, rfl, rfl, id, fun _ _ h => h, fun _ _ => Iff.rfl, fun _ _ h _ => h⟩
  · have hn := named_set_commit hs
    refine ⟨rfl, rfl, rfl, fun hw => ⟨by simpa using hw.len, fun i j y hi hj => ?_⟩, fun k y hk => ?_, hn,
      fun k y hk hkr => ?_⟩
    · exact hw.uniq i j y ((hn i y).1 hi) ((hn j y).1 hj)
    · simp only [Has] at hk ⊢
      rw [List.getElem?_set_ne, hk]
      intro hkr; subst hkr; rw [hs] at hk; cases hk
    · simpa [Has, List.getElem?_set, Ne.symm hkr] using hk

theorem commit_assigns {F F' : Frame} {r : Reg} {x : VarId} (hn : Named F r x) (h : F.commit r = some F') :
    Has F' r x := by
  rcases commit_cases h with ⟨rfl, y, hs⟩ | ⟨y, hs, rfl⟩
  · cases named_unique_name hn (Has.named hs)
    exact hs
  · have : y = x := by simpa [Named, hs, Slot.id?] using hn
    simp [Has, hn.lt, this]

theorem commit_spec {F F' : Frame} {r : Reg} {x : VarId} (hw : WF F) (hn : Named F r x)
    (h : F.commit r = some F') :
    Has F' r x ∧ WF F' ∧ F'.tb = F.tb ∧ F'.tc = F.tc ∧
    (∀ k y, Has F k y → Has F' k y) ∧ (∀ k y, Named F k y → Named F' k y) ∧
    (∀ k y, Has F' k y → k ≠ r → Has F k y) := by
  obtain ⟨c1, c2, _, c4, c5, c6, c7⟩ := commit_slots h
  exact ⟨commit_assigns hn h, c4 hw, c1, c2, c5, fun k y => (c6 k y).2, c7⟩

theorem commit_reserved {F F' : Frame} {r : Reg} {x : VarId} (hn : Named F r x) (h : F.commit r = some F') :
    ∀ (k : Nat) (y : VarId), F'.locals[k]? = some (Slot.reserved y) → k ≠ r ∧ F.locals[k]? = some (Slot.reserved y) := by
  intro k y hk
  have hne : k ≠ r := by
    rintro rfl
    have := commit_assigns hn h
    rw [Has, hk] at this
    cases this
  refine ⟨hne, ?_⟩
  rcases commit_cases h with ⟨rfl, _⟩ | ⟨z, _, rfl⟩
  · exact hk
  · simpa [List.getElem?_set, Ne.symm hne] using hk

end KotoVerif.Compile

namespace KotoVerif.C01
open KotoVerif.Compile

/-- the frame of a main block with `lc` locals -/
def mainFrame (lc : Nat) : Frame := { tb := 1 + lc }

theorem mainFrame_wf (lc : Nat) : WF (mainFrame lc) := by
  refine ⟨by simp [mainFrame], ?_⟩
  intro i j x hi _
  simp only [Named, mainFrame] at hi
  cases i with
  | zero => simp [Slot.id?] at hi
  | succ i => simp at hi

end KotoVerif.C01
