/-
Helper lemmas for C15: `char::encode_utf8` produces well-formed UTF-8 for every scalar value.
Core Lean only.
-/
import KotoVerif.Lemmas.C15Utf8
namespace KotoVerif.Utf8

theorem step_lead2 {b : Nat} (h1 : 0xC2 ≤ b) (h2 : b ≤ 0xDF) : u8step .start b = some (.need 0 0x80 0xBF) := by
  have : ¬ b < 0x80 := by omega
  simp [u8step, this, h1, h2]

theorem step_E0 : u8step .start 0xE0 = some (.need 1 0xA0 0xBF) := by decide

theorem step_lead3 {b : Nat} (h : (0xE1 ≤ b ∧ b ≤ 0xEC) ∨ b = 0xEE ∨ b = 0xEF) :
    u8step .start b = some (.need 1 0x80 0xBF) := by
  have h1 : ¬ b < 0x80 := by omega
  have h2 : ¬ (0xC2 ≤ b ∧ b ≤ 0xDF) := by omega
  have h3 : ¬ b = 0xE0 := by omega
  simp [u8step, h1, h2, h3, h]

theorem step_ED : u8step .start 0xED = some (.need 1 0x80 0x9F) := by decide
theorem step_F0 : u8step .start 0xF0 = some (.need 2 0x90 0xBF) := by decide
theorem step_F4 : u8step .start 0xF4 = some (.need 2 0x80 0x8F) := by decide

theorem step_lead4 {b : Nat} (h1 : 0xF1 ≤ b) (h2 : b ≤ 0xF3) : u8step .start b = some (.need 2 0x80 0xBF) := by
  have a1 : ¬ b < 0x80 := by omega
  have a2 : ¬ (0xC2 ≤ b ∧ b ≤ 0xDF) := by omega
  have a3 : ¬ b = 0xE0 := by omega
  have a4 : ¬ ((0xE1 ≤ b ∧ b ≤ 0xEC) ∨ b = 0xEE ∨ b = 0xEF) := by omega
  have a5 : ¬ b = 0xED := by omega
  have a6 : ¬ b = 0xF0 := by omega
  simp [u8step, a1, a2, a3, a4, a5, a6, h1, h2]

/-- a byte `10xxxxxx` -/
theorem cont_lo (x : Nat) : 0x80 ≤ 0x80 + x % 64 := Nat.le_add_right _ _

theorem cont_hi (x : Nat) : 0x80 + x % 64 ≤ 0xBF :=
  Nat.add_le_add_left (Nat.le_of_lt_succ (Nat.mod_lt x (by decide))) 0x80

theorem step_cont {k lo hi x : Nat} (h3 : lo ≤ 0x80 + x % 64) (h4 : 0x80 + x % 64 ≤ hi) :
    u8step (.need k lo hi) (0x80 + x % 64) = some (match k with | 0 => .start | k + 1 => .need k 0x80 0xBF) := by
  simp only [u8step]
  rw [if_pos ⟨isCont_iff.mpr ⟨cont_lo x, Nat.lt_succ_of_le (cont_hi x)⟩, h3, h4⟩]
  cases k <;> rfl

/-- the last bytes of an encoding, `10xxxxxx` with six bits of the scalar value each, are accepted whatever
those bits are -/
theorem run_tail (x : Nat) : u8run (.need 0 0x80 0xBF) [0x80 + x % 64] = some .start := by
  simp only [u8run, step_cont (cont_lo x) (cont_hi x)]

theorem run_tail2 (x y : Nat) : u8run (.need 1 0x80 0xBF) [0x80 + x % 64, 0x80 + y % 64] = some .start := by
  rw [u8run, step_cont (cont_lo x) (cont_hi x)]
  exact run_tail y

/-- a lead byte, a second byte in the range the lead byte asks for, then free tail bytes -/
theorem run_lead {l x : Nat} {k lo hi : Nat} {tl : Bytes} (hl : u8step .start l = some (.need (k + 1) lo hi))
    (h3 : lo ≤ 0x80 + x % 64) (h4 : 0x80 + x % 64 ≤ hi) (ht : u8run (.need k 0x80 0xBF) tl = some .start) :
    u8run .start (l :: (0x80 + x % 64) :: tl) = some .start := by
  simp only [u8run, hl, step_cont h3 h4, ht]

/-! The rows of Unicode Table 3-7 with the bit fields of the scalar value as variables. -/

theorem run_enc2 {a y : Nat} (h1 : 2 ≤ a) (h2 : a < 32) :
    u8run .start [0xC0 + a, 0x80 + y % 64] = some .start := by
  simp only [u8run, step_lead2 (b := 0xC0 + a) (Nat.add_le_add_left h1 0xC0) (Nat.add_le_add_left (Nat.le_of_lt_succ h2) 0xC0)]
  exact run_tail y

/-- lead `E0` wants a second byte from `A0` on (no overlong forms), lead `ED` one up to `9F` (no surrogates) -/
theorem run_enc3 {a x y : Nat} (ha : a < 16) (h0 : a = 0 → 32 ≤ x % 64) (hD : a = 13 → x % 64 < 32) :
    u8run .start [0xE0 + a, 0x80 + x % 64, 0x80 + y % 64] = some .start := by
  by_cases hE0 : a = 0
  · subst hE0
    exact run_lead step_E0 (Nat.add_le_add_left (h0 rfl) 0x80) (cont_hi x) (run_tail y)
  · by_cases hED : a = 13
    · subst hED
      exact run_lead step_ED (cont_lo x) (Nat.add_le_add_left (Nat.le_of_lt_succ (hD rfl)) 0x80) (run_tail y)
    · exact run_lead (step_lead3 (by omega)) (cont_lo x) (cont_hi x) (run_tail y)

/-- lead `F0` wants a second byte from `90` on (no overlong forms), lead `F4` one up to `8F` (at most U+10FFFF) -/
theorem run_enc4 {a x y z : Nat} (ha : a < 5) (h0 : a = 0 → 16 ≤ x % 64) (h4 : a = 4 → x % 64 < 16) :
    u8run .start [0xF0 + a, 0x80 + x % 64, 0x80 + y % 64, 0x80 + z % 64] = some .start := by
  by_cases hF0 : a = 0
  · subst hF0
    exact run_lead step_F0 (Nat.add_le_add_left (h0 rfl) 0x80) (cont_hi x) (run_tail2 y z)
  · by_cases hF4 : a = 4
    · subst hF4
      exact run_lead step_F4 (cont_lo x) (Nat.add_le_add_left (Nat.le_of_lt_succ (h4 rfl)) 0x80) (run_tail2 y z)
    · exact run_lead (step_lead4 (by omega) (by omega)) (cont_lo x) (cont_hi x) (run_tail2 y z)

theorem utf8Enc_valid {cp : Nat} (h : isScalar cp = true) : validUtf8 (utf8Enc cp) = true := by
  simp only [isScalar, Bool.or_eq_true, Bool.and_eq_true, decide_eq_true_eq] at h
  rw [validUtf8_iff]
  simp only [utf8Enc]
  split
  · rename_i h1
    exact (validUtf8_iff _).mp (ascii_valid h1)
  · split
    · exact run_enc2 (by omega) (by omega)
    · split
      · exact run_enc3 (by omega) (by omega) (by omega)
      · exact run_enc4 (by omega) (by omega) (by omega)

end KotoVerif.Utf8
