/-
C09: every scanner of the lexer model passes over exactly a prefix `t` of the remaining input — it
advances by the byte length of `t`, to a position that is `PosOk` for `t` (exact line; exact column
given `WidthOk`).  The two scanners that do not count display widths — identifiers (first character
counted as one column whatever its width) and whitespace (every character counted as one column) —
get the conditional statement `TokPos`.
-/
import KotoVerif.Lemmas.C09Pos

namespace KotoVerif.Lexer
open KotoVerif.Gen

/-- The move accounts exactly for a prefix of `cs`: its bytes and, when `lines`, its line breaks. -/
def Consumes (lines : Bool) (cs : List Ch) (p : Pos) : Move → Prop
  | .stay => True
  | .adv n q => ∃ k, k ≤ cs.length ∧ n = byteLen (cs.take k) ∧
      (lines = true → q.line = p.line + nlCount (cs.take k))

theorem consumes_weaken {cs : List Ch} {p : Pos} {m : Move} (h : Consumes true cs p m) (l : Bool) :
    Consumes l cs p m := by
  cases m with
  | stay => trivial
  | adv n q =>
    obtain ⟨k, h1, h2, h3⟩ := h
    exact ⟨k, h1, h2, fun _ => h3 rfl⟩

/-- Assumption on the supplied Unicode tables: a line feed is not an identifier character. -/
def TableOk (cs : List Ch) : Prop :=
  ∀ c ∈ cs, (c.idStart = true ∨ c.idCont = true) → ¬ c.cp = cpNL

theorem TableOk.tail {c : Ch} {cs : List Ch} (h : TableOk (c :: cs)) : TableOk cs :=
  fun d hd => h d (by simp [hd])

theorem TableOk.of_append_right {a b : List Ch} (h : TableOk (a ++ b)) : TableOk b :=
  fun d hd => h d (by simp [hd])

def Advances (cs : List Ch) (p : Pos) (m : Move) : Prop :=
  ∃ t rest q, cs = t ++ rest ∧ m = .adv (byteLen t) q ∧ PosOk p t q

theorem advances_run {cs : List Ch} (p : Pos) {k : Nat} (h : k ≤ countWhile printable cs) :
    Advances cs p (advLine p k) :=
  ⟨cs.take k, cs.drop k, _, (List.take_append_drop k cs).symm,
    by rw [(take_plain (fun _ => printable_plain) h).2.1]; rfl, PosOk.run p h⟩

theorem advances_one {c : Ch} {rest : List Ch} (p : Pos) (h : printable c.cp = true) :
    Advances (c :: rest) p (advLine p 1) :=
  advances_run p (by rw [countWhile_cons h]; omega)

/-! ### token kinds -/

/-- The token-local exclusion of `cols_exact_partial`: is the column advance of a token of kind
`tok` with text `t` the display width of `t`?  `Id`: the first character is counted as one column
(`char_count = 1 + …`), so it must have width 1.  `Whitespace`: each character is counted as one
column (`consume_and_count`), so each must have width 1.  Every other scanner uses display widths. -/
def tokClean (tok : Token) (t : List Ch) : Bool :=
  match tok with
  | .id => match t with
    | c :: _ => c.width == 1
    | [] => true
  | .whitespace => t.all (fun c => c.width == 1)
  | _ => true

/-- the token kinds other than `Error`, `NewLine` and the two whose scanners do not count display
widths -/
def Token.ordinary : Token → Bool
  | .error | .newLine | .id | .whitespace => false
  | _ => true

theorem tokClean_nil (tok : Token) : tokClean tok [] = true := by
  cases tok <;> rfl

theorem tokClean_of_ordinary {tok : Token} (h : tok.ordinary = true) (t : List Ch) :
    tokClean tok t = true := by
  cases tok <;> first | rfl | cases h

theorem ne_newLine_of_ordinary {tok : Token} (h : tok.ordinary = true) : tok ≠ .newLine := by
  rintro rfl; cases h

/-- Position clause for a token of kind `tok` with text `t`.  Of a token that is not clean, `col`
keeps what the column theorems need: no line break (it skews its own line only) and a witness
character (which a source-level hypothesis on widths can exclude). -/
structure TokPos (tok : Token) (p : Pos) (t : List Ch) (q : Pos) : Prop where
  line : q.line = p.line + nlCount t
  col : WidthOk t →
    (tokClean tok t = true ∧ q.col = colFrom p.col t) ∨
    (tokClean tok t = false ∧ nlCount t = 0 ∧
      ∃ c ∈ t, (c.idStart = true ∨ c.cp = cpTab) ∧ c.width ≠ 1)

theorem PosOk.tokPos {tok : Token} {p q : Pos} {t : List Ch} (h : PosOk p t q)
    (hc : tokClean tok t = true) : TokPos tok p t q :=
  ⟨h.line, fun hw => Or.inl ⟨hc, h.col hw⟩⟩

def Scanned (cs : List Ch) (p : Pos) (r : Token × Move) : Prop :=
  r.1 = .error ∨ (r.1.ordinary = true ∧ Advances cs p r.2)

/-! ### the generic scanning loop -/

/-- What one iteration of a scanning loop at character `c` (followed by `cs`, with byte counter `b`
and position `p`) may do: stop with a result satisfying `P`, or continue having accounted exactly
for `c` and the `extra` characters it skips. -/
def ActSpec {ρ : Type} (P : ρ → Prop) (c : Ch) (cs : List Ch) (b : Nat) (p : Pos) : Act ρ → Prop
  | .stop r => P r
  | .next extra b' p' => b' = b + byteLen (c :: cs.take extra) ∧ PosOk p (c :: cs.take extra) p'

section
variable {ρ : Type} {P Q : ρ → Prop} {c : Ch} {cs : List Ch} {b : Nat} {p : Pos}

theorem ActSpec.stop {r : ρ} (h : P r) : ActSpec P c cs b p (.stop r) := h

theorem ActSpec.mono {a : Act ρ} (h : ActSpec P c cs b p a) (hPQ : ∀ r, P r → Q r) :
    ActSpec Q c cs b p a := by
  cases a with
  | stop r => exact hPQ r h
  | next extra b' p' => exact h

theorem ActSpec.single {b' : Nat} {q : Pos} (h : PosOk p [c] q) (hb : b' = b + c.len) :
    ActSpec P c cs b p (.next 0 b' q) :=
  ⟨by simp [hb], h⟩

theorem ActSpec.run {extra b' : Nat} {q p' : Pos} (h : PosOk p [c] q)
    (hrun : extra ≤ countWhile printable cs) (hb : b' = b + c.len + extra)
    (hp : p' = ⟨q.line, q.col + extra⟩) : ActSpec P c cs b p (.next extra b' p') := by
  obtain ⟨a2, a3⟩ := h.cons_run hrun
  exact ⟨by omega, hp ▸ a3⟩

theorem crnl {d : Ch} (p : Pos) (hd : ¬ d.cp = cpNL) (hn : peekIs cs cpNL = true) :
    byteLen (d :: cs.take 1) = d.len + 1 ∧ PosOk p (d :: cs.take 1) ⟨p.line + 1, 0⟩ := by
  cases cs with
  | nil => simp [peekIs] at hn
  | cons e cs' =>
    simp [peekIs] at hn
    exact ⟨by simp [Ch.len_nl hn],
      PosOk.ends_nl p (a := [d]) (by simp [nlCount_cons, hd]) hn⟩

/-- the line-break and default cases shared by the string-literal and raw-string loops -/
theorem ActSpec.lineBreaks {x : ρ} (hx : P x) :
    ActSpec P c cs b p
      (if c.cp = cpCR then
        if peekIs cs cpNL then .next 1 (b + 2) ⟨p.line + 1, 0⟩ else .stop x
      else if c.cp = cpNL then .next 0 (b + 1) ⟨p.line + 1, 0⟩
      else .next 0 (b + c.len) ⟨p.line, p.col + c.width⟩) := by
  refine ite_ind (fun hc => ite_ind (fun hn => ?_) (fun _ => hx))
    (fun _ => ite_ind (fun hn => ?_) (fun hn => ?_))
  · obtain ⟨a2, a3⟩ := crnl p (by rw [hc]; decide) hn
    have : c.len = 1 := by simp [Ch.len, hc, utf8Len, cpCR]
    exact ⟨by omega, a3⟩
  · exact .single (PosOk.ends_nl p (a := []) rfl hn) (by rw [Ch.len_nl hn])
  · exact .single (PosOk.char p hn) rfl

end

theorem scan_spec {ρ : Type} (act : Ch → List Ch → Nat → Pos → Act ρ) (eof : Nat → Pos → ρ)
    (P : ρ → Prop) (cs0 : List Ch) (b0 : Nat) (p0 : Pos)
    (hact : ∀ done c cs b p, cs0 = done ++ c :: cs → b = b0 + byteLen done → PosOk p0 done p →
      ActSpec P c cs b p (act c cs b p))
    (heof : ∀ b p, b = b0 + byteLen cs0 → PosOk p0 cs0 p → P (eof b p)) :
    P (scan act eof 0 cs0 b0 p0) := by
  -- generalised invariant: at `scan skip cs b p` with `cs0 = done ++ cs`, the counters already
  -- include the next `skip` characters
  suffices H : ∀ (cs done : List Ch) (skip b : Nat) (p : Pos), cs0 = done ++ cs →
      b = b0 + byteLen (done ++ cs.take skip) → PosOk p0 (done ++ cs.take skip) p →
      P (scan act eof skip cs b p) by
    exact H cs0 [] 0 b0 p0 rfl (by simp) (by simpa using PosOk.nil p0)
  intro cs
  induction cs with
  | nil =>
    intro done skip b p h0 hb hp
    have : scan act eof skip [] b p = eof b p := by cases skip <;> rfl
    rw [this]
    simp only [List.take_nil, List.append_nil] at h0 hb hp
    subst h0
    exact heof b p hb hp
  | cons c cs ih =>
    intro done skip b p h0 hb hp
    have h0' : cs0 = (done ++ [c]) ++ cs := by simp [h0]
    cases skip with
    | succ k =>
      have e : done ++ (c :: cs).take (k + 1) = (done ++ [c]) ++ cs.take k := by simp
      rw [e] at hb hp
      exact ih (done ++ [c]) k b p h0' hb hp
    | zero =>
      simp only [List.take_zero, List.append_nil] at hb hp
      have hA := hact done c cs b p h0 hb hp
      simp only [scan]
      cases hact' : act c cs b p with
      | stop r => rw [hact'] at hA; exact hA
      | next extra b' p' =>
        rw [hact'] at hA
        obtain ⟨h2, h3⟩ := hA
        have e : (done ++ [c]) ++ cs.take extra = done ++ c :: cs.take extra := by simp
        refine ih (done ++ [c]) extra b' p' h0' ?_ (e ▸ hp.append h3)
        rw [e, byteLen_append, h2, hb, Nat.add_assoc]

/-! ### consume_newline -/

theorem consumeNewline_spec (p : Pos) (cs : List Ch) :
    consumeNewline p cs = (.error, .stay) ∨
    ∃ a e rest, cs = a ++ e :: rest ∧ nlCount a = 0 ∧ e.cp = cpNL ∧
      consumeNewline p cs = (.newLine, .adv (byteLen (a ++ [e])) ⟨p.line + 1, 0⟩) := by
  unfold consumeNewline
  cases cs with
  | nil => exact Or.inl rfl
  | cons c rest =>
    by_cases hc : c.cp = cpCR
    · simp only [hc, if_true]
      cases rest with
      | nil => exact Or.inl rfl
      | cons d rest' =>
        by_cases hd : d.cp = cpNL
        · refine Or.inr ⟨[c], d, rest', rfl, by simp [nlCount_cons, hc, cpCR, cpNL], hd, ?_⟩
          simp [hd, Ch.len, hc, utf8Len, cpCR, cpNL]
        · simp [hd]
    · simp only [hc, if_false]
      by_cases hd : c.cp = cpNL
      · exact Or.inr ⟨[], c, rest, rfl, rfl, hd, by simp [hd, Ch.len_nl]⟩
      · simp [hd]

/-! ### consume_comment -/

theorem multiCommentAct_spec (c : Ch) (cs : List Ch) (b : Nat) (p : Pos) :
    ActSpec (fun r => r = none ∨ ∃ q, PosOk p (c :: cs.take 1) q ∧
        r = some (b + byteLen (c :: cs.take 1), q, true))
      c cs b p (multiCommentAct c cs b p) := by
  simp only [multiCommentAct]
  have hchar : ¬ c.cp = cpNL → ∀ {P : MultiRes → Prop},
      ActSpec P c cs b p (.next 0 (b + c.len) ⟨p.line, p.col + c.width⟩) :=
    fun hc _ => .single (PosOk.char p hc) rfl
  refine ite_ind (fun h1 => ?_) (fun _ => ite_ind (fun h2 => ?_) (fun _ => ite_ind (fun h3 => ?_)
    (fun _ => ite_ind (fun h4 => ?_) (fun h4 => hchar h4))))
  · have hc : ¬ c.cp = cpNL := by rw [h1]; decide
    exact ite_ind (fun h2 => .run (PosOk.char p hc) (peekIs_countWhile h2 (by decide)) rfl rfl)
      (fun _ => hchar hc)
  · have hc : ¬ c.cp = cpNL := by rw [h2]; decide
    refine ite_ind (fun h3 => ?_) (fun _ => hchar hc)
    obtain ⟨a2, a3⟩ := (PosOk.char p hc).cons_run (peekIs_countWhile h3 (by decide))
    exact .stop (Or.inr ⟨_, a3, by rw [a2, Nat.add_assoc]⟩)
  · refine ite_ind (fun h4 => ?_) (fun _ => .stop (Or.inl rfl))
    obtain ⟨a2, a3⟩ := crnl p (by rw [h3]; decide) h4
    exact ⟨by rw [a2, Nat.add_assoc], a3⟩
  · exact .single (PosOk.ends_nl p (a := []) rfl h4) rfl

theorem multiCommentLoop_spec (cs : List Ch) (b0 : Nat) (p0 : Pos) :
    match multiCommentLoop cs b0 p0 with
    | none => True
    | some (bytes, pos, _) => ∃ t rest, cs = t ++ rest ∧ bytes = b0 + byteLen t ∧ PosOk p0 t pos := by
  unfold multiCommentLoop
  refine scan_spec multiCommentAct _ (fun r => match r with
    | none => True
    | some (bytes, pos, _) => ∃ t rest, cs = t ++ rest ∧ bytes = b0 + byteLen t ∧ PosOk p0 t pos)
    cs b0 p0 ?_ ?_
  · intro done c cs' b p h0 hb hp
    refine (multiCommentAct_spec c cs' b p).mono ?_
    rintro r (rfl | ⟨q, h2, rfl⟩)
    · trivial
    · refine ⟨done ++ c :: cs'.take 1, cs'.drop 1, ?_, ?_, hp.append h2⟩
      · rw [h0, List.append_assoc, List.cons_append, List.take_append_drop]
      · rw [hb, byteLen_append, Nat.add_assoc]
  · intro b p hb hp
    exact ⟨cs, [], by simp, hb, hp⟩

theorem notLineEnd_not_nl (c : Ch) (h : notLineEnd c = true) : ¬ c.cp = cpNL := by
  simp [notLineEnd] at h
  exact h.2

theorem advances_utf8 {c : Ch} {rest : List Ch} (p : Pos) (f : Ch → Bool) (hc : printable c.cp = true)
    (hn : nlCount (rest.takeWhile f) = 0) :
    Advances (c :: rest) p
      (advLineUtf8 p ((countWhileUtf8 f rest).1 + 1) ((countWhileUtf8 f rest).2 + 1)) := by
  refine ⟨c :: rest.takeWhile f, rest.dropWhile f, _, by simp [List.takeWhile_append_dropWhile], ?_,
    (PosOk.ascii p hc).append (PosOk.width _ hn)⟩
  rw [advLineUtf8, countWhileUtf8_eq, byteLen_cons,
    plain_len (printable_plain hc), Nat.add_comm 1, Nat.add_comm (widthSum _) 1,
    ← Nat.add_assoc]

theorem consumeComment_spec (p : Pos) (c : Ch) (rest : List Ch) (hc : c.cp = cpHash) :
    Scanned (c :: rest) p (consumeComment p (c :: rest)) := by
  have hpr : printable c.cp = true := by rw [hc]; decide
  simp only [consumeComment]
  split
  · -- multi-line
    have := multiCommentLoop_spec rest 1 ⟨p.line, p.col + 1⟩
    split
    · exact Or.inl rfl
    · rename_i bytes pos found heq
      rw [heq] at this
      obtain ⟨t, rest', h1, h2, h3⟩ := this
      cases found with
      | false => exact Or.inl rfl
      | true =>
        refine Or.inr ⟨rfl, c :: t, rest', pos, by rw [h1]; rfl, ?_, (PosOk.ascii p hpr).append h3⟩
        rw [h2, byteLen_cons, plain_len (printable_plain hpr)]
  · -- single-line
    exact Or.inr ⟨rfl, advances_utf8 p notLineEnd hpr
      (nlCount_takeWhile _ _ (fun c _ => notLineEnd_not_nl c))⟩

/-! ### consume_string_literal -/

theorem isQuote_printable {q : Quote} {cp : Nat} (h : isQuote q cp = true) : printable cp = true := by
  unfold isQuote quoteOf at h
  split at h
  · rename_i h1; rw [h1]; decide
  · split at h
    · rename_i h2; rw [h2]; decide
    · simp at h

theorem quoteOf_printable {q : Quote} {cp : Nat} (h : quoteOf cp = some q) : printable cp = true :=
  isQuote_printable (q := q) (by simp [isQuote, h])

theorem stringLiteralAct_spec (q : Quote) (c : Ch) (cs : List Ch) (b : Nat) (p : Pos) :
    ActSpec (fun r => r = (.stringLiteral, .adv b p) ∨ r = (.error, .stay))
      c cs b p (stringLiteralAct q c cs b p) := by
  simp only [stringLiteralAct]
  refine ite_ind (fun _ => .stop (Or.inl rfl)) (fun _ => ite_ind (fun _ => .stop (Or.inl rfl))
    (fun _ => ite_ind (fun h3 => ?_) (fun _ => .lineBreaks (Or.inr rfl))))
  have hc : printable c.cp = true := by rw [h3]; decide
  have hl : c.len = 1 := plain_len (printable_plain hc)
  refine ite_ind (fun h4 => ?_) (fun _ => ite_ind (fun h5 => ?_) (fun _ => ?_))
  · have a := peekIs_countWhile (f := printable) h4 (by decide)
    exact ite_ind (fun h5 => .run (PosOk.ascii p hc) (countWhile_step a h5 (by decide)) (by rw [hl]) rfl)
      (fun _ => .run (PosOk.ascii p hc) a (by rw [hl]) rfl)
  · have a : 1 ≤ countWhile printable cs := by
      simp only [Bool.or_eq_true] at h5
      rcases h5 with (h5 | h5) | h5
      · exact peekIs_countWhile h5 (by decide)
      · exact peekIs_countWhile h5 (by decide)
      · exact peekSat_countWhile h5 (fun cp hcp => isQuote_printable hcp)
    exact .run (PosOk.ascii p hc) a (by rw [hl]) rfl
  · exact .single (PosOk.ascii p hc) (by rw [hl])

theorem stringLiteralLoop_spec (q : Quote) (cs : List Ch) (p : Pos) :
    Scanned cs p (stringLiteralLoop q cs 0 p) := by
  unfold stringLiteralLoop
  refine scan_spec (stringLiteralAct q) _ (Scanned cs p) cs 0 p ?_ (fun _ _ _ _ => Or.inl rfl)
  intro done c cs' b p' h0 hb hp
  refine (stringLiteralAct_spec q c cs' b p').mono ?_
  rintro r (rfl | rfl)
  · exact Or.inr ⟨rfl, done, c :: cs', p', h0, by simp [hb], hp⟩
  · exact Or.inl rfl

/-! ### raw strings -/

theorem matchHashes_le_run : ∀ (n : Nat) (cs : List Ch), matchHashes n cs ≤ countWhile printable cs := by
  intro n
  induction n with
  | zero => intro cs; simp [matchHashes]
  | succ n ih =>
    intro cs
    cases cs with
    | nil => simp [matchHashes]
    | cons c cs =>
      simp only [matchHashes]
      split
      · rename_i h
        rw [countWhile_cons (by rw [h]; decide)]
        have := ih cs
        omega
      · omega

theorem rawContentsAct_spec (q : Quote) (hashes : Nat) (c : Ch) (cs : List Ch) (b : Nat) (p : Pos) :
    ActSpec (fun r => r = none ∨ (r = some (b, p) ∧ 1 + hashes ≤ countWhile printable (c :: cs)))
      c cs b p (rawContentsAct q hashes c cs b p) := by
  simp only [rawContentsAct]
  refine ite_ind (fun h1 => ?_) (fun _ => .lineBreaks (Or.inl rfl))
  have hc := isQuote_printable h1
  have hm := matchHashes_le_run hashes cs
  refine ite_ind (fun _ => .stop (Or.inr ⟨rfl, by rw [countWhile_cons hc]; omega⟩)) (fun _ => ?_)
  exact .run (PosOk.ascii p hc) hm (by rw [plain_len (printable_plain hc), Nat.add_assoc])
    (by rw [Nat.add_assoc])

/-- the raw string contents scanner stops in front of the end delimiter (a quote and `hashes` '#');
the last conjunct keeps of it what `ModesOk` needs: `1 + hashes` printable characters follow -/
theorem rawContentsLoop_spec (q : Quote) (hashes : Nat) (cs : List Ch) (p : Pos) :
    match rawContentsLoop q hashes cs 0 p with
    | none => True
    | some (bytes, pos) => ∃ t rest, cs = t ++ rest ∧ bytes = byteLen t ∧ PosOk p t pos ∧
        1 + hashes ≤ countWhile printable rest := by
  unfold rawContentsLoop
  refine scan_spec (rawContentsAct q hashes) _ (fun r => match r with
    | none => True
    | some (bytes, pos) => ∃ t rest, cs = t ++ rest ∧ bytes = byteLen t ∧ PosOk p t pos ∧
        1 + hashes ≤ countWhile printable rest) cs 0 p ?_ (fun _ _ _ _ => trivial)
  intro done c cs' b p' h0 hb hp
  refine (rawContentsAct_spec q hashes c cs' b p').mono ?_
  rintro r (rfl | ⟨rfl, hr⟩)
  · trivial
  · exact ⟨done, c :: cs', h0, by simp [hb], hp, hr⟩

/-- `parse_raw_string_start` saw `hashes` '#' characters (counted from `h0`) and a quote -/
theorem rawStringStart_run : ∀ (cs : List Ch) (h0 : Nat) (q : Quote) (h : Nat),
    rawStringStart cs h0 = some (q, h) → h + 1 ≤ h0 + countWhile printable cs := by
  intro cs
  induction cs with
  | nil => intro h0 q h hh; simp [rawStringStart] at hh
  | cons c cs ih =>
    intro h0 q h hh
    simp only [rawStringStart] at hh
    split at hh
    · rename_i hc
      split at hh
      · cases hh
      · have := ih _ _ _ hh
        rw [countWhile_cons (by rw [hc]; decide)]
        omega
    · split at hh
      · rename_i q' hq
        cases hh
        rw [countWhile_cons (quoteOf_printable hq)]
        omega
      · cases hh

/-! ### consume_format_options -/

/-- `consume_format_options` tracks its position per character of the consumed text -/
theorem consumeFormatOptions_spec (p : Pos) (cs : List Ch) : Scanned cs p (consumeFormatOptions p cs) := by
  simp only [consumeFormatOptions]
  split
  · exact Or.inl rfl
  · split
    · exact Or.inl rfl
    · split
      · rename_i e consumed hp
        obtain ⟨post, h1, h2⟩ := prefixAt_spec _ _ _ hp
        exact Or.inr ⟨rfl, consumed, post, _, h1, by rw [h2], PosOk.exact p consumed⟩
      · exact Or.inl rfl

/-! ### consume_number -/

theorem isAsciiDigit_printable {cp : Nat} (h : isAsciiDigit cp = true) : printable cp = true := by
  simp [isAsciiDigit] at h
  simp [printable]; omega

theorem isDecimalDigit_printable {cp : Nat} (h : isDecimalDigit cp = true) : printable cp = true := by
  simp [isDecimalDigit, isAsciiDigit, cpUnderscore] at h
  simp [printable]; omega

theorem isBinaryDigit_printable {cp : Nat} (h : isBinaryDigit cp = true) : printable cp = true := by
  simp [isBinaryDigit, cpUnderscore] at h
  simp [printable]; omega

theorem isOctalDigit_printable {cp : Nat} (h : isOctalDigit cp = true) : printable cp = true := by
  simp [isOctalDigit, cpUnderscore] at h
  simp [printable]; omega

theorem isHexDigit_printable {cp : Nat} (h : isHexDigit cp = true) : printable cp = true := by
  simp [isHexDigit, isAsciiDigit, cpUnderscore] at h
  simp [printable]; omega

theorem numberExponent_le {cs : List Ch} {k : Nat} (hk : k ≤ countWhile printable cs) :
    numberExponent k (cs.drop k) ≤ countWhile printable cs := by
  unfold numberExponent
  split
  · rename_i he
    have h1 := countWhile_step hk he (by decide)
    simp only [List.drop_drop]
    split
    · rename_i hs
      have h2 : k + 1 + 1 ≤ countWhile printable cs := by
        simp only [Bool.or_eq_true] at hs
        rcases hs with hs | hs
        · exact countWhile_step h1 hs (by decide)
        · exact countWhile_step h1 hs (by decide)
      have := countWhile_more (p := isDecimalDigit) h2 (fun _ => isDecimalDigit_printable)
      simp only [Nat.add_assoc] at this ⊢
      omega
    · have := countWhile_more (p := isDecimalDigit) h1 (fun _ => isDecimalDigit_printable)
      omega
  · exact hk

theorem numberBytes_le (cs : List Ch) : numberBytes cs ≤ countWhile printable cs := by
  unfold numberBytes
  simp only
  have hn0 : (if peekSat cs isAsciiDigit = true then 1 + countWhile isDecimalDigit (cs.drop 1) else 0)
      ≤ countWhile printable cs := by
    refine ite_le (fun h => ?_) (Nat.zero_le _)
    have := countWhile_more (p := isDecimalDigit)
      (peekSat_countWhile h (fun _ => isAsciiDigit_printable)) (fun _ => isDecimalDigit_printable)
    omega
  generalize (if peekSat cs isAsciiDigit = true then 1 + countWhile isDecimalDigit (cs.drop 1) else 0) = n0
    at hn0 ⊢
  -- a radix prefix character at offset `n0` and the digits after it
  have radix : ∀ {cp : Nat} {g : Bool} {f : Nat → Bool}, printable cp = true →
      (∀ cp, f cp = true → printable cp = true) → (peekIs (cs.drop n0) cp && g && n0 == 1) = true →
      n0 + 1 + countWhile f ((cs.drop n0).drop 1) ≤ countWhile printable cs := by
    intro cp g f hcp hf h
    simp only [Bool.and_eq_true] at h
    simpa only [List.drop_drop] using countWhile_more (p := f) (countWhile_step hn0 h.1.1 hcp) hf
  refine ite_le (radix (by decide) (fun _ => isBinaryDigit_printable)) ?_
  refine ite_le (radix (by decide) (fun _ => isOctalDigit_printable)) ?_
  refine ite_le (radix (by decide) (fun _ => isHexDigit_printable)) ?_
  refine ite_le (fun hdot => ?_) (numberExponent_le hn0)
  refine ite_le (fun _ => ?_) hn0
  have h1 := countWhile_step hn0 hdot (by decide)
  have h2 := countWhile_more (p := isDecimalDigit) h1 (fun _ => isDecimalDigit_printable)
  have key := numberExponent_le h2
  simpa only [List.drop_drop, Nat.add_comm, Nat.add_left_comm, Nat.add_assoc] using key

/-! ### identifiers, keywords, symbols -/

theorem takeIdChars_prefix (cs : List Ch) : ∃ rest, cs = takeIdChars cs ++ rest := by
  cases cs with
  | nil => exact ⟨[], rfl⟩
  | cons c rest => exact ⟨rest.dropWhile (·.idCont), by simp [takeIdChars, List.takeWhile_append_dropWhile]⟩

theorem idCps_run {cs : List Ch} {k : List Nat} (h : (takeIdChars cs).map (·.cp) = k)
    (hk : ∀ cp ∈ k, printable cp = true) : k.length ≤ countWhile printable cs := by
  obtain ⟨rest, hr⟩ := takeIdChars_prefix cs
  generalize takeIdChars cs = ids at h hr
  subst hr h
  exact le_countWhile_iff.mpr ⟨by simp, by simpa using hk⟩

theorem lookupKeyword_spec : ∀ (tbl : List (List Nat × Sym)) (idCps : List Nat) (n : Nat) (t : Sym),
    lookupKeyword idCps tbl = some (n, t) → ∃ k, (k, t) ∈ tbl ∧ idCps = k ∧ n = k.length := by
  intro tbl
  induction tbl with
  | nil => intro idCps n t h; simp [lookupKeyword] at h
  | cons e tbl ih =>
    intro idCps n t h
    obtain ⟨k, t'⟩ := e
    simp only [lookupKeyword] at h
    split at h
    · rename_i hk
      simp at hk
      cases h
      exact ⟨k, by simp, hk, rfl⟩
    · obtain ⟨k', h1, h2, h3⟩ := ih idCps n t h
      exact ⟨k', by simp [h1], h2, h3⟩

theorem lookupSymbol_spec : ∀ (tbl : List (List Nat × Sym)) (cs : List Ch) (n : Nat) (t : Sym),
    lookupSymbol cs tbl = some (n, t) → ∃ k, (k, t) ∈ tbl ∧ startsWith k cs = true ∧ n = k.length := by
  intro tbl
  induction tbl with
  | nil => intro cs n t h; simp [lookupSymbol] at h
  | cons e tbl ih =>
    intro cs n t h
    obtain ⟨k, t'⟩ := e
    simp only [lookupSymbol] at h
    split at h
    · rename_i hk
      cases h
      exact ⟨k, by simp, hk, rfl⟩
    · obtain ⟨k', h1, h2, h3⟩ := ih cs n t h
      exact ⟨k', by simp [h1], h2, h3⟩

theorem keywordTable_printable : ∀ e ∈ keywordTable, ∀ cp ∈ e.1, printable cp = true := by decide

theorem symbolTable_printable : ∀ e ∈ symbolTable, ∀ cp ∈ e.1, printable cp = true := by decide

theorem symbol_advances {cs : List Ch} {n : Nat} {sy : Sym} (p : Pos)
    (h : lookupSymbol cs symbolTable = some (n, sy)) : Advances cs p (advLine p n) := by
  obtain ⟨k, h1, h2, rfl⟩ := lookupSymbol_spec _ _ _ _ h
  exact advances_run p (startsWith_countWhile k cs h2 (symbolTable_printable _ h1))

/-- The identifier scanner (`consume_id_or_keyword`'s last case and `consume_ignored`) passes over
the first character and the XID_Continue run; that text has no line break, and its column advance
`1 + widths(run)` is the display width when the FIRST character has width 1 (the code counts the
first character as one column whatever its width). -/
theorem idRun_spec {c : Ch} {rest : List Ch} (p : Pos) (ht : TableOk (c :: rest))
    (hs : c.idStart = true ∨ c.cp = cpUnderscore) :
    ∃ tail rest' q, c :: rest = (c :: tail) ++ rest' ∧ nlCount (c :: tail) = 0 ∧
      advLineUtf8 p (c.len + (countWhileUtf8 (·.idCont) rest).1) (1 + (countWhileUtf8 (·.idCont) rest).2)
        = .adv (byteLen (c :: tail)) q ∧
      q.line = p.line ∧ (c.width = 1 → q.col = colFrom p.col (c :: tail)) := by
  have hn : nlCount (rest.takeWhile (·.idCont)) = 0 :=
    nlCount_takeWhile _ rest (fun d hd hc => ht d (by simp [hd]) (Or.inr hc))
  have hc : ¬ c.cp = cpNL := by
    rcases hs with hs | hs
    · exact ht c (by simp) (Or.inl hs)
    · rw [hs]; decide
  have hn' : nlCount (c :: rest.takeWhile (·.idCont)) = 0 := by simp [nlCount_cons, hc, hn]
  refine ⟨rest.takeWhile (·.idCont), rest.dropWhile (·.idCont),
    ⟨p.line, p.col + (1 + (countWhileUtf8 (·.idCont) rest).2)⟩,
    by simp [List.takeWhile_append_dropWhile], hn', ?_, rfl, fun hw => ?_⟩
  · rw [advLineUtf8, countWhileUtf8_eq, byteLen_cons]
  · rw [colFrom_noNL _ _ hn', widthSum_cons, hw, countWhileUtf8_eq]

def IdResOk (cs : List Ch) (p : Pos) : IdRes → Prop
  | .tok tok m => tok ≠ .newLine ∧ ∃ t rest q, cs = t ++ rest ∧ m = .adv (byteLen t) q ∧ TokPos tok p t q
  | .raw _ _ m => Advances cs p m

theorem IdResOk.of_advances {cs : List Ch} {p : Pos} {tok : Token} {m : Move} (h : Advances cs p m)
    (ho : tok.ordinary = true) : IdResOk cs p (.tok tok m) := by
  obtain ⟨t, rest, q, h1, h2, h3⟩ := h
  exact ⟨ne_newLine_of_ordinary ho, t, rest, q, h1, h2, h3.tokPos (tokClean_of_ordinary ho t)⟩

theorem consumeIdOrKeyword_spec (p : Pos) (prevTok : Option Token) (c : Ch) (rest : List Ch)
    (ht : TableOk (c :: rest)) (hs : c.idStart = true) :
    IdResOk (c :: rest) p (consumeIdOrKeyword p prevTok (c :: rest)) := by
  simp only [consumeIdOrKeyword]
  refine ite_ind (fun helse => ?_) (fun _ => ?_)
  · simp only [beq_iff_eq] at helse
    refine ite_ind (fun h7 => ?_) (fun _ => ?_)
    · simp only [Bool.and_eq_true] at h7
      exact .of_advances (advances_run p (startsWith_countWhile elseIfCps _ h7.1 (by decide))) rfl
    · exact .of_advances (advances_run p (idCps_run (k := elseCps) helse (by decide))) rfl
  · split
    · rename_i q h hraw
      refine advances_run p ?_
      split at hraw
      · rename_i hr
        simp only [beq_iff_eq, takeIdChars, List.map_cons, List.cons.injEq] at hr
        have := rawStringStart_run _ _ _ _ hraw
        rw [countWhile_cons (by rw [hr.1]; decide)]
        omega
      · cases hraw
    · split
      · rename_i n t hkw
        split at hkw
        · cases hkw
        · obtain ⟨k, h1, h2, rfl⟩ := lookupKeyword_spec _ _ _ _ hkw
          exact .of_advances (advances_run p (idCps_run h2 (keywordTable_printable _ h1))) rfl
      · obtain ⟨tail, rest', q, h1, h2, h3, h4, h5⟩ := idRun_spec p ht (Or.inl hs)
        refine ⟨by simp, c :: tail, rest', q, h1, h3, by rw [h4, h2]; rfl, fun _ => ?_⟩
        by_cases hcw : c.width = 1
        · exact Or.inl ⟨by simp [tokClean, hcw], h5 hcw⟩
        · exact Or.inr ⟨by simp [tokClean, hcw], h2, c, by simp, Or.inl hs, hcw⟩

theorem consumeIgnored_spec (p : Pos) (c : Ch) (rest : List Ch) (ht : TableOk (c :: rest))
    (hc : c.cp = cpUnderscore) : Scanned (c :: rest) p (consumeIgnored p (c :: rest)) := by
  obtain ⟨tail, rest', q, h1, h2, h3, h4, h5⟩ := idRun_spec p ht (Or.inr hc)
  exact Or.inr ⟨rfl, c :: tail, rest', q, h1, h3, by rw [h4, h2]; rfl,
    fun hw => h5 (hw c (by simp) (by rw [hc]; decide))⟩

/-! ### whitespace -/

theorem isWhitespace_plain {cp : Nat} (h : isWhitespace cp = true) : plain cp = true := by
  simp [isWhitespace, cpSpace, cpTab] at h
  simp [plain, cpNL]; omega

/-- the whitespace arm of `get_next_token` (`consume_and_count` + `advance_line`) counts every space
and tab as one column -/
theorem whitespace_spec (p : Pos) (cs : List Ch) :
    ∃ t rest, cs = t ++ rest ∧ byteLen t = countWhile isWhitespace cs ∧
      TokPos .whitespace p t ⟨p.line, p.col + countWhile isWhitespace cs⟩ := by
  have hk : countWhile isWhitespace cs ≤ countWhile isWhitespace cs := Nat.le_refl _
  obtain ⟨hl, hb, hn⟩ := take_plain (fun _ => isWhitespace_plain) hk
  refine ⟨_, _, (List.take_append_drop (countWhile isWhitespace cs) cs).symm, hb, by simp [hn],
    fun hw => ?_⟩
  have hws := mem_take_countWhile hk
  generalize cs.take (countWhile isWhitespace cs) = t at hl hn hw hws
  by_cases hall : t.all (fun c => c.width == 1) = true
  · refine Or.inl ⟨hall, ?_⟩
    simp only [List.all_eq_true, beq_iff_eq] at hall
    rw [colFrom_noNL _ _ hn, widthSum_eq_length hall, hl]
  · refine Or.inr ⟨by simpa [tokClean] using hall, hn, ?_⟩
    simp only [List.all_eq_true, beq_iff_eq, Classical.not_forall] at hall
    obtain ⟨c, hc, hcw⟩ := hall
    refine ⟨c, hc, Or.inr ?_, hcw⟩
    have := hws c hc
    simp only [isWhitespace, Bool.or_eq_true, beq_iff_eq] at this
    rcases this with h | h
    · exact absurd (hw c hc (by rw [h]; decide)) hcw
    · exact h

end KotoVerif.Lexer
