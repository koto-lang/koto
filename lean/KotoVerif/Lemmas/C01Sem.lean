/-
C01 layer 5, semantic correctness of the compiler model (`compile_sem`, in `C01SemCtl`): the simulation
relation (`RelEx`, `ModeFx`, `TempsKept`), the statement `SemAt` for one derivation, and how the frame
operations and the write of a fixed target preserve the relation. A register a node writes — its result
register, or the register it takes for itself (`ownReg_spec`) — is always described the same way: a
meaningful fixed target (`ModeFx (.fixed r) fx _`) that is no live temporary of the outer frame other than
the outer fixed target.
-/
import KotoVerif.Lemmas.C01FrameFacts

namespace KotoVerif.Compile

variable {S : Sem}

/-- the registers of all committed locals outside `E` hold the locals' values -/
def RelEx (E : List VarId) (F : Frame) (σ : Regs S) (ρ : Env S) : Prop :=
  ∀ x v, ρ x = some v → x ∉ E → ∃ r, Has F r x ∧ σ r = v

/-- the result mode is meaningful in frame `F`: a fixed register is either the slot of the local
`fx` (assignment target) or a live temporary -/
def ModeFx (m : Mode) (fx : Option VarId) (F : Frame) : Prop :=
  match m, fx with
  | .fixed r, some x => Named F r x
  | .fixed r, none => F.tb ≤ r ∧ r < F.tb + F.tc
  | .any, none => True
  | .none, none => True
  | _, _ => False

/-- live temporaries of `F` (other than a fixed target) are not disturbed -/
def TempsKept (m : Mode) (F : Frame) (σ σ' : Regs S) : Prop :=
  ∀ t, F.tb ≤ t → t < F.tb + F.tc → m ≠ .fixed t → σ' t = σ t

/-- what `compile_sem` says of one compilation `compile e m F = some (code, out, F')`: under the
static side conditions, from registers related to the environment, `code` computes what `eval e`
computes, into `out.reg`, keeping the relation and the live temporaries -/
def SemAt (S : Sem) (e : Expr) (m : Mode) (F : Frame) (code : Code) (out : Out) (F' : Frame) : Prop :=
  ∀ (E : List VarId) (fx : Option VarId), WF F → ModeFx m fx F → safe E fx e = true →
    ∀ (σ : Regs S) (ρ ρ' : Env S) (v : S.V), RelEx E F σ ρ → eval S e ρ = some (v, ρ') →
    ∃ σ', exec S code σ = some σ' ∧ RelEx (addOpt fx E) F' σ' ρ' ∧
      (∀ r, out.reg = some r → σ' r = v) ∧ TempsKept m F σ σ'

theorem RelEx.empty (E : List VarId) (F : Frame) (σ : Regs S) : RelEx E F σ (fun _ => none) :=
  fun _ _ hx => nomatch hx

theorem RelEx.frame {E : List VarId} {F F' : Frame} {σ : Regs S} {ρ : Env S}
    (h : RelEx E F σ ρ) (hle : FrameLe F F') : RelEx E F' σ ρ := by
  intro x v hx hE
  obtain ⟨r, h1, h2⟩ := h x v hx hE
  exact ⟨r, hle.has r x h1, h2⟩

theorem RelEx.weaken {E E' : List VarId} {F : Frame} {σ : Regs S} {ρ : Env S}
    (h : RelEx E F σ ρ) (hsub : ∀ x, x ∈ E → x ∈ E') : RelEx E' F σ ρ := by
  intro x v hx hE
  exact h x v hx (fun hc => hE (hsub x hc))

theorem RelEx.addOpt {E : List VarId} {fx : Option VarId} {F : Frame} {σ : Regs S} {ρ : Env S}
    (h : RelEx E F σ ρ) : RelEx (addOpt fx E) F σ ρ := by
  apply h.weaken
  intro x hx
  cases fx <;> simp [Compile.addOpt, hx]

theorem addOpt_idem {fx : Option VarId} {E : List VarId} : ∀ x, x ∈ addOpt fx (addOpt fx E) → x ∈ addOpt fx E := by
  intro x hx
  cases fx <;> simp_all [addOpt]

theorem RelEx.set {E : List VarId} {F : Frame} {σ : Regs S} {ρ : Env S} (h : RelEx E F σ ρ)
    (r : Reg) (w : S.V) (hr : ∀ x, Has F r x → x ∈ E) : RelEx E F (σ.set r w) ρ := by
  intro x v hx hE
  obtain ⟨q, h1, h2⟩ := h x v hx hE
  refine ⟨q, h1, ?_⟩
  have : q ≠ r := by
    intro hq; subst hq; exact hE (hr x h1)
  rw [Regs.set_other _ _ this]; exact h2

/-- the result register `assignResult` yields is no live temporary of `F`, unless it is the fixed
target of `m` (in the form `TempsKept.set` and `TempsKept.sub` take it, the latter for a
sub-compilation with mode `.fixed r`) -/
theorem resReg_spare {m : Mode} {F F1 : Frame} {res : Out} {r : Reg}
    (h : assignResult m F = some (res, F1)) (hr : res.reg = some r) :
    ∀ t, Mode.fixed r = Mode.fixed t → F.tb ≤ t → t < F.tb + F.tc → m = Mode.fixed t := by
  intro t ht _ h2
  cases ht
  rcases assignResult_cases h with ⟨q, rfl, rfl, _⟩ | ⟨_, rfl, _⟩ | ⟨_, rfl, _⟩
  · cases hr; rfl
  · cases hr
  · cases hr; exact absurd h2 (Nat.lt_irrefl _)

theorem RelEx.setFixed {E : List VarId} {fx : Option VarId} {G F' : Frame} {σ : Regs S} {ρ : Env S}
    {r : Reg} (h : RelEx E F' σ ρ) (hle : FrameLe G F') (hw : WF F') (hm : ModeFx (.fixed r) fx G)
    (w : S.V) : RelEx (Compile.addOpt fx E) F' (σ.set r w) ρ := by
  apply (h.addOpt (fx := fx)).set
  intro x hx
  cases fx with
  | some y =>
    cases named_unique_name hx.named (hle.named _ _ hm)
    simp [Compile.addOpt]
  | none =>
    have hlt := hx.lt_tb hw
    rw [hle.tb] at hlt
    have := (hm : G.tb ≤ r ∧ r < G.tb + G.tc).1
    omega

theorem TempsKept.refl (m : Mode) (F : Frame) (σ : Regs S) : TempsKept m F σ σ := fun _ _ _ _ => rfl

theorem TempsKept.set {m : Mode} {F : Frame} {σ σ' : Regs S} {r : Reg} (h : TempsKept m F σ σ')
    (hr : ∀ t, Mode.fixed r = Mode.fixed t → F.tb ≤ t → t < F.tb + F.tc → m = Mode.fixed t) (w : S.V) :
    TempsKept m F σ (σ'.set r w) := by
  intro t h1 h2 h3
  rw [Regs.set_other _ _ fun ht => h3 (hr t (congrArg Mode.fixed ht.symm) h1 h2)]
  exact h t h1 h2 h3

theorem TempsKept.sub {m m1 : Mode} {F F1 : Frame} {σ σ0 σ1 : Regs S}
    (h0 : TempsKept m F σ σ0) (h : TempsKept m1 F1 σ0 σ1) (htb : F1.tb = F.tb) (htc : F.tc ≤ F1.tc)
    (hm : ∀ t, m1 = .fixed t → F.tb ≤ t → t < F.tb + F.tc → m = .fixed t) : TempsKept m F σ σ1 := by
  intro t h1 h2 h3
  rw [h t (by omega) (by omega) (fun hc => h3 (hm t hc h1 h2))]
  exact h0 t h1 h2 h3

theorem exec_seq {a b : Code} {σ σ1 : Regs S} (h : exec S a σ = some σ1) :
    exec S (.seq a b) σ = exec S b σ1 := by
  simp [exec, h]

theorem exec_instrIf_some {r : Reg} {f : Reg → Instr} {σ : Regs S} :
    exec S (instrIf (some r) f) σ = stepInstr S (f r) σ := by
  simp [instrIf, exec]

theorem exec_instrIf_none {f : Reg → Instr} {σ : Regs S} :
    exec S (instrIf Option.none f) σ = some σ := by
  simp [instrIf, exec]

theorem ModeFx.mono {m : Mode} {fx : Option VarId} {F G : Frame} (h : ModeFx m fx F)
    (hle : FrameLe F G) (htc : F.tc ≤ G.tc) : ModeFx m fx G := by
  unfold ModeFx at h ⊢
  cases m <;> cases fx <;> simp_all
  · rw [hle.tb]; omega
  · exact hle.named _ _ h

theorem ModeFx.lt {r : Reg} {fx : Option VarId} {F : Frame} (h : ModeFx (.fixed r) fx F) (hw : WF F) :
    r < F.tb + F.tc := by
  cases fx with
  | some x =>
    have h1 : r < F.locals.length := Named.lt (x := x) h
    have h2 := hw.len
    omega
  | none => exact (h : F.tb ≤ r ∧ r < F.tb + F.tc).2

theorem modeFx_fx_none {m : Mode} {fx : Option VarId} {F : Frame} (h : ModeFx m fx F)
    (hm : ∀ r, m ≠ .fixed r) : fx = Option.none := by
  unfold ModeFx at h
  cases m <;> cases fx <;> simp_all

theorem modeFx_fixed_of_res {m : Mode} {fx : Option VarId} {F F1 G : Frame} {res : Out} {r : Reg}
    (ha : assignResult m F = some (res, F1)) (hm : ModeFx m fx F) (hr : res.reg = some r)
    (hle : FrameLe F G) (htc : G.tc = F1.tc) : ModeFx (.fixed r) fx G := by
  rcases assignResult_cases ha with ⟨q, rfl, rfl, rfl⟩ | ⟨_, rfl, _⟩ | ⟨rfl, rfl, hp⟩
  · cases hr
    exact hm.mono hle (Nat.le_of_eq htc.symm)
  · cases hr
  · cases hr
    cases modeFx_fx_none hm nofun
    have := (pushReg_spec hp).2.2.2
    exact ⟨by rw [hle.tb]; omega, by rw [hle.tb]; omega⟩

/-- The node's own register, as `resultOrTemp` yields it: the result register, or a temporary of the
node's own when there is none. In the frame the operands are compiled in it is a meaningful fixed
target, owned by `fx` like the result register; it is no live temporary of the outer frame unless it
is the outer fixed target. (`and` / `or` hand it to both operands as their mode, a comparison chain
writes the first comparison into it.) -/
theorem ownReg_spec {m : Mode} {fx : Option VarId} {F F1 F2 : Frame} {res : Out} {reg : Reg}
    (ha : assignResult m F = some (res, F1)) (hrt : resultOrTemp res F1 = some (reg, F2))
    (hw : WF F) (hm : ModeFx m fx F) :
    WF F2 ∧ ModeFx (.fixed reg) fx F2 ∧ FrameLe F F2 ∧ F.tc ≤ F2.tc ∧ (∀ r, res.reg = some r → r = reg) ∧
    (∀ t, Mode.fixed reg = Mode.fixed t → F.tb ≤ t → t < F.tb + F.tc → m = Mode.fixed t) := by
  obtain ⟨h1, h2, h3⟩ := assignResult_spec ha
  obtain ⟨t1, t2, t3⟩ := resultOrTemp_spec hrt
  have le02 : FrameLe F F2 := (FrameLe.of_locals_eq h1 h2).trans (FrameLe.of_locals_eq t1 t2)
  refine ⟨(hw.of_locals_eq h1 h2).of_locals_eq t1 t2, ?_⟩
  rcases t3 with ⟨t3, t4⟩ | ⟨t3, t4, t5⟩
  · refine ⟨modeFx_fixed_of_res ha hm t3 le02 t4, le02, by omega, fun r hr => ?_, fun t ht h5 h6 => ?_⟩
    · rw [t3] at hr; exact (Option.some.inj hr).symm
    · exact resReg_spare ha t3 t ht h5 h6
  · -- no result register: the mode is `none`, the register a fresh temporary
    rcases assignResult_cases ha with ⟨q, _, rfl, _⟩ | ⟨rfl, rfl, rfl⟩ | ⟨_, rfl, _⟩
    · cases t3
    · cases modeFx_fx_none hm nofun
      subst t4
      refine ⟨⟨by omega, by omega⟩, le02, by omega, fun r hr => ?_, fun t ht _ _ => ?_⟩
      · cases hr
      · cases ht; omega
    · cases t3

/-- final step of a "late writer": the single instruction that writes the result register -/
theorem finish_result {m : Mode} {fx : Option VarId} {F F1 F' : Frame} {res : Out} {E : List VarId}
    {σ σ1 : Regs S} {ρ' : Env S} {v : S.V} {f : Reg → Instr}
    (ha : assignResult m F = some (res, F1)) (hle : FrameLe F F') (hw : WF F') (hm : ModeFx m fx F)
    (hrel : RelEx E F' σ1 ρ') (hk : TempsKept m F σ σ1)
    (hstep : ∀ r, res.reg = some r → stepInstr S (f r) σ1 = some (σ1.set r v)) :
    ∃ σ', exec S (instrIf res.reg f) σ1 = some σ' ∧ RelEx (addOpt fx E) F' σ' ρ' ∧
      (∀ r, res.reg = some r → σ' r = v) ∧ TempsKept m F σ σ' := by
  cases hr : res.reg with
  | none =>
    exact ⟨σ1, exec_instrIf_none, hrel.addOpt, fun r h => by simp at h, hk⟩
  | some r =>
    obtain ⟨h1, h2, _⟩ := assignResult_spec ha
    have hm1 := modeFx_fixed_of_res ha hm hr (FrameLe.of_locals_eq h1 h2) rfl
    refine ⟨σ1.set r v, by rw [exec_instrIf_some]; exact hstep r hr,
      hrel.setFixed ((FrameLe.of_locals_eq h1.symm h2.symm).trans hle) hw hm1 v, ?_, hk.set (resReg_spare ha hr) v⟩
    intro q hq
    simp only [Option.some.injEq] at hq
    subst hq
    simp

theorem relEx_of_assignResult {m : Mode} {F F1 : Frame} {res : Out} {E : List VarId} {σ : Regs S} {ρ : Env S}
    (ha : assignResult m F = some (res, F1)) (h : RelEx E F σ ρ) : RelEx E F1 σ ρ := by
  obtain ⟨h1, h2, _⟩ := assignResult_spec ha
  exact h.frame (FrameLe.of_locals_eq h1 h2)

/-- the first operand of a node, compiled with `Any` right after `assignResult`, whose temporary (if
it took one) is popped at once (`un`, `compound`, the condition of `ite` / `ifThen`) -/
theorem operand_sem {c : Expr} {m : Mode} {F F1 F2 F3 : Frame} {res oc : Out} {cc : Code} {rc : Reg}
    (ha : assignResult m F = some (res, F1)) (hc : Compiled c .any F1 cc oc F2) (hrc : oc.reg = some rc)
    (hp : popIf oc.temp F2 = some F3) (ih : SemAt S c .any F1 cc oc F2) (hw : WF F)
    {E : List VarId} {σ : Regs S} {ρ ρ1 : Env S} {v : S.V}
    (hs : safe E Option.none c = true) (hrel : RelEx E F σ ρ) (hev : eval S c ρ = some (v, ρ1)) :
    ∃ σ1, exec S cc σ = some σ1 ∧ σ1 rc = v ∧ RelEx E F3 σ1 ρ1 ∧ TempsKept m F σ σ1 ∧
      WF F3 ∧ FrameLe F F3 ∧ F3.tc = F1.tc ∧ F.tc ≤ F3.tc := by
  obtain ⟨h1, h2, h3⟩ := assignResult_spec ha
  have hw1 := hw.of_locals_eq h1 h2
  obtain ⟨σ1, x1, x2, x3, x4⟩ := ih E Option.none hw1 trivial hs σ ρ ρ1 v (relEx_of_assignResult ha hrel) hev
  have ff := hc.frame hw1
  obtain ⟨p1, p2, p3⟩ := popIf_temp hp
  have le23 := FrameLe.of_locals_eq p1 p2
  have := ff.tc
  exact ⟨σ1, x1, x3 rc hrc, x2.frame le23, (TempsKept.refl m F σ).sub x4 h2 (by omega) nofun, ff.wf.of_locals_eq p1 p2,
    (FrameLe.of_locals_eq h1 h2).trans (ff.le.trans le23), by omega, by omega⟩

end KotoVerif.Compile
