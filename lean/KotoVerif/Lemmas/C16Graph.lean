/-
C16 helper lemmas: the walks over a possibly cyclic `@base` graph terminate (visited list), answer
soundly, and keep their answer when given more fuel.
-/
import KotoVerif.Model.Types

namespace KotoVerif.C16
open KotoVerif.Types

/-- number of nodes `< N` not yet in `vis` -/
def unvisited (N : Nat) (vis : List Nat) : Nat := ((List.range N).filter fun m => !vis.contains m).length

theorem unvisited_lt (N n : Nat) (vis : List Nat) (hn : n < N) (hv : vis.contains n = false) :
    unvisited N (n :: vis) < unvisited N vis := by
  -- the nodes unvisited after `n` are the unvisited ones other than `n`, and `n` was one of them
  have : (fun m => !(n :: vis).contains m) = fun m => (!(m == n)) && !vis.contains m := by
    funext m; rw [List.contains_cons, Bool.not_or]
  rw [unvisited, this, ← List.filter_filter]
  exact List.length_filter_lt_length_iff_exists.mpr
    ⟨n, List.mem_filter.mpr ⟨List.mem_range.mpr hn, by rw [hv]; rfl⟩, by simp⟩

theorem unvisited_nil (N : Nat) : unvisited N [] = N := by
  unfold unvisited
  rw [List.filter_eq_self.mpr (by intro a _; simp)]
  simp

theorem lt_of_getElem?_some {α : Type} (l : List α) (n : Nat) (a : α) (h : l[n]? = some a) : n < l.length := by
  rcases Nat.lt_or_ge n l.length with hlt | hge
  · exact hlt
  · rw [List.getElem?_eq_none hge] at h; cases h

/-! Termination and soundness go by induction over the walks' own rules (`metaTypeG.induct`, `walkG.induct`),
which come in the order of the clauses of the definitions. -/

/-- rules: fuel spent · node outside the graph · own `@type` string · own `@type` of another kind ·
no `@base` · `@base` already visited · step to the `@base` -/
theorem metaTypeG_total (g : Graph) (fuel : Nat) (vis : List Nat) (n : Nat) (hv : vis.contains n = false)
    (hf : unvisited g.length vis < fuel) : ∃ r, metaTypeG g fuel vis n = some r := by
  fun_induction metaTypeG g fuel vis n with
  | case1 => omega
  | case2 | case3 | case4 | case5 | case6 => exact ⟨_, rfl⟩
  | case7 fuel vis n nd hg _ b _ hc ih =>
    have := unvisited_lt g.length n vis (lt_of_getElem?_some g n nd hg) hv
    exact ih (by simpa using hc) (by omega)

theorem lt_of_gBase_some {g : Graph} {n b : Nat} (hb : gBase g n = some b) : n < g.length := by
  unfold gBase at hb
  cases hg : g[n]? with
  | none => simp [hg] at hb
  | some nd => exact lt_of_getElem?_some g n nd hg

/-- rules: fuel spent · no `@base` · node already visited · the `@base` has the name · step to the `@base` -/
theorem walkG_total (g : Graph) (h : TyName) (fuel : Nat) (vis : List Nat) (n : Nat)
    (hf : unvisited g.length vis < fuel) : ∃ r, walkG g h fuel vis n = some r := by
  fun_induction walkG g h fuel vis n with
  | case1 => omega
  | case2 | case3 | case4 => exact ⟨_, rfl⟩
  | case5 fuel vis n b hb hv _ ih =>
    have := unvisited_lt g.length n vis (lt_of_gBase_some hb) (by simpa using hv)
    exact ih (by omega)

theorem walkG_sound (g : Graph) (h : TyName) (fuel : Nat) (vis : List Nat) (n : Nat)
    (hw : walkG g h fuel vis n = some true) : ∃ k b, reachesG g (k + 1) n b ∧ typeNameG g b = h := by
  fun_induction walkG g h fuel vis n with
  | case1 | case2 | case3 => cases hw
  | case4 _ _ _ b hb _ ht => exact ⟨0, b, ⟨b, hb, rfl⟩, ht⟩
  | case5 _ _ _ b hb _ _ ih =>
    obtain ⟨k, c, hr, hc⟩ := ih hw
    exact ⟨k + 1, c, ⟨b, hb, hr⟩, hc⟩

theorem walkG_fuel_mono (g : Graph) (h : TyName) :
    ∀ fuel vis n r, walkG g h fuel vis n = some r → walkG g h (fuel + 1) vis n = some r := by
  intro fuel
  induction fuel with
  | zero => intro vis n r hw; simp [walkG] at hw
  | succ fuel ih =>
    intro vis n r hw
    rw [walkG] at hw ⊢
    cases hb : gBase g n with
    | none => simp only [hb] at hw ⊢; exact hw
    | some b =>
      simp only [hb] at hw ⊢
      by_cases hv : vis.contains n = true
      · rw [if_pos hv] at hw ⊢; exact hw
      · rw [if_neg hv] at hw ⊢
        by_cases ht : typeNameG g b = h
        · rw [if_pos ht] at hw ⊢; exact hw
        · rw [if_neg ht] at hw ⊢; exact ih _ _ _ hw

end KotoVerif.C16
