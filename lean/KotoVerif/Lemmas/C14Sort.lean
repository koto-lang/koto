/-
C14 — lemmas about the stable insertion sort of `Model/Sort.lean`, for an arbitrary strict test
`lt` that comes from a total preorder (`a ≤ b :⇔ ¬ b < a`), about `try_sort_by` and `sortable`.
-/
import KotoVerif.Model.Sort

namespace KotoVerif
namespace Sorting

variable {α : Type}

/-- what the comparator has to satisfy: `<` is asymmetric and `≤` (= not `>`) is transitive.
(Totality of `≤` is the asymmetry of `<`.) -/
structure TotalPreorder (lt : α → α → Bool) : Prop where
  asymm : ∀ a b, lt a b = true → lt b a = false
  le_trans : ∀ a b c, lt b a = false → lt c b = false → lt c a = false

def Sorted (lt : α → α → Bool) (xs : List α) : Prop := xs.Pairwise (fun a b => lt b a = false)

def equiv (lt : α → α → Bool) (a b : α) : Bool := !lt a b && !lt b a

theorem TotalPreorder.comap {β : Type} {lt : β → β → Bool} (h : TotalPreorder lt) (g : α → β) :
    TotalPreorder (fun a b => lt (g a) (g b)) :=
  ⟨fun a b => h.asymm (g a) (g b), fun a b c => h.le_trans (g a) (g b) (g c)⟩

theorem insertBy_perm (lt : α → α → Bool) (x : α) (ys : List α) :
    (insertBy lt x ys).Perm (x :: ys) := by
  induction ys with
  | nil => simp [insertBy]
  | cons y ys ih =>
    simp only [insertBy]
    split
    · exact (List.Perm.cons y ih).trans (List.Perm.swap x y ys)
    · exact List.Perm.refl _

theorem sortBy_perm (lt : α → α → Bool) (xs : List α) : (sortBy lt xs).Perm xs := by
  induction xs with
  | nil => simp [sortBy]
  | cons x xs ih =>
    simp only [sortBy]
    exact (insertBy_perm lt x _).trans (List.Perm.cons x ih)

theorem insertBy_sorted {lt : α → α → Bool} (h : TotalPreorder lt) (x : α) (ys : List α)
    (hs : Sorted lt ys) : Sorted lt (insertBy lt x ys) := by
  induction ys with
  | nil => simp [insertBy, Sorted]
  | cons y ys ih =>
    simp only [insertBy]
    have hs' := List.pairwise_cons.mp hs
    split
    · rename_i hyx
      apply List.pairwise_cons.mpr
      constructor
      · intro z hz
        have hz' : z ∈ x :: ys := (insertBy_perm lt x ys).mem_iff.mp hz
        rcases List.mem_cons.mp hz' with rfl | hz''
        · exact h.asymm _ _ hyx
        · exact hs'.1 z hz''
      · exact ih hs'.2
    · rename_i hyx
      have hyx' : lt y x = false := by simpa using hyx
      apply List.pairwise_cons.mpr
      constructor
      · intro z hz
        rcases List.mem_cons.mp hz with rfl | hz'
        · exact hyx'
        · exact h.le_trans x y z hyx' (hs'.1 z hz')
      · exact hs

theorem sortBy_sorted {lt : α → α → Bool} (h : TotalPreorder lt) (xs : List α) :
    Sorted lt (sortBy lt xs) := by
  induction xs with
  | nil => simp [sortBy, Sorted]
  | cons x xs ih => exact insertBy_sorted h x _ ih

theorem map_insertBy {β : Type} (g : α → β) (lt : β → β → Bool) (e : α) (es : List α) :
    (insertBy (fun a b => lt (g a) (g b)) e es).map g = insertBy lt (g e) (es.map g) := by
  induction es with
  | nil => simp [insertBy]
  | cons x xs ih =>
    simp only [insertBy, List.map_cons]
    split <;> simp [ih]

theorem map_sortBy {β : Type} (g : α → β) (lt : β → β → Bool) (es : List α) :
    (sortBy (fun a b => lt (g a) (g b)) es).map g = sortBy lt (es.map g) := by
  induction es with
  | nil => simp [sortBy]
  | cons x xs ih => simp only [sortBy, List.map_cons, map_insertBy, ih]

theorem equiv_not_lt {lt : α → α → Bool} (h : TotalPreorder lt) (a x y : α)
    (hx : equiv lt a x = true) (hy : equiv lt a y = true) : lt y x = false := by
  simp only [equiv, Bool.and_eq_true, Bool.not_eq_true'] at hx hy
  -- x ≤ a (¬ a < x) and a ≤ y (¬ y < a) give x ≤ y
  exact h.le_trans x a y hx.1 hy.2

theorem insertBy_filter {lt : α → α → Bool} (h : TotalPreorder lt) (a x : α) (ys : List α) :
    (insertBy lt x ys).filter (equiv lt a) = (x :: ys).filter (equiv lt a) := by
  induction ys with
  | nil => simp [insertBy]
  | cons y ys ih =>
    simp only [insertBy]
    split
    · rename_i hyx
      rw [List.filter_cons, ih]
      by_cases hx : equiv lt a x = true
      · by_cases hy : equiv lt a y = true
        · have := equiv_not_lt h a x y hx hy
          rw [this] at hyx
          exact absurd hyx (by simp)
        · simp [hx, hy]
      · simp [List.filter_cons, hx]
    · rfl

/-- stability: the members of every class appear in their input order -/
theorem sortBy_stable {lt : α → α → Bool} (h : TotalPreorder lt) (a : α) (xs : List α) :
    (sortBy lt xs).filter (equiv lt a) = xs.filter (equiv lt a) := by
  induction xs with
  | nil => simp [sortBy]
  | cons x xs ih =>
    simp only [sortBy]
    rw [insertBy_filter h, List.filter_cons, List.filter_cons, ih]

theorem TotalPreorder.irrefl {lt : α → α → Bool} (h : TotalPreorder lt) (a : α) : lt a a = false := by
  cases hh : lt a a with
  | false => rfl
  | true => exact hh.symm.trans (h.asymm a a hh)

theorem equiv_self {lt : α → α → Bool} (h : TotalPreorder lt) (a : α) : equiv lt a a = true := by
  simp [equiv, h.irrefl a]

theorem sorted_stable_unique {lt : α → α → Bool} (h : TotalPreorder lt) :
    ∀ (ys zs : List α), ys.Perm zs → Sorted lt ys → Sorted lt zs →
      (∀ a, ys.filter (equiv lt a) = zs.filter (equiv lt a)) → ys = zs := by
  intro ys
  induction ys with
  | nil => intro zs hp _ _ _; exact (List.Perm.nil_eq hp)
  | cons y ys ih =>
    intro zs hp hsy hsz hf
    cases zs with
    | nil => exact absurd hp.symm (by simp)
    | cons z zs =>
      have hsy' := List.pairwise_cons.mp hsy
      have hsz' := List.pairwise_cons.mp hsz
      -- the heads are equivalent (each occurs in the other, sorted, list), so the class of `y` starts with
      -- `y` in one list and with `z` in the other: `y = z`
      have hzy : lt z y = false := by
        have : z ∈ y :: ys := hp.mem_iff.mpr (by simp)
        rcases List.mem_cons.mp this with e | hm
        · subst e
          exact h.irrefl z
        · exact hsy'.1 z hm
      have hyz : lt y z = false := by
        have : y ∈ z :: zs := hp.mem_iff.mp (by simp)
        rcases List.mem_cons.mp this with e | hm
        · subst e
          exact h.irrefl y
        · exact hsz'.1 y hm
      have he : equiv lt y z = true := by simp [equiv, hyz, hzy]
      have hfy := hf y
      rw [List.filter_cons, List.filter_cons] at hfy
      simp only [equiv_self h y, he, if_true] at hfy
      have hyz' : y = z := (List.cons.inj hfy).1
      subst hyz'
      have hp' : ys.Perm zs := List.Perm.cons_inv hp
      have hf' : ∀ a, ys.filter (equiv lt a) = zs.filter (equiv lt a) := by
        intro a
        have := hf a
        rw [List.filter_cons, List.filter_cons] at this
        split at this
        · exact (List.cons.inj this).2
        · exact this
      rw [ih zs hp' hsy'.2 hsz'.2 hf']

theorem sortBy_unique {lt : α → α → Bool} (h : TotalPreorder lt) (xs ys : List α)
    (hp : ys.Perm xs) (hs : Sorted lt ys) (hst : ∀ a, ys.filter (equiv lt a) = xs.filter (equiv lt a)) :
    ys = sortBy lt xs :=
  sorted_stable_unique h ys (sortBy lt xs) (hp.trans (sortBy_perm lt xs).symm) hs (sortBy_sorted h xs)
    (fun a => (hst a).trans (sortBy_stable h a xs).symm)

/-! ### `try_sort_by`: the merge sort with a comparison that can fail

Whatever the comparison does — succeed, fail part-way, be inconsistent — the values afterwards are a
permutation of the values before (so a caught failure of `list.sort`, `map.sort` loses nothing). -/

theorem tryMerge_perm (less : α → α → Option Bool) :
    ∀ (f : Nat) (l r m : List α), tryMerge less f l r = some m → m.Perm (l ++ r) := by
  intro f
  induction f with
  | zero =>
    intro l r m h
    cases l with
    | nil => simp only [tryMerge, Option.some.injEq] at h; subst h; simp
    | cons a l =>
      cases r with
      | nil => simp only [tryMerge, Option.some.injEq] at h; subst h; simp
      | cons b r => simp [tryMerge] at h
  | succ f ih =>
    intro l r m h
    cases l with
    | nil => simp only [tryMerge, Option.some.injEq] at h; subst h; simp
    | cons a l =>
      cases r with
      | nil => simp only [tryMerge, Option.some.injEq] at h; subst h; simp
      | cons b r =>
        simp only [tryMerge] at h
        cases hl : less b a with
        | none => simp [hl] at h
        | some c =>
          cases c with
          | true =>
            simp only [hl, Option.map_eq_some_iff] at h
            obtain ⟨m', hm', rfl⟩ := h
            have := ih (a :: l) r m' hm'
            -- b :: m' ~ b :: (a :: l ++ r) ~ a :: l ++ b :: r
            exact (List.Perm.cons b this).trans (List.perm_middle.symm)
          | false =>
            simp only [hl, Option.map_eq_some_iff] at h
            obtain ⟨m', hm', rfl⟩ := h
            have := ih l (b :: r) m' hm'
            exact List.Perm.cons a this

theorem tryPass_perm (less : α → α → Option Bool) (w : Nat) :
    ∀ (f : Nat) (xs : List α), (tryPass less w f xs).1.Perm xs := by
  intro f
  induction f with
  | zero => intro xs; exact List.Perm.refl _
  | succ f ih =>
    intro xs
    simp only [tryPass]
    split
    · exact List.Perm.refl _
    · split
      · exact List.Perm.refl _
      · rename_i m hm
        have h1 := tryMerge_perm less _ _ _ m hm
        have h2 := ih ((xs.drop w).drop w)
        have hsplit : xs = xs.take w ++ ((xs.drop w).take w ++ (xs.drop w).drop w) := by
          rw [List.take_append_drop, List.take_append_drop]
        simp only
        calc m ++ (tryPass less w f ((xs.drop w).drop w)).1
            |>.Perm ((xs.take w ++ (xs.drop w).take w) ++ (xs.drop w).drop w) := List.Perm.append h1 h2
          _ = xs := by rw [List.append_assoc, ← hsplit]

theorem trySortLoop_perm (less : α → α → Option Bool) :
    ∀ (f w : Nat) (xs : List α), (trySortLoop less f w xs).1.Perm xs := by
  intro f
  induction f with
  | zero => intro w xs; exact List.Perm.refl _
  | succ f ih =>
    intro w xs
    simp only [trySortLoop]
    split
    · exact List.Perm.refl _
    · split
      · exact (ih (2 * w) _).trans (tryPass_perm less w _ xs)
      · exact tryPass_perm less w _ xs

/-- after `try_sort_by` — `Ok` or `Err` — the slice holds a permutation of what it held -/
theorem trySortBy_perm (less : α → α → Option Bool) (xs : List α) : (trySortBy less xs).1.Perm xs :=
  trySortLoop_perm less xs.length 1 xs

/-- `sortable` without its case split on the length -/
theorem sortable_eq (xs : List Val) :
    sortable xs = (decide (xs.length ≤ 1) || (xs.all (fun v => match v with | .num _ => true | _ => false) ||
      xs.all (fun v => match v with | .str _ => true | _ => false))) := by
  match xs with
  | [] => rfl
  | [_] => rfl
  | a :: b :: t =>
    have : decide ((a :: b :: t).length ≤ 1) = false := by simp
    rw [this, Bool.false_or]
    rfl

end Sorting
end KotoVerif
