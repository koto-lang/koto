/-
C04 — the implementation's try/catch/finally code layout (`Mech.compile`, run on the frame machine of
`Model/TryMech.lean`) *refines* the guide-level evaluator on the fragment `Frag`. `Sim` says what the machine
does for an outcome of the evaluator: it runs within the frame it started in to the end of the code, or
raises from there. `sim_all` is the simulation (one induction on the evaluator's fuel, three task kinds);
`mech_refines_guide` is the whole-program statement.
-/
import KotoVerif.Model.TryEval
import KotoVerif.Model.TryMech
import KotoVerif.Lemmas.C04

namespace KotoVerif.Mech
open KotoVerif.Try

def CodeAt (code : Code) (fn pc : Nat) (c : List Ins) : Prop :=
  ∃ pre post, fnCode code fn = pre ++ c ++ post ∧ pre.length = pc

theorem codeAt_append_left {code : Code} {fn pc : Nat} {a b : List Ins}
    (h : CodeAt code fn pc (a ++ b)) : CodeAt code fn pc a := by
  obtain ⟨pre, post, h1, h2⟩ := h
  exact ⟨pre, b ++ post, by simp [h1], h2⟩

theorem codeAt_append_right {code : Code} {fn pc : Nat} {a b : List Ins}
    (h : CodeAt code fn pc (a ++ b)) : CodeAt code fn (pc + a.length) b := by
  obtain ⟨pre, post, h1, h2⟩ := h
  exact ⟨pre ++ a, post, by simp [h1], by simp [h2]⟩

theorem codeAt_head {code : Code} {fn pc : Nat} {i : Ins} {r : List Ins}
    (h : CodeAt code fn pc (i :: r)) : fetchAt code fn pc = some i := by
  obtain ⟨pre, post, h1, h2⟩ := h
  subst h2
  simp [fetchAt, h1]

theorem codeAt_tail {code : Code} {fn pc : Nat} {i : Ins} {r : List Ins}
    (h : CodeAt code fn pc (i :: r)) : CodeAt code fn (pc + 1) r := by
  have := codeAt_append_right (a := [i]) (b := r) (by simpa using h)
  simpa using this

theorem steps_add (code : Code) (a b : Nat) (s : VM) : steps code (a + b) s = steps code b (steps code a s) := by
  induction a generalizing s with
  | zero => simp [steps]
  | succ a ih => rw [Nat.succ_add]; simp [steps, ih]

theorem steps_one (code : Code) (s : VM) : steps code 1 s = step code s := rfl

def mk (f : Frame) (rest : List Frame) (o : List Nat) : VM := { frames := f :: rest, out := o, result := .running }

def tags (d : List Ev) : List Nat := d.map (·.tag)

theorem tags_append (a b : List Ev) : tags (a ++ b) = tags a ++ tags b := by simp [tags]

def Reach (code : Code) (s s' : VM) : Prop := ∃ k, steps code k s = s'

theorem Reach.refl {code : Code} (s : VM) : Reach code s s := ⟨0, rfl⟩

theorem Reach.one {code : Code} {s s' : VM} (h : step code s = s') : Reach code s s' := ⟨1, h⟩

theorem Reach.trans {code : Code} {a b c : VM} (h1 : Reach code a b) (h2 : Reach code b c) : Reach code a c := by
  obtain ⟨k1, h1⟩ := h1
  obtain ⟨k2, h2⟩ := h2
  exact ⟨k1 + k2, by rw [steps_add, h1, h2]⟩

/-- What the machine does, started in frame `f` at the code of an expression, for an outcome `sig` of
the guide-level evaluator. It ends in the same frame — function, catch stack, barrier and loop
records as they were, only `ip` and the registers differ — at `endIp`, or raises from there. -/
def Sim (code : Code) (sig : Sig) (σ σ' : St) (f : Frame) (rest : List Frame) (o : List Nat)
    (endIp : Nat) : Prop :=
  match sig with
  | .ok _ => ∃ regs d, Reach code (mk f rest o) (mk { f with ip := endIp, regs := regs } rest (o ++ tags d)) ∧
      σ'.out = σ.out ++ d
  | .err v => ∃ ip regs d,
      Reach code (mk f rest o) (raise v (mk { f with ip := ip, regs := regs } rest (o ++ tags d))) ∧
      σ'.out = σ.out ++ d
  | .oof => True
  | _ => False

theorem Sim.sig_cases {code : Code} {sig : Sig} {σ σ' : St} {f : Frame} {rest : List Frame}
    {o : List Nat} {e : Nat} (hs : Sim code sig σ σ' f rest o e) :
    (∃ v, sig = .ok v) ∨ (∃ v, sig = .err v) ∨ sig = .oof := by
  cases sig with
  | ok v => exact .inl ⟨v, rfl⟩
  | err v => exact .inr (.inl ⟨v, rfl⟩)
  | oof => exact .inr (.inr rfl)
  | _ => exact hs.elim

theorem sim_skip {code : Code} (v : Val) (σ : St) (f : Frame) (rest : List Frame) (o : List Nat) :
    Sim code (.ok v) σ σ f rest o f.ip :=
  ⟨f.regs, [], (List.append_nil o).symm ▸ .refl _, (List.append_nil _).symm⟩

theorem sim_prefix {code : Code} {sig : Sig} {σ σ1 σ' : St} {f : Frame} {rest : List Frame}
    {o : List Nat} {d1 : List Ev} {e i : Nat} {r : List (Nat × Val)}
    (hr : Reach code (mk f rest o) (mk { f with ip := i, regs := r } rest (o ++ tags d1)))
    (ho : σ1.out = σ.out ++ d1)
    (hs : Sim code sig σ1 σ' { f with ip := i, regs := r } rest (o ++ tags d1) e) : Sim code sig σ σ' f rest o e := by
  obtain ⟨v, rfl⟩ | ⟨v, rfl⟩ | rfl := hs.sig_cases
  · obtain ⟨regs, d, h1, h2⟩ := hs
    refine ⟨regs, d1 ++ d, ?_, by rw [h2, ho, List.append_assoc]⟩
    rw [tags_append, ← List.append_assoc]
    exact hr.trans h1
  · obtain ⟨ip, regs, d, h1, h2⟩ := hs
    refine ⟨ip, regs, d1 ++ d, ?_, by rw [h2, ho, List.append_assoc]⟩
    rw [tags_append, ← List.append_assoc]
    exact hr.trans h1
  · trivial

theorem sim_prefix0 {code : Code} {sig : Sig} {σ σ' : St} {f : Frame} {rest : List Frame}
    {o : List Nat} {e i : Nat} {r : List (Nat × Val)}
    (hr : Reach code (mk f rest o) (mk { f with ip := i, regs := r } rest o))
    (hs : Sim code sig σ σ' { f with ip := i, regs := r } rest o e) : Sim code sig σ σ' f rest o e := by
  have e0 : o ++ tags [] = o := List.append_nil o
  exact sim_prefix (d1 := []) (e0.symm ▸ hr) (List.append_nil _).symm (e0.symm ▸ hs)

theorem sim_endIp {code : Code} {sig : Sig} {σ σ' : St} {f : Frame} {rest : List Frame}
    {o : List Nat} {e1 e2 : Nat} (hn : ∀ v, sig ≠ .ok v) (hs : Sim code sig σ σ' f rest o e1) :
    Sim code sig σ σ' f rest o e2 := by
  cases sig with
  | ok v => exact absurd rfl (hn v)
  | _ => exact hs

theorem sim_out_eq {code : Code} {sig : Sig} {σa σb σ' : St} {f : Frame} {rest : List Frame}
    {o : List Nat} {e : Nat} (ho : σa.out = σb.out) (hs : Sim code sig σa σ' f rest o e) :
    Sim code sig σb σ' f rest o e := by
  cases sig <;> simp only [Sim, ← ho] <;> exact hs

theorem step_emit {code : Code} {f : Frame} {rest : List Frame} {o : List Nat} {t : Nat}
    (h : fetchAt code f.fn f.ip = some (.emit t)) :
    step code (mk f rest o) = mk { f with ip := f.ip + 1 } rest (o ++ [t]) := by
  simp [step, mk, h, setTop]

theorem step_throw {code : Code} {f : Frame} {rest : List Frame} {o : List Nat} {v : Val}
    (h : fetchAt code f.fn f.ip = some (.throw v)) :
    step code (mk f rest o) = raise v (mk f rest o) := by
  simp [step, mk, h]

theorem step_tryStart {code : Code} {f : Frame} {rest : List Frame} {o : List Nat} {reg off : Nat}
    (h : fetchAt code f.fn f.ip = some (.tryStart reg off)) :
    step code (mk f rest o) =
      mk { f with ip := f.ip + 1, catchStack := (reg, f.ip + 1 + off, f.loops.length) :: f.catchStack } rest o := by
  simp [step, mk, h, setTop]

theorem step_tryEnd {code : Code} {f : Frame} {rest : List Frame} {o : List Nat}
    (h : fetchAt code f.fn f.ip = some .tryEnd) :
    step code (mk f rest o) = mk { f with ip := f.ip + 1, catchStack := f.catchStack.drop 1 } rest o := by
  simp [step, mk, h, setTop]

theorem step_jump {code : Code} {f : Frame} {rest : List Frame} {o : List Nat} {off : Nat}
    (h : fetchAt code f.fn f.ip = some (.jumpFwd off)) :
    step code (mk f rest o) = mk { f with ip := f.ip + 1 + off } rest o := by
  simp [step, mk, h, setTop]

theorem step_copy {code : Code} {f : Frame} {rest : List Frame} {o : List Nat} {d s : Nat}
    (h : fetchAt code f.fn f.ip = some (.copy d s)) :
    step code (mk f rest o) = mk { f with ip := f.ip + 1, regs := (d, regGet f.regs s) :: f.regs } rest o := by
  simp [step, mk, h, setTop]

theorem step_check {code : Code} {f : Frame} {rest : List Frame} {o : List Nat} {reg off : Nat} {ty : Ty}
    (h : fetchAt code f.fn f.ip = some (.checkType reg ty off)) :
    step code (mk f rest o) =
      if accepts (some ty) (regGet f.regs reg) then mk { f with ip := f.ip + 1 } rest o
      else mk { f with ip := f.ip + 1 + off } rest o := by
  simp [step, mk, h, setTop]

theorem raise_here (v : Val) (f : Frame) (rest : List Frame) (o : List Nat) (reg ip d : Nat)
    (K : List (Nat × Nat × Nat)) (h : f.catchStack = (reg, ip, d) :: K) (hd : d = f.loops.length) :
    raise v (mk f rest o) = mk { f with ip := ip, regs := (reg, v) :: f.regs } rest o := by
  simp [raise, mk, unwind, h, hd]


/-! ### the fragment -/

/-- straight-line marker code: cannot raise -/
inductive Plain : E → Prop where
  | emit t : Plain (.emit t none)
  | lit v : Plain (.lit v)
  | seq es : (∀ e ∈ es, Plain e) → Plain (.seq es)

def LastUntyped : List Catch → Prop
  | [] => False
  | [(ty, _, _)] => ty = none
  | _ :: c :: rest => LastUntyped (c :: rest)

/-- The fragment on which the implementation's layout refines the guide: markers, `throw` of a
literal, sequences, and try/typed-catch*/catch/finally — with no `return`/`break`/`continue`, and
no error leaving a catch block of a try that has a `finally` (its catch blocks are `Plain`); the
last catch block is untyped (`compile_try_expression` rejects a type hint there; a map pattern there,
which it accepts, is outside the fragment). An error may leave a catch block
of a try *without* finally, may be raised inside `finally`, and tries nest arbitrarily. -/
inductive Frag : E → Prop where
  | emit t : Frag (.emit t none)
  | lit v : Frag (.lit v)
  | throw v : Frag (.throw (.lit v))
  | seq es : (∀ e ∈ es, Frag e) → Frag (.seq es)
  | tryNoFin b cs : Frag b → (∀ c ∈ cs, Frag c.2.2) → LastUntyped cs → Frag (.try_ b cs none)
  | tryFin b cs f : Frag b → (∀ c ∈ cs, Plain c.2.2) → LastUntyped cs → Frag f →
      Frag (.try_ b cs (some f))

theorem Plain.frag {e : E} (h : Plain e) : Frag e := by
  induction h with
  | emit t => exact .emit t
  | lit v => exact .lit v
  | seq es _ ih => exact .seq es ih

def OkOrOof (sig : Sig) : Prop := (∃ v, sig = .ok v) ∨ sig = .oof

theorem bindOk_okOrOof {r : Res} {k : Val → St → Res} (hr : OkOrOof r.1) (hk : ∀ v σ, OkOrOof (k v σ).1) :
    OkOrOof (bindOk r k).1 := by
  obtain ⟨s, σ⟩ := r
  obtain ⟨v, rfl⟩ | rfl := hr
  · exact hk v σ
  · exact .inr rfl

theorem plain_seq_not_err (P : Prog) (es : List E)
    (ih : ∀ e ∈ es, ∀ n σ, OkOrOof (run guide P n (.ev e) σ).1) :
    ∀ n last σ, OkOrOof (run guide P n (.seq es last) σ).1 := by
  induction es with
  | nil => intro n last σ; cases n <;> first | exact .inr rfl | exact .inl ⟨_, rfl⟩
  | cons e rest ihr =>
    intro n last σ
    cases n with
    | zero => exact .inr rfl
    | succ n =>
      rw [run_seq_cons]
      exact bindOk_okOrOof (ih e List.mem_cons_self n σ) fun v σ1 =>
        ihr (fun e he => ih e (List.mem_cons_of_mem _ he)) n v σ1

theorem plain_not_err (P : Prog) {e : E} (he : Plain e) : ∀ n σ, OkOrOof (run guide P n (.ev e) σ).1 := by
  induction he with
  | emit t => intro n σ; cases n <;> first | exact .inr rfl | exact .inl ⟨_, rfl⟩
  | lit v => intro n σ; cases n <;> first | exact .inr rfl | exact .inl ⟨_, rfl⟩
  | seq es _ ih =>
    intro n σ
    cases n with
    | zero => exact .inr rfl
    | succ n => exact plain_seq_not_err P es ih n .null σ

theorem catches_plain_not_err (P : Prog) (cs : List Catch) (hp : ∀ c ∈ cs, Plain c.2.2)
    (hl : LastUntyped cs) : ∀ n v σ, OkOrOof (run guide P n (.catches cs v) σ).1 := by
  induction cs with
  | nil => exact hl.elim
  | cons c rest ih =>
    intro n v σ
    obtain ⟨ty, x, body⟩ := c
    cases n with
    | zero => exact .inr rfl
    | succ n =>
      rw [run_catches_cons]
      split
      · exact plain_not_err P (hp _ List.mem_cons_self) n _
      · rename_i hacc
        cases rest with
        | nil =>
          obtain rfl : ty = none := hl
          exact absurd rfl hacc
        | cons c2 rest2 => exact ih (fun c hc => hp c (List.mem_cons_of_mem _ hc)) hl n v σ

/-! ### compiler inversion -/

theorem compile_zero (d op : Nat) (e : E) : compile 0 d op e = none := rfl

theorem concatOpt_cons_some {a : Option (List Ins)} {rest : List (Option (List Ins))} {c : List Ins}
    (h : concatOpt (a :: rest) = some c) :
    ∃ ca cr, a = some ca ∧ concatOpt rest = some cr ∧ c = ca ++ cr := by
  cases a with
  | none => cases h
  | some ca =>
    obtain ⟨cr, h1, h2⟩ := Option.map_eq_some_iff.1 h
    exact ⟨ca, cr, rfl, h1, h2.symm⟩

theorem compile_try_inv {cf d op : Nat} {b : E} {cs : List Catch} {fin : Option E} {c : List Ins}
    (h : compile (cf + 1) d op (.try_ b cs fin) = some c) :
    ∃ bc cc fc, compile cf (d + 1) (op + 1) b = some bc ∧
      compileCatches (compile cf (d + 1) op) (100 + d) cs = some cc ∧
      (match fin with | some f => compile cf d op f | none => some []) = some fc ∧
      c = .tryStart (100 + d) (bc.length + 2) :: bc ++ [.tryEnd, .jumpFwd (1 + cc.length)] ++ [.tryEnd] ++ cc ++ fc := by
  cases fin with
  | none =>
    dsimp only [compile] at h
    simp only [Option.bind_eq_bind, Option.bind_eq_some_iff, Option.pure_def, Option.some.injEq] at h
    obtain ⟨bc, h1, cc, h2, fc, h3, h4⟩ := h
    exact ⟨bc, cc, fc, h1, h2, by simpa using h3, h4.symm⟩
  | some f =>
    dsimp only [compile] at h
    simp only [Option.bind_eq_bind, Option.bind_eq_some_iff, Option.pure_def, Option.some.injEq] at h
    obtain ⟨bc, h1, cc, h2, fc, h3, h4⟩ := h
    exact ⟨bc, cc, fc, h1, h2, h3, h4.symm⟩

theorem compileCatches_last_inv {comp : E → Option (List Ins)} {reg : Nat} {x : Nat}
    {body : E} {cc : List Ins} (h : compileCatches comp reg [(none, x, body)] = some cc) :
    ∃ b, comp body = some b ∧ cc = .copy x reg :: b := by
  dsimp only [compileCatches] at h
  simp only [Option.bind_eq_bind, Option.bind_eq_some_iff, Option.pure_def, Option.some.injEq] at h
  obtain ⟨b, h1, h2⟩ := h
  exact ⟨b, h1, h2.symm⟩

theorem compileCatches_cons_inv {comp : E → Option (List Ins)} {reg : Nat} {ty : Option Ty} {x : Nat}
    {body : E} {c2 : Catch} {rest : List Catch} {cc : List Ins}
    (h : compileCatches comp reg ((ty, x, body) :: c2 :: rest) = some cc) :
    ∃ b r, comp body = some b ∧ compileCatches comp reg (c2 :: rest) = some r ∧
      cc = (match ty with | some t => [Ins.checkType reg t (b.length + 2)] | none => []) ++
        (.copy x reg :: b ++ [.jumpFwd r.length]) ++ r := by
  dsimp only [compileCatches] at h
  simp only [Option.bind_eq_bind, Option.bind_eq_some_iff, Option.pure_def] at h
  obtain ⟨b, h1, r, h2, h3⟩ := h
  refine ⟨b, r, h1, h2, ?_⟩
  cases ty with
  | none => simp at h3 ⊢; exact h3.symm
  | some t => simp at h3 ⊢; exact h3.symm

def SimEv (code : Code) (P : Prog) (n : Nat) : Prop :=
  ∀ e σ sig σ' cf depth op c f rest o, Frag e → run guide P n (.ev e) σ = (sig, σ') →
    compile cf depth op e = some c → CodeAt code f.fn f.ip c →
    Sim code sig σ σ' f rest o (f.ip + c.length)

def SimSeq (code : Code) (P : Prog) (n : Nat) : Prop :=
  ∀ es last σ sig σ' cf depth op c f rest o, (∀ e ∈ es, Frag e) →
    run guide P n (.seq es last) σ = (sig, σ') →
    concatOpt (es.map (compile cf depth op)) = some c → CodeAt code f.fn f.ip c →
    Sim code sig σ σ' f rest o (f.ip + c.length)

def SimCatches (code : Code) (P : Prog) (n : Nat) : Prop :=
  ∀ cs v σ sig σ' cf depth op reg cc f rest o, (∀ c ∈ cs, Frag c.2.2) → LastUntyped cs →
    run guide P n (.catches cs v) σ = (sig, σ') →
    compileCatches (compile cf depth op) reg cs = some cc → CodeAt code f.fn f.ip cc →
    regGet f.regs reg = v →
    Sim code sig σ σ' f rest o (f.ip + cc.length)

/-- code: `copy x reg; <body>; jumpFwd rl` (a non-last catch block) or `copy x reg; <body>` (the last) -/
theorem sim_catch_block {code : Code} {P : Prog} {n : Nat}
    (ih : SimEv code P n)
    {body : E} {σ σ' : St} {sig : Sig} {cf depth op : Nat} {b tail : List Ins} {f : Frame}
    {rest : List Frame} {o : List Nat} {x reg : Nat} {endIp : Nat}
    {σb : St} (hσ : σb.out = σ.out)
    (hb : Frag body) (hrun : run guide P n (.ev body) σb = (sig, σ'))
    (hc : compile cf depth op body = some b)
    (hcode : CodeAt code f.fn f.ip (.copy x reg :: b ++ tail))
    (htail : (tail = [] ∧ endIp = f.ip + 1 + b.length) ∨
             (∃ rl, tail = [.jumpFwd rl] ∧ endIp = f.ip + 1 + b.length + 1 + rl)) :
    Sim code sig σ σ' f rest o endIp := by
  have hrest : CodeAt code f.fn (f.ip + 1) (b ++ tail) := codeAt_tail hcode
  have hb' := sim_out_eq hσ (ih body σb sig σ' cf depth op b
    { f with ip := f.ip + 1, regs := (x, regGet f.regs reg) :: f.regs } rest o hb hrun hc (codeAt_append_left hrest))
  apply sim_prefix0 (.one (step_copy (codeAt_head hcode)))
  obtain ⟨w, rfl⟩ | ⟨w, rfl⟩ | rfl := hb'.sig_cases
  · obtain ⟨regs, d, hk, hout⟩ := hb'
    rcases htail with ⟨rfl, rfl⟩ | ⟨rl, rfl, rfl⟩
    · exact ⟨regs, d, hk, hout⟩
    · have hj : fetchAt code f.fn (f.ip + 1 + b.length) = some (.jumpFwd rl) :=
        codeAt_head (codeAt_append_right hrest)
      exact ⟨regs, d, hk.trans (.one (step_jump hj)), hout⟩
  · exact hb'
  · trivial

theorem sim_zero_ev (code : Code) (P : Prog) : SimEv code P 0 := by
  intro e σ sig σ' cf depth op c f rest o _ h _ _
  cases h; trivial

theorem sim_zero_seq (code : Code) (P : Prog) : SimSeq code P 0 := by
  intro es last σ sig σ' cf depth op c f rest o _ h _ _
  cases h; trivial

theorem sim_zero_catches (code : Code) (P : Prog) : SimCatches code P 0 := by
  intro cs v σ sig σ' cf depth op reg cc f rest o _ _ h _ _ _
  cases h; trivial

theorem sim_succ_catches (code : Code) (P : Prog) (n : Nat) (ihE : SimEv code P n)
    (ihC : SimCatches code P n) : SimCatches code P (n + 1) := by
  intro cs v σ sig σ' cf depth op reg cc f rest o hcs hl h hcc hcode hreg
  match cs, hl with
  | [(ty, x, body)], hl =>
    obtain rfl : ty = none := hl
    obtain ⟨b, hb, rfl⟩ := compileCatches_last_inv hcc
    have hacc : accepts none v = true := rfl
    rw [run_catches_cons, if_pos hacc] at h
    have hcode' : CodeAt code f.fn f.ip (Ins.copy x reg :: b ++ []) := by simpa using hcode
    exact sim_catch_block ihE (bindCatch_out σ none x v) (hcs _ List.mem_cons_self) h hb hcode'
      (.inl ⟨rfl, by simp; omega⟩)
  | (ty, x, body) :: c2 :: rest2, hl =>
    obtain ⟨b, r, hb, hr, rfl⟩ := compileCatches_cons_inv hcc
    have hl' : LastUntyped (c2 :: rest2) := hl
    rw [run_catches_cons] at h
    cases ty with
    | none =>
      have hacc : accepts none v = true := rfl
      rw [if_pos hacc] at h
      have hcode' : CodeAt code f.fn f.ip (Ins.copy x reg :: b ++ [Ins.jumpFwd r.length]) := by
        simpa using codeAt_append_left hcode
      exact sim_catch_block ihE (bindCatch_out σ none x v) (hcs _ List.mem_cons_self) h hb hcode'
        (.inr ⟨r.length, rfl, by simp; omega⟩)
    | some t =>
      have hchk : fetchAt code f.fn f.ip = some (.checkType reg t (b.length + 2)) :=
        codeAt_head (r := (Ins.copy x reg :: b ++ [Ins.jumpFwd r.length]) ++ r) (by simpa using hcode)
      by_cases hacc : accepts (some t) v = true
      · -- accepted: fall through to the block
        rw [if_pos hacc] at h
        have h1 : step code (mk f rest o) = mk { f with ip := f.ip + 1 } rest o := by
          rw [step_check hchk, hreg, if_pos hacc]
        have hcode1 : CodeAt code f.fn (f.ip + 1) (Ins.copy x reg :: b ++ [Ins.jumpFwd r.length]) := by
          have h2 : CodeAt code f.fn f.ip ([Ins.checkType reg t (b.length + 2)] ++
              ((Ins.copy x reg :: b ++ [Ins.jumpFwd r.length]) ++ r)) := by simpa using hcode
          simpa using codeAt_append_left (codeAt_append_right h2)
        apply sim_prefix0 (.one h1)
        exact sim_catch_block ihE (bindCatch_out σ (some t) x v) (hcs _ List.mem_cons_self) h hb hcode1
          (.inr ⟨r.length, rfl, by simp; omega⟩)
      · -- rejected: jump to the next block
        rw [if_neg hacc] at h
        have h1 : step code (mk f rest o) = mk { f with ip := f.ip + 1 + (b.length + 2) } rest o := by
          rw [step_check hchk, hreg, if_neg hacc]
        have hcode1 : CodeAt code f.fn (f.ip + 1 + (b.length + 2)) r := by
          have h2 : CodeAt code f.fn f.ip (([Ins.checkType reg t (b.length + 2)] ++
              (Ins.copy x reg :: b ++ [Ins.jumpFwd r.length])) ++ r) := by simpa using hcode
          have := codeAt_append_right h2
          simp only [List.length_append, List.length_cons, List.length_nil] at this
          rwa [show f.ip + (0 + 1 + (b.length + 1 + (0 + 1))) = f.ip + 1 + (b.length + 2) by omega] at this
        apply sim_prefix0 (.one h1)
        have := ihC (c2 :: rest2) v σ sig σ' cf depth op reg r { f with ip := f.ip + 1 + (b.length + 2) } rest o
          (fun c hc => hcs c (List.mem_cons_of_mem _ hc)) hl' h hr hcode1 hreg
        have e : f.ip + 1 + (b.length + 2) + r.length = f.ip + (([Ins.checkType reg t (b.length + 2)] ++
            (Ins.copy x reg :: b ++ [Ins.jumpFwd r.length])) ++ r).length := by simp; omega
        exact e ▸ this

theorem sim_succ_seq (code : Code) (P : Prog) (n : Nat) (ihE : SimEv code P n)
    (ihS : SimSeq code P n) : SimSeq code P (n + 1) := by
  intro es last σ sig σ' cf depth op c f rest o hes h hc hcode
  cases es with
  | nil =>
    cases h
    cases hc
    exact sim_skip ..
  | cons e rest' =>
    obtain ⟨ca, cr, hca, hcr, rfl⟩ := concatOpt_cons_some hc
    rw [run_seq_cons] at h
    cases he : run guide P n (.ev e) σ with
    | mk se σ1 =>
      have h1 := ihE e σ se σ1 cf depth op ca f rest o (hes e List.mem_cons_self) he hca (codeAt_append_left hcode)
      rw [he] at h
      obtain ⟨v, rfl⟩ | ⟨v, rfl⟩ | rfl := h1.sig_cases
      · obtain ⟨regs, d, hk, hout⟩ := h1
        have h2 := ihS rest' v σ1 sig σ' cf depth op cr { f with ip := f.ip + ca.length, regs := regs } rest
          (o ++ tags d) (fun e he => hes e (List.mem_cons_of_mem _ he)) h hcr (codeAt_append_right hcode)
        rw [List.length_append, ← Nat.add_assoc]
        exact sim_prefix hk hout h2
      · cases h
        exact sim_endIp (fun _ => nofun) h1
      · cases h
        trivial

/-- phase 1 of a try expression (try block, then the catch chain if it raised): the machine ends
at the `finally` entry, or raises past this try; either way this try's catch entry is gone again -/
theorem sim_try_phase1 (code : Code) (P : Prog) (n : Nat) (ihE : SimEv code P n)
    (ihC : SimCatches code P n) {b : E} {cs : List Catch} {σ : St} {cf depth op : Nat}
    {bc cc tail : List Ins} {f : Frame} {rest : List Frame} {o : List Nat}
    (hb : Frag b) (hcs : ∀ c ∈ cs, Frag c.2.2) (hl : LastUntyped cs)
    (hbc : compile cf (depth + 1) (op + 1) b = some bc)
    (hcc : compileCatches (compile cf (depth + 1) op) (100 + depth) cs = some cc)
    (hcode : CodeAt code f.fn f.ip
      (Ins.tryStart (100 + depth) (bc.length + 2) :: (bc ++ (Ins.tryEnd :: Ins.jumpFwd (1 + cc.length) ::
        Ins.tryEnd :: (cc ++ tail)))))
    {s1 : Sig} {σ1 : St}
    (h : catchWith (run guide P n (.ev b) σ) (fun v σb => run guide P n (.catches cs v) σb) = (s1, σ1)) :
    Sim code s1 σ σ1 f rest o (f.ip + 1 + (bc.length + 2) + 1 + cc.length) := by
  have hrest := codeAt_tail hcode
  have hafter : CodeAt code f.fn (f.ip + 1 + bc.length)
      (Ins.tryEnd :: Ins.jumpFwd (1 + cc.length) :: Ins.tryEnd :: (cc ++ tail)) := codeAt_append_right hrest
  -- the frame while the try block runs: the catch entry `(register, catch ip, loop depth)` on top
  let f1 : Frame := { f with ip := f.ip + 1, catchStack :=
    (100 + depth, f.ip + 1 + (bc.length + 2), f.loops.length) :: f.catchStack }
  have h1 : Reach code (mk f rest o) (mk f1 rest o) := .one (step_tryStart (codeAt_head hcode))
  cases hrb : run guide P n (.ev b) σ with
  | mk sb σb =>
    have hB := ihE b σ sb σb cf (depth + 1) (op + 1) bc f1 rest o hb hrb hbc (codeAt_append_left hrest)
    rw [hrb] at h
    obtain ⟨v, rfl⟩ | ⟨v, rfl⟩ | rfl := hB.sig_cases
    · -- the block fell through: `TryEnd` pops the entry, `Jump` goes to the `finally` entry
      cases h
      obtain ⟨regs, d, hk, hout⟩ := hB
      have he1 : fetchAt code f.fn (f.ip + 1 + bc.length) = some .tryEnd := codeAt_head hafter
      have he2 : fetchAt code f.fn (f.ip + 1 + bc.length + 1) = some (.jumpFwd (1 + cc.length)) :=
        codeAt_head (codeAt_tail hafter)
      refine ⟨regs, d, ((h1.trans hk).trans (.one (step_tryEnd he1))).trans (.one ?_), hout⟩
      rw [step_jump he2, show f.ip + 1 + bc.length + 1 + 1 + (1 + cc.length) =
        f.ip + 1 + (bc.length + 2) + 1 + cc.length by omega]
      rfl
    · -- the block raised: the machine resumes at the catch address, `TryEnd` pops the entry, the
      -- catch chain runs with the error value in the catch register
      rw [catchWith_err] at h
      obtain ⟨ip, regs, d, hk, hout⟩ := hB
      have hraise := raise_here v { f1 with ip := ip, regs := regs } rest (o ++ tags d) _ _ _ _ rfl rfl
      have he1 : fetchAt code f.fn (f.ip + 1 + (bc.length + 2)) = some .tryEnd := by
        have := codeAt_head (codeAt_tail (codeAt_tail hafter))
        rwa [show f.ip + 1 + bc.length + 1 + 1 = f.ip + 1 + (bc.length + 2) by omega] at this
      have hcodeC : CodeAt code f.fn (f.ip + 1 + (bc.length + 2) + 1) cc := by
        have := codeAt_append_left (codeAt_tail (codeAt_tail (codeAt_tail hafter)))
        rwa [show f.ip + 1 + bc.length + 1 + 1 + 1 = f.ip + 1 + (bc.length + 2) + 1 by omega] at this
      have hC := ihC cs v σb s1 σ1 cf (depth + 1) op (100 + depth) cc
        { f with ip := f.ip + 1 + (bc.length + 2) + 1, regs := (100 + depth, v) :: regs } rest (o ++ tags d)
        hcs hl h hcc hcodeC (by simp [regGet])
      exact sim_prefix ((h1.trans (hraise ▸ hk)).trans (.one (step_tryEnd he1))) hout hC
    · cases h
      trivial

theorem try_code_shape (reg : Nat) (bc cc fc : List Ins) :
    Ins.tryStart reg (bc.length + 2) :: bc ++ [Ins.tryEnd, Ins.jumpFwd (1 + cc.length)] ++ [Ins.tryEnd] ++ cc ++ fc =
    Ins.tryStart reg (bc.length + 2) :: (bc ++ (Ins.tryEnd :: Ins.jumpFwd (1 + cc.length) :: Ins.tryEnd :: (cc ++ fc))) := by
  simp

theorem sim_succ_ev (code : Code) (P : Prog) (n : Nat) (ihE : SimEv code P n)
    (ihS : SimSeq code P n) (ihC : SimCatches code P n) : SimEv code P (n + 1) := by
  intro e σ sig σ' cf depth op c f rest o he h hc hcode
  cases cf with
  | zero => cases hc
  | succ cf =>
  cases he with
  | emit t =>
    cases hc
    cases h
    exact ⟨f.regs, [⟨t, none⟩], .one (step_emit (codeAt_head hcode)), rfl⟩
  | lit v =>
    cases hc
    cases h
    exact sim_skip ..
  | throw v =>
    cases hc
    cases n with
    | zero => cases h; trivial
    | succ n =>
      cases h
      exact ⟨f.ip, f.regs, [], (List.append_nil o).symm ▸ .one (step_throw (codeAt_head hcode)),
        (List.append_nil _).symm⟩
  | seq es hes =>
    exact ihS es .null σ sig σ' cf depth op c f rest o hes h hc hcode
  | tryNoFin b cs hb hcs hl =>
    obtain ⟨bc, cc, fc, hbc, hcc, hfc, rfl⟩ := compile_try_inv hc
    cases hfc
    rw [try_code_shape] at hcode
    have := sim_try_phase1 code P n ihE ihC (rest := rest) (o := o) hb hcs hl hbc hcc hcode h
    have e : f.ip + 1 + (bc.length + 2) + 1 + cc.length = f.ip + (Ins.tryStart (100 + depth) (bc.length + 2) :: bc ++
        [Ins.tryEnd, Ins.jumpFwd (1 + cc.length)] ++ [Ins.tryEnd] ++ cc ++ []).length := by
      simp; omega
    exact e ▸ this
  | tryFin b cs fe hb hcs hl hfe =>
    obtain ⟨bc, cc, fc, hbc, hcc, hfc, rfl⟩ := compile_try_inv hc
    have hcodeF : CodeAt code f.fn (f.ip + 1 + (bc.length + 2) + 1 + cc.length) fc := by
      have h2 : CodeAt code f.fn f.ip ((Ins.tryStart (100 + depth) (bc.length + 2) :: bc ++
          [Ins.tryEnd, Ins.jumpFwd (1 + cc.length)] ++ [Ins.tryEnd] ++ cc) ++ fc) := by simpa using hcode
      have := codeAt_append_right h2
      simp only [List.length_append, List.length_cons, List.length_nil] at this
      rwa [show f.ip + (bc.length + 1 + (0 + 1 + 1) + (0 + 1) + cc.length) =
        f.ip + 1 + (bc.length + 2) + 1 + cc.length by omega] at this
    rw [try_code_shape] at hcode
    rw [run_try_some, run_try_none] at h
    cases hr1 : catchWith (run guide P n (.ev b) σ) (fun v σ1 => run guide P n (.catches cs v) σ1) with
    | mk s1 σ1 =>
      have h1 := sim_try_phase1 code P n ihE ihC (rest := rest) (o := o) hb
        (fun c hc => (hcs c hc).frag) hl hbc hcc hcode hr1
      rw [hr1] at h
      -- the outcome so far is never an error: the try block's error is caught, catch blocks are Plain
      have hnoerr : ∀ v, s1 ≠ .err v := by
        intro v hv
        subst hv
        cases hrb : run guide P n (.ev b) σ with
        | mk sb σb =>
          rw [hrb] at hr1
          cases sb with
          | err w =>
            have := catches_plain_not_err P cs hcs hl n w σb
            rw [show run guide P n (.catches cs w) σb = (.err v, σ1) from hr1] at this
            rcases this with ⟨_, h⟩ | h <;> cases h
          | _ => cases hr1
      obtain ⟨v1, rfl⟩ | ⟨v, rfl⟩ | rfl := h1.sig_cases
      · obtain ⟨regs, d, hk, hout⟩ := h1
        cases hrf : run guide P n (.ev fe) σ1 with
        | mk sf σf =>
          have hF := ihE fe σ1 sf σf cf depth op fc
            { f with ip := f.ip + 1 + (bc.length + 2) + 1 + cc.length, regs := regs } rest (o ++ tags d) hfe hrf hfc hcodeF
          rw [thenFinally_eq _ (nofun : (Sig.ok v1, σ1).1 ≠ .oof), hrf] at h
          obtain ⟨rfl, rfl⟩ : sig = sf ∧ σ' = σf := by cases sf <;> cases h <;> exact ⟨rfl, rfl⟩
          have e : f.ip + 1 + (bc.length + 2) + 1 + cc.length + fc.length =
              f.ip + (Ins.tryStart (100 + depth) (bc.length + 2) :: bc ++
                [Ins.tryEnd, Ins.jumpFwd (1 + cc.length)] ++ [Ins.tryEnd] ++ cc ++ fc).length := by
            simp; omega
          exact e ▸ sim_prefix hk hout hF
      · exact absurd rfl (hnoerr v)
      · cases h
        trivial

theorem sim_all (code : Code) (P : Prog) : ∀ n, SimEv code P n ∧ SimSeq code P n ∧ SimCatches code P n := by
  intro n
  induction n with
  | zero => exact ⟨sim_zero_ev code P, sim_zero_seq code P, sim_zero_catches code P⟩
  | succ n ih =>
    exact ⟨sim_succ_ev code P n ih.1 ih.2.1 ih.2.2, sim_succ_seq code P n ih.1 ih.2.1,
      sim_succ_catches code P n ih.1 ih.2.2⟩


theorem step_stable (code : Code) (s : VM) (h : s.result ≠ .running) : step code s = s := by
  unfold step
  split
  · simp_all
  · simp_all
  · rfl

theorem steps_stable (code : Code) (k : Nat) (s : VM) (h : s.result ≠ .running) : steps code k s = s := by
  induction k with
  | zero => rfl
  | succ k ih => simp [steps, step_stable code s h, ih]

theorem steps_ge {code : Code} {k : Nat} {s t : VM} (h : steps code k s = t) (ht : t.result ≠ .running)
    (fuel : Nat) (hf : fuel ≥ k) : steps code fuel s = t := by
  obtain ⟨j, rfl⟩ := Nat.exists_eq_add_of_le hf
  rw [steps_add, h, steps_stable code j t ht]

/-- **Refinement on the fragment.** For a program whose main chunk is in `Frag` (which has no call, so
`P.defs` plays no part): whatever the guide-level evaluator does with any fuel `n` — complete normally or
end with an uncaught error `v` — the machine running the code laid out as `compile_try_expression` lays it
out ends the same way with exactly the same marker trace, for every sufficient number of steps. -/
theorem mech_refines_guide (P : Prog) (hm : Frag P.main) (cf : Nat) (c : List Ins)
    (hc : compile cf 0 0 P.main = some c) (n : Nat) (sig : Sig) (σ' : St)
    (h : run guide P n (.ev P.main) (initSt P) = (sig, σ')) :
    match sig with
    | .ok _ => ∃ k, ∀ fuel ≥ k, exec [c] fuel = { out := tags σ'.out, result := .done }
    | .err v => ∃ k, ∀ fuel ≥ k, exec [c] fuel = { out := tags σ'.out, result := .uncaught v }
    | .oof => True
    | _ => False := by
  have hcode : CodeAt [c] 0 0 c := ⟨[], [], by simp [fnCode], rfl⟩
  have hs := (sim_all [c] P n).1 P.main (initSt P) sig σ' cf 0 0 c { fn := 0 } [] [] hm h hc hcode
  have hinit : mk { fn := 0 } [] [] = initVM := rfl
  obtain ⟨v, rfl⟩ | ⟨v, rfl⟩ | rfl := hs.sig_cases
  · obtain ⟨regs, d, ⟨k, hk⟩, hout⟩ := hs
    have hout' : σ'.out = d := by simpa [initSt] using hout
    -- one more step: past the end of the code the machine returns from the last frame
    have hk1 : steps [c] (k + 1) initVM = { frames := [], out := tags d, result := .done } := by
      rw [← hinit, steps_add, hk]
      simp [steps, step, mk, fetchAt, fnCode]
    refine ⟨k + 1, fun fuel hf => ?_⟩
    simp [exec, steps_ge hk1 (by simp) fuel hf, hout']
  · obtain ⟨ip, regs, d, ⟨k, hk⟩, hout⟩ := hs
    have hout' : σ'.out = d := by simpa [initSt] using hout
    have hk1 : steps [c] k initVM = { frames := [], out := tags d, result := .uncaught v } := by
      rw [← hinit, hk]
      simp [raise, mk, unwind]
    refine ⟨k, fun fuel hf => ?_⟩
    simp [exec, steps_ge hk1 (by simp) fuel hf, hout']
  · trivial

end KotoVerif.Mech
