/-
C19 — helper lemmas for deadlock freedom: progress of the one-cell thread model (Part 2 of
`Model/Cell.lean`), its lock projected onto `lockStep .arc` of Part 1 (a blocked acquire is a request
answered `block`), and the invariant of the several-cells lock-only model (Part 3).
-/
import KotoVerif.Lemmas.C19
namespace KotoVerif.C19
open KotoVerif.Cell

variable {σ ρ : Type}

theorem holds_enabled (g : Conc σ ρ) (t : Nat) (th : Thread σ ρ) (ht : g.threads[t]? = some th)
    (h : th.holdsW = true ∨ th.holdsR = true) : enabled g t = true := by
  obtain ⟨prog, phase, r, o⟩ := th
  simp only [enabled, ht]
  cases phase <;> cases prog <;> simp_all [Thread.holdsW, Thread.holdsR]

theorem progress_of_inv (g : Conc σ ρ) (h : LockInv g) (u : Nat) (th : Thread σ ρ)
    (hu : g.threads[u]? = some th) (hnf : th.finished = false) : ∃ t, enabled g t = true := by
  obtain ⟨prog, phase, r, ob⟩ := th
  cases phase with
  | idle =>
    cases prog with
    | nil => simp [Thread.finished] at hnf
    | cons o rest =>
      -- u wants to acquire: the lock is free, or its holder can move
      cases hwr : g.writer with
      | some w =>
        obtain ⟨thw, hw1, hw2⟩ := h.wOwner hwr
        exact ⟨w, holds_enabled g w thw hw1 (.inl hw2)⟩
      | none =>
        cases hrd : g.readers with
        | nil => exact ⟨u, by simp [enabled, hu, hwr, hrd]⟩
        | cons r rs =>
          obtain ⟨thr, hr1, hr2⟩ := h.rOwner (hrd ▸ List.mem_cons_self)
          exact ⟨r, holds_enabled g r thr hr1 (.inr hr2)⟩
  | held => exact ⟨u, by simp [enabled, hu]⟩
  | loaded s => exact ⟨u, holds_enabled g u _ hu ((h.tracks u _ hu).loaded_holds rfl)⟩
  | fin w => exact ⟨u, by simp [enabled, hu]⟩

/-- remaining micro-steps of a thread: four per operation, and `fin` has popped its operation -/
def Thread.work (th : Thread σ ρ) : Nat :=
  match th.phase with
  | .idle => 4 * th.prog.length
  | .held => 4 * th.prog.length - 1
  | .loaded _ => 4 * th.prog.length - 2
  | .fin _ => 4 * th.prog.length + 1

def work (g : Conc σ ρ) : Nat := (g.threads.map Thread.work).sum

theorem sum_work_set {l : List (Thread σ ρ)} {t : Nat} {th th' : Thread σ ρ} (hth : l[t]? = some th)
    (hw : Thread.work th' + 1 = Thread.work th) :
    ((l.set t th').map Thread.work).sum + 1 = (l.map Thread.work).sum := by
  have := sum_map_set Thread.work l t th th' hth
  omega

theorem Move.work {g g' : Conc σ ρ} {t : Nat} (h : LockInv g) (m : Move g t g')
    (he : enabled g t = true) : work g' + 1 = work g := by
  cases m with
  | stutter hn => rw [hn] at he; cases he
  | acquireW hth => exact sum_work_set hth (by simp only [Thread.work, List.length_cons]; omega)
  | acquireR hth => exact sum_work_set hth (by simp only [Thread.work, List.length_cons]; omega)
  | @load p _ _ hth =>
    have hne : p ≠ [] := fun e => by simpa using (h.tracks _ _ hth).phaseOk e
    have := List.length_pos_iff.2 hne
    exact sum_work_set hth (by simp only [Thread.work]; omega)
  | effectW hth => exact sum_work_set hth (by simp only [Thread.work, List.length_cons]; omega)
  | effectR hth => exact sum_work_set hth (by simp only [Thread.work, List.length_cons]; omega)
  | releaseW hth => exact sum_work_set hth rfl
  | releaseR hth => exact sum_work_set hth rfl

theorem enabled_step_work (g : Conc σ ρ) (h : LockInv g) (t : Nat) (he : enabled g t = true) :
    work (step g t) + 1 = work g :=
  (step_move g t).work h he

theorem canWrite_lockSt (g : Conc σ ρ) :
    canWrite g.lockSt = (g.writer.isNone && g.readers.isEmpty) := by
  obtain ⟨_, rs, w, _, _⟩ := g
  cases w <;> cases rs <;> rfl

theorem canRead_lockSt (g : Conc σ ρ) : canRead g.lockSt = g.writer.isNone := by
  obtain ⟨_, _, w, _, _⟩ := g
  cases w <;> rfl

theorem Move.lock_refines {g g' : Conc σ ρ} {t : Nat} (h : LockInv g) (m : Move g t g') :
    g'.lockSt = g.lockSt ∨ ∃ r, lockStep .arc g.lockSt r = (.ok, g'.lockSt) := by
  cases m with
  | stutter | load | effectW | effectR => exact .inl rfl
  | acquireW hth hw hw0 hr0 =>
    exact .inr ⟨.borrowMut, by simp [lockStep, canWrite, Conc.lockSt, hw0, hr0]⟩
  | acquireR hth hw hw0 =>
    exact .inr ⟨.borrow, by simp [lockStep, canRead, Conc.lockSt, hw0]⟩
  | releaseW hth =>
    have hw := (h.tracks _ _ hth).w.1 rfl
    exact .inr ⟨.dropWrite, by simp [lockStep, Conc.lockSt, hw]⟩
  | releaseR hth =>
    have hr := (h.tracks _ _ hth).r.1 rfl
    have hpos : 0 < g.readers.length := List.length_pos_of_mem hr
    exact .inr ⟨.dropRead, by simp [lockStep, Conc.lockSt, List.length_erase_of_mem hr, hpos]⟩

theorem conc_lock_refines (g : Conc σ ρ) (h : LockInv g) (t : Nat) :
    (step g t).lockSt = g.lockSt ∨
    ∃ r, lockStep .arc g.lockSt r = (.ok, (step g t).lockSt) :=
  (step_move g t).lock_refines h

theorem blocked_is_block (g : Conc σ ρ) (t : Nat) (th : Thread σ ρ) (o : Op σ ρ) (rest : List (Op σ ρ))
    (ht : g.threads[t]? = some th) (hp : th.phase = .idle) (hprog : th.prog = o :: rest)
    (hne : enabled g t = false) :
    (lockStep .arc g.lockSt (if o.write then .borrowMut else .borrow)).1 = .block ∧ step g t = g := by
  obtain ⟨prog, phase, results, obs⟩ := th
  cases hp
  cases hprog
  simp only [enabled, ht] at hne
  unfold step stepP
  simp only [ht, Policy.excl]
  cases hw : o.write with
  | true =>
    simp only [hw, if_true] at hne
    have hnf : ¬ (g.writer = none ∧ g.readers = []) := fun ⟨h1, h2⟩ => by simp [h1, h2] at hne
    simp [lockStep, canWrite_lockSt, hne, conflict, hnf]
  | false =>
    simp only [hw, Bool.false_eq_true, if_false] at hne
    have hnf : ¬ g.writer = none := fun h1 => by simp [h1] at hne
    simp [lockStep, canRead_lockSt, hne, conflict, hnf]

/-- a thread obeying the one-lock-at-a-time discipline: holds nothing and is between operations, or
holds exactly the lock its next instruction releases -/
def LThread.WF (th : LThread) : Prop :=
  (th.held = [] ∧ singleLock th.prog = true) ∨
  ∃ c w rest, th.held = [(c, w)] ∧ th.prog = .rel c w :: rest ∧ singleLock rest = true

def OLock.holds (l : OLock) : Bool → Nat → Prop
  | true, t => l.writer = some t
  | false, t => t ∈ l.readers

structure SysInv (s : Sys) : Prop where
  wf : ∀ t, LThread.WF (s.threads t)
  owner : ∀ c b t, OLock.holds (s.locks c) b t → (c, b) ∈ (s.threads t).held
  nodup : ∀ c, (s.locks c).readers.Nodup

theorem sysInv_init (progs : Nat → List Instr) (h : ∀ t, singleLock (progs t) = true) :
    SysInv (Sys.init progs) where
  wf t := .inl ⟨rfl, h t⟩
  owner c b t hb := by cases b <;> cases hb
  nodup _ := .nil

theorem singleLock_acq {c : Nat} {w : Bool} {rest : List Instr} (h : singleLock (.acq c w :: rest) = true) :
    ∃ rest', rest = .rel c w :: rest' ∧ singleLock rest' = true := by
  cases rest with
  | nil => simp [singleLock] at h
  | cons i rest' =>
    cases i with
    | acq c' w' => simp [singleLock] at h
    | rel c' w' =>
      simp [singleLock] at h
      obtain ⟨⟨h1, h2⟩, h3⟩ := h
      subst h1 h2
      exact ⟨rest', rfl, h3⟩

theorem holds_acq {l : OLock} {w b : Bool} {t u : Nat} (hfree : lockFree l w = true)
    (hb : OLock.holds (if w then { l with writer := some t } else { l with readers := t :: l.readers }) b u) :
    if u = t then b = w else OLock.holds l b u := by
  by_cases hu : u = t <;> cases w <;> cases b <;> simp_all [lockFree, OLock.holds]

theorem holds_rel {l : OLock} {w b : Bool} {t u : Nat} (hnd : l.readers.Nodup)
    (hb : OLock.holds (if w then { l with writer := none } else { l with readers := l.readers.erase t }) b u) :
    OLock.holds l b u ∧ ¬ (u = t ∧ b = w) := by
  cases w <;> cases b <;> simp_all [OLock.holds, hnd.mem_erase_iff]

/-- Thread `t` and lock `c` are replaced, `t` holding nothing on other cells: check the new thread,
and that whoever the new lock registers is `t` holding it or was registered before. -/
theorem SysInv.upd {s : Sys} (h : SysInv s) {c t : Nat} {l' : OLock} {th' : LThread}
    (hother : ∀ c' b, c' ≠ c → (c', b) ∉ (s.threads t).held) (hwf : LThread.WF th')
    (hown : ∀ b u, OLock.holds l' b u → if u = t then (c, b) ∈ th'.held else OLock.holds (s.locks c) b u)
    (hnd : l'.readers.Nodup) :
    SysInv { locks := upd s.locks c l', threads := upd s.threads t th' } where
  wf u := by simp only [Cell.upd]; split <;> first | exact hwf | exact h.wf u
  nodup c' := by simp only [Cell.upd]; split <;> first | exact hnd | exact h.nodup c'
  owner c' b u hb := by
    simp only [Cell.upd] at hb ⊢
    by_cases hc : c' = c
    · subst hc
      have := hown b u (by simpa using hb)
      by_cases hu : u = t
      · simpa [hu] using this
      · simp only [hu, if_false] at this ⊢; exact h.owner c' b u this
    · have := h.owner c' b u (by simpa [hc] using hb)
      by_cases hu : u = t
      · subst hu; exact absurd this (hother c' b hc)
      · simpa [hu] using this

theorem sysInv_step (s : Sys) (t : Nat) (h : SysInv s) : SysInv (s.step t) := by
  unfold Sys.step
  simp only []
  cases hp : (s.threads t).prog with
  | nil => exact h
  | cons i rest =>
    cases i with
    | acq c w =>
      simp only []
      split
      · next hfree =>
        obtain ⟨hh, rest', hr, hsl⟩ : (s.threads t).held = [] ∧
            ∃ rest', rest = .rel c w :: rest' ∧ singleLock rest' = true := by
          rcases h.wf t with ⟨h1, h2⟩ | ⟨_, _, _, _, h2, _⟩
          · exact ⟨h1, singleLock_acq (hp ▸ h2)⟩
          · rw [hp] at h2; cases h2
        have hnot : ∀ b, ¬ OLock.holds (s.locks c) b t := fun b hb => by
          have := h.owner c b t hb; rw [hh] at this; cases this
        refine h.upd (fun _ _ _ hm => by rw [hh] at hm; cases hm)
          (.inr ⟨c, w, rest', by simp [hh], hr, hsl⟩) (fun b u hb => ?_) ?_
        · have := holds_acq hfree hb
          split
          · next hu => rw [if_pos hu] at this; simp [this]
          · next hu => rwa [if_neg hu] at this
        · cases w
          · exact List.nodup_cons.2 ⟨hnot false, h.nodup c⟩
          · exact h.nodup c
      · exact h
    | rel c w =>
      obtain ⟨hh, hsl⟩ : (s.threads t).held = [(c, w)] ∧ singleLock rest = true := by
        rcases h.wf t with ⟨_, h2⟩ | ⟨_, _, _, h1, h2, h3⟩
        · rw [hp] at h2; cases h2
        · rw [hp] at h2; cases h2; exact ⟨h1, h3⟩
      refine h.upd (fun c' b hc hm => by rw [hh] at hm; simp at hm; exact hc hm.1)
        (.inl ⟨by simp [hh], hsl⟩) (fun b u hb => ?_) ?_
      · have ⟨hold, hne⟩ := holds_rel (h.nodup c) hb
        split
        · next hu =>
          subst hu
          have := h.owner c b u hold
          rw [hh] at this
          exact absurd ⟨rfl, (Prod.mk.inj (List.mem_singleton.1 this)).2⟩ hne
        · exact hold
      · cases w
        · exact (h.nodup c).erase t
        · exact h.nodup c

theorem sysInv_exec (s : Sys) (sched : List Nat) (h : SysInv s) : SysInv (s.exec sched) := by
  induction sched generalizing s with
  | nil => exact h
  | cons t rest ih => exact ih _ (sysInv_step s t h)

theorem SysInv.holder_enabled {s : Sys} (h : SysInv s) {t : Nat} {l : Nat × Bool}
    (hl : l ∈ (s.threads t).held) : s.enabled t = true := by
  rcases h.wf t with ⟨h1, _⟩ | ⟨c, w, rest, _, h2, _⟩
  · exact absurd (h1 ▸ hl) List.not_mem_nil
  · simp [Sys.enabled, h2]

theorem sys_progress (s : Sys) (h : SysInv s) (u : Nat) (hu : (s.threads u).prog ≠ []) :
    ∃ t, s.enabled t = true := by
  cases hp : (s.threads u).prog with
  | nil => exact absurd hp hu
  | cons i rest =>
    cases i with
    | rel c w => exact ⟨u, by simp [Sys.enabled, hp]⟩
    | acq c w =>
      cases hwr : (s.locks c).writer with
      | some t' =>
        exact ⟨t', h.holder_enabled (h.owner c true t' hwr)⟩
      | none =>
        cases hrd : (s.locks c).readers with
        | nil => exact ⟨u, by cases w <;> simp [Sys.enabled, hp, lockFree, hwr, hrd]⟩
        | cons r rs =>
          cases w with
          | false => exact ⟨u, by simp [Sys.enabled, hp, lockFree, hwr]⟩
          | true =>
            have hr : r ∈ (s.locks c).readers := hrd ▸ List.mem_cons_self
            exact ⟨r, h.holder_enabled (h.owner c false r hr)⟩

end KotoVerif.C19
