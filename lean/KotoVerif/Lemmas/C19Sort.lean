/-
C19 — `l.sort()` and `m.sort()` of `Model/Cell.lean` (Part 4) are the same insertion sort, by the
element and by the key of an entry: it is studied once, for an arbitrary integer key.
-/
import KotoVerif.Model.Cell
namespace KotoVerif.C19
open KotoVerif.Cell

variable {α : Type} (key : α → Int)

def insertBy (x : α) : List α → List α
  | [] => [x]
  | y :: ys => if key x < key y then x :: y :: ys else y :: insertBy x ys

def sortBy (l : List α) : List α := l.foldl (fun acc x => insertBy key x acc) []

theorem insertSorted_eq (x : Int) (l : List Int) : insertSorted x l = insertBy id x l := by
  induction l with
  | nil => rfl
  | cons y ys ih => simp only [insertSorted, insertBy, ih, id]

theorem assoc_insertSorted_eq (e : Int × Int) (l : Assoc) :
    Assoc.insertSorted e l = insertBy (·.1) e l := by
  induction l with
  | nil => rfl
  | cons y ys ih => simp only [Assoc.insertSorted, insertBy, ih]

theorem sortInts_eq (l : List Int) : sortInts l = sortBy id l := by
  simp only [sortInts, sortBy, insertSorted_eq]

theorem sortKeys_eq (m : Assoc) : Assoc.sortKeys m = sortBy (·.1) m := by
  simp only [Assoc.sortKeys, sortBy, assoc_insertSorted_eq]

theorem insertBy_perm (x : α) (l : List α) : (insertBy key x l).Perm (x :: l) := by
  induction l with
  | nil => exact .refl _
  | cons y ys ih =>
    simp only [insertBy]
    split
    · exact .refl _
    · exact (ih.cons y).trans (.swap x y ys)

theorem insertBy_sorted (x : α) (l : List α) (h : l.Pairwise (fun a b => key a ≤ key b)) :
    (insertBy key x l).Pairwise (fun a b => key a ≤ key b) := by
  induction l with
  | nil => exact List.pairwise_singleton _ _
  | cons y ys ih =>
    have ⟨hy, hys⟩ := List.pairwise_cons.1 h
    simp only [insertBy]
    split
    · next hxy =>
      refine List.pairwise_cons.2 ⟨fun a ha => ?_, h⟩
      rcases List.mem_cons.1 ha with rfl | ha
      · omega
      · have := hy a ha; omega
    · next hxy =>
      refine List.pairwise_cons.2 ⟨fun a ha => ?_, ih hys⟩
      rcases List.mem_cons.1 ((insertBy_perm key x ys).mem_iff.1 ha) with rfl | ha
      · omega
      · exact hy a ha

theorem foldl_insertBy_perm (l acc : List α) :
    (l.foldl (fun acc x => insertBy key x acc) acc).Perm (l ++ acc) := by
  induction l generalizing acc with
  | nil => exact .refl _
  | cons x xs ih =>
    exact (ih _).trans (((insertBy_perm key x acc).append_left xs).trans List.perm_middle)

theorem foldl_insertBy_sorted (l acc : List α) (h : acc.Pairwise (fun a b => key a ≤ key b)) :
    (l.foldl (fun acc x => insertBy key x acc) acc).Pairwise (fun a b => key a ≤ key b) := by
  induction l generalizing acc with
  | nil => exact h
  | cons x xs ih => exact ih _ (insertBy_sorted key x acc h)

theorem sortBy_perm (l : List α) : (sortBy key l).Perm l := by
  simpa [sortBy] using foldl_insertBy_perm key l []

theorem sortBy_sorted (l : List α) : (sortBy key l).Pairwise (fun a b => key a ≤ key b) :=
  foldl_insertBy_sorted key l [] .nil

end KotoVerif.C19
