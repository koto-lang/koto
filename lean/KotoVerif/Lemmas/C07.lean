/-
Lemmas for C07: what the operations of `Model/Unwind.lean` do, one equation per case, and what none
of them touches.
-/
import KotoVerif.Model.Unwind

namespace KotoVerif.Unwind

/-! ### consistency of a VM state (holds whenever native/host code can run) -/

def topBase : List Frame → Nat
  | [] => 0
  | f :: _ => f.base

def topMin : List Frame → Nat
  | [] => 0
  | f :: _ => f.base + f.required

/-- `register_base` / `min_frame_registers` agree with the current frame, and the value stack
reaches at least the frame base. True for a fresh VM and whenever a frame has executed its
`NewFrame` (always the first instruction of a chunk / function body). -/
structure Consistent (vm : VM) : Prop where
  base : vm.base = topBase vm.stack
  minr : vm.minRegs = topMin vm.stack
  regs : vm.base ≤ vm.regs

/-! ### pending callers -/

def impMods : List Cont → List Nat
  | [] => []
  | .importing m _ :: cs => m :: impMods cs
  | .loop _ :: cs => impMods cs
  | .native _ _ :: cs => impMods cs

def isLoop : Cont → Bool
  | .loop _ => true
  | _ => false

theorem impMods_append_loops : ∀ (Z Y : List Cont), (∀ z ∈ Z, isLoop z = true) →
    impMods (Z ++ Y) = impMods Y := by
  intro Z
  induction Z with
  | nil => intro Y _; rfl
  | cons z zs ih =>
    intro Y h
    have hz := h z (by simp)
    cases z with
    | loop x => exact ih Y (fun w hw => h w (List.mem_cons_of_mem _ hw))
    | native a b => cases hz
    | importing a b => cases hz

theorem inLoop_cons (vm : VM) (k : Cont) (cs : List Cont) : inLoop ⟨vm, k :: cs⟩ = isLoop k := by
  cases k <;> rfl

theorem exists_loop_of_inLoop {st : St} (h : inLoop st = true) :
    ∃ vm x cs, st = ⟨vm, .loop x :: cs⟩ := by
  obtain ⟨vm, conts⟩ := st
  cases conts with
  | nil => cases h
  | cons k cs => cases k <;> first | exact ⟨vm, _, cs, rfl⟩ | cases h

/-! ### frames: `pop_frame`, `frame_mut()`, `call_native_function`, the epilogue of a loop's caller -/

theorem popTo_barrier (b : Frame) (R : List Frame) (vm : VM) (hb : b.barrier = true) :
    popTo b R vm = ({ vm with
      seq := min vm.seq b.seq0, str := min vm.str b.str0, stack := R, base := topBase R,
      minRegs := topMin R }, true) := by
  cases R <;> simp [popTo, hb, topBase, topMin]

theorem popTo_inner (f r : Frame) (rs : List Frame) (vm : VM) (hb : f.barrier = false) :
    popTo f (r :: rs) vm = ({ vm with
      seq := min vm.seq f.seq0, str := min vm.str f.str0, stack := r :: rs, base := r.base,
      minRegs := r.base + r.required, regs := r.base + r.required }, false) := by
  simp [popTo, hb]

theorem popTo_stack (f : Frame) (rest : List Frame) (vm : VM) :
    (popTo f rest vm).1.stack = rest := by
  unfold popTo
  cases rest with
  | nil => rfl
  | cons r rs => simp only []; split <;> rfl

theorem popTo_minRegs (f : Frame) (rest : List Frame) (vm : VM) :
    (popTo f rest vm).1.minRegs = topMin rest := by
  unfold popTo
  cases rest with
  | nil => rfl
  | cons r rs => simp only []; split <;> rfl

theorem modTop_cons (g : Frame → Frame) (vm : VM) (f : Frame) (rest : List Frame)
    (hs : vm.stack = f :: rest) : modTop g vm = { vm with stack := g f :: rest } := by
  simp [modTop, hs]

theorem nativeOk_eq (fb : Nat) (vm : VM) :
    ∃ r, nativeOk fb vm = { vm with regs := r } ∧ min vm.regs (vm.base + fb) ≤ r := by
  unfold nativeOk
  split
  · exact ⟨vm.regs, rfl, Nat.min_le_left _ _⟩
  · exact ⟨_, rfl, Nat.le_max_left _ _⟩

theorem exitErr_barrier (x : Exit) (vm : VM) (b : Frame) (R : List Frame) (hs : vm.stack = b :: R)
    (hb : b.barrier = true) :
    exitErr x vm =
      { vm with
        seq := min vm.seq b.seq0, str := min vm.str b.str0, stack := R, base := topBase R,
        minRegs := topMin R,
        regs := match x with
          | .truncate rr => min vm.regs (topBase R + rr)
          | .propagate => vm.regs } := by
  cases x <;> simp [exitErr, popFrameD, popFrame, hs, popTo_barrier _ _ _ hb, truncate]

/-! ### `pop_call_stack_on_error`

`unwindGo` has four rules — empty stack, caught, stopped at a barrier, pop and go on — and
`fun_induction` hands them out with their conditions. -/

/-- `pop_call_stack_on_error(_, allow_catch = false)` never reports a catch point -/
theorem unwindGo_uncatchable (fs : List Frame) (vm : VM) : (unwindGo false fs vm).2 = none := by
  fun_induction unwindGo false fs vm with
  | case1 => rfl
  | case2 => contradiction
  | case3 => rfl
  | case4 _ _ _ _ _ ih => exact ih

/-- without a barrier an uncaught error pops every frame -/
theorem unwindGo_no_barrier (c : Bool) (fs : List Frame) (vm : VM) (hs : vm.stack = fs)
    (hnb : ∀ f ∈ fs, f.barrier = false) (hnone : (unwindGo c fs vm).2 = none) :
    (unwindGo c fs vm).1.stack = [] := by
  fun_induction unwindGo c fs vm with
  | case1 vm => exact hs
  | case2 => cases hnone
  | case3 f _ _ hb => rw [hnb f List.mem_cons_self] at hb; cases hb
  | case4 f rest vm _ _ ih =>
    exact ih (popTo_stack f rest vm) (fun g hg => hnb g (List.mem_cons_of_mem _ hg)) hnone

/-! ### the step function -/

/-- While native or host code is running only host entries, nested loops and the return of that code
are events; everything an interpreter loop would execute is ignored. -/
theorem step_host (ev : Ev) (st : St) (h : inLoop st = false) :
    step ev st =
      match ev with
      | .enter pre args c => enterChecked pre args c st
      | .enterOp pre args c => enterOpChecked pre args c st
      | .enterDirect pre ok => enterDirectChecked pre ok st
      | .nested args a => nested args a st
      | .nativeRet ok =>
        match st.conts with
        | .native fb host :: conts =>
          if ok then
            match host with
            | some rr => ⟨truncate rr.1 (nativeOk fb st.vm), conts⟩
            | none => ⟨nativeOk fb st.vm, conts⟩
          else
            match host with
            | some rr => raiseGo conts true (if rr.2 then truncate rr.1 st.vm else st.vm)
            | none => raiseGo conts true st.vm
        | _ => st
      | .importEnd ok =>
        match st.conts with
        | .importing m saved :: conts =>
          if ok then
            ⟨{ st.vm with
                placeholders := st.vm.placeholders.erase m, cached := m :: st.vm.cached,
                exports := saved }, conts⟩
          else raiseGo conts true { st.vm with
                placeholders := st.vm.placeholders.erase m, exports := saved }
        | _ => st
      | _ => st := by
  -- The only place in this module where `simp` unfolds `step`: Lean makes the equations of `step`
  -- when they are first asked for, and again in every proof of the module that asks first; the
  -- modules that import this one find them made. (`unfold step` does not need them.)
  cases ev <;> simp only [step, h, Bool.false_eq_true, if_false]
  all_goals (rename_i ok; cases ok <;> rfl)

theorem step_seqStart (st : St) (h : inLoop st = true) :
    step .seqStart st = { st with vm := { st.vm with seq := st.vm.seq + 1 } } := by
  unfold step; simp only [h, if_true]

theorem step_strStart (st : St) (h : inLoop st = true) :
    step .strStart st = { st with vm := { st.vm with str := st.vm.str + 1 } } := by
  unfold step; simp only [h, if_true]

/-! ### executions -/

theorem run_cons (ev : Ev) (evs : List Ev) (st : St) : run (ev :: evs) st = run evs (step ev st) := rfl

theorem run_append (a b : List Ev) (st : St) : run (a ++ b) st = run b (run a st) :=
  List.foldl_append ..

/-- A pair of events of which the second undoes the first can be nested to any depth: peel the
outermost pair, the rest is a shorter nest run from a state that still satisfies `P`. -/
theorem run_nested (a b : Ev) (P : St → Prop) (hP : ∀ st, P st → P (step a st))
    (hab : ∀ st, P st → step b (step a st) = st) (n : Nat) : ∀ st, P st →
    run (List.replicate n a ++ List.replicate n b) st = st := by
  induction n with
  | zero => intro st _; rfl
  | succ n ih =>
    intro st h
    rw [List.replicate_succ, List.replicate_succ', List.cons_append, ← List.append_assoc, run_cons,
      run_append, ih _ (hP st h)]
    exact hab st h

theorem runUntil_eq_run (d : Nat) : ∀ (evs : List Ev) (st : St),
    ∃ pre, pre <+: evs ∧ runUntil d evs st = run pre st
  | [], st => ⟨[], List.prefix_refl _, rfl⟩
  | ev :: rest, st => by
    simp only [runUntil]
    split
    · exact ⟨[], List.nil_prefix, rfl⟩
    · obtain ⟨pre, hp, h⟩ := runUntil_eq_run d rest (step ev st)
      exact ⟨ev :: pre, List.cons_prefix_cons.mpr ⟨rfl, hp⟩, h⟩

theorem runUntil_closed (d : Nat) (evs : List Ev) (st : St) (h : st.conts.length ≤ d) :
    runUntil d evs st = st := by
  cases evs <;> simp [runUntil, h]

/-! ### errors -/

theorem raiseGo_host (s : St) (h : inLoop s = false) (c : Bool) (vm : VM) :
    raiseGo s.conts c vm = ⟨vm, s.conts⟩ := by
  obtain ⟨_, conts⟩ := s
  cases conts with
  | nil => simp [raiseGo]
  | cons r rs => cases r <;> simp_all [raiseGo, inLoop]

theorem raiseGo_cons_host (k : Cont) (cs : List Cont) (hk : isLoop k = false) (c : Bool) (vm : VM) :
    raiseGo (k :: cs) c vm = ⟨vm, k :: cs⟩ :=
  raiseGo_host ⟨vm, k :: cs⟩ ((inLoop_cons vm k cs).trans hk) c vm

/-- An error in a running loop: caught in one of the loop's frames, or the loop ends, its caller
runs its epilogue and the error goes on to whoever is pending below. -/
theorem raiseGo_loop (x : Exit) (rest : List Cont) (c : Bool) (vm : VM) :
    raiseGo (.loop x :: rest) c vm =
      match unwind c vm with
      | (vm1, some _) => ⟨vm1, .loop x :: rest⟩
      | (vm1, none) => raiseGo rest true (exitErr x vm1) := by
  rcases h : unwind c vm with ⟨vm1, _ | cr⟩
  · cases rest with
    | nil => simp [raiseGo, h]
    | cons r rs => cases r <;> simp [raiseGo, h]
  · cases rest with
    | nil => simp [raiseGo, h]
    | cons r rs => cases r <;> simp [raiseGo, h]

/-! ### entries that push no frame return the state they found -/

/-- the result register is the value stack's length relative to the frame base while the register
window fits the `u8` numbering -/
theorem base_add_nextRegister (vm : VM) (hr : vm.base ≤ vm.regs) (hw : vm.regs - vm.base < 256) :
    vm.base + nextRegister vm = vm.regs := by
  rw [nextRegister, Nat.mod_eq_of_lt hw]; omega

/-- … and the frame base `enterWith` takes after it has pushed `pre` registers (`nextRegister` of
that state) lies above every register the entry found -/
theorem le_frameBase (vm : VM) (pre r : Nat) (hb : vm.base ≤ vm.regs)
    (hw : vm.regs - vm.base + pre < 256) (hr : r ≤ vm.regs) :
    r ≤ vm.base + (vm.regs + pre - vm.base) % 256 := by
  rw [Nat.sub_add_comm hb, Nat.mod_eq_of_lt hw, ← Nat.add_assoc, Nat.add_sub_of_le hb]
  exact Nat.le_add_right_of_le hr

/-- `truncate_registers(result_register)` undoes whatever an entry has pushed. -/
theorem truncate_nextRegister (vm : VM) (r : Nat) (hb : vm.base ≤ vm.regs)
    (hw : vm.regs - vm.base < 256) (hr : vm.regs ≤ r) :
    truncate (nextRegister vm) { vm with regs := r } = vm := by
  show { vm with regs := min r (vm.base + nextRegister vm) } = vm
  rw [base_add_nextRegister vm hb hw, Nat.min_eq_right hr]

/-- An entry through `call_callable` (`enter`, `enterOp`) that fails before anything runs, started by
native/host code, returns the state it found. -/
theorem enterWith_fail_eq (s : St) (pre args : Nat) (hhost : inLoop s = false)
    (hr : s.vm.base ≤ s.vm.regs) (hw : s.vm.regs - s.vm.base < 256) :
    enterWith true pre args .fail s = s := by
  show raiseGo s.conts true (truncate (nextRegister s.vm)
    { s.vm with regs := s.vm.regs + pre + 1 + args }) = s
  rw [raiseGo_host s hhost, truncate_nextRegister s.vm _ hr hw (by omega)]

/-- … and so does one whose native callee returns `Err`: once that has returned, the entry does what
it does when `call_callable` fails. -/
theorem enterWith_native_err_eq (s : St) (pre args : Nat) (hhost : inLoop s = false)
    (hr : s.vm.base ≤ s.vm.regs) (hw : s.vm.regs - s.vm.base < 256) :
    step (.nativeRet false) (enterWith true pre args .native s) = s :=
  enterWith_fail_eq s pre args hhost hr hw

/-- When the native callee returns `Ok`, `call_native_function` has cut the value stack back to the
frame base of the call, which lies above the result register. -/
theorem truncate_nativeOk (vm : VM) (fb r : Nat) (hb : vm.base ≤ vm.regs)
    (hw : vm.regs - vm.base < 256) (hr : vm.regs ≤ r) (hfb : vm.regs ≤ vm.base + fb) :
    truncate (nextRegister vm) (nativeOk fb { vm with regs := r }) = vm := by
  obtain ⟨r', hn, hle⟩ := nativeOk_eq fb { vm with regs := r }
  rw [hn]
  exact truncate_nextRegister vm r' hb hw (Nat.le_trans (Nat.le_min.mpr ⟨hr, hfb⟩) hle)

theorem enterWith_native_ok_eq (s : St) (pre args : Nat) (hr : s.vm.base ≤ s.vm.regs)
    (hw : s.vm.regs - s.vm.base + pre < 256) :
    step (.nativeRet true) (enterWith true pre args .native s) = s := by
  show (⟨truncate (nextRegister s.vm) (nativeOk ((s.vm.regs + pre - s.vm.base) % 256)
    { s.vm with regs := s.vm.regs + pre + 1 + args }), s.conts⟩ : St) = s
  rw [truncate_nativeOk s.vm _ _ hr (by omega) (by omega) (by omega)]

theorem enterDirect_eq (s : St) (pre : Nat) (ok : Bool) (hhost : inLoop s = false)
    (hr : s.vm.base ≤ s.vm.regs) (hw : s.vm.regs - s.vm.base < 256) :
    enterDirect pre ok s = s := by
  have ht := truncate_nextRegister s.vm (s.vm.regs + pre) hr hw (Nat.le_add_right _ _)
  cases ok with
  | true => show ({ s with vm := truncate (nextRegister s.vm) _ } : St) = s; rw [ht]
  | false =>
    show raiseGo s.conts true (truncate (nextRegister s.vm) _) = s
    rw [raiseGo_host s hhost, ht]

theorem nextRegisterOk_window (vm : VM) (h : nextRegisterOk vm = true) :
    vm.regs - vm.base < 256 := by
  have : vm.regs - vm.base + 8 ≤ 255 := of_decide_eq_true h
  omega

/-- `run_*_op` performed natively, register check included: the state is what it was. -/
theorem enterDirectChecked_eq (s : St) (pre : Nat) (ok : Bool) (hhost : inLoop s = false)
    (hr : s.vm.base ≤ s.vm.regs) : enterDirectChecked pre ok s = s := by
  unfold enterDirectChecked
  split
  · rename_i hok
    exact enterDirect_eq s pre ok hhost hr (nextRegisterOk_window s.vm hok)
  · exact raiseGo_host s hhost true s.vm

/-! ### what errors and frame pops never touch

Exports, module placeholders and cached modules are changed by `export` and `import` only; the
pending callers an error removes are loops. -/

/-- the part of the VM that only `export` and `import` change -/
def VM.mods (vm : VM) : List Nat × List Nat × List Nat := (vm.exports, vm.placeholders, vm.cached)

theorem popTo_mods (f : Frame) (rest : List Frame) (vm : VM) : (popTo f rest vm).1.mods = vm.mods := by
  unfold popTo
  cases rest with
  | nil => rfl
  | cons r rs => simp only []; split <;> rfl

theorem unwindGo_mods (c : Bool) (fs : List Frame) (vm : VM) :
    (unwindGo c fs vm).1.mods = vm.mods := by
  fun_induction unwindGo c fs vm with
  | case1 vm => rfl
  | case2 => rfl
  | case3 => rfl
  | case4 f rest vm _ _ ih => rw [ih, popTo_mods]

theorem exitErr_mods (x : Exit) (vm : VM) : (exitErr x vm).mods = vm.mods := by
  have h : (popFrameD vm).mods = vm.mods := by
    unfold popFrameD popFrame
    cases vm.stack with
    | nil => rfl
    | cons f rest => exact popTo_mods f rest vm
  cases x <;> exact h

theorem modTop_mods (g : Frame → Frame) (vm : VM) : (modTop g vm).mods = vm.mods := by
  unfold modTop; split <;> rfl

theorem nativeOk_mods (fb : Nat) (vm : VM) : (nativeOk fb vm).mods = vm.mods := by
  obtain ⟨r, h, _⟩ := nativeOk_eq fb vm
  rw [h]; rfl

/-- An error removes pending loops and nothing else, and leaves the modules alone. -/
theorem raiseGo_pops (conts : List Cont) (c : Bool) (vm : VM) :
    ∃ Z, conts = Z ++ (raiseGo conts c vm).conts ∧ (∀ z ∈ Z, isLoop z = true) ∧
      (raiseGo conts c vm).vm.mods = vm.mods := by
  induction conts generalizing c vm with
  | nil => exact ⟨[], rfl, fun _ h => (nomatch h), rfl⟩
  | cons k rest ih =>
    cases k with
    | native a b => exact ⟨[], rfl, fun _ h => (nomatch h), rfl⟩
    | importing a b => exact ⟨[], rfl, fun _ h => (nomatch h), rfl⟩
    | loop x =>
      rw [raiseGo_loop]
      have hu : (unwind c vm).1.mods = vm.mods := unwindGo_mods c vm.stack vm
      rcases h : unwind c vm with ⟨vm1, _ | cr⟩ <;> rw [h] at hu
      · obtain ⟨Z, hZ, hl, hm⟩ := ih true (exitErr x vm1)
        refine ⟨.loop x :: Z, by rw [List.cons_append, ← hZ], fun z hz => ?_,
          hm.trans ((exitErr_mods x vm1).trans hu)⟩
        cases List.mem_cons.mp hz with
        | inl h => rw [h]; rfl
        | inr h => exact hl z h
      · exact ⟨[], rfl, fun _ h => (nomatch h), hu⟩

end KotoVerif.Unwind
