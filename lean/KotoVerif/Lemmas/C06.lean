/-
Over `Model/Guards.lean`: the checked-arithmetic constructors reduce to `ok` inside their ranges and only
there; the outcome predicate `Res.sat` for `Res.bind` chains, with one rule per primitive;
`IndexMap`-as-key-list facts; the arithmetic of the `step_to` iterator.
-/
import KotoVerif.Model.Guards

namespace KotoVerif.C06
open KotoVerif.Guards

-- `omega`, after the range predicates and the machine constants have been unfolded in goal and hypotheses
macro "arith" : tactic =>
  `(tactic| ((try simp only [inI64, inI32, inUsize, inU32, inU8, inI8, inLen, I64_MIN, I64_MAX, I32_MIN, I32_MAX,
      USIZE_MAX, U32_MAX, U8_MAX, I8_MIN, I8_MAX] at *) <;> omega))

theorem ckI64_ok {x : Int} (h : inI64 x) : ckI64 x = .ok x := if_pos h
theorem ckI32_ok {x : Int} (h : inI32 x) : ckI32 x = .ok x := if_pos h
theorem ckUsize_ok {x : Int} (h : inUsize x) : ckUsize x = .ok x := if_pos h
theorem ckU32_ok {x : Int} (h : inU32 x) : ckU32 x = .ok x := if_pos h
theorem ckU8_ok {x : Int} (h : inU8 x) : ckU8 x = .ok x := if_pos h

theorem okIf_eq_ok {p : Prop} [Decidable p] {x v : Int} :
    (if p then Res.ok x else .panic) = .ok v ↔ p ∧ v = x := by
  by_cases h : p
  · rw [if_pos h]; exact ⟨fun e => ⟨h, by cases e; rfl⟩, fun e => by rw [e.2]⟩
  · rw [if_neg h]; exact ⟨(fun e => nomatch e), fun e => absurd e.1 h⟩

theorem ckI64_eq_ok {x v : Int} : ckI64 x = .ok v ↔ inI64 x ∧ v = x := okIf_eq_ok
theorem ckI32_eq_ok {x v : Int} : ckI32 x = .ok v ↔ inI32 x ∧ v = x := okIf_eq_ok
theorem ckUsize_eq_ok {x v : Int} : ckUsize x = .ok v ↔ inUsize x ∧ v = x := okIf_eq_ok
theorem ckU8_eq_ok {x v : Int} : ckU8 x = .ok v ↔ inU8 x ∧ v = x := okIf_eq_ok

theorem I64_MAX_le_USIZE_MAX : I64_MAX ≤ USIZE_MAX := by decide

theorem inLen_inUsize {x : Int} (h : inLen x) : inUsize x :=
  ⟨h.1, Int.le_trans h.2 I64_MAX_le_USIZE_MAX⟩

theorem inUsize_of_le_len {x len : Int} (h0 : 0 ≤ x) (h : x ≤ len) (hl : inLen len) : inUsize x :=
  ⟨h0, Int.le_trans h (inLen_inUsize hl).2⟩

theorem inUsize_add_len {a b : Int} (ha : inLen a) (hb : inLen b) : inUsize (a + b) := by arith

theorem inI64_max {a b : Int} (ha : inI64 a) (hb : inI64 b) : inI64 (max a b) :=
  ⟨Int.le_trans ha.1 (Int.le_max_left _ _), Int.max_le.mpr ⟨ha.2, hb.2⟩⟩

theorem inI64_succ {e : Int} (h : inI64 e) (hne : e ≠ I64_MAX) : inI64 (e + 1) :=
  ⟨Int.le_add_one h.1, Int.add_one_le_of_lt (Int.lt_iff_le_and_ne.mpr ⟨h.2, hne⟩)⟩

theorem castI64_id {m : Int} (h : m ≤ I64_MAX) : castI64 m = m := if_pos h

theorem castU8_id {x : Int} (h : inU8 x) : castU8 x = x :=
  Int.emod_eq_of_lt h.1 (Int.lt_of_le_of_lt h.2 (by decide))

theorem clamp_ok {x lo hi : Int} (h : lo ≤ hi) : clamp x lo hi = .ok (max lo (min x hi)) := if_pos h

@[simp] theorem bind_ok {α β : Type} (a : α) (f : α → Res β) : (Res.ok a).bind f = f a := rfl
@[simp] theorem bind_panic {α β : Type} (f : α → Res β) : (Res.panic : Res α).bind f = .panic := rfl
@[simp] theorem bind_err {α β : Type} (f : α → Res β) : (Res.err : Res α).bind f = .err := rfl

theorem bind_assoc {α β γ : Type} (r : Res α) (f : α → Res β) (g : β → Res γ) :
    (r.bind f).bind g = r.bind fun a => (f a).bind g := by
  cases r <;> rfl

@[simp] theorem ok_ne_panic {α : Type} (a : α) : Res.ok a ≠ .panic := fun h => nomatch h
@[simp] theorem err_ne_panic {α : Type} : (Res.err : Res α) ≠ .panic := fun h => nomatch h

/-! ### the outcome of a kernel

Every property of a kernel is a statement about which of the three outcomes it can have and with what
value. `Res.sat` says it once; `_total`, `_partial`, `_panic_iff` and value theorems are read off a
`sat` fact through `ne_panic`, `exists_ok`, `of_ok`, `panic_iff` below. -/

/-- a panic only if `p`, an error only if `e`, a value only if `Q` holds of it -/
def Res.sat {α : Type} (p e : Prop) (Q : α → Prop) : Res α → Prop
  | .panic => p
  | .err => e
  | .ok a => Q a

section sat
variable {α β : Type} {p e : Prop} {Q R : α → Prop} {r : Res α}

@[simp] theorem sat_ok (a : α) : Res.sat p e Q (.ok a) ↔ Q a := Iff.rfl
@[simp] theorem sat_err : Res.sat p e Q (.err : Res α) ↔ e := Iff.rfl
@[simp] theorem sat_panic : Res.sat p e Q (.panic : Res α) ↔ p := Iff.rfl

theorem Res.sat.ok {a : α} (h : Q a) : Res.sat p e Q (.ok a) := h
theorem Res.sat.err (h : e) : Res.sat p e Q (.err : Res α) := h

theorem sat_bind {Q : β → Prop} (f : α → Res β) :
    Res.sat p e Q (r.bind f) ↔ Res.sat p e (fun a => Res.sat p e Q (f a)) r := by
  cases r <;> rfl

theorem sat_map' {Q : β → Prop} (f : α → β) :
    Res.sat p e Q (r.map' f) ↔ Res.sat p e (fun a => Q (f a)) r := by
  cases r <;> rfl

theorem sat_ite {c : Prop} [Decidable c] (a b : Res α) :
    Res.sat p e Q (if c then a else b) ↔ (c → Res.sat p e Q a) ∧ (¬ c → Res.sat p e Q b) := by
  split <;> simp [*]

theorem Res.sat.mono (h : Res.sat p e R r) (hq : ∀ a, R a → Q a) : Res.sat p e Q r := by
  cases r with
  | ok a => exact hq a h
  | _ => exact h

theorem Res.sat.imp {p' e' : Prop} (h : Res.sat p e Q r) (hp : p → p') (he : e → e') :
    Res.sat p' e' Q r := by
  cases r with
  | panic => exact hp h
  | err => exact he h
  | ok a => exact h

theorem Res.sat.bind {Q : β → Prop} {f : α → Res β} (h : Res.sat p e R r)
    (hf : ∀ a, R a → Res.sat p e Q (f a)) : Res.sat p e Q (r.bind f) :=
  (sat_bind f).2 (h.mono hf)

theorem Res.sat.safe (h : Res.sat p e Q r) (hr : r ≠ .panic) : Res.sat False e Q r := by
  cases r with
  | panic => exact hr rfl
  | _ => exact h

theorem Res.sat.of_forall (h : ∀ a, Q a) : Res.sat True True Q r := by
  cases r with
  | ok a => exact h a
  | _ => trivial

theorem Res.sat.ne_panic (h : Res.sat False e Q r) : r ≠ .panic := by
  rintro rfl; exact h

theorem Res.ne_panic_iff : r ≠ .panic ↔ Res.sat False True (fun _ => True) r := by
  cases r <;> simp

theorem Res.sat.of_ok (h : Res.sat p e Q r) {a : α} (ha : r = .ok a) : Q a := by
  subst ha; exact h

theorem Res.sat.exists_ok (h : Res.sat False False Q r) : ∃ a, r = .ok a ∧ Q a := by
  cases r with
  | ok a => exact ⟨a, rfl, h⟩
  | _ => exact h.elim

theorem Res.sat.eq_ok {v : α} (h : Res.sat False False (· = v) r) : r = .ok v := by
  obtain ⟨a, ha, rfl⟩ := h.exists_ok; exact ha

theorem Res.sat.panic_iff {c : Prop} (h : Res.sat c (¬ c) (fun _ => ¬ c) r) : r = .panic ↔ c := by
  cases r <;> simp_all

theorem Res.sat.err_iff {c : Prop} (h : Res.sat (¬ c) c (fun _ => ¬ c) r) : r = .err ↔ c := by
  cases r <;> simp_all

theorem sat_okIf {c : Prop} [Decidable c] {β : Type} {Q : β → Prop} (x : β) :
    Res.sat p e Q (if c then Res.ok x else .panic) ↔ if c then Q x else p := by
  split <;> rfl

end sat

section
variable {p e : Prop} {Q : Int → Prop}
theorem sat_ckI64 (x : Int) : Res.sat p e Q (ckI64 x) ↔ if inI64 x then Q x else p := sat_okIf x
theorem sat_ckI32 (x : Int) : Res.sat p e Q (ckI32 x) ↔ if inI32 x then Q x else p := sat_okIf x
theorem sat_ckUsize (x : Int) : Res.sat p e Q (ckUsize x) ↔ if inUsize x then Q x else p := sat_okIf x
theorem sat_ckU32 (x : Int) : Res.sat p e Q (ckU32 x) ↔ if inU32 x then Q x else p := sat_okIf x
theorem sat_ckU8 (x : Int) : Res.sat p e Q (ckU8 x) ↔ if inU8 x then Q x else p := sat_okIf x
theorem sat_sliceIndex (len i : Int) :
    Res.sat p e Q (sliceIndex len i) ↔ if 0 ≤ i ∧ i < len then Q i else p := sat_okIf i
end

/-- `large`: the `BoundedLarge` (`i64`) representation of `pop_front` / `pop_back`, else `i32` -/
theorem ckRepr_ok (large : Bool) {x : Int} (h : if large then inI64 x else inI32 x) :
    (if large then ckI64 else ckI32) x = .ok x := by
  cases large
  · exact ckI32_ok h
  · exact ckI64_ok h

theorem sat_ckRepr {p e : Prop} {Q : Int → Prop} (large : Bool) (x : Int) :
    Res.sat p e Q ((if large then ckI64 else ckI32) x) ↔
      if (if large then inI64 x else inI32 x) then Q x else p := by
  cases large
  · exact sat_ckI32 x
  · exact sat_ckI64 x

theorem inRepr_step (large : Bool) {s e : Int} (hs : if large then inI64 s else inI32 s)
    (he : if large then inI64 e else inI32 e) (h : s < e) :
    (if large then inI64 (s + 1) else inI32 (s + 1)) ∧
    (if large then inI64 (e - 1) else inI32 (e - 1)) := by
  cases large <;> simp only [Bool.false_eq_true, if_false, if_true] at hs he ⊢ <;> arith

/-- the `-1` special case of `i64::wrapping_rem` changes nothing mathematically: it only avoids the
overflow trap -/
theorem wrappingRem_eq_tmod (a b : Int) (hb : b ≠ 0) : wrappingRem a b = .ok (Int.tmod a b) := by
  unfold wrappingRem
  simp only [hb, ite_false]
  by_cases h1 : b = -1
  · subst h1; simp [Int.tmod_neg]
  · simp [h1]

theorem triple_wf (r : KRange) (h : KRange.wf r) : inI64 r.triple.1 ∧ inI64 r.triple.2.1 := by
  obtain ⟨st, sp⟩ := r
  -- a missing bound is replaced by `i64::MIN` / `i64::MAX`
  rcases st with _ | s <;> rcases sp with _ | ⟨e, i⟩
  · exact ⟨by decide, by decide⟩
  · exact ⟨show inI64 I64_MIN by decide, h.2 e i rfl⟩
  · exact ⟨h.1 s rfl, show inI64 I64_MAX by decide⟩
  · exact ⟨h.1 s rfl, h.2 e i rfl⟩

theorem swapRemoveIndex_eq (ks : List Nat) (u : Nat) (hu : u < ks.length) :
    swapRemoveIndex ks u =
      (ks.set u (ks.getLast (List.ne_nil_of_length_pos (Nat.zero_lt_of_lt hu)))).dropLast := by
  rw [swapRemoveIndex, if_pos hu, List.getLast?_eq_some_getLast]

theorem length_swapRemoveIndex (ks : List Nat) (u : Nat) (h : u < ks.length) :
    (swapRemoveIndex ks u).length = ks.length - 1 := by
  rw [swapRemoveIndex_eq ks u h, List.length_dropLast, List.length_set]

theorem length_insertKey (ks : List Nat) (k : Nat) :
    (insertKey ks k).length = if k ∈ ks then ks.length else ks.length + 1 := by
  unfold insertKey; split <;> simp

theorem indexOfKey_eq (ks : List Nat) (k : Nat) : indexOfKey ks k = ks.idxOf? k := by
  induction ks with
  | nil => rfl
  | cons x xs ih => rw [indexOfKey, List.idxOf?_cons, ih]; simp only [beq_iff_eq]

theorem mem_swapRemoveIndex (ks : List Nat) (u k : Nat) (hu : u < ks.length)
    (h : k ∈ swapRemoveIndex ks u) : ∃ i, i ≠ u ∧ ks[i]? = some k := by
  rw [swapRemoveIndex_eq ks u hu] at h
  obtain ⟨i, hi, hget⟩ := List.getElem_of_mem h
  rw [List.length_dropLast, List.length_set] at hi
  rw [List.getElem_dropLast, List.getElem_set] at hget
  split at hget
  · -- position `u` holds the moved last entry
    subst hget
    exact ⟨ks.length - 1, by omega, by rw [List.getLast_eq_getElem, List.getElem?_eq_getElem]⟩
  · rename_i hne
    exact ⟨i, fun h => hne h.symm, by rw [List.getElem?_eq_getElem (by omega), hget]⟩

theorem wrap64_id {x : Int} (h : inI64 x) : wrap64 x = x := by unfold wrap64; arith

theorem wrap64_range (x : Int) : inI64 (wrap64 x) := by
  unfold wrap64 inI64 I64_MIN I64_MAX; omega

/-- `2^65` bounds every difference, count, product and sum the `step_to` iterator forms from `i64`
values; that is far inside `i128` -/
theorem ckI128_ok {x : Int} (h : -36893488147419103232 ≤ x ∧ x ≤ 36893488147419103232) : ckI128 x = .ok x := by
  unfold ckI128 I128_MIN I128_MAX
  have : -170141183460469231731687303715884105728 ≤ x ∧ x ≤ 170141183460469231731687303715884105727 := by omega
  simp [this]

theorem ckI128_of_inI64 {x : Int} (h : inI64 x) : ckI128 x = .ok x := ckI128_ok (by arith)

/-- magnitude below `2^64`: the difference of two `i64` values, its absolute value, a step count -/
theorem ckI128_of_u64 {x : Int} (h : -18446744073709551615 ≤ x ∧ x ≤ 18446744073709551615) :
    ckI128 x = .ok x := ckI128_ok (by omega)

theorem sub_bound_of_inI64 {a b : Int} (ha : inI64 a) (hb : inI64 b) :
    -18446744073709551615 ≤ b - a ∧ b - a ≤ 18446744073709551615 := by arith

theorem iabs_facts (start target : Int) (hs : inI64 start) (ht : inI64 target) :
    0 ≤ iabs (target - start) ∧ iabs (target - start) ≤ 18446744073709551615 ∧
    (target < start → iabs (target - start) = start - target) ∧
    (¬ target < start → iabs (target - start) = target - start) := by
  unfold iabs; arith

theorem stepCount_facts (start target step : Int) (hp : 0 < step) :
    stepCount start target step = Int.tdiv (iabs (target - start)) step ∧
    0 ≤ stepCount start target step ∧
    stepCount start target step ≤ iabs (target - start) ∧
    step * stepCount start target step ≤ iabs (target - start) := by
  have habs : 0 ≤ iabs (target - start) := by
    unfold iabs; split
    · exact Int.neg_nonneg_of_nonpos (Int.le_of_lt ‹_›)
    · exact Int.not_lt.mp ‹_›
  unfold stepCount
  simp only [gt_iff_lt, hp, ite_true, true_and]
  exact ⟨Int.tdiv_nonneg habs (by omega), Int.tdiv_le_self _ habs, Int.mul_tdiv_self_le habs⟩

theorem stepCount_nonpos (start target step : Int) (hp : ¬ 0 < step) : stepCount start target step = -1 := by
  unfold stepCount; simp [hp]

theorem stepSigned_mul (start target step m : Int) (hst : inI64 step) (hp : 0 < step) :
    stepSigned start target step * m = if target < start then -(step * m) else step * m := by
  unfold stepSigned
  split
  · rw [wrap64_id (by arith), Int.neg_mul]
  · rfl

theorem step_value (start target step m : Int) (hs : inI64 start) (ht : inI64 target) (hst : inI64 step)
    (hp : 0 < step) (h0 : 0 ≤ m) (hm : m ≤ stepCount start target step) :
    between start target (start + stepSigned start target step * m) ∧
    -18446744073709551615 ≤ stepSigned start target step * m ∧
    stepSigned start target step * m ≤ 18446744073709551615 := by
  obtain ⟨ha0, ha1, hneg, hpos⟩ := iabs_facts start target hs ht
  obtain ⟨_, hn0, _, hmul⟩ := stepCount_facts start target step hp
  have h1 : 0 ≤ step * m := Int.mul_nonneg (by omega) h0
  have h2 : step * m ≤ step * stepCount start target step := Int.mul_le_mul_of_nonneg_left hm (by omega)
  rw [stepSigned_mul start target step m hst hp]
  unfold between
  by_cases hlt : target < start
  · have := hneg hlt; simp only [hlt, ite_true]; omega
  · have := hpos hlt; simp only [hlt, ite_false]; omega

theorem stepCount_le (start target step : Int) (hs : inI64 start) (ht : inI64 target) :
    stepCount start target step ≤ 18446744073709551615 := by
  obtain ⟨ha0, ha1, _, _⟩ := iabs_facts start target hs ht
  by_cases hp : 0 < step
  · have := (stepCount_facts start target step hp).2.2.1; omega
  · rw [stepCount_nonpos start target step hp]; decide

/-- the product and the sum that `new` and `next` compute for the `m`-th value -/
theorem step_ck (start target step m : Int) (hs : inI64 start) (ht : inI64 target) (hst : inI64 step)
    (hp : 0 < step) (h0 : 0 ≤ m) (hm : m ≤ stepCount start target step) :
    ckI128 (stepSigned start target step * m) = .ok (stepSigned start target step * m) ∧
    ckI128 (start + stepSigned start target step * m) = .ok (start + stepSigned start target step * m) ∧
    inI64 (start + stepSigned start target step * m) ∧
    between start target (start + stepSigned start target step * m) := by
  obtain ⟨hb, hlo, hhi⟩ := step_value start target step m hs ht hst hp h0 hm
  have hin : inI64 (start + stepSigned start target step * m) := by unfold between at hb; arith
  exact ⟨ckI128_of_u64 ⟨hlo, hhi⟩, ckI128_of_inI64 hin, hin, hb⟩

theorem retainLoop_checked_total (len0 : Int) (ms : List RetainMove) :
    ∀ r w len, retainLoop true len0 r w len ms ≠ .panic := by
  intro r w len
  -- every branch is a recursive call, an `.ok`, or one of the two `.panic`s that need `checked = false`
  fun_induction retainLoop true len0 r w len ms <;>
    first | assumption | contradiction | (intro h; cases h)

end KotoVerif.C06
