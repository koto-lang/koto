/-
The trivia-similarity relation `Sim ρ` on token lists, closed under the trivia edits; and every skipping
loop of `Model/Cursor.lean` in closed form: each walks over `l.takeWhile p` and acts on the head of
`l.dropWhile p` (`p` = trivia, or `is_whitespace()` for the `*_on_same_line` family), so every consuming
primitive is `skip p`, possibly followed by `consume_token`, and `peek_token_with_context` is `found`
(the next significant token) filtered by `accepts` (the context's decision).
-/
import KotoVerif.Model.Cursor

namespace KotoVerif.C10
open KotoVerif.Lexer KotoVerif.Cursor

def AllTrivia (g : List Lexed) : Prop := ∀ t ∈ g, isTrivia t.tok = true

def AllWs (g : List Lexed) : Prop := ∀ t ∈ g, isWhitespace t.tok = true

def hasNL : List Lexed → Bool
  | [] => false
  | t :: r => decide (t.tok = .newLine) || hasNL r

/-- Line numbers before and after are related by an order-preserving relation, not a function: for a
single insertion it is the graph of `fun l => if l ≥ L then l + k else l`; deletions use the converse
(`conv`), sequences of edits the composition (`comp`). -/
def LineRel (ρ : Nat → Nat → Prop) : Prop :=
  ∀ a a' b b', ρ a a' → ρ b b' → (a < b ↔ a' < b')

/-- what the parser can observe of a token besides its text: kind, indent, and (up to the order
preserving relabelling `ρ`) the lines where it starts and ends -/
structure TokRel (ρ : Nat → Nat → Prop) (t t' : Lexed) : Prop where
  tok : t'.tok = t.tok
  indent : t'.indent = t.indent
  startLine : ρ t.span.start.line t'.span.start.line
  stopLine : ρ t.span.stop.line t'.span.stop.line

/-- the cursor's `current_token` as far as `current_indent()` / `current_line()` go -/
structure CurRel (ρ : Nat → Nat → Prop) (c c' : Lexed) : Prop where
  indent : c'.indent = c.indent
  stopLine : ρ c.span.stop.line c'.span.stop.line

theorem TokRel.cur {ρ t t'} (h : TokRel ρ t t') : CurRel ρ t t' := ⟨h.indent, h.stopLine⟩

/-- interchangeable gaps: the edits are confined to line ends and whole lines, so only a gap with a line
break changes; one without keeps its token kinds -/
structure GapRel (g g' : List Lexed) : Prop where
  nl : hasNL g' = hasNL g
  same : hasNL g = false → g'.map (·.tok) = g.map (·.tok)

/-- Trivia-similarity of two token lists: the same significant tokens (kind, indent, lines up to
`ρ`) separated by interchangeable gaps. -/
inductive Sim (ρ : Nat → Nat → Prop) : List Lexed → List Lexed → Prop
  | done {l l'} : AllTrivia l → AllTrivia l' → GapRel l l' → Sim ρ l l'
  | tok {l l' g g' t t' r r'} : l = g ++ t :: r → l' = g' ++ t' :: r' →
      AllTrivia g → AllTrivia g' → GapRel g g' → isTrivia t.tok = false → TokRel ρ t t' →
      Sim ρ r r' → Sim ρ l l'

theorem isTrivia_of_ws {t : Token} (h : isWhitespace t = true) : isTrivia t = true := by
  simp [isTrivia, h]

theorem isTrivia_newLine : isTrivia Token.newLine = true := by decide

theorem not_ws_of_sig {t : Token} (h : isTrivia t = false) : isWhitespace t = false := by
  cases hw : isWhitespace t
  · rfl
  · simp [isTrivia, hw] at h

theorem not_nl_of_sig {t : Token} (h : isTrivia t = false) : t ≠ .newLine := by
  intro e
  subst e
  simp [isTrivia_newLine] at h

theorem ws_ne_nl {t : Token} (h : isWhitespace t = true) : t ≠ .newLine := by
  intro e
  subst e
  revert h
  decide

theorem TokRel.sig {ρ t t'} (h : TokRel ρ t t') (hs : isTrivia t.tok = false) : isTrivia t'.tok = false := by
  rw [h.tok]; exact hs

theorem AllTrivia.nil : AllTrivia [] := fun _ h => nomatch h

theorem AllTrivia.cons {h : Lexed} {g} (hh : isTrivia h.tok = true) (hg : AllTrivia g) : AllTrivia (h :: g) :=
  List.forall_mem_cons.mpr ⟨hh, hg⟩

theorem AllTrivia.tail {h : Lexed} {g} (hg : AllTrivia (h :: g)) : AllTrivia g :=
  fun t ht => hg t (List.mem_cons_of_mem _ ht)

theorem AllTrivia.head {h : Lexed} {g} (hg : AllTrivia (h :: g)) : isTrivia h.tok = true :=
  hg h (List.mem_cons_self ..)

theorem AllTrivia.append {g g' : List Lexed} (h : AllTrivia g) (h' : AllTrivia g') : AllTrivia (g ++ g') :=
  List.forall_mem_append.mpr ⟨h, h'⟩

theorem AllWs.trivia {g} (h : AllWs g) : AllTrivia g := fun t ht => isTrivia_of_ws (h t ht)

theorem hasNL_eq_any (g : List Lexed) : hasNL g = (g.map (·.tok)).any fun k => decide (k = .newLine) := by
  induction g with
  | nil => rfl
  | cons t r ih => exact congrArg (_ || ·) ih

theorem hasNL_append (a b : List Lexed) : hasNL (a ++ b) = (hasNL a || hasNL b) := by
  rw [hasNL_eq_any, hasNL_eq_any, hasNL_eq_any, List.map_append, List.any_append]

theorem hasNL_of_allWs {g} (h : AllWs g) : hasNL g = false := by
  rw [hasNL_eq_any, List.any_map, List.any_eq_false]
  exact fun t ht => by simpa using ws_ne_nl (h t ht)

theorem GapRel.refl_kinds {g g' : List Lexed} (h : g'.map (·.tok) = g.map (·.tok)) : GapRel g g' :=
  ⟨by rw [hasNL_eq_any, hasNL_eq_any, h], fun _ => h⟩

theorem GapRel.nil : GapRel [] [] := GapRel.refl_kinds rfl

theorem GapRel.of_nl {g g' : List Lexed} (h : hasNL g = true) (h' : hasNL g' = true) : GapRel g g' :=
  ⟨by rw [h, h'], by intro hf; rw [h] at hf; cases hf⟩

theorem GapRel.symm {g g'} (h : GapRel g g') : GapRel g' g :=
  ⟨h.nl.symm, fun hf => (h.same (by rw [← h.nl]; exact hf)).symm⟩

theorem GapRel.trans {a b c} (h : GapRel a b) (h' : GapRel b c) : GapRel a c :=
  ⟨h'.nl.trans h.nl, fun hf => (h'.same (by rw [h.nl]; exact hf)).trans (h.same hf)⟩

theorem GapRel.append {a a' g g' : List Lexed} (h : GapRel a a') (r : GapRel g g') : GapRel (a ++ g) (a' ++ g') := by
  refine ⟨by rw [hasNL_append, hasNL_append, h.nl, r.nl], fun hf => ?_⟩
  rw [hasNL_append, Bool.or_eq_false_iff] at hf
  rw [List.map_append, List.map_append, h.same hf.1, r.same hf.2]

theorem GapRel.eq_nil {g' : List Lexed} (h : GapRel [] g') : g' = [] := by
  have := h.same rfl
  simpa using this

theorem not_allTrivia_split {g : List Lexed} {t : Lexed} {r : List Lexed}
    (h : AllTrivia (g ++ t :: r)) (ht : isTrivia t.tok = false) : False := by
  have := h t (by simp)
  rw [ht] at this
  cases this

theorem peekDecide_eq (ctx : Ctx) (si : Nat) (t : Lexed) (n : Nat) (sl : Bool) :
    peekDecide ctx si t n sl =
      if (sl || (ctx.allowLinebreaks && indentAccepts ctx.expected t.indent si)) = true
      then some ⟨t.tok, n, t⟩ else none := by
  unfold peekDecide
  cases sl <;> cases ctx.allowLinebreaks <;> cases indentAccepts ctx.expected t.indent si <;> rfl

/-! ### the loops in closed form -/

abbrev tv (t : Lexed) : Bool := isTrivia t.tok
abbrev ws (t : Lexed) : Bool := isWhitespace t.tok

/-- Every loop of the cursor layer walks over the longest prefix of the unconsumed tokens that
satisfies `p` (trivia, or `is_whitespace()` tokens for the `*_on_same_line` family); `consume_until_*`
stops there, the current token then being the last token walked over. -/
def skip (p : Lexed → Bool) (c : Cur) : Cur :=
  ⟨(c.rest.takeWhile p).getLastD c.cur, c.rest.dropWhile p⟩

theorem skip_cons_pos {p : Lexed → Bool} {cur t : Lexed} {r : List Lexed} (h : p t = true) :
    skip p ⟨cur, t :: r⟩ = skip p ⟨t, r⟩ := by
  simp only [skip, List.takeWhile_cons_of_pos h, List.dropWhile_cons_of_pos h, List.getLastD_cons]

theorem skip_cons_neg {p : Lexed → Bool} {cur t : Lexed} {r : List Lexed} (h : ¬ p t = true) :
    skip p ⟨cur, t :: r⟩ = ⟨cur, t :: r⟩ := by
  simp only [skip, List.takeWhile_cons_of_neg h, List.dropWhile_cons_of_neg h, List.getLastD_nil]

theorem consumeUntilSameLineLoop_eq (cur : Lexed) (l : List Lexed) :
    consumeUntilSameLineLoop cur l = skip ws ⟨cur, l⟩ := by
  induction l generalizing cur with
  | nil => rfl
  | cons t r ih =>
    unfold consumeUntilSameLineLoop
    by_cases h : isWhitespace t.tok = true
    · rw [if_pos h, ih, skip_cons_pos h]
    · rw [if_neg h, skip_cons_neg h]

theorem consumeSameLineLoop_eq (cur : Lexed) (l : List Lexed) :
    consumeSameLineLoop cur l = consumeToken (skip ws ⟨cur, l⟩) := by
  induction l generalizing cur with
  | nil => rfl
  | cons t r ih =>
    unfold consumeSameLineLoop
    by_cases h : isWhitespace t.tok = true
    · rw [if_pos h, ih, skip_cons_pos h]
    · rw [if_neg h, skip_cons_neg h]; rfl

theorem sameLineLoop_eq (l : List Lexed) (n : Nat) :
    sameLineLoop l n = (l.dropWhile ws).head?.map fun x => (x, n + (l.takeWhile ws).length) := by
  induction l generalizing n with
  | nil => rfl
  | cons t r ih =>
    unfold sameLineLoop
    by_cases h : isWhitespace t.tok = true
    · rw [if_pos h, ih, List.dropWhile_cons_of_pos (p := ws) h, List.takeWhile_cons_of_pos (p := ws) h]
      simp only [List.length_cons, Nat.add_assoc, Nat.add_comm 1]
    · rw [if_neg h, List.dropWhile_cons_of_neg (p := ws) h, List.takeWhile_cons_of_neg (p := ws) h]; rfl

theorem consumeUntilCtxLoop_eq (ctx : Ctx) (sl si : Nat) (cur : Lexed) (l : List Lexed) :
    consumeUntilCtxLoop ctx sl si cur l =
      ((l.dropWhile tv).head?.map fun t => newContext ctx (decide (t.span.start.line > sl)) t.indent si,
        skip tv ⟨cur, l⟩) := by
  induction l generalizing cur with
  | nil => rfl
  | cons t r ih =>
    unfold consumeUntilCtxLoop
    by_cases h : isTrivia t.tok = true
    · rw [if_pos h, ih, skip_cons_pos h, List.dropWhile_cons_of_pos (p := tv) h]
    · rw [if_neg h, skip_cons_neg h, List.dropWhile_cons_of_neg (p := tv) h]; rfl

theorem consumeCtxLoop_eq (ctx : Ctx) (sl si : Nat) (cur : Lexed) (l : List Lexed) :
    consumeCtxLoop ctx sl si cur l =
      ((l.dropWhile tv).head?.map fun t => (t.tok, newContext ctx (decide (t.span.stop.line > sl)) t.indent si),
        (consumeToken (skip tv ⟨cur, l⟩)).2) := by
  induction l generalizing cur with
  | nil => rfl
  | cons t r ih =>
    unfold consumeCtxLoop
    by_cases h : isTrivia t.tok = true
    · rw [if_pos h, ih, skip_cons_pos h, List.dropWhile_cons_of_pos (p := tv) h]
    · rw [if_neg h, skip_cons_neg h, List.dropWhile_cons_of_neg (p := tv) h]; rfl

theorem peekLoop_eq (ctx : Ctx) (si : Nat) (l : List Lexed) (n : Nat) (sl : Bool) :
    peekLoop ctx si l n sl = (l.dropWhile tv).head?.bind fun t =>
      peekDecide ctx si t (n + (l.takeWhile tv).length) (sl && !hasNL (l.takeWhile tv)) := by
  induction l generalizing n sl with
  | nil => rfl
  | cons t r ih =>
    unfold peekLoop
    by_cases h1 : t.tok = .newLine
    · have ht : tv t = true := by rw [tv, h1]; exact isTrivia_newLine
      rw [if_pos h1, ih, List.dropWhile_cons_of_pos ht, List.takeWhile_cons_of_pos ht]
      simp [hasNL, h1, Nat.add_assoc, Nat.add_comm 1]
    · by_cases h2 : isWhitespace t.tok = true
      · have ht : tv t = true := isTrivia_of_ws h2
        rw [if_neg h1, if_pos h2, ih, List.dropWhile_cons_of_pos ht, List.takeWhile_cons_of_pos ht]
        simp [hasNL, h1, Nat.add_assoc, Nat.add_comm 1]
      · have ht : ¬ tv t = true := by simp [tv, isTrivia, h1, h2]
        rw [if_neg h1, if_neg h2, List.dropWhile_cons_of_neg ht, List.takeWhile_cons_of_neg ht]
        simp [hasNL]

theorem consumeUntilSameLine_eq (c : Cur) : consumeUntilNextTokenOnSameLine c = skip ws c :=
  consumeUntilSameLineLoop_eq c.cur c.rest

theorem consumeSameLine_eq (c : Cur) : consumeNextTokenOnSameLine c = consumeToken (skip ws c) :=
  consumeSameLineLoop_eq c.cur c.rest

theorem peekSameLine_eq (c : Cur) : peekNextTokenOnSameLine c = (c.rest.dropWhile ws).head?.map (·.tok) := by
  simp only [peekNextTokenOnSameLine, sameLineLoop_eq, Option.map_map, Function.comp_def]

theorem peekSameLineSpan_eq (c : Cur) :
    peekNextTokenOnSameLineWithSpan c = (c.rest.dropWhile ws).head?.map fun x => (x.tok, x.span) := by
  simp only [peekNextTokenOnSameLineWithSpan, sameLineLoop_eq, Option.map_map, Function.comp_def]

theorem consumeUntilCtx_eq (ctx : Ctx) (c : Cur) :
    consumeUntilTokenWithContext ctx c =
      ((c.rest.dropWhile tv).head?.map fun t =>
          newContext ctx (decide (t.span.start.line > currentLine c)) t.indent (currentIndent c),
        skip tv c) :=
  consumeUntilCtxLoop_eq ctx _ _ c.cur c.rest

theorem consumeCtx_eq (ctx : Ctx) (c : Cur) :
    consumeTokenWithContext ctx c =
      ((c.rest.dropWhile tv).head?.map fun t =>
          (t.tok, newContext ctx (decide (t.span.stop.line > currentLine c)) t.indent (currentIndent c)),
        (consumeToken (skip tv c)).2) :=
  consumeCtxLoop_eq ctx _ _ c.cur c.rest

theorem peekCtx_eq (ctx : Ctx) (c : Cur) :
    peekTokenWithContext ctx c = (c.rest.dropWhile tv).head?.bind fun t =>
      peekDecide ctx c.cur.indent t (c.rest.takeWhile tv).length (!hasNL (c.rest.takeWhile tv)) := by
  simp only [peekTokenWithContext, peekLoop_eq, Nat.zero_add, Bool.true_and]

theorem consumeToken_fst (c : Cur) : (consumeToken c).1 = c.rest.head?.map (·.tok) := by
  unfold consumeToken; cases c.rest <;> rfl

theorem peekToken_eq_head (c : Cur) : peekToken c = c.rest.head?.map (·.tok) := by
  simp only [peekToken, peekTokenN, List.head?_eq_getElem?]

theorem allTrivia_takeWhile (l : List Lexed) : AllTrivia (l.takeWhile tv) :=
  fun x hx => List.all_eq_true.mp (List.all_takeWhile (p := tv) (l := l)) x hx

theorem takeWhile_gap {g : List Lexed} {t : Lexed} {r : List Lexed} (hg : AllTrivia g)
    (ht : isTrivia t.tok = false) :
    (g ++ t :: r).takeWhile tv = g ∧ (g ++ t :: r).dropWhile tv = t :: r := by
  have ht' : ¬ tv t = true := by simp [tv, ht]
  rw [List.takeWhile_append_of_pos hg, List.dropWhile_append_of_pos hg, List.takeWhile_cons_of_neg ht',
    List.dropWhile_cons_of_neg ht', List.append_nil]
  exact ⟨rfl, rfl⟩

theorem takeWhile_allTrivia {g : List Lexed} (hg : AllTrivia g) : g.takeWhile tv = g ∧ g.dropWhile tv = [] := by
  have h1 := List.takeWhile_append_of_pos (p := tv) (l₂ := []) hg
  have h2 := List.dropWhile_append_of_pos (p := tv) (l₂ := []) hg
  simpa using And.intro h1 h2

theorem dropWhile_tv_nil {l : List Lexed} : l.dropWhile tv = [] ↔ AllTrivia l := by
  refine ⟨fun h => ?_, fun h => (takeWhile_allTrivia h).2⟩
  have e := List.takeWhile_append_dropWhile (p := tv) (l := l)
  rw [h, List.append_nil] at e
  exact e ▸ allTrivia_takeWhile l

theorem dropWhile_tv_cons {l : List Lexed} {t : Lexed} {r : List Lexed} (d : l.dropWhile tv = t :: r) :
    isTrivia t.tok = false ∧ l = l.takeWhile tv ++ t :: r := by
  have hn := List.head?_dropWhile_not tv l
  rw [d] at hn
  exact ⟨by simpa using hn, by rw [← d, List.takeWhile_append_dropWhile]⟩

theorem takeWhile_sig {p : Lexed → Bool} {t : Lexed} (r : List Lexed) (ht : p t = false) :
    (t :: r).takeWhile p = [] ∧ (t :: r).dropWhile p = t :: r :=
  ⟨List.takeWhile_cons_of_neg (by simp [ht]), List.dropWhile_cons_of_neg (by simp [ht])⟩

theorem skip_idem (p : Lexed → Bool) (c : Cur) : skip p (skip p c) = skip p c := by
  have h := List.head?_dropWhile_not p c.rest
  unfold skip
  cases e : c.rest.dropWhile p with
  | nil => rfl
  | cons x xs =>
    rw [e] at h
    simp only [takeWhile_sig xs h, List.getLastD_nil]

/-- Up to the first line break the two ways of skipping agree; a gap with a line break stops the
`*_on_same_line` family at its first `NewLine` token. -/
theorem dropWhile_ws (l : List Lexed) :
    (hasNL (l.takeWhile tv) = false → l.takeWhile ws = l.takeWhile tv ∧ l.dropWhile ws = l.dropWhile tv) ∧
    (hasNL (l.takeWhile tv) = true → ∃ x r, l.dropWhile ws = x :: r ∧ x.tok = .newLine) := by
  induction l with
  | nil => simp [hasNL]
  | cons t r ih =>
    by_cases h1 : t.tok = .newLine
    · have ht : tv t = true := by rw [tv, h1]; exact isTrivia_newLine
      have hw : ¬ ws t = true := by rw [ws, h1]; decide
      rw [List.takeWhile_cons_of_pos ht, List.dropWhile_cons_of_neg hw]
      exact ⟨fun h => by simp [hasNL, h1] at h, fun _ => ⟨t, r, rfl, h1⟩⟩
    · by_cases h2 : isWhitespace t.tok = true
      · have ht : tv t = true := isTrivia_of_ws h2
        rw [List.takeWhile_cons_of_pos ht, List.takeWhile_cons_of_pos (p := ws) h2, List.dropWhile_cons_of_pos ht,
          List.dropWhile_cons_of_pos (p := ws) h2]
        simp only [hasNL, h1, decide_false, Bool.false_or]
        exact ⟨fun h => by rw [(ih.1 h).1, (ih.1 h).2]; exact ⟨rfl, rfl⟩, ih.2⟩
      · have ht : ¬ tv t = true := by simp [tv, isTrivia, h1, h2]
        rw [List.takeWhile_cons_of_neg ht, List.takeWhile_cons_of_neg (p := ws) h2, List.dropWhile_cons_of_neg ht,
          List.dropWhile_cons_of_neg (p := ws) h2]
        exact ⟨fun _ => ⟨rfl, rfl⟩, fun h => by simp [hasNL] at h⟩

/-! ### the next significant token

`peek_token_with_context` can only ever answer with one token, whatever the context: the first significant token
after the cursor. The context decides whether it answers. -/

def found (c : Cur) : Option PeekInfo :=
  (c.rest.dropWhile tv).head?.map fun t => ⟨t.tok, (c.rest.takeWhile tv).length, t⟩

/-- the value of `same_line` when the loop of `peek_token_with_context` reaches a significant token: no `NewLine`
token was skipped -/
def onLine (c : Cur) : Bool := !hasNL (c.rest.takeWhile tv)

theorem onLine_iff {c : Cur} : onLine c = true ↔ hasNL (c.rest.takeWhile tv) = false := by
  rw [onLine, Bool.not_eq_true']

def accepts (ctx : Ctx) (c : Cur) (i : PeekInfo) : Bool :=
  onLine c || (ctx.allowLinebreaks && indentAccepts ctx.expected i.info.indent c.cur.indent)

theorem accepts_iff {ctx : Ctx} {c : Cur} {i : PeekInfo} : accepts ctx c i = true ↔
    onLine c = true ∨ ctx.allowLinebreaks = true ∧ indentAccepts ctx.expected i.info.indent c.cur.indent = true := by
  simp only [accepts, Bool.or_eq_true, Bool.and_eq_true]

theorem peekCtx_filter (ctx : Ctx) (c : Cur) : peekTokenWithContext ctx c = (found c).filter (accepts ctx c) := by
  rw [peekCtx_eq, found]
  cases (c.rest.dropWhile tv).head? with
  | none => rfl
  | some t => exact peekDecide_eq ..

theorem peek_some_iff {ctx : Ctx} {c : Cur} {i : PeekInfo} :
    peekTokenWithContext ctx c = some i ↔ found c = some i ∧ accepts ctx c i = true := by
  rw [peekCtx_filter, Option.filter_eq_some_iff]

theorem peek_mono {ctx ctx' : Ctx} {c : Cur} {i : PeekInfo} (h : peekTokenWithContext ctx c = some i)
    (ha : accepts ctx c i = true → accepts ctx' c i = true) : peekTokenWithContext ctx' c = some i :=
  peek_some_iff.mpr ⟨(peek_some_iff.mp h).1, ha (peek_some_iff.mp h).2⟩

theorem found_some {c : Cur} {i : PeekInfo} (h : found c = some i) :
    ∃ g r, c.rest = g ++ i.info :: r ∧ AllTrivia g ∧ isTrivia i.info.tok = false ∧
      i.peekCount = g.length ∧ i.tok = i.info.tok := by
  unfold found at h
  cases d : c.rest.dropWhile tv with
  | nil => rw [d] at h; cases h
  | cons t r =>
    rw [d] at h
    cases h
    exact ⟨_, r, (dropWhile_tv_cons d).2, allTrivia_takeWhile _, (dropWhile_tv_cons d).1, rfl, rfl⟩

/-! ### building `Sim` token by token -/

theorem Sim.prepend {ρ} {a a' l l' : List Lexed} (ha : AllTrivia a) (ha' : AllTrivia a') (hr : GapRel a a')
    (s : Sim ρ l l') : Sim ρ (a ++ l) (a' ++ l') := by
  cases s with
  | done hl hl' r => exact Sim.done (ha.append hl) (ha'.append hl') (hr.append r)
  | @tok _ _ g g' t t' r r' e e' hg1 hg1' gr ht tr s =>
    exact Sim.tok (g := a ++ g) (g' := a' ++ g') (by rw [e, List.append_assoc]) (by rw [e', List.append_assoc])
      (ha.append hg1) (ha'.append hg1') (hr.append gr) ht tr s

theorem Sim.cons_trivia {ρ} {h h' : Lexed} {l l'} (hh : isTrivia h.tok = true) (he : h'.tok = h.tok)
    (s : Sim ρ l l') : Sim ρ (h :: l) (h' :: l') :=
  Sim.prepend (a := [h]) (a' := [h']) (AllTrivia.cons hh AllTrivia.nil) (AllTrivia.cons (he ▸ hh) AllTrivia.nil)
    (GapRel.refl_kinds (congrArg (· :: []) he)) s

theorem Sim.cons_sig {ρ} {t t' : Lexed} {r r'} (ht : isTrivia t.tok = false) (tr : TokRel ρ t t')
    (s : Sim ρ r r') : Sim ρ (t :: r) (t' :: r') :=
  Sim.tok (g := []) (g' := []) rfl rfl AllTrivia.nil AllTrivia.nil GapRel.nil ht tr s

theorem Sim.nil {ρ} : Sim ρ [] [] := Sim.done AllTrivia.nil AllTrivia.nil GapRel.nil

/-- the two lists have the same token kinds; significant tokens keep their indent and have their
lines related by `ρ`; bytes, columns and the bookkeeping of trivia tokens are free -/
inductive Moved (ρ : Nat → Nat → Prop) : List Lexed → List Lexed → Prop
  | nil : Moved ρ [] []
  | cons {t t' l l'} : t'.tok = t.tok → (isTrivia t.tok = false → TokRel ρ t t') → Moved ρ l l' →
      Moved ρ (t :: l) (t' :: l')

theorem Moved.sim {ρ l l'} (m : Moved ρ l l') : Sim ρ l l' := by
  induction m with
  | nil => exact Sim.nil
  | @cons t t' l l' he tr _ ih =>
    cases ht : isTrivia t.tok with
    | true => exact Sim.cons_trivia ht he ih
    | false => exact Sim.cons_sig ht (tr ht) ih

def Fixed (ρ : Nat → Nat → Prop) (pre : List Lexed) : Prop :=
  ∀ t ∈ pre, isTrivia t.tok = false → ρ t.span.start.line t.span.start.line ∧ ρ t.span.stop.line t.span.stop.line

theorem Sim.prefix {ρ pre l l'} (h : Fixed ρ pre) (s : Sim ρ l l') : Sim ρ (pre ++ l) (pre ++ l') := by
  induction pre with
  | nil => exact s
  | cons t p ih =>
    have hp : Fixed ρ p := fun x hx => h x (List.mem_cons_of_mem _ hx)
    cases hs : isTrivia t.tok with
    | true => exact Sim.cons_trivia hs rfl (ih hp)
    | false =>
      have ht := h t (List.mem_cons_self ..) hs
      exact Sim.cons_sig hs ⟨rfl, rfl, ht.1, ht.2⟩ (ih hp)

theorem hasNL_mid (i : List Lexed) {m : Lexed} (g : List Lexed) (hm : m.tok = .newLine) :
    hasNL (i ++ m :: g) = true := by
  simp [hasNL_append, hasNL, hm]

theorem Sim.regap {ρ} {n n' : Lexed} {l l'} (ins ins' : List Lexed) (hn : n.tok = .newLine) (hn' : n'.tok = .newLine)
    (hi : AllTrivia ins) (hi' : AllTrivia ins') (s : Sim ρ l l') :
    Sim ρ (ins ++ n :: l) (ins' ++ n' :: l') := by
  have := Sim.prepend (a := ins ++ [n]) (a' := ins' ++ [n'])
    (hi.append (AllTrivia.cons (hn ▸ isTrivia_newLine) AllTrivia.nil))
    (hi'.append (AllTrivia.cons (hn' ▸ isTrivia_newLine) AllTrivia.nil))
    (GapRel.of_nl (hasNL_mid ins [] hn) (hasNL_mid ins' [] hn')) s
  rwa [List.append_assoc, List.append_assoc] at this

theorem Sim.after_nl {ρ} {n : Lexed} {l l'} (ins : List Lexed) (hn : n.tok = .newLine)
    (hi : AllTrivia ins) (s : Sim ρ l l') : Sim ρ (n :: l) (n :: ins ++ l') := by
  have tn : isTrivia n.tok = true := hn ▸ isTrivia_newLine
  exact Sim.prepend (a := [n]) (a' := n :: ins) (AllTrivia.cons tn AllTrivia.nil) (AllTrivia.cons tn hi)
    (GapRel.of_nl (hasNL_mid [] [] hn) (hasNL_mid [] ins hn)) s

/-! ### `Sim` is symmetric and transitive (deletions, sequences of edits) -/

def conv (ρ : Nat → Nat → Prop) : Nat → Nat → Prop := fun a b => ρ b a
def comp (ρ σ : Nat → Nat → Prop) : Nat → Nat → Prop := fun a c => ∃ b, ρ a b ∧ σ b c

theorem LineRel.conv {ρ} (h : LineRel ρ) : LineRel (conv ρ) :=
  fun a a' b b' ha hb => (h a' a b' b ha hb).symm

theorem LineRel.comp {ρ σ} (h : LineRel ρ) (h' : LineRel σ) : LineRel (comp ρ σ) := by
  intro a a' b b' ⟨x, hax, hxa⟩ ⟨y, hby, hyb⟩
  exact (h a x b y hax hby).trans (h' x a' y b' hxa hyb)

theorem LineRel.eq_iff {ρ} (h : LineRel ρ) {a a' b b'} (ha : ρ a a') (hb : ρ b b') : a = b ↔ a' = b' := by
  have h1 := h a a' b b' ha hb
  have h2 := h b b' a a' hb ha
  omega

theorem TokRel.symm {ρ t t'} (h : TokRel ρ t t') : TokRel (conv ρ) t' t :=
  ⟨h.tok.symm, h.indent.symm, h.startLine, h.stopLine⟩

theorem Sim.symm {ρ l l'} (s : Sim ρ l l') : Sim (conv ρ) l' l := by
  induction s with
  | done hl hl' r => exact Sim.done hl' hl r.symm
  | tok e e' hg hg' r ht tr _ ih => exact Sim.tok e' e hg' hg r.symm (tr.sig ht) tr.symm ih

theorem split_unique {g g' : List Lexed} {t t' : Lexed} {r r' : List Lexed}
    (e : g ++ t :: r = g' ++ t' :: r') (hg : AllTrivia g) (hg' : AllTrivia g')
    (ht : isTrivia t.tok = false) (ht' : isTrivia t'.tok = false) : g = g' ∧ t = t' ∧ r = r' := by
  have h1 := congrArg (List.takeWhile tv) e
  have h2 := congrArg (List.dropWhile tv) e
  rw [(takeWhile_gap hg ht).1, (takeWhile_gap hg' ht').1] at h1
  rw [(takeWhile_gap hg ht).2, (takeWhile_gap hg' ht').2] at h2
  cases h2
  exact ⟨h1, rfl, rfl⟩

theorem TokRel.trans {ρ σ a b c} (h : TokRel ρ a b) (h' : TokRel σ b c) : TokRel (comp ρ σ) a c :=
  ⟨h'.tok.trans h.tok, h'.indent.trans h.indent, ⟨_, h.startLine, h'.startLine⟩, ⟨_, h.stopLine, h'.stopLine⟩⟩

theorem Sim.trans {ρ σ a b c} (s : Sim ρ a b) (s' : Sim σ b c) : Sim (comp ρ σ) a c := by
  induction s generalizing c with
  | done hl hl' r =>
    cases s' with
    | done _ hc r' => exact Sim.done hl hc (r.trans r')
    | tok e _ _ _ _ ht _ _ => subst e; exact (not_allTrivia_split hl' ht).elim
  | tok e e' hg hg' r ht tr _ ih =>
    cases s' with
    | done hb _ _ => subst e'; exact (not_allTrivia_split hb (tr.sig ht)).elim
    | tok e2 e2' hg2 hg2' r2 ht2 tr2 s2 =>
      subst e'
      obtain ⟨e1, e3, e4⟩ := split_unique e2 hg' hg2 (tr.sig ht) ht2
      subst e1; subst e3; subst e4
      exact Sim.tok e e2' hg hg2' (r.trans r2) ht (tr.trans tr2) (ih s2)

/-- `KotoLexer::peek(n)` for every `n` and every queue state: nothing is read past the furthest peek -/
theorem queuePeek_eq (rest : List Lexed) (queued n : Nat) :
    queuePeek rest queued n = (rest[n]?, min (max queued (n + 1)) rest.length) := by
  have e : queued + (n + 1 - queued) = max queued (n + 1) := by omega
  simp only [queuePeek, e, Prod.mk.injEq, and_true]
  split
  · rfl
  · next hn => exact (List.getElem?_eq_none (by omega)).symm

end KotoVerif.C10
