/-
C09: character lists as text — byte lengths, line breaks, byte-offset access (`dropBytes`,
`prefixAt`, `textOf`), and runs of characters of one class (`countWhile`).
-/
import KotoVerif.Model.Lexer

namespace KotoVerif.Lexer

/-- Case analysis on an `if` that is the last argument of the goal, by unification, without rewriting
the goal: `split` and `simp only [h]` traverse the whole goal, which is dear when it contains the body
of `decideDefault` or of a loop iteration. -/
theorem ite_ind {α : Sort _} {motive : α → Prop} {c : Prop} [Decidable c] {a b : α}
    (pos : c → motive a) (neg : ¬ c → motive b) : motive (if c then a else b) := by
  split
  · exact pos ‹_›
  · exact neg ‹_›

theorem ite_le {c : Prop} [Decidable c] {x y m : Nat} (hx : c → x ≤ m) (hy : y ≤ m) :
    (if c then x else y) ≤ m :=
  ite_ind (motive := (· ≤ m)) hx (fun _ => hy)

def nlCount (cs : List Ch) : Nat := (cs.filter (fun c => c.cp = cpNL)).length

@[simp] theorem byteLen_nil : byteLen [] = 0 := rfl
@[simp] theorem byteLen_cons (c : Ch) (cs : List Ch) : byteLen (c :: cs) = c.len + byteLen cs := by
  simp [byteLen]
@[simp] theorem byteLen_append (a b : List Ch) : byteLen (a ++ b) = byteLen a + byteLen b := by
  simp [byteLen]

@[simp] theorem nlCount_nil : nlCount [] = 0 := rfl
theorem nlCount_cons (c : Ch) (cs : List Ch) :
    nlCount (c :: cs) = (if c.cp = cpNL then 1 else 0) + nlCount cs := by
  unfold nlCount
  by_cases h : c.cp = cpNL <;> simp [h] <;> omega
@[simp] theorem nlCount_append (a b : List Ch) : nlCount (a ++ b) = nlCount a + nlCount b := by
  simp [nlCount]
theorem nlCount_eq_zero_iff {t : List Ch} : nlCount t = 0 ↔ ∀ c ∈ t, ¬ c.cp = cpNL := by
  simp [nlCount]

theorem utf8Len_pos (cp : Nat) : 0 < utf8Len cp := by
  unfold utf8Len; split <;> (try split) <;> (try split) <;> omega

theorem Ch.len_pos (c : Ch) : 0 < c.len := utf8Len_pos _

theorem utf8Len_ascii {cp : Nat} (h : cp < 128) : utf8Len cp = 1 := by
  unfold utf8Len; simp [h]

theorem Ch.len_nl {c : Ch} (h : c.cp = cpNL) : c.len = 1 := utf8Len_ascii (by rw [h]; decide)

theorem byteLen_eq_zero {l : List Ch} (h : byteLen l = 0) : l = [] := by
  cases l with
  | nil => rfl
  | cons c cs => have := c.len_pos; simp at h; omega

/-! ### byte offsets -/

theorem prefixAt_append (pre post : List Ch) : prefixAt (byteLen pre) (pre ++ post) = some pre := by
  induction pre with
  | nil => cases post <;> simp [prefixAt]
  | cons c cs ih =>
    have hp := c.len_pos
    have h1 : ¬ (c.len + byteLen cs = 0) := by omega
    have h2 : c.len + byteLen cs - c.len = byteLen cs := by omega
    simp only [List.cons_append, prefixAt, byteLen_cons, h1, Nat.le_add_right, if_true, if_false, h2, ih]
    rfl

theorem prefixAt_spec : ∀ (cs : List Ch) (n : Nat) (pre : List Ch), prefixAt n cs = some pre →
    ∃ post, cs = pre ++ post ∧ byteLen pre = n := by
  intro cs
  induction cs with
  | nil =>
    intro n pre h
    simp only [prefixAt] at h
    split at h
    · cases h; exact ⟨[], rfl, by simp; omega⟩
    · cases h
  | cons c cs ih =>
    intro n pre h
    simp only [prefixAt] at h
    split at h
    · cases h; exact ⟨c :: cs, rfl, by simp; omega⟩
    · split at h
      · simp only [Option.map_eq_some_iff] at h
        obtain ⟨pre', h1, rfl⟩ := h
        obtain ⟨post, e1, e2⟩ := ih _ _ h1
        exact ⟨post, by rw [e1]; rfl, by simp [e2]; omega⟩
      · cases h

/-- `source.get(n..)` is what is left after the prefix `&source[..n]` -/
theorem dropBytes_eq (n : Nat) (cs : List Ch) :
    dropBytes n cs = (prefixAt n cs).map fun pre => cs.drop pre.length := by
  induction cs generalizing n with
  | nil => simp only [dropBytes, prefixAt]; split <;> rfl
  | cons c cs ih =>
    simp only [dropBytes, prefixAt]
    split
    · rfl
    · split
      · rw [ih, Option.map_map]; rfl
      · rfl

theorem dropBytes_spec : ∀ (n : Nat) (src post : List Ch), dropBytes n src = some post →
    ∃ pre, src = pre ++ post ∧ byteLen pre = n := by
  intro n src post h
  rw [dropBytes_eq, Option.map_eq_some_iff] at h
  obtain ⟨pre, hp, rfl⟩ := h
  obtain ⟨post, rfl, hn⟩ := prefixAt_spec _ _ _ hp
  exact ⟨pre, by rw [List.drop_left], hn⟩

theorem dropBytes_append (pre post : List Ch) : dropBytes (byteLen pre) (pre ++ post) = some post := by
  rw [dropBytes_eq, prefixAt_append, Option.map_some, List.drop_left]

theorem prefixAt_eq_some_iff {src pre : List Ch} {n : Nat} :
    prefixAt n src = some pre ↔ ∃ post, src = pre ++ post ∧ byteLen pre = n :=
  ⟨prefixAt_spec src n pre, fun ⟨post, h, hn⟩ => by rw [h, ← hn]; exact prefixAt_append pre post⟩

theorem prefixAt_zero (cs : List Ch) : prefixAt 0 cs = some [] := by
  cases cs <;> simp [prefixAt]

theorem prefixAt_unique {src pre post pre' : List Ch} {n : Nat} (h : src = pre ++ post)
    (hn : byteLen pre = n) (hp : prefixAt n src = some pre') : pre' = pre := by
  rw [h, ← hn, prefixAt_append] at hp
  exact (Option.some.inj hp).symm

/-- the characters between byte offsets `a` and `b` of `src` (`&src[a..b]`) -/
def textOf (src : List Ch) (a b : Nat) : Option (List Ch) :=
  (dropBytes a src).bind (prefixAt (b - a))

theorem textOf_mid (pre t post : List Ch) :
    textOf (pre ++ (t ++ post)) (byteLen pre) (byteLen pre + byteLen t) = some t := by
  unfold textOf
  rw [dropBytes_append, Nat.add_sub_cancel_left]
  exact prefixAt_append t post

theorem findRBrace_spec : ∀ (cs : List Ch) (e : Nat), findRBrace cs = some e →
    ∃ k, k ≤ cs.length ∧ e = byteLen (cs.take k) := by
  intro cs
  induction cs with
  | nil => intro e h; simp [findRBrace] at h
  | cons c cs ih =>
    intro e h
    simp only [findRBrace] at h
    split at h
    · cases h; exact ⟨0, by simp, by simp⟩
    · cases hf : findRBrace cs with
      | none => simp [hf] at h
      | some e' =>
        simp [hf] at h
        obtain ⟨k, h1, h2⟩ := ih e' hf
        exact ⟨k + 1, by simp; omega, by simp [List.take_succ_cons, ← h, h2]; omega⟩

/-! ### runs: `k ≤ countWhile f cs` says that the first `k` characters of `cs` are of class `f` -/

theorem le_countWhile_iff {f : Nat → Bool} : ∀ {cs : List Ch} {k : Nat},
    k ≤ countWhile f cs ↔ k ≤ cs.length ∧ ∀ c ∈ cs.take k, f c.cp = true := by
  intro cs
  induction cs with
  | nil => intro k; simp [countWhile]
  | cons d cs ih =>
    intro k
    cases k with
    | zero => simp
    | succ k =>
      simp only [countWhile, List.take_succ_cons, List.length_cons, List.mem_cons, forall_eq_or_imp]
      by_cases hd : f d.cp = true
      · simp only [hd, if_true, true_and]
        rw [Nat.add_comm 1, Nat.add_le_add_iff_right, Nat.add_le_add_iff_right, ih]
      · simp [hd]

theorem countWhile_le_length (f : Nat → Bool) (cs : List Ch) : countWhile f cs ≤ cs.length :=
  (le_countWhile_iff.mp (Nat.le_refl _)).1

theorem mem_take_countWhile {f : Nat → Bool} {cs : List Ch} {k : Nat} (h : k ≤ countWhile f cs) :
    ∀ c ∈ cs.take k, f c.cp = true :=
  (le_countWhile_iff.mp h).2

theorem countWhile_cons {f : Nat → Bool} {c : Ch} (h : f c.cp = true) (cs : List Ch) :
    countWhile f (c :: cs) = 1 + countWhile f cs := by simp [countWhile, h]

theorem countWhile_mono {f g : Nat → Bool} (h : ∀ cp, f cp = true → g cp = true) (cs : List Ch) :
    countWhile f cs ≤ countWhile g cs :=
  le_countWhile_iff.mpr ⟨countWhile_le_length f cs,
    fun c hc => h _ (mem_take_countWhile (Nat.le_refl _) c hc)⟩

theorem countWhile_drop_add (f : Nat → Bool) (cs : List Ch) (k j : Nat) (hk : k ≤ countWhile f cs)
    (hj : j ≤ countWhile f (cs.drop k)) : k + j ≤ countWhile f cs := by
  obtain ⟨k1, k2⟩ := le_countWhile_iff.mp hk
  obtain ⟨j1, j2⟩ := le_countWhile_iff.mp hj
  refine le_countWhile_iff.mpr ⟨by rw [List.length_drop] at j1; omega, fun c hc => ?_⟩
  rw [List.take_add, List.mem_append] at hc
  exact hc.elim (k2 c) (j2 c)

theorem peekIs_countWhile {f : Nat → Bool} {cs : List Ch} {cp : Nat} (h : peekIs cs cp = true)
    (hf : f cp = true) : 1 ≤ countWhile f cs := by
  cases cs with
  | nil => simp [peekIs] at h
  | cons c cs =>
    simp [peekIs] at h
    simp [countWhile, h, hf]

theorem peekSat_countWhile {f p : Nat → Bool} {cs : List Ch} (h : peekSat cs p = true)
    (hp : ∀ cp, p cp = true → f cp = true) : 1 ≤ countWhile f cs := by
  cases cs with
  | nil => simp [peekSat] at h
  | cons c cs =>
    simp [peekSat] at h
    simp [countWhile, hp _ h]

theorem countWhile_step {f : Nat → Bool} {cs : List Ch} {k cp : Nat} (hk : k ≤ countWhile f cs)
    (h : peekIs (cs.drop k) cp = true) (hf : f cp = true) : k + 1 ≤ countWhile f cs :=
  countWhile_drop_add f cs k 1 hk (peekIs_countWhile h hf)

theorem countWhile_more {f p : Nat → Bool} {cs : List Ch} {k : Nat} (hk : k ≤ countWhile f cs)
    (hp : ∀ cp, p cp = true → f cp = true) : k + countWhile p (cs.drop k) ≤ countWhile f cs :=
  countWhile_drop_add f cs k _ hk (countWhile_mono hp _)

theorem startsWith_countWhile {f : Nat → Bool} : ∀ (pat : List Nat) (cs : List Ch),
    startsWith pat cs = true → (∀ cp ∈ pat, f cp = true) → pat.length ≤ countWhile f cs := by
  intro pat
  induction pat with
  | nil => intro cs _ _; simp
  | cons q qs ih =>
    intro cs h hp
    cases cs with
    | nil => simp [startsWith] at h
    | cons c cs =>
      simp only [startsWith, Bool.and_eq_true, beq_iff_eq] at h
      have hq : f c.cp = true := by rw [h.1]; exact hp q (by simp)
      have := ih cs h.2 (fun cp hcp => hp cp (by simp [hcp]))
      simp [countWhile, hq]; omega

/-! ### plain characters: one byte, no line break -/

def plain (cp : Nat) : Bool := cp < 128 && cp != cpNL

def asciiRun : List Ch → Nat
  | [] => 0
  | c :: cs => if plain c.cp then 1 + asciiRun cs else 0

theorem asciiRun_eq_countWhile (cs : List Ch) : asciiRun cs = countWhile plain cs := by
  induction cs with
  | nil => rfl
  | cons c cs ih => simp only [asciiRun, countWhile, ih]

theorem plain_len {c : Ch} (h : plain c.cp = true) : c.len = 1 := by
  simp [plain] at h
  exact utf8Len_ascii h.1

theorem plain_not_nl {c : Ch} (h : plain c.cp = true) : ¬ c.cp = cpNL := by
  simp [plain] at h
  exact h.2

theorem plain_text {t : List Ch} (h : ∀ c ∈ t, plain c.cp = true) :
    byteLen t = t.length ∧ nlCount t = 0 :=
  ⟨by rw [byteLen, List.map_congr_left fun c hc => plain_len (h c hc), List.map_const',
      List.sum_replicate_nat, Nat.mul_one],
    nlCount_eq_zero_iff.mpr fun c hc => plain_not_nl (h c hc)⟩

theorem take_plain {f : Nat → Bool} (hf : ∀ cp, f cp = true → plain cp = true) {cs : List Ch} {k : Nat}
    (h : k ≤ countWhile f cs) :
    (cs.take k).length = k ∧ byteLen (cs.take k) = k ∧ nlCount (cs.take k) = 0 := by
  have hl : (cs.take k).length = k := by
    have := countWhile_le_length f cs
    simp only [List.length_take]; omega
  have := plain_text (fun c hc => hf _ (mem_take_countWhile h c hc))
  exact ⟨hl, by omega, this.2⟩

theorem next_plain {c : Ch} {cs : List Ch} {b extra : Nat} {p : Pos}
    (h : 1 + extra ≤ asciiRun (c :: cs)) :
    extra ≤ cs.length ∧ b + (1 + extra) = b + byteLen (c :: cs.take extra) ∧
      p.line = p.line + nlCount (c :: cs.take extra) := by
  rw [asciiRun_eq_countWhile, Nat.add_comm] at h
  obtain ⟨a1, a2, a3⟩ := take_plain (fun _ h => h) h
  simp only [List.take_succ_cons] at a1 a2 a3
  simp only [List.length_cons, List.length_take] at a1
  exact ⟨by omega, by omega, by omega⟩

/-! ### `takeWhile` -/

theorem nlCount_takeWhile (q : Ch → Bool) (cs : List Ch) (hq : ∀ c ∈ cs, q c = true → ¬ c.cp = cpNL) :
    nlCount (cs.takeWhile q) = 0 :=
  nlCount_eq_zero_iff.mpr fun c hc =>
    hq c (List.takeWhile_subset q hc) (List.all_eq_true.mp List.all_takeWhile c hc)

end KotoVerif.Lexer
