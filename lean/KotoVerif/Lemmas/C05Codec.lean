/-
Helper lemmas for C05: `Op.all` lists every opcode; the round trip of the var-u32 codec, of the generic
field codec and of `decode ∘ encode`; decoding consumes exactly the bytes it reads, at least one per
field.
-/
import KotoVerif.Model.Decode

namespace KotoVerif.Gen

theorem Op.ctorIdx_lt (op : Op) : op.ctorIdx < opCount := by cases op <;> decide

theorem Op.all_eq : Op.all = (List.range opCount).map Op.ofNat := by decide +kernel

/-- So a fact about all opcodes can be checked on the table (`ofCode_code`, `layout_ne_nil`). -/
theorem Op.mem_all (op : Op) : op ∈ Op.all := by
  rw [Op.all_eq]
  exact List.mem_map.2 ⟨op.ctorIdx, List.mem_range.2 op.ctorIdx_lt, Op.ofNat_ctorIdx op⟩

end KotoVerif.Gen

namespace KotoVerif.Bytecode
open KotoVerif.Gen

/-- `push_var_u32` then `get_var_u32!`, for any remaining fuel, shift and accumulator: the groups of
`n` are added at their shifts, and nothing is lost as long as `n` shifted still fits a `u32`. -/
theorem decodeVarFuel_encodeVarFuel (fuel : Nat) : ∀ (n shift acc : Nat) (r : List Nat),
    n < 128 ^ (fuel + 1) → n * 2 ^ shift < 4294967296 →
    decodeVarFuel (fuel + 1) shift acc (encodeVarFuel (fuel + 1) n ++ r)
      = some (acc + n * 2 ^ shift, (encodeVarFuel (fuel + 1) n).length, r) := by
  induction fuel with
  | zero =>
    intro n shift acc r hn hs
    have h0 : n / 128 = 0 := by omega
    have hm : n % 128 = n := by omega
    simp [encodeVarFuel, decodeVarFuel, h0, hm, Nat.mod_eq_of_lt hs, show n < 128 by omega]
  | succ fuel ih =>
    intro n shift acc r hn hs
    rw [encodeVarFuel]
    by_cases h0 : n / 128 = 0
    · have hm : n % 128 = n := by omega
      simp [decodeVarFuel, h0, hm, Nat.mod_eq_of_lt hs, show n < 128 by omega]
    · have hp : 2 ^ (shift + 7) = 2 ^ shift * 128 := by rw [Nat.pow_add]
      have key : n * 2 ^ shift = n % 128 * 2 ^ shift + n / 128 * (2 ^ shift * 128) := by
        conv => lhs; rw [← Nat.div_add_mod n 128]
        rw [Nat.add_mul, Nat.mul_comm 128, Nat.mul_assoc, Nat.mul_comm 128, Nat.add_comm]
      have hlo : n % 128 * 2 ^ shift % 4294967296 = n % 128 * 2 ^ shift := Nat.mod_eq_of_lt (by omega)
      have hq : n / 128 < 128 ^ (fuel + 1) := by
        rw [Nat.pow_succ] at hn; omega
      have := ih (n / 128) (shift + 7) (acc + n % 128 * 2 ^ shift) r hq (by rw [hp]; omega)
      simp only [if_pos h0, List.cons_append, decodeVarFuel, Nat.add_mod_right, Nat.mod_mod, hlo,
        show ¬ n % 128 + 128 < 128 by omega, if_false, this, List.length_cons]
      rw [hp, key, Nat.add_assoc]

theorem decodeVarN_encodeVar (n : Nat) (r : List Nat) (h : n < 4294967296) :
    decodeVarN (encodeVar n ++ r) = some (n, (encodeVar n).length, r) := by
  simpa [decodeVarN, encodeVar] using decodeVarFuel_encodeVarFuel 4 n 0 0 r (by omega) (by omega)

theorem encodeVar_ne_nil (n : Nat) : encodeVar n ≠ [] := by
  unfold encodeVar encodeVarFuel
  split <;> simp

theorem encodeField_ne_nil (f : Fld) (v : Nat) : encodeField f v ≠ [] := by
  cases f <;> simp [encodeField, encodeU16, encodeVar_ne_nil]

theorem decodeU16_encodeU16 (v : Nat) : decodeU16 (v % 256) (v / 256) = v := Nat.mod_add_div v 256

theorem decodeField_encodeField (f : Fld) (v : Nat) (r : List Nat) (h : fieldOk f v = true) :
    decodeField f (encodeField f v ++ r) = some (v, (encodeField f v).length, r) := by
  cases f with
  | reg | imm => rfl
  | immLt b =>
    have hb : v < b := (of_decide_eq_true (Bool.and_eq_true _ _ ▸ h).2)
    exact if_pos hb
  | var | const k => exact decodeVarN_encodeVar v r (of_decide_eq_true h)
  | off | offBack | size16 =>
    show some (decodeU16 (v % 256) (v / 256), 2, r) = _
    rw [decodeU16_encodeU16]; rfl

theorem fieldsOk_cons (f : Fld) (fs : List Fld) (v : Nat) (vs : List Nat) :
    fieldsOk (f :: fs) (v :: vs) = (fieldOk f v && fieldsOk fs vs) := rfl
theorem encodeFields_cons (f : Fld) (fs : List Fld) (v : Nat) (vs : List Nat) :
    encodeFields (f :: fs) (v :: vs) = encodeField f v ++ encodeFields fs vs := rfl

theorem decodeFields_encodeFields (fs : List Fld) (vs : List Nat) (r : List Nat)
    (h : fieldsOk fs vs = true) :
    decodeFields fs (encodeFields fs vs ++ r) = some (vs, (encodeFields fs vs).length, r) := by
  induction fs generalizing vs with
  | nil =>
    cases vs with
    | nil => rfl
    | cons v vs => cases h
  | cons f fs ih =>
    cases vs with
    | nil => cases h
    | cons v vs =>
      rw [fieldsOk_cons, Bool.and_eq_true] at h
      rw [encodeFields_cons, List.append_assoc, decodeFields, decodeField_encodeField f v _ h.1]
      simp only [ih vs h.2, List.length_append]

theorem fieldsOk_append (fs1 fs2 : List Fld) (vs : List Nat) (h : fieldsOk (fs1 ++ fs2) vs = true) :
    fieldsOk fs1 (vs.take fs1.length) = true ∧ fieldsOk fs2 (vs.drop fs1.length) = true
    ∧ encodeFields (fs1 ++ fs2) vs
      = encodeFields fs1 (vs.take fs1.length) ++ encodeFields fs2 (vs.drop fs1.length) := by
  induction fs1 generalizing vs with
  | nil => exact ⟨rfl, h, rfl⟩
  | cons f fs ih =>
    cases vs with
    | nil => cases h
    | cons v vs =>
      rw [List.cons_append, fieldsOk_cons, Bool.and_eq_true] at h
      obtain ⟨i1, i2, i3⟩ := ih vs h.2
      refine ⟨?_, i2, ?_⟩
      · rw [List.length_cons, List.take_succ_cons, fieldsOk_cons, h.1, i1]; rfl
      · rw [List.cons_append, encodeFields_cons, i3, List.length_cons, List.take_succ_cons, encodeFields_cons,
          List.drop_succ_cons, List.append_assoc]

theorem ofCode_code (op : Op) : Op.ofCode op.code = some op :=
  (by decide +kernel : ∀ op ∈ Op.all, Op.ofCode op.code = some op) op op.mem_all

theorem layout_ne_nil (op : Op) : layout op ≠ [] :=
  (by decide +kernel : ∀ op ∈ Op.all, layout op ≠ []) op op.mem_all

theorem encodeFields_ne_nil (fs : List Fld) (vs : List Nat) (hfs : fs ≠ []) (h : fieldsOk fs vs = true) :
    encodeFields fs vs ≠ [] := by
  cases fs with
  | nil => exact absurd rfl hfs
  | cons f fs =>
    cases vs with
    | nil => cases h
    | cons v vs =>
      rw [encodeFields_cons]
      exact fun he => encodeField_ne_nil f v (List.append_eq_nil_iff.1 he).1

theorem decode_encode (i : Instr) (r : List Nat) (h : i.valid = true) :
    decode (encode i ++ r) = .ok i (encode i).length r := by
  obtain ⟨op, args⟩ := i
  unfold Instr.valid Instr.fields Instr.staticArgs at h
  simp only at h
  obtain ⟨hs1, hs2, he⟩ := fieldsOk_append _ _ _ h
  have hne : encodeFields (layout op) (args.take (layout op).length) ≠ [] :=
    encodeFields_ne_nil _ _ (layout_ne_nil op) hs1
  unfold encode Instr.fields Instr.staticArgs
  simp only [he]
  obtain ⟨b, bs, hb⟩ := List.exists_cons_of_ne_nil hne
  have h1 := decodeFields_encodeFields (layout op) (args.take (layout op).length)
    (encodeFields (tailLayout op (args.take (layout op).length)) (args.drop (layout op).length) ++ r) hs1
  have h2 := decodeFields_encodeFields (tailLayout op (args.take (layout op).length))
    (args.drop (layout op).length) r hs2
  rw [hb] at h1
  simp only [List.cons_append, List.append_assoc] at h1 ⊢
  rw [hb]
  simp only [List.cons_append, decode, ofCode_code, h1, h2, List.take_append_drop, List.length_cons,
    List.length_append]
  congr 1
  omega

/-! ### progress: decoding consumes exactly the first `n ≥ 1` bytes (`size ≥ 2` for an instruction) -/

theorem decodeVarFuel_len (fuel shift acc : Nat) (bs : List Nat) (v n : Nat) (r : List Nat)
    (h : decodeVarFuel fuel shift acc bs = some (v, n, r)) :
    1 ≤ n ∧ bs.length = n + r.length ∧ r = bs.drop n := by
  induction fuel generalizing shift acc bs v n r with
  | zero => cases h
  | succ fuel ih =>
    cases bs with
    | nil => cases h
    | cons b rest =>
      rw [decodeVarFuel] at h
      split at h
      · cases h
        exact ⟨Nat.le_refl _, Nat.add_comm _ _, rfl⟩
      · split at h
        · rename_i v' n' r' heq
          cases h
          obtain ⟨_, h2, h3⟩ := ih _ _ _ _ _ _ heq
          exact ⟨Nat.le_add_left _ _, by rw [List.length_cons, h2, Nat.add_right_comm], h3⟩
        · cases h

theorem decodeField_len (f : Fld) (bs : List Nat) (v n : Nat) (r : List Nat)
    (h : decodeField f bs = some (v, n, r)) : 1 ≤ n ∧ bs.length = n + r.length ∧ r = bs.drop n := by
  -- the alternatives of `decodeField`, in its order
  unfold decodeField at h
  split at h
  case h_1 | h_2 => cases h; exact ⟨Nat.le_refl _, Nat.add_comm _ _, rfl⟩
  case h_3 => split at h <;> cases h; exact ⟨Nat.le_refl _, Nat.add_comm _ _, rfl⟩
  case h_4 | h_5 => exact decodeVarFuel_len _ _ _ _ _ _ _ h
  case h_9 => cases h
  all_goals cases h; exact ⟨by decide, Nat.add_comm _ 2, rfl⟩

theorem decodeFields_len (fs : List Fld) (bs : List Nat) (vs : List Nat) (n : Nat) (r : List Nat)
    (h : decodeFields fs bs = some (vs, n, r)) :
    fs.length ≤ n ∧ bs.length = n + r.length ∧ vs.length = fs.length ∧ r = bs.drop n := by
  induction fs generalizing bs vs n r with
  | nil => cases h; exact ⟨Nat.le_refl _, (Nat.zero_add _).symm, rfl, rfl⟩
  | cons f fs ih =>
    rw [decodeFields] at h
    split at h
    · cases h
    · rename_i v k r1 h1
      split at h
      · cases h
      · rename_i vs' m r2 h2
        cases h
        obtain ⟨a1, a2, a3⟩ := decodeField_len _ _ _ _ _ h1
        obtain ⟨b1, b2, b3, b4⟩ := ih _ _ _ _ h2
        refine ⟨by simp only [List.length_cons]; omega, by omega, by simp only [List.length_cons, b3], ?_⟩
        rw [b4, a3, List.drop_drop]

theorem decode_len (bs : List Nat) (i : Instr) (size : Nat) (rest : List Nat)
    (h : decode bs = .ok i size rest) : 2 ≤ size ∧ bs.length = size + rest.length ∧ rest = bs.drop size := by
  match bs, h with
  | [], h => cases h
  | [_], h => cases h
  | opb :: b :: bs', h =>
    rw [decode] at h
    split at h
    · cases h
    · rename_i op _
      split at h
      · cases h
      · rename_i args n r1 h1
        split at h
        · cases h
        · rename_i targs m r2 h2
          cases h
          obtain ⟨a1, a2, _, a4⟩ := decodeFields_len _ _ _ _ _ h1
          obtain ⟨_, b2, _, b4⟩ := decodeFields_len _ _ _ _ _ h2
          have c : 1 ≤ (layout op).length := List.length_pos_iff.2 (layout_ne_nil op)
          refine ⟨by omega, by simp only [List.length_cons] at a2 ⊢; omega, ?_⟩
          rw [b4, a4, List.drop_drop, show 1 + n + m = (n + m) + 1 by omega, List.drop_succ_cons]

end KotoVerif.Bytecode
