/-
C14 — keys that are equal hash equally (the property restored by fix 7e76332), hence the hashed
`IndexMap` probe and the spec-level lookup coincide for *all* keys.
-/
import KotoVerif.Model.Equal
import KotoVerif.Lemmas.C14Equal
import KotoVerif.Lemmas.C14Map

namespace KotoVerif
namespace Equal
open OMap

/-- what the hash theorem assumes about IEEE-754 doubles (evaluated for the driver's `Float` on the
pool in every run): equal doubles truncate to the same integer, `==` is a congruence for `==`, and two
equal doubles with different bit patterns (that is `0.0` / `-0.0`) are integral -/
structure HashLaws (F : FloatOps) : Prop where
  toInt_congr : ∀ a b, F.eq a b = true → F.toInt a = F.toInt b
  eq_congr : ∀ a b c, F.eq a b = true → F.eq c a = F.eq c b
  bits_or_integral : ∀ a b, F.eq a b = true → a = b ∨ F.eq (F.ofInt (F.toInt a)) a = true

theorem F0_hashLaws : HashLaws F0 where
  toInt_congr a b h := congrArg F0.toInt (eq_of_beq h : a = b)
  eq_congr _ _ c h := congrArg (F0.eq c) (eq_of_beq h)
  bits_or_integral _ _ h := Or.inl (eq_of_beq h)

theorem floatHashWord_congr {F : FloatOps} (hH : HashLaws F) (a b : UInt64) (h : F.eq a b = true) :
    floatHashWord F a = floatHashWord F b := by
  unfold floatHashWord
  rw [hH.toInt_congr a b h]
  rw [hH.eq_congr a b (F.ofInt (F.toInt b)) h]
  split
  · rfl
  · rename_i hne
    rcases hH.bits_or_integral a b h with e | e
    · exact e
    · rw [hH.toInt_congr a b h, hH.eq_congr a b _ h] at e
      exact absurd e hne

theorem numHashWord_congr {F : FloatOps} (hH : HashLaws F) (a b : Num) (h : Num.eq F a b = true) :
    numHashWord F a = numHashWord F b := by
  unfold numHashWord
  cases a with
  | i x =>
    cases b with
    | i y =>
      have : x = y := by simpa [Num.eq] using h
      rw [this]
    | f y => exact floatHashWord_congr hH _ _ (by simpa [Num.eq, Num.toF] using h)
  | f x =>
    cases b with
    | i y => exact floatHashWord_congr hH _ _ (by simpa [Num.eq, Num.toF] using h)
    | f y => exact floatHashWord_congr hH _ _ (by simpa [Num.eq, Num.toF] using h)

theorem keyEq_hashStream_rules {F : FloatOps} (hH : HashLaws F) :
    KeyEqRules F (fun a b => hashStream F a = hashStream F b)
      (fun xs ys => hashStreamList F xs = hashStreamList F ys) where
  null := rfl
  bool _ := rfl
  num x y e := congrArg (fun w => [w]) (numHashWord_congr hH x y e)
  str _ := rfl
  range _ _ := rfl
  tuple _ _ e := e
  nil := rfl
  cons x y xs ys e1 e2 := by
    show hashStream F x ++ hashStreamList F xs = hashStream F y ++ hashStreamList F ys
    rw [e1, e2]

theorem keyEq_hashStream {F : FloatOps} (hH : HashLaws F) (a b : Val) (h : keyEq F a b = true) :
    hashStream F a = hashStream F b :=
  keyEq_rel (keyEq_hashStream_rules hH) a b h

theorem keyEqList_hashStream {F : FloatOps} (hH : HashLaws F) :
    ∀ (xs ys : List Val), keyEqList F xs ys = true → hashStreamList F xs = hashStreamList F ys :=
  keyEqList_rel (keyEq_hashStream_rules hH)

theorem keyEq_hashEq {F : FloatOps} (hH : HashLaws F) (a b : Val) (h : keyEq F a b = true) :
    hashEq F a b = true := by
  simp [hashEq, keyEq_hashStream hH a b h]

theorem keyEqH_eq_keyEq {F : FloatOps} (hH : HashLaws F) (a b : Val) : keyEqH F a b = keyEq F a b :=
  keyEqH_eq_keyEq_of (keyEq_hashEq hH a b)

theorem getMatch_eq_keyEq {F : FloatOps} (hH : HashLaws F) (n : Nat) : getMatch F n = keyEq F := by
  unfold getMatch
  split
  · rfl
  · funext a b; exact keyEqH_eq_keyEq hH a b

end Equal
end KotoVerif
