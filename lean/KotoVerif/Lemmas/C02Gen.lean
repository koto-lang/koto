/-
Generators (C02): `next` (run to the next yield) against the straight-through
run of the same machine, and the consumers (`for`, `to_tuple`/`take`) as projections of one trace.
-/
import KotoVerif.Model.Gen

namespace KotoVerif.C02
open KotoVerif.Gen

/-- the machine has nothing left to run (the body has returned) -/
def Halted (c : Cfg) : Prop := step c = none

theorem run_zero (c : Cfg) : run 0 c = ([], c) := rfl

theorem run_succ_none (n : Nat) (c : Cfg) (h : step c = none) : run (n + 1) c = ([], c) := by
  simp [run, h]

theorem run_succ_some (n : Nat) (c c' : Cfg) (ev : Option Event) (h : step c = some (ev, c')) :
    run (n + 1) c = (ev.toList ++ (run n c').1, (run n c').2) := by
  simp [run, h]

theorem run_halted (n : Nat) (c : Cfg) (h : Halted c) : run n c = ([], c) := by
  cases n with
  | zero => rfl
  | succ n => exact run_succ_none n c h

theorem run_add (a b : Nat) (c : Cfg) :
    run (a + b) c = ((run a c).1 ++ (run b (run a c).2).1, (run b (run a c).2).2) := by
  induction a generalizing c with
  | zero => simp [run]
  | succ a ih =>
    have e : a + 1 + b = (a + b) + 1 := by omega
    rw [e]
    cases hs : step c with
    | none =>
      rw [run_succ_none _ _ hs, run_succ_none _ _ hs]
      simp [run_halted b c hs]
    | some p =>
      obtain ⟨ev, c'⟩ := p
      rw [run_succ_some _ _ _ _ hs, run_succ_some _ _ _ _ hs, ih c']
      simp [List.append_assoc]

/-- An answer of `next` against the straight-through run of the same machine: it ran through emits
only, and then either executed exactly one `yield` and is paused right after it, or the body has
returned. -/
theorem next_run (n : Nat) (c : Cfg) :
    match next n c with
    | .yielded es v c' _ => ∃ k, run k c = (es.map Event.emit ++ [Event.yield v], c')
    | .finished es c' => ∃ k, run k c = (es.map Event.emit, c') ∧ Halted c'
    | .outOfFuel _ _ => True := by
  induction n generalizing c with
  | zero => trivial
  | succ n ih =>
    unfold next
    cases hs : step c with
    | none => exact ⟨0, rfl, hs⟩
    | some p =>
      obtain ⟨ev, c1⟩ := p
      have ih1 := ih c1
      cases ev with
      | none =>
        simp only []
        cases hn : next n c1 with
        | yielded es v c' m =>
          simp only [hn] at ih1 ⊢
          obtain ⟨k, hk⟩ := ih1
          exact ⟨k + 1, by rw [run_succ_some _ _ _ _ hs, hk]; rfl⟩
        | finished es c' =>
          simp only [hn] at ih1 ⊢
          obtain ⟨k, hk, hh⟩ := ih1
          exact ⟨k + 1, by rw [run_succ_some _ _ _ _ hs, hk]; rfl, hh⟩
        | outOfFuel es c' => trivial
      | some e =>
        cases e with
        | yield w => exact ⟨1, by rw [run_succ_some _ _ _ _ hs]; rfl⟩
        | emit w =>
          simp only []
          cases hn : next n c1 with
          | yielded es v c' m =>
            simp only [hn] at ih1 ⊢
            obtain ⟨k, hk⟩ := ih1
            exact ⟨k + 1, by rw [run_succ_some _ _ _ _ hs, hk]; rfl⟩
          | finished es c' =>
            simp only [hn] at ih1 ⊢
            obtain ⟨k, hk, hh⟩ := ih1
            exact ⟨k + 1, by rw [run_succ_some _ _ _ _ hs, hk]; rfl, hh⟩
          | outOfFuel es c' => trivial

theorem next_yielded (n : Nat) (c : Cfg) (es : List Int64) (v : Int64) (c' : Cfg) (m : Nat)
    (h : next n c = .yielded es v c' m) :
    ∃ k, run k c = (es.map Event.emit ++ [Event.yield v], c') := by
  have := next_run n c
  rwa [h] at this

theorem next_finished (n : Nat) (c : Cfg) (es : List Int64) (c' : Cfg)
    (h : next n c = .finished es c') :
    ∃ k, run k c = (es.map Event.emit, c') ∧ Halted c' := by
  have := next_run n c
  rwa [h] at this

theorem next_after_end (n : Nat) (c : Cfg) (h : Halted c) : next (n + 1) c = .finished [] c := by
  unfold next
  simp [show step c = none from h]

theorem interleave_append (a b : List Event) : interleave (a ++ b) = interleave a ++ interleave b := by
  induction a with
  | nil => rfl
  | cons e a ih => cases e <;> simp [interleave, ih]

theorem interleave_emits (es : List Int64) : interleave (es.map Event.emit) = es.map T.g := by
  induction es with
  | nil => rfl
  | cons e es ih => simp [interleave, ih]

theorem yields_append (a b : List Event) : yields (a ++ b) = yields a ++ yields b := by
  induction a with
  | nil => rfl
  | cons e a ih => cases e <;> simp [yields, ih]

theorem yields_emits (es : List Int64) : yields (es.map Event.emit) = [] := by
  induction es with
  | nil => rfl
  | cons e es ih => simp [yields, ih]

def emitsOf : List Event → List Int64
  | [] => []
  | .emit v :: r => v :: emitsOf r
  | .yield _ :: r => emitsOf r

theorem emitsOf_append (a b : List Event) : emitsOf (a ++ b) = emitsOf a ++ emitsOf b := by
  induction a with
  | nil => rfl
  | cons e a ih => cases e <;> simp [emitsOf, ih]

theorem emitsOf_emits (es : List Int64) : emitsOf (es.map Event.emit) = es := by
  induction es with
  | nil => rfl
  | cons e es ih => simp [emitsOf, ih]

end KotoVerif.C02

/-! ## consumers

The trace of the `for` consumer is the master: `to_tuple`/`take k` is that trace seen through the two
projections `gpart`, `cvals` (`consumeAll_eq`), and the trace itself is the interleaving of a
straight-through run (`consumeFor_interleave`). -/

namespace KotoVerif.C02Ext
open KotoVerif.Gen KotoVerif.C02

theorem next_add_fuel (n j : Nat) (c : Cfg) :
    match next n c with
    | .yielded es v c' m => next (n + j) c = .yielded es v c' (m + j)
    | .finished es c' => next (n + j) c = .finished es c'
    | .outOfFuel _ _ => True := by
  induction n generalizing c with
  | zero => trivial
  | succ n ih =>
    rw [show n + 1 + j = (n + j) + 1 by omega]
    unfold next
    cases hs : step c with
    | none => rfl
    | some p =>
      obtain ⟨ev, c1⟩ := p
      have ih1 := ih c1
      cases ev with
      | none => exact ih1
      | some e =>
        cases e with
        | yield w => rfl
        | emit w =>
          simp only []
          cases hn : next n c1 with
          | yielded es v c' m => simp only [hn] at ih1 ⊢; rw [ih1]
          | finished es c' => simp only [hn] at ih1 ⊢; rw [ih1]
          | outOfFuel es c' => trivial

/-- the values the consumer received -/
def cvals : List T → List Int64
  | [] => []
  | .c v :: r => v :: cvals r
  | _ :: r => cvals r

/-- everything except the consumer's values (generator emits, end and fuel markers) -/
def gpart : List T → List T
  | [] => []
  | .c _ :: r => gpart r
  | t :: r => t :: gpart r

theorem cvals_append (a b : List T) : cvals (a ++ b) = cvals a ++ cvals b := by
  induction a with
  | nil => rfl
  | cons t r ih => cases t <;> simp [cvals, ih]

theorem gpart_append (a b : List T) : gpart (a ++ b) = gpart a ++ gpart b := by
  induction a with
  | nil => rfl
  | cons t r ih => cases t <;> simp [gpart, ih]

theorem cvals_g (es : List Int64) : cvals (es.map T.g) = [] := by
  induction es with
  | nil => rfl
  | cons e r ih => simp [cvals, ih]

theorem gpart_g (es : List Int64) : gpart (es.map T.g) = es.map T.g := by
  induction es with
  | nil => rfl
  | cons e r ih => simp [gpart, ih]

theorem fuel_mem_gpart (tr : List T) : T.fuel ∈ gpart tr ↔ T.fuel ∈ tr := by
  induction tr with
  | nil => rfl
  | cons t r ih => cases t <;> simp [gpart, ih]

theorem cvals_interleave (evs : List Event) : cvals (interleave evs) = yields evs := by
  induction evs with
  | nil => rfl
  | cons e r ih => cases e <;> simp [interleave, cvals, yields, ih]

theorem gpart_interleave (evs : List Event) : gpart (interleave evs) = (emitsOf evs).map T.g := by
  induction evs with
  | nil => rfl
  | cons e r ih => cases e <;> simp [interleave, gpart, emitsOf, ih]

theorem consumeFor_succ (n : Nat) (limit : Option Nat) (c : Cfg) (hl : limit ≠ some 0) :
    consumeFor (n + 1) limit c =
      match next (n + 1) c with
      | .yielded es v c' _ => es.map T.g ++ [T.c v] ++ consumeFor n (limit.map (· - 1)) c'
      | .finished es _ => es.map T.g
      | .outOfFuel es _ => es.map T.g ++ [.fuel] := by
  cases limit with
  | none =>
    simp only [consumeFor]
    cases next (n + 1) c <;> rfl
  | some k =>
    cases k with
    | zero => exact absurd rfl hl
    | succ k =>
      simp only [consumeFor]
      cases next (n + 1) c <;> rfl

theorem consumeAll_succ (n : Nat) (limit : Option Nat) (c : Cfg) (hl : limit ≠ some 0) :
    consumeAll (n + 1) limit c =
      match next (n + 1) c with
      | .yielded es v c' _ =>
        (es.map T.g ++ (consumeAll n (limit.map (· - 1)) c').1, v :: (consumeAll n (limit.map (· - 1)) c').2)
      | .finished es _ => (es.map T.g, [])
      | .outOfFuel es _ => (es.map T.g ++ [.fuel], []) := by
  cases limit with
  | none =>
    simp only [consumeAll]
    cases next (n + 1) c <;> rfl
  | some k =>
    cases k with
    | zero => exact absurd rfl hl
    | succ k =>
      simp only [consumeAll]
      cases next (n + 1) c <;> rfl

theorem consumeAll_eq (n : Nat) (limit : Option Nat) (c : Cfg) :
    consumeAll n limit c = (gpart (consumeFor n limit c), cvals (consumeFor n limit c)) := by
  induction n generalizing limit c with
  | zero => rfl
  | succ n ih =>
    by_cases hl : limit = some 0
    · subst hl
      rfl
    · rw [consumeFor_succ n limit c hl, consumeAll_succ n limit c hl]
      cases next (n + 1) c with
      | yielded es v c' m => simp [ih, cvals_append, gpart_append, cvals_g, gpart_g, cvals, gpart]
      | finished es c' => simp [cvals_g, gpart_g]
      | outOfFuel es c' => simp [cvals_append, gpart_append, cvals_g, gpart_g, cvals, gpart]

end KotoVerif.C02Ext

namespace KotoVerif.C02
open KotoVerif.Gen KotoVerif.C02Ext

/-- The `for` consumer, with or without `break` after `limit` values: whenever the step budget
suffices, its trace is the interleaving of some straight-through run of the body, and without a limit
that run has reached the point where the body returned. -/
theorem consumeFor_interleave (n : Nat) (limit : Option Nat) (c : Cfg)
    (h : T.fuel ∉ consumeFor n limit c) :
    ∃ k, consumeFor n limit c = interleave (run k c).1 ∧ (limit = none → Halted (run k c).2) := by
  induction n generalizing limit c with
  | zero => simp [consumeFor] at h
  | succ n ih =>
    by_cases hl : limit = some 0
    · subst hl
      exact ⟨0, rfl, nofun⟩
    · rw [consumeFor_succ n limit c hl] at h ⊢
      cases hn : next (n + 1) c with
      | yielded es v c' m =>
        simp only [hn] at h ⊢
        obtain ⟨k2, hk2, hh⟩ := ih (limit.map (· - 1)) c' (by intro hm; apply h; simp [hm])
        obtain ⟨k1, hk1⟩ := next_yielded _ _ _ _ _ _ hn
        refine ⟨k1 + k2, ?_, fun hl => ?_⟩
        · rw [run_add, hk1]
          simp [interleave_append, interleave_emits, interleave, hk2]
        · rw [run_add, hk1]; exact hh (by simp [hl])
      | finished es c' =>
        obtain ⟨k, hk, hh⟩ := next_finished _ _ _ _ hn
        exact ⟨k, by simp [hk, interleave_emits], fun _ => by rw [hk]; exact hh⟩
      | outOfFuel es c' => simp [hn] at h

end KotoVerif.C02
