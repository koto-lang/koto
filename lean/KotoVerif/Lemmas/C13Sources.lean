/-
C13: the sources. Forward-only cursors (`string.bytes`, generator, `@next` object, `repeat n`) denote
the rest of their sequence (`Fwd`); the cursor pairs (list / tuple / map, host bytes, object with
`@next` and `@next_back`), strings and ranges denote it from both ends (`Deq`).
-/
import KotoVerif.Lemmas.C13Fwd

namespace KotoVerif.Iter

/-! ### forward cursors -/

theorem cursor_fwd {c : Co} {xs : List Val} (pos : c.σ → Nat)
    (hout : ∀ s, (c.next s).out = xs[pos s]?)
    (hlt : ∀ s, pos s < xs.length → pos (c.next s).st = pos s + 1)
    (hge : ∀ s, xs.length ≤ pos s → pos (c.next s).st = pos s)
    (s : c.σ) : Fwd c s (xs.drop (pos s)) := by
  refine fwd_coind (fun s ys => ys = xs.drop (pos s)) (fun s ys h => ?_) rfl
  subst h
  refine ⟨by rw [hout, List.head?_drop], ?_⟩
  rw [List.tail_drop]
  by_cases h : pos s < xs.length
  · rw [hlt s h]
  · have hle := Nat.le_of_not_lt h
    rw [hge s hle, List.drop_of_length_le hle, List.drop_of_length_le (Nat.le_succ_of_le hle)]

theorem fwdCo_fwd (xs : List Val) (i : Nat) : Fwd (fwdCo xs) i (xs.drop i) := by
  refine cursor_fwd (c := fwdCo xs) (fun i => i) (fun (i : Nat) => ?_) (fun (i : Nat) h => ?_)
    (fun (i : Nat) h => ?_) i
  · simp only [fwdCo]; cases xs[i]? <;> rfl
  · simp only [fwdCo, List.getElem?_eq_getElem h]
  · simp only [fwdCo, List.getElem?_eq_none h]

theorem genCo_next_lt (k : Nat) {xs : List Val} {s : Nat × Bool} (h : s.1 < xs.length) :
    (genCo k xs).next s = ⟨some xs[s.1], (s.1 + 1, false), [Ev.pull k s.1]⟩ := by
  simp only [genCo, List.getElem?_eq_getElem h]

theorem genCo_next_ge (k : Nat) {xs : List Val} {s : Nat × Bool} (h : xs.length ≤ s.1) :
    (genCo k xs).next s = if s.2 then ⟨none, s, []⟩ else ⟨none, (s.1, true), [Ev.done k]⟩ := by
  simp only [genCo, List.getElem?_eq_none h]

theorem gen_fwd (k : Nat) (xs : List Val) (i : Nat) (b : Bool) : Fwd (genCo k xs) (i, b) (xs.drop i) := by
  refine cursor_fwd (c := genCo k xs) (fun s => s.1) (fun (s : Nat × Bool) => ?_)
    (fun (s : Nat × Bool) h => ?_) (fun (s : Nat × Bool) h => ?_) (i, b)
  · by_cases h : s.1 < xs.length
    · rw [genCo_next_lt k h, List.getElem?_eq_getElem h]
    · rw [genCo_next_ge k (Nat.le_of_not_lt h), List.getElem?_eq_none (Nat.le_of_not_lt h)]; split <;> rfl
  · rw [genCo_next_lt k h]
  · rw [genCo_next_ge k h]; split <;> rfl

theorem metaCo_next_lt (k : Nat) {xs : List Val} {i : Nat} (h : i < xs.length) :
    (metaCo k xs).next i = ⟨some xs[i], (i + 1 : Nat), [Ev.pull k i]⟩ := by
  simp only [metaCo, List.getElem?_eq_getElem h]

theorem metaCo_next_ge (k : Nat) {xs : List Val} {i : Nat} (h : xs.length ≤ i) :
    (metaCo k xs).next i = ⟨none, i, [Ev.pull k i]⟩ := by
  simp only [metaCo, List.getElem?_eq_none h]

theorem meta_fwd (k : Nat) (xs : List Val) (i : Nat) : Fwd (metaCo k xs) i (xs.drop i) := by
  refine cursor_fwd (c := metaCo k xs) (fun i => i) (fun (i : Nat) => ?_) (fun (i : Nat) h => ?_)
    (fun (i : Nat) h => ?_) i
  · by_cases h : i < xs.length
    · rw [metaCo_next_lt k h, List.getElem?_eq_getElem h]
    · rw [metaCo_next_ge k (Nat.le_of_not_lt h), List.getElem?_eq_none (Nat.le_of_not_lt h)]
  · rw [metaCo_next_lt k h]
  · rw [metaCo_next_ge k h]

theorem rep_fwd (v : Val) (n : Nat) : Fwd (repCo v) n (List.replicate n v) := by
  refine fwd_coind (c := repCo v) (fun n ys => ys = List.replicate n v) (fun (n : Nat) ys h => ?_) rfl
  subst h
  cases n <;> exact ⟨rfl, rfl⟩

/-! ### double-ended cursors -/

def slice (xs : List Val) (i j : Nat) : List Val := (xs.take j).drop i

theorem slice_head? {xs : List Val} {i j : Nat} :
    (slice xs i j).head? = if i < j then xs[i]? else none := by
  rw [slice, List.head?_drop, List.getElem?_take]

theorem slice_tail {xs : List Val} {i j : Nat} : (slice xs i j).tail = slice xs (i + 1) j := List.tail_drop

theorem slice_getLast? {xs : List Val} {i j : Nat} (hj : j ≤ xs.length) :
    (slice xs i j).getLast? = if i < j then xs[j - 1]? else none := by
  rw [slice, List.getLast?_drop, List.getLast?_take, List.length_take, Nat.min_eq_left hj]
  by_cases h : i < j
  · have hj0 : j ≠ 0 := Nat.ne_of_gt (Nat.lt_of_le_of_lt (Nat.zero_le i) h)
    have hlt : j - 1 < xs.length := Nat.lt_of_lt_of_le (Nat.sub_lt (Nat.pos_of_ne_zero hj0) Nat.one_pos) hj
    rw [if_neg (Nat.not_le_of_lt h), if_neg hj0, if_pos h, List.getElem?_eq_getElem hlt]; rfl
  · rw [if_pos (Nat.le_of_not_lt h), if_neg h]

theorem dropLast_drop (l : List Val) (i : Nat) : (l.drop i).dropLast = l.dropLast.drop i := by
  rw [List.dropLast_eq_take, List.dropLast_eq_take, List.drop_take, List.length_drop, Nat.sub_right_comm]

theorem dropLast_take_of_le {xs : List Val} {j : Nat} (hj : j ≤ xs.length) :
    (xs.take j).dropLast = xs.take (j - 1) := by
  rcases Nat.lt_or_eq_of_le hj with h | rfl
  · exact List.dropLast_take h
  · rw [List.take_length, List.dropLast_eq_take]

theorem slice_dropLast {xs : List Val} {i j : Nat} (hj : j ≤ xs.length) :
    (slice xs i j).dropLast = slice xs i (j - 1) := by
  rw [slice, dropLast_drop, dropLast_take_of_le hj]; rfl

theorem slice_of_le {xs : List Val} {i j : Nat} (h : j ≤ i) : slice xs i j = [] :=
  List.drop_of_length_le (Nat.le_trans (List.length_take_le j xs) h)

theorem cursors_deq {c : Co} {xs : List Val} (view : c.σ → Idx)
    (hnext : ∀ s, (c.next s).out = (if (view s).idx < (view s).stop then xs[(view s).idx]? else none) ∧
      view (c.next s).st = if (view s).idx < (view s).stop then ⟨(view s).idx + 1, (view s).stop⟩ else view s)
    (hback : ∀ s, (c.back s).out = (if (view s).idx < (view s).stop then xs[(view s).stop - 1]? else none) ∧
      view (c.back s).st = if (view s).idx < (view s).stop then ⟨(view s).idx, (view s).stop - 1⟩ else view s)
    {s : c.σ} (hs : (view s).stop ≤ xs.length) : Deq c s (slice xs (view s).idx (view s).stop) := by
  refine deq_coind (fun s ys => (view s).stop ≤ xs.length ∧ ys = slice xs (view s).idx (view s).stop)
    (fun s ys ⟨hs, h⟩ => ?_) ⟨hs, rfl⟩
  subst h
  have ⟨n1, n2⟩ := hnext s
  have ⟨b1, b2⟩ := hback s
  rw [slice_head?, slice_getLast? hs, slice_dropLast hs, slice_tail]
  by_cases h : (view s).idx < (view s).stop
  · rw [if_pos h] at n1 n2 b1 b2
    rw [if_pos h, if_pos h, n1, n2, b1, b2]
    exact ⟨⟨rfl, hs, rfl⟩, rfl, Nat.le_trans (Nat.sub_le _ _) hs, rfl⟩
  · rw [if_neg h] at n1 n2 b1 b2
    rw [if_neg h, if_neg h, n1, n2, b1, b2]
    -- the cursors have met: every slice in sight is empty
    have e (k l : Nat) (hk : (view s).stop ≤ k) (hl : l ≤ (view s).stop) :
        slice xs k l = slice xs (view s).idx (view s).stop :=
      (slice_of_le (Nat.le_trans hl hk)).trans (slice_of_le (Nat.le_of_not_lt h)).symm
    exact ⟨⟨rfl, hs, e _ _ (Nat.le_succ_of_le (Nat.le_of_not_lt h)) (Nat.le_refl _)⟩, rfl, hs,
      e _ _ (Nat.le_of_not_lt h) (Nat.sub_le _ _)⟩

theorem slice_all (xs : List Val) : slice xs 0 xs.length = xs := by
  rw [slice, List.take_length, List.drop_zero]

theorem seq_deq (xs : List Val) : Deq (seqCo xs) ⟨0, xs.length⟩ xs := by
  have := cursors_deq (c := seqCo xs) (xs := xs) (fun s => s)
    (fun (s : Idx) => by simp only [seqCo]; split <;> exact ⟨rfl, rfl⟩)
    (fun (s : Idx) => by simp only [seqCo]; split <;> exact ⟨rfl, rfl⟩) (s := ⟨0, xs.length⟩) (Nat.le_refl _)
  rwa [slice_all] at this

/-- the host byte iterator is the same double-ended cursor (as repaired by /repo commit 0c6b903) -/
theorem hostBytes_deq (xs : List Val) : Deq (hostBytesCo xs) ⟨0, xs.length⟩ xs := seq_deq xs

theorem metab_deq (k : Nat) (xs : List Val) : Deq (metabCo k xs) ⟨0, xs.length⟩ xs := by
  have := cursors_deq (c := metabCo k xs) (xs := xs) (fun s => s)
    (fun (s : Idx) => by simp only [metabCo]; split <;> exact ⟨rfl, rfl⟩)
    (fun (s : Idx) => by simp only [metabCo]; split <;> exact ⟨rfl, rfl⟩) (s := ⟨0, xs.length⟩) (Nat.le_refl _)
  rwa [slice_all] at this

theorem str_deq (cl : List Val) : Deq strCo cl cl := by
  refine deq_coind (c := strCo) (fun s xs => xs = s) (fun (s : List Val) xs h => ?_) rfl
  subst h
  constructor
  · cases xs <;> exact ⟨rfl, rfl⟩
  · simp only [strCo]
    split
    · rename_i h
      cases List.getLast?_eq_none_iff.mp h
      exact ⟨rfl, rfl⟩
    · rename_i h
      exact ⟨h.symm, rfl⟩

theorem str_fwd (cl : List Val) : Fwd strCo cl cl := deq_fwd (str_deq cl)

/-! ### ranges (`KRange::pop_front` / `pop_back`) -/

def upto (a : Int) : Nat → List Val
  | 0 => []
  | n + 1 => Val.int a :: upto (a + 1) n

theorem upto_eq_map (a : Int) (n : Nat) :
    upto a n = (List.range n).map (fun (i : Nat) => Val.int (a + i)) := by
  induction n generalizing a with
  | zero => rfl
  | succ n ih =>
    rw [List.range_succ_eq_map, List.map_cons, List.map_map, upto, ih (a + 1)]
    refine congr (congrArg _ (by simp)) (List.map_congr_left fun i _ => ?_)
    show Val.int (a + 1 + (i : Int)) = Val.int (a + ((i + 1 : Nat) : Int))
    rw [show a + 1 + (i : Int) = a + ((i + 1 : Nat) : Int) by omega]

theorem upto_snoc (a : Int) (n : Nat) : upto a (n + 1) = upto a n ++ [Val.int (a + n)] := by
  rw [upto_eq_map, upto_eq_map, List.range_succ, List.map_append]
  rfl

def Rng.hi (r : Rng) : Int := if r.incl then r.b + 1 else r.b

/-- number of values left in a bounded range (descending ranges are empty) -/
def Rng.count (r : Rng) : Nat := (r.hi - r.a).toNat

theorem upto_toNat_cons {a h : Int} (hlt : a < h) :
    upto a (h - a).toNat = Val.int a :: upto (a + 1) (h - (a + 1)).toNat := by
  rw [show h - a = h - (a + 1) + ((1 : Nat) : Int) by omega, Int.toNat_add_nat (by omega)]; rfl

theorem upto_toNat_snoc {a h : Int} (hlt : a < h) :
    upto a (h - a).toNat = upto a (h - 1 - a).toNat ++ [Val.int (h - 1)] := by
  rw [show h - a = h - 1 - a + ((1 : Nat) : Int) by omega, Int.toNat_add_nat (by omega), upto_snoc,
    Int.toNat_of_nonneg (by omega), show a + (h - 1 - a) = h - 1 by omega]

theorem range_deq (r : Rng) : Deq rangeCo r (upto r.a r.count) := by
  refine deq_coind (c := rangeCo) (fun r xs => xs = upto r.a r.count) (fun (r : Rng) xs h => ?_) rfl
  subst h
  obtain ⟨a, b, incl⟩ := r
  by_cases h1 : a < b
  · -- one value goes from the front, or from the back
    have hlt : a < Rng.hi ⟨a, b, incl⟩ := by
      cases incl
      · exact h1
      · exact Int.lt_trans h1 (Int.lt_succ b)
    have hb : Rng.hi ⟨a, b - 1, incl⟩ = Rng.hi ⟨a, b, incl⟩ - 1 ∧
        (if incl then b else b - 1) = Rng.hi ⟨a, b, incl⟩ - 1 := by
      cases incl
      · exact ⟨rfl, rfl⟩
      · exact ⟨(Int.sub_add_cancel b 1).trans (Int.add_sub_cancel b 1).symm, (Int.add_sub_cancel b 1).symm⟩
    have en : rangeCo.next ⟨a, b, incl⟩ = ⟨some (Val.int a), ⟨a + 1, b, incl⟩, []⟩ := by
      simp only [rangeCo, Rng.popFront, if_pos h1, Option.map]
    have eb : rangeCo.back ⟨a, b, incl⟩ = ⟨some (Val.int (if incl then b else b - 1)), ⟨a, b - 1, incl⟩, []⟩ := by
      simp only [rangeCo, Rng.popBack, if_pos h1, Option.map]
    rw [en, eb]
    refine ⟨by rw [Rng.count, upto_toNat_cons hlt]; exact ⟨rfl, rfl⟩, ?_⟩
    rw [Rng.count, upto_toNat_snoc hlt, List.getLast?_concat, List.dropLast_concat, hb.2]
    exact ⟨rfl, by rw [Rng.count, hb.1]⟩
  · -- at most one value is left, and both ends run the same code
    have eb : rangeCo.back ⟨a, b, incl⟩ = rangeCo.next ⟨a, b, incl⟩ := by
      simp only [rangeCo, Rng.popBack, Rng.popFront, if_neg h1]
    rw [eb]
    by_cases h2 : a = b ∧ incl = true
    · obtain ⟨rfl, rfl⟩ := h2
      have hc : Rng.count ⟨a, a, true⟩ = 1 ∧ Rng.count ⟨a, a, false⟩ = 0 := by
        exact ⟨congrArg Int.toNat ((congrArg (· - a) (Int.add_comm a 1)).trans (Int.add_sub_cancel 1 a)), congrArg Int.toNat (Int.sub_self a)⟩
      have en : rangeCo.next ⟨a, a, true⟩ = ⟨some (Val.int a), ⟨a, a, false⟩, []⟩ := by
        simp [rangeCo, Rng.popFront]
      rw [en, hc.1, hc.2]
      exact ⟨⟨rfl, rfl⟩, rfl, rfl⟩
    · have hle : b ≤ a := Int.not_lt.mp h1
      have hc : Rng.count ⟨a, b, incl⟩ = 0 := by
        refine Int.toNat_of_nonpos (Int.sub_nonpos_of_le ?_)
        cases incl
        · exact hle
        · exact Int.lt_iff_le_and_ne.mpr ⟨hle, fun e => h2 ⟨e.symm, rfl⟩⟩
      have en : rangeCo.next ⟨a, b, incl⟩ = ⟨none, ⟨a, b, incl⟩, []⟩ := by
        by_cases h3 : a = b
        · cases incl
          · simp [rangeCo, Rng.popFront, h3]
          · exact absurd ⟨h3, rfl⟩ h2
        · simp [rangeCo, Rng.popFront, h1, h3]
      rw [en, hc]
      exact ⟨⟨rfl, rfl⟩, rfl, rfl⟩

end KotoVerif.Iter
