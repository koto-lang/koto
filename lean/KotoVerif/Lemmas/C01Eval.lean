/-
Lemmas about the guide's reference evaluator `Model/CoreEval.lean`: its one-step equations, and the one
induction over the evaluator, `eval_cong` (a relation between outcomes that the evaluator's combinators
respect, `EvalCong`, holds between the runs with fuel `n` and `n + 1`). Its two instances are "more fuel
never changes a finished result" (`Upto`) and "the output trace only grows" (`Ext`). Also the integer power
and the container updates as list operations.
-/
import KotoVerif.Model.CoreEval
import KotoVerif.Model.NumOps

namespace KotoVerif.C01
open KotoVerif KotoVerif.Core

/-- a `FloatOps` instance for kernel-evaluated examples (theorems never depend on it) -/
def stubFloatOps : FloatOps :=
  { add := fun a _ => a, sub := fun a _ => a, mul := fun a _ => a, div := fun a _ => a,
    rem := fun a _ => a, pow := fun a _ => a, neg := id, lt := fun _ _ => false,
    le := fun _ _ => false, eq := fun _ _ => false, ofInt := fun n => n.toUInt64,
    toInt := fun b => b.toInt64, isNaN := fun _ => false }

theorem lookup_update (x y : Nat) (v : Val) (env : List (Nat × Val)) :
    Core.lookup y (Core.update x v env) = if y = x then some v else Core.lookup y env := by
  induction env with
  | nil => rfl
  | cons p rest ih =>
    obtain ⟨z, w⟩ := p
    unfold Core.update
    split
    · subst x
      unfold Core.lookup
      split <;> rfl
    · rename_i hxz
      unfold Core.lookup
      rw [ih]
      split
      · subst y
        rw [if_neg (Ne.symm hxz)]
      · rfl

theorem setAt_eq_set (xs : List Val) (k : Nat) (v : Val) : setAt xs k v = xs.set k v := by
  induction xs generalizing k with
  | nil => rfl
  | cons x xs ih => cases k <;> simp [setAt, ih]

theorem fillRange_eq_mapIdx (xs : List Val) (pos s e : Nat) (v : Val) :
    fillRange xs pos s e v = xs.mapIdx fun j x => if s ≤ pos + j ∧ pos + j < e then v else x := by
  induction xs generalizing pos with
  | nil => rfl
  | cons x xs ih =>
    rw [fillRange, ih, List.mapIdx_cons]
    simp only [Nat.add_zero, Nat.add_assoc, Nat.add_comm 1]

theorem eval_zero (F : FloatOps) (e : Expr) (s : St) : eval F 0 e s = (.nofuel, s) := rfl

theorem evalLoop_zero (F : FloatOps) (c : Option (Expr × Bool)) (b : Expr) (acc : Val) (s : St) :
    evalLoop F 0 c b acc s = (.nofuel, s) := rfl

theorem evalBlock_zero (F : FloatOps) (es : Exprs) (last : Val) (s : St) :
    evalBlock F 0 es last s = (.nofuel, s) := rfl

theorem evalBlock_nil (F : FloatOps) (n : Nat) (last : Val) (s : St) :
    evalBlock F (n + 1) .nil last s = (.ok last, s) := rfl

theorem evalBlock_cons (F : FloatOps) (n : Nat) (e : Expr) (rest : Exprs) (last : Val) (s : St) :
    evalBlock F (n + 1) (.cons e rest) last s = seq (eval F n e s) fun v s => evalBlock F n rest v s := rfl

theorem eval_block (F : FloatOps) (n : Nat) (es : Exprs) (s : St) :
    eval F (n + 1) (.block es) s = evalBlock F n es .null s := rfl

theorem eval_brk (F : FloatOps) (n : Nat) (s : St) : eval F (n + 1) .brk s = (.brk .null, s) := rfl

theorem eval_cont (F : FloatOps) (n : Nat) (s : St) : eval F (n + 1) .cont s = (.cont, s) := rfl

theorem eval_lit (F : FloatOps) (n : Nat) (v : Val) (s : St) : eval F (n + 1) (.lit v) s = (.ok v, s) := rfl

theorem eval_var (F : FloatOps) (n x : Nat) (s : St) :
    eval F (n + 1) (.var x) s
      = match lookup x s.env with
        | some v => (.ok v, s)
        | none => (.err .unbound, s) := rfl

theorem eval_var_some (F : FloatOps) (n x : Nat) (s : St) (v : Val) (h : lookup x s.env = some v) :
    eval F (n + 1) (.var x) s = (.ok v, s) := by
  rw [eval_var, h]

theorem eval_var_none (F : FloatOps) (n x : Nat) (s : St) (h : lookup x s.env = none) :
    eval F (n + 1) (.var x) s = (.err .unbound, s) := by
  rw [eval_var, h]

theorem eval_neg (F : FloatOps) (n : Nat) (a : Expr) (s : St) :
    eval F (n + 1) (.neg a) s = seq (eval F n a s) fun v s => lift (negV F v) s := rfl

theorem eval_not (F : FloatOps) (n : Nat) (a : Expr) (s : St) :
    eval F (n + 1) (.not a) s = seq (eval F n a s) fun v s => (.ok (.bool (!v.truthy)), s) := rfl

theorem eval_arith (F : FloatOps) (n : Nat) (op : ArithOp) (a b : Expr) (s : St) :
    eval F (n + 1) (.arith op a b) s
      = seq (eval F n a s) fun va s => seq (eval F n b s) fun vb s => lift (arithV F op va vb) s := rfl

theorem eval_cmp (F : FloatOps) (n : Nat) (a : Expr) (ch : Chain) (s : St) :
    eval F (n + 1) (.cmp a ch) s = seq (eval F n a s) fun va s => evalChain F n va ch s := rfl

def chainStep (r : Except Err Bool) (s : St) (k : St → Res Val × St) : Res Val × St :=
  match r with
  | .error e => (.err e, s)
  | .ok false => (.ok (.bool false), s)
  | .ok true => k s

theorem evalChain_last (F : FloatOps) (n : Nat) (prev : Val) (op : CmpOp) (e : Expr) (s : St) :
    evalChain F (n + 1) prev (.cons op e .nil) s
      = seq (eval F n e s) fun v s => chainStep (cmpV F op prev v) s fun s => (.ok (.bool true), s) := rfl

theorem evalChain_more (F : FloatOps) (n : Nat) (prev : Val) (op op2 : CmpOp) (e e2 : Expr) (rest : Chain) (s : St) :
    evalChain F (n + 1) prev (.cons op e (.cons op2 e2 rest)) s
      = seq (eval F n e s) fun v s =>
          chainStep (cmpV F op prev v) s fun s => evalChain F n v (.cons op2 e2 rest) s := rfl

theorem eval_and (F : FloatOps) (n : Nat) (a b : Expr) (s : St) :
    eval F (n + 1) (.and a b) s
      = seq (eval F n a s) fun va s => if va.truthy then eval F n b s else (.ok va, s) := rfl

theorem eval_or (F : FloatOps) (n : Nat) (a b : Expr) (s : St) :
    eval F (n + 1) (.or a b) s
      = seq (eval F n a s) fun va s => if va.truthy then (.ok va, s) else eval F n b s := rfl

theorem eval_ifThen (F : FloatOps) (n : Nat) (c t : Expr) (s : St) :
    eval F (n + 1) (.ifThen c t) s
      = seq (eval F n c s) fun vc s => if vc.truthy then eval F n t s else (.ok .null, s) := rfl

theorem eval_ifElse (F : FloatOps) (n : Nat) (c t e : Expr) (s : St) :
    eval F (n + 1) (.ifElse c t e) s
      = seq (eval F n c s) fun vc s => if vc.truthy then eval F n t s else eval F n e s := rfl

/-- `n + 4`: one level of fuel each for the block, its first expression, its second and its end -/
theorem eval_block2 (F : FloatOps) (n : Nat) (a b : Expr) (s : St) :
    eval F (n + 4) (.block (.cons a (.cons b .nil))) s
      = seq (eval F (n + 2) a s) fun _ s => seq (eval F (n + 1) b s) fun v s => (.ok v, s) := rfl

theorem seq_ok_id (r : Res Val × St) : (seq r fun v s => (.ok v, s)) = r := by
  obtain ⟨x, s⟩ := r
  cases x <;> rfl

theorem eval_switch (F : FloatOps) (n : Nat) (arms : Arms) (s : St) :
    eval F (n + 1) (.switch arms) s = evalArms F n arms s := rfl

theorem evalArms_nil (F : FloatOps) (n : Nat) (s : St) :
    evalArms F (n + 1) .nil s = (.ok .null, s) := rfl

theorem evalArms_cons (F : FloatOps) (n : Nat) (c e : Expr) (rest : Arms) (s : St) :
    evalArms F (n + 1) (.cons c e rest) s
      = seq (eval F n c s) fun vc s => if vc.truthy then eval F n e s else evalArms F n rest s := rfl

theorem eval_while (F : FloatOps) (n : Nat) (c b : Expr) (s : St) :
    eval F (n + 1) (.while c b) s = evalLoop F n (some (c, false)) b .null s := rfl

theorem eval_until (F : FloatOps) (n : Nat) (c b : Expr) (s : St) :
    eval F (n + 1) (.until c b) s = evalLoop F n (some (c, true)) b .null s := rfl

theorem eval_loop (F : FloatOps) (n : Nat) (b : Expr) (s : St) :
    eval F (n + 1) (.loop b) s = evalLoop F n none b .null s := rfl

theorem evalLoop_cond (F : FloatOps) (n : Nat) (c : Expr) (neg : Bool) (b : Expr) (acc : Val) (s : St) :
    evalLoop F (n + 1) (some (c, neg)) b acc s
      = seq (eval F n c s) fun vc s =>
          if vc.truthy != neg then
            loopStep (eval F n b s) fun v s => evalLoop F n (some (c, neg)) b v s
          else (.ok acc, s) := rfl

theorem evalLoop_none (F : FloatOps) (n : Nat) (b : Expr) (acc : Val) (s : St) :
    evalLoop F (n + 1) none b acc s
      = loopStep (eval F n b s) fun v s => evalLoop F n none b v s := rfl

theorem eval_for (F : FloatOps) (n x : Nat) (it b : Expr) (s s₁ : St) (vi : Val) (items : List Val)
    (hi : eval F n it s = (.ok vi, s₁)) (hitems : iterItems vi = .ok items) :
    eval F (n + 1) (.for x it b) s = evalFor F n x items b .null s₁ := by
  show seq (eval F n it s) _ = _
  rw [hi]
  show (match iterItems vi with | .ok items => _ | .error e => _) = _
  rw [hitems]

theorem evalFor_nil (F : FloatOps) (n x : Nat) (b : Expr) (acc : Val) (s : St) :
    evalFor F (n + 1) x [] b acc s = (.ok acc, s.set x .null) := rfl

theorem eval_assign (F : FloatOps) (n x : Nat) (e : Expr) (s : St) :
    eval F (n + 1) (.assign x e) s = seq (eval F n e s) fun v s => (.ok v, s.set x v) := rfl

theorem eval_opAssign_eq (F : FloatOps) (n x : Nat) (op : ArithOp) (e : Expr) (s : St) :
    eval F (n + 1) (.opAssign op x e) s
      = match lookup x s.env with
        | none => (.err .unbound, s)
        | some v₀ => seq (eval F n e s) fun v₁ s =>
          match opAssignV F op v₀ v₁ with
          | .ok r => (.ok r, s.set x r)
          | .error e => (.err e, s) := rfl

def finishOp (r : Except Err Val) (x : Nat) (s : St) : Res Val × St :=
  match r with
  | .ok r => (.ok r, s.set x r)
  | .error e => (.err e, s)

theorem eval_opAssign_some (F : FloatOps) (n x : Nat) (op : ArithOp) (a : Expr) (s : St) (v0 : Val)
    (h : lookup x s.env = some v0) :
    eval F (n + 1) (.opAssign op x a) s
      = seq (eval F n a s) fun v1 s => finishOp (opAssignV F op v0 v1) x s := by
  rw [eval_opAssign_eq, h]
  rfl

theorem eval_opAssign_none (F : FloatOps) (n x : Nat) (op : ArithOp) (a : Expr) (s : St)
    (h : lookup x s.env = none) :
    eval F (n + 1) (.opAssign op x a) s = (.err .unbound, s) := by
  rw [eval_opAssign_eq, h]

theorem eval_opAssign (F : FloatOps) (n x : Nat) (op : ArithOp) (e : Expr) (s s₁ : St) (v₀ v₁ : Val)
    (hx : lookup x s.env = some v₀) (he : eval F n e s = (.ok v₁, s₁)) :
    eval F (n + 1) (.opAssign op x e) s
      = (match opAssignV F op v₀ v₁ with
         | .ok r => (.ok r, s₁.set x r)
         | .error e => (.err e, s₁)) := by
  rw [eval_opAssign_some F n x op e s v₀ hx, he]
  rfl

theorem eval_pos {F : FloatOps} {n : Nat} {e : Expr} {s s₁ : St} {v : Val}
    (h : eval F n e s = (.ok v, s₁)) : ∃ k, n = k + 1 := by
  cases n with
  | zero => cases h
  | succ k => exact ⟨k, rfl⟩

def Ext {α : Type} (s : St) (r : Res α × St) : Prop := s.out <+: r.2.out

theorem ext_refl {α} (s : St) (x : Res α) : Ext s (x, s) := List.prefix_rfl
theorem ext_set {α} (s : St) (x : Res α) (y : Nat) (v : Val) : Ext s (x, s.set y v) := List.prefix_rfl
theorem ext_push {α} (s : St) (x : Res α) (e : Ev) : Ext s (x, s.push e) := List.prefix_append _ _
theorem ext_lift {α} (s : St) (x : Except Err α) : Ext s (lift x s) := by
  cases x <;> exact List.prefix_rfl

/-- `Q s r r'` relates two outcomes of evaluations started in `s`; it holds of an unfinished
evaluation and anything, of every outcome that only extends the output and itself, and is kept by
`seq`, `loopStep` and the binding of the `for` variable. Such a relation holds between the
evaluations with fuel `n` and `n + 1` (`eval_cong`): the one induction over the evaluator that
fuel monotonicity and the append-only output both come from. -/
structure EvalCong (Q : ∀ {α : Type}, St → Res α × St → Res α × St → Prop) : Prop where
  nofuel : ∀ {α} (s : St) (r' : Res α × St), Q s (.nofuel, s) r'
  leaf : ∀ {α} {s : St} {r : Res α × St}, Ext s r → Q s r r
  seq : ∀ {α β} {s : St} {r r' : Res α × St} {k k' : α → St → Res β × St},
    Q s r r' → (∀ v s₁, Q s₁ (k v s₁) (k' v s₁)) → Q s (Core.seq r k) (Core.seq r' k')
  loopStep : ∀ {s : St} {r r' : Res Val × St} {k k' : Val → St → Res Val × St},
    Q s r r' → (∀ v s₁, Q s₁ (k v s₁) (k' v s₁)) → Q s (Core.loopStep r k) (Core.loopStep r' k')
  ofSet : ∀ {α} {s : St} {y : Nat} {v : Val} {r r' : Res α × St}, Q (s.set y v) r r' → Q s r r'

theorem EvalCong.ite {Q : ∀ {α : Type}, St → Res α × St → Res α × St → Prop} (_ : EvalCong Q) {α} {c : Prop}
    [Decidable c] {s : St} {a a' b b' : Res α × St} (ha : Q s a a') (hb : Q s b b') :
    Q s (if c then a else b) (if c then a' else b') := by
  split
  · exact ha
  · exact hb

theorem eval_cong {Q : ∀ {α : Type}, St → Res α × St → Res α × St → Prop} (hQ : EvalCong Q) (F : FloatOps) : ∀ n,
    (∀ e s, Q s (eval F n e s) (eval F (n + 1) e s))
    ∧ (∀ es s, Q s (evalList F n es s) (evalList F (n + 1) es s))
    ∧ (∀ v ch s, Q s (evalChain F n v ch s) (evalChain F (n + 1) v ch s))
    ∧ (∀ es acc s, Q s (evalEntries F n es acc s) (evalEntries F (n + 1) es acc s))
    ∧ (∀ arms s, Q s (evalArms F n arms s) (evalArms F (n + 1) arms s))
    ∧ (∀ es last s, Q s (evalBlock F n es last s) (evalBlock F (n + 1) es last s))
    ∧ (∀ c b acc s, Q s (evalLoop F n c b acc s) (evalLoop F (n + 1) c b acc s))
    ∧ (∀ x items b acc s, Q s (evalFor F n x items b acc s) (evalFor F (n + 1) x items b acc s)) := by
  intro n
  induction n with
  | zero => exact ⟨fun _ s => hQ.nofuel s _, fun _ s => hQ.nofuel s _, fun _ _ s => hQ.nofuel s _,
      fun _ _ s => hQ.nofuel s _, fun _ s => hQ.nofuel s _, fun _ _ s => hQ.nofuel s _,
      fun _ _ _ s => hQ.nofuel s _, fun _ _ _ _ s => hQ.nofuel s _⟩
  | succ n ih =>
    obtain ⟨ihE, ihL, ihC, ihM, ihA, ihB, ihW, ihF⟩ := ih
    refine ⟨?_, ?_, ?_, ?_, ?_, ?_, ?_, ?_⟩
    · intro e s
      cases e with
      | lit | rangeFull | brk | cont => exact hQ.leaf (ext_refl _ _)
      | var x =>
        rw [eval_var, eval_var]
        split
        · exact hQ.leaf (ext_refl _ _)
        · exact hQ.leaf (ext_refl _ _)
      | neg a | rangeFrom a | rangeTo a | access a | size a => exact hQ.seq (ihE a s) fun _ _ => hQ.leaf (ext_lift _ _)
      | not a | brkVal a => exact hQ.seq (ihE a s) fun _ _ => hQ.leaf (ext_refl _ _)
      | assign _ a => exact hQ.seq (ihE a s) fun _ _ => hQ.leaf (ext_set _ _ _ _)
      | emit a => exact hQ.seq (ihE a s) fun _ _ => hQ.leaf (ext_push _ _ _)
      | print a =>
        refine hQ.seq (ihE a s) fun v s => ?_
        split
        · exact hQ.leaf (ext_push _ _ _)
        · exact hQ.leaf (ext_refl _ _)
      | arith _ a b | range a b | index a b =>
        exact hQ.seq (ihE a s) fun _ s => hQ.seq (ihE b s) fun _ _ => hQ.leaf (ext_lift _ _)
      | indexAssign _ i a =>
        refine hQ.seq (ihE a s) fun _ s => hQ.seq (ihE i s) fun _ s => ?_
        split
        · exact hQ.leaf (ext_refl _ _)
        · split
          · exact hQ.leaf (ext_set _ _ _ _)
          · exact hQ.leaf (ext_refl _ _)
      | cmp a ch => exact hQ.seq (ihE a s) fun v s => ihC v ch s
      | and a b => exact hQ.seq (ihE a s) fun _ s => hQ.ite (ihE b s) (hQ.leaf (ext_refl _ _))
      | or a b => exact hQ.seq (ihE a s) fun _ s => hQ.ite (hQ.leaf (ext_refl _ _)) (ihE b s)
      | ifThen c t => exact hQ.seq (ihE c s) fun _ s => hQ.ite (ihE t s) (hQ.leaf (ext_refl _ _))
      | ifElse c t e => exact hQ.seq (ihE c s) fun _ s => hQ.ite (ihE t s) (ihE e s)
      | opAssign op x a =>
        rw [eval_opAssign_eq, eval_opAssign_eq]
        split
        · exact hQ.leaf (ext_refl _ _)
        · refine hQ.seq (ihE a s) fun _ s => ?_
          split
          · exact hQ.leaf (ext_set _ _ _ _)
          · exact hQ.leaf (ext_refl _ _)
      | list es | tuple es => exact hQ.seq (ihL es s) fun _ _ => hQ.leaf (ext_refl _ _)
      | interp es =>
        refine hQ.seq (ihL es s) fun _ s => ?_
        split
        · exact hQ.leaf (ext_refl _ _)
        · exact hQ.leaf (ext_refl _ _)
      | map es => exact hQ.seq (ihM es [] s) fun _ _ => hQ.leaf (ext_refl _ _)
      | block es => exact ihB es .null s
      | switch arms => exact ihA arms s
      | «while» c b => exact ihW (some (c, false)) b .null s
      | «until» c b => exact ihW (some (c, true)) b .null s
      | loop b => exact ihW none b .null s
      | «for» x it b =>
        refine hQ.seq (ihE it s) fun vi s => ?_
        split
        · exact ihF _ _ _ _ _
        · exact hQ.leaf (ext_refl _ _)
    · intro es s
      cases es with
      | nil => exact hQ.leaf (ext_refl _ _)
      | cons e es => exact hQ.seq (ihE e s) fun _ s => hQ.seq (ihL es s) fun _ _ => hQ.leaf (ext_refl _ _)
    · intro v ch s
      cases ch with
      | nil => exact hQ.leaf (ext_refl _ _)
      | cons op e rest =>
        refine hQ.seq (ihE e s) fun w s => ?_
        split
        · exact hQ.leaf (ext_refl _ _)
        · exact hQ.leaf (ext_refl _ _)
        · split
          · exact hQ.leaf (ext_refl _ _)
          · exact ihC _ _ _
    · intro es acc s
      cases es with
      | nil => exact hQ.leaf (ext_refl _ _)
      | cons k e rest => exact hQ.seq (ihE e s) fun _ s => ihM rest _ s
    · intro arms s
      cases arms with
      | nil => exact hQ.leaf (ext_refl _ _)
      | els e => exact ihE e s
      | cons c e rest => exact hQ.seq (ihE c s) fun _ s => hQ.ite (ihE e s) (ihA rest s)
    · intro es last s
      cases es with
      | nil => exact hQ.leaf (ext_refl _ _)
      | cons e rest => exact hQ.seq (ihE e s) fun v s => ihB rest v s
    · intro c b acc s
      have body (s) : Q s (loopStep (eval F n b s) fun v s => evalLoop F n c b v s)
          (loopStep (eval F (n + 1) b s) fun v s => evalLoop F (n + 1) c b v s) :=
        hQ.loopStep (ihE b s) fun v s => ihW c b v s
      cases c with
      | none => exact body s
      | some p => exact hQ.seq (ihE p.1 s) fun _ s => hQ.ite (body s) (hQ.leaf (ext_refl _ _))
    · intro x items b acc s
      cases items with
      | nil => exact hQ.leaf (ext_set _ _ _ _)
      | cons item rest => exact hQ.ofSet (hQ.loopStep (ihE b _) fun v s => ihF x rest b v s)

def Upto {α : Type} (r r' : Res α × St) : Prop := (∃ s, r = (.nofuel, s)) ∨ r = r'

theorem upto_refl {α} (r : Res α × St) : Upto r r := Or.inr rfl
theorem upto_nofuel {α} (s : St) (r' : Res α × St) : Upto (.nofuel, s) r' := Or.inl ⟨s, rfl⟩

theorem upto_seq {α β} {r r' : Res α × St} {k k' : α → St → Res β × St}
    (h : Upto r r') (hk : ∀ v s, Upto (k v s) (k' v s)) : Upto (seq r k) (seq r' k') := by
  rcases h with ⟨s, rfl⟩ | rfl
  · exact Or.inl ⟨s, rfl⟩
  · rcases r with ⟨res, s⟩
    cases res with
    | ok v => exact hk v s
    | _ => exact Or.inr rfl

theorem upto_loopStep {r r' : Res Val × St} {k k' : Val → St → Res Val × St}
    (h : Upto r r') (hk : ∀ v s, Upto (k v s) (k' v s)) : Upto (loopStep r k) (loopStep r' k') := by
  rcases h with ⟨s, rfl⟩ | rfl
  · exact Or.inl ⟨s, rfl⟩
  · rcases r with ⟨res, s⟩
    cases res with
    | ok v => exact hk v s
    | cont => exact hk .null s
    | _ => exact Or.inr rfl

theorem fuel_mono_succ (F : FloatOps) : ∀ n,
    (∀ e s, Upto (eval F n e s) (eval F (n + 1) e s))
    ∧ (∀ es s, Upto (evalList F n es s) (evalList F (n + 1) es s))
    ∧ (∀ v ch s, Upto (evalChain F n v ch s) (evalChain F (n + 1) v ch s))
    ∧ (∀ es acc s, Upto (evalEntries F n es acc s) (evalEntries F (n + 1) es acc s))
    ∧ (∀ arms s, Upto (evalArms F n arms s) (evalArms F (n + 1) arms s))
    ∧ (∀ es last s, Upto (evalBlock F n es last s) (evalBlock F (n + 1) es last s))
    ∧ (∀ c b acc s, Upto (evalLoop F n c b acc s) (evalLoop F (n + 1) c b acc s))
    ∧ (∀ x items b acc s, Upto (evalFor F n x items b acc s) (evalFor F (n + 1) x items b acc s)) :=
  eval_cong (Q := fun _ r r' => Upto r r')
    ⟨upto_nofuel, fun _ => upto_refl _, upto_seq, upto_loopStep, id⟩ F

theorem Upto.finished {α} {r r' : Res α × St} {x : Res α} {s : St} (h : Upto r r') (hr : r = (x, s))
    (hx : x ≠ .nofuel) : r' = (x, s) := by
  rcases h with ⟨s', hs⟩ | heq
  · rw [hr] at hs
    cases hs
    exact absurd rfl hx
  · rw [← heq, hr]

theorem eval_mono (F : FloatOps) {n m : Nat} {e : Expr} {s s' : St} {r : Res Val}
    (h : eval F n e s = (r, s')) (hr : r ≠ .nofuel) (hm : n ≤ m) : eval F m e s = (r, s') := by
  induction hm with
  | refl => exact h
  | step _ ih => exact ((fuel_mono_succ F _).1 e s).finished ih hr

theorem evalLoop_mono (F : FloatOps) {n m : Nat} {c : Option (Expr × Bool)} {b : Expr} {acc : Val}
    {s s' : St} {r : Res Val} (h : evalLoop F n c b acc s = (r, s')) (hr : r ≠ .nofuel) (hm : n ≤ m) :
    evalLoop F m c b acc s = (r, s') := by
  induction hm with
  | refl => exact h
  | step _ ih => exact ((fuel_mono_succ F _).2.2.2.2.2.2.1 c b acc s).finished ih hr

theorem ext_seq {α β} {s : St} {r : Res α × St} {k : α → St → Res β × St}
    (h : Ext s r) (hk : ∀ v s', Ext s' (k v s')) : Ext s (seq r k) := by
  rcases r with ⟨res, s₁⟩
  cases res with
  | ok v => exact h.trans (hk v s₁)
  | _ => exact h

theorem ext_loopStep {s : St} {r : Res Val × St} {k : Val → St → Res Val × St}
    (h : Ext s r) (hk : ∀ v s', Ext s' (k v s')) : Ext s (loopStep r k) := by
  rcases r with ⟨res, s₁⟩
  cases res with
  | ok v => exact h.trans (hk v s₁)
  | cont => exact h.trans (hk .null s₁)
  | _ => exact h

theorem out_extends (F : FloatOps) : ∀ n,
    (∀ e s, Ext s (eval F n e s))
    ∧ (∀ es s, Ext s (evalList F n es s))
    ∧ (∀ v ch s, Ext s (evalChain F n v ch s))
    ∧ (∀ es acc s, Ext s (evalEntries F n es acc s))
    ∧ (∀ arms s, Ext s (evalArms F n arms s))
    ∧ (∀ es last s, Ext s (evalBlock F n es last s))
    ∧ (∀ c b acc s, Ext s (evalLoop F n c b acc s))
    ∧ (∀ x items b acc s, Ext s (evalFor F n x items b acc s)) :=
  eval_cong (Q := fun s r _ => Ext s r)
    ⟨fun s _ => ext_refl s _, id, ext_seq, ext_loopStep, id⟩ F

/-- square-and-multiply on `Int64` computes the mathematical power modulo 2⁶⁴ -/
theorem wpow_spec : ∀ (fuel : Nat) (x : Int) (e : Nat), e < 2 ^ fuel →
    Num.wpow fuel (Int64.ofInt x) e = Int64.ofInt (x ^ e) := by
  intro fuel
  induction fuel with
  | zero =>
    intro x e he
    have : e = 0 := by simpa using he
    subst this
    simp [Num.wpow]
  | succ fuel ih =>
    intro x e he
    unfold Num.wpow
    by_cases h0 : e = 0
    · subst h0; simp
    · simp only [h0, if_false]
      have hdiv : e / 2 < 2 ^ fuel := by
        have : 2 ^ (fuel + 1) = 2 * 2 ^ fuel := by rw [Nat.pow_succ]; omega
        omega
      have hsq : Int64.ofInt x * Int64.ofInt x = Int64.ofInt (x * x) := (Int64.ofInt_mul x x).symm
      rw [hsq, ih (x * x) (e / 2) hdiv]
      have hpow : (x * x) ^ (e / 2) = x ^ (2 * (e / 2)) := by
        rw [Int.pow_mul]; congr 1; simp [Int.pow_succ]
      by_cases h1 : e % 2 = 1
      · simp only [h1, if_true]
        rw [← Int64.ofInt_mul, hpow]
        congr 1
        have : e = 2 * (e / 2) + 1 := by omega
        conv => rhs; rw [this, Int.pow_succ]
        rw [Int.mul_comm]
      · simp only [h1, if_false]
        rw [hpow]
        have : e = 2 * (e / 2) := by omega
        rw [← this]

end KotoVerif.C01
