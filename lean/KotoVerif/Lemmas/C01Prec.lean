/-
Helper lemmas about `Model/Prec.lean` used by `Props/C01.lean`: more fuel never changes a parse,
and the generalised round-trip statement `roundtrip_gen` (proved by structural induction on the
operator tree; the table enters only through `lp_pos`/`rp_pos`, so it holds for every table with
positive priorities — in particular for whatever `translators/prec_table.py` generates next).
-/
import KotoVerif.Model.Prec

namespace KotoVerif.C01
open KotoVerif.Prec KotoVerif.Gen

theorem lp_pos (o : OpTok) : 1 ≤ lp o := by cases o <;> decide
theorem rp_pos (o : OpTok) : 1 ≤ rp o := by cases o <;> decide

def Le1 (f g : List Tok → PResult) : Prop := ∀ ts r, f ts = some r → g ts = some r
def Le2 (f g : Nat → List Tok → PResult) : Prop := ∀ m ts r, f m ts = some r → g m ts = some r
def Le3 (f g : Nat → OpTree → List Tok → PResult) : Prop :=
  ∀ m l ts r, f m l ts = some r → g m l ts = some r

theorem termStep_mono {pT pT' pS pS'} (hT : Le1 pT pT') (hS : Le2 pS pS') :
    Le1 (termStep pT pS) (termStep pT' pS') := by
  intro ts r h
  unfold termStep at h ⊢
  split at h
  · simpa using h
  · simpa using h
  · simpa using h
  · split at h
    · rename_i hh; simp [hT _ _ hh]; simpa using h
    · simp at h
  · split at h
    · rename_i hh; simp [hS _ _ _ hh]; simpa using h
    · simp at h
  · split at h
    · rename_i hh; simp [hS _ _ _ hh]; simpa using h
    · simp at h
  · simp at h

theorem startStep_mono {pT pT' pC pC'} (hT : Le1 pT pT') (hC : Le3 pC pC') (m : Nat) :
    Le1 (startStep pT pC m) (startStep pT' pC' m) := by
  intro ts r h
  unfold startStep at h ⊢
  split at h
  · rename_i hh; simp [hT _ _ hh]; exact hC _ _ _ _ h
  · simp at h

theorem contStep_mono {pS pS' pC pC'} (hS : Le2 pS pS') (hC : Le3 pC pC') (m : Nat) (l : OpTree) :
    Le1 (contStep pS pC m l) (contStep pS' pC' m l) := by
  intro ts r h
  unfold contStep at h ⊢
  split at h
  · split at h
    · split at h
      · rename_i hh; simp [hS _ _ _ hh]; simpa using h
      · simp at h
    · simp at h
  · split at h
    · split at h
      · rename_i hh; simp [*, hS _ _ _ hh]; exact hC _ _ _ _ h
      · simp at h
    · simp_all; intro hle; omega
  · simp_all

theorem parse_mono_succ : ∀ n,
    Le1 (parseTerm n) (parseTerm (n + 1)) ∧ Le2 (parseStart n) (parseStart (n + 1))
    ∧ Le3 (parseCont n) (parseCont (n + 1)) := by
  intro n
  induction n with
  | zero =>
    refine ⟨?_, ?_, ?_⟩
    · intro ts r h; cases h
    · intro m ts r h; cases h
    · intro m l ts r h; cases h
  | succ n ih =>
    obtain ⟨ihT, ihS, ihC⟩ := ih
    refine ⟨?_, ?_, ?_⟩
    · intro ts r h
      rw [parseTerm] at h ⊢
      exact termStep_mono ihT ihS ts r h
    · intro m ts r h
      rw [parseStart] at h ⊢
      exact startStep_mono ihT ihC m ts r h
    · intro m l ts r h
      rw [parseCont] at h ⊢
      exact contStep_mono ihS ihC m l ts r h

theorem parseTerm_mono {n N : Nat} (h : n ≤ N) {ts r} (hp : parseTerm n ts = some r) :
    parseTerm N ts = some r := by
  induction h with
  | refl => exact hp
  | step _ ih => exact (parse_mono_succ _).1 _ _ ih

theorem parseStart_mono {n N : Nat} (h : n ≤ N) {m ts r} (hp : parseStart n m ts = some r) :
    parseStart N m ts = some r := by
  induction h with
  | refl => exact hp
  | step _ ih => exact (parse_mono_succ _).2.1 _ _ _ ih

theorem parseCont_mono {n N : Nat} (h : n ≤ N) {m l ts r} (hp : parseCont n m l ts = some r) :
    parseCont N m l ts = some r := by
  induction h with
  | refl => exact hp
  | step _ ih => exact (parse_mono_succ _).2.2 _ _ _ _ ih

def Follow (f : Nat) : List Tok → Prop
  | [] => True
  | .rparen :: _ => True
  | .op o :: _ => lp o ≤ f
  | _ => False

theorem parseCont_pos {n m l ts r} (h : parseCont n m l ts = some r) : 1 ≤ n := by
  cases n with
  | zero => cases h
  | succ n => omega

/-- `max k 1`: a follower of priority 0 stops the loop at every `k`, since no operator has left priority 0 -/
theorem parseCont_stop_of {f k : Nat} {rest : List Tok} (hf : Follow f rest) (hk : f < max k 1)
    (n : Nat) (e : OpTree) : parseCont (n + 1) k e rest = some (e, rest) := by
  rw [parseCont]
  unfold contStep
  match rest, hf with
  | [], _ => rfl
  | .rparen :: _, _ => rfl
  | .op o :: _, h =>
    have : ¬ k ≤ lp o := by
      have := lp_pos o
      have : lp o ≤ f := h
      omega
    simp [this]

theorem parseCont_stop {f k : Nat} {rest : List Tok} (hf : Follow f rest) (hk : f < k)
    (n : Nat) (e : OpTree) : parseCont (n + 1) k e rest = some (e, rest) :=
  parseCont_stop_of hf (by omega) n e

theorem parseCont_stop0 {rest : List Tok} (hf : Follow 0 rest) (n k : Nat) (e : OpTree) :
    parseCont (n + 1) k e rest = some (e, rest) :=
  parseCont_stop_of hf (by omega) n e

theorem parseCont_stop0_eq {rest : List Tok} (hf : Follow 0 rest) {n k : Nat} {e : OpTree} {res}
    (h : parseCont n k e rest = some res) : res = (e, rest) := by
  cases n with
  | zero => cases h
  | succ n => rw [parseCont_stop0 hf] at h; exact (Option.some.inj h).symm

theorem paren_render {N n m : Nat} {toks rest : List Tok} {e : OpTree} {res}
    (hb : parseStart (N - 2) 0 (toks ++ .rparen :: rest) = some (e, .rparen :: rest))
    (hc : parseCont n m e rest = some res) (hN : n + 3 ≤ N) :
    parseStart N m ([.lparen] ++ toks ++ [.rparen] ++ rest) = some res := by
  obtain ⟨N', rfl⟩ := Nat.exists_eq_add_of_le' (show 2 ≤ N by omega)
  have hl : [Tok.lparen] ++ toks ++ [.rparen] ++ rest = .lparen :: (toks ++ .rparen :: rest) := by simp
  rw [hl, parseStart]
  unfold startStep
  have h1 : parseTerm (N' + 1) (.lparen :: (toks ++ .rparen :: rest)) = some (e, rest) := by
    rw [parseTerm]
    unfold termStep
    simp [show parseStart N' 0 (toks ++ .rparen :: rest) = some (e, .rparen :: rest) from hb]
  rw [h1]
  exact parseCont_mono (by omega) hc

/-- fuel that suffices to parse the rendering of a tree (a generous bound) -/
def cost : OpTree → Nat
  | .atom _ => 2
  | .neg e => cost e + 6
  | .not e => cost e + 6
  | .bin _ l r => cost l + cost r + 6
  | .assign _ e => cost e + 6

theorem render_neg (m f : Nat) (e : OpTree) :
    (∃ x, e = .atom (.id x) ∧ render m f (.neg e) = [.op .Subtract, .id x])
    ∨ render m f (.neg e) = [.op .Subtract, .lparen] ++ render 0 0 e ++ [.rparen] := by
  cases e with
  | atom a =>
    cases a with
    | id x => exact Or.inl ⟨x, rfl, rfl⟩
    | num k => exact Or.inr rfl
    | negNum k => exact Or.inr rfl
  | neg e => exact Or.inr rfl
  | not e => exact Or.inr rfl
  | bin o l r => exact Or.inr rfl
  | assign x e => exact Or.inr rfl

theorem render_not (m f : Nat) (e : OpTree) :
    render m f (.not e)
      = if f = 0 then .not :: render 0 0 e else [.lparen, .not] ++ render 0 0 e ++ [.rparen] := rfl

theorem render_assign (m f x : Nat) (e : OpTree) :
    render m f (.assign x e)
      = if f = 0 then [.id x, .assign] ++ render 0 0 e
        else [.lparen, .id x, .assign] ++ render 0 0 e ++ [.rparen] := rfl

theorem render_bin (m f : Nat) (o : OpTok) (l r : OpTree) :
    render m f (.bin o l r)
      = if m ≤ lp o ∧ f < rp o then render m (lp o) l ++ [.op o] ++ render (rp o) f r
        else [.lparen] ++ (render 0 (lp o) l ++ [.op o] ++ render (rp o) 0 r) ++ [.rparen] := rfl

theorem cost_le (e : OpTree) : ∀ m f, cost e ≤ 6 * (render m f e).length := by
  induction e with
  | atom a => intro m f; cases a <;> simp [render, cost]
  | neg e ih =>
    intro m f
    have := ih 0 0
    rcases render_neg m f e with ⟨x, rfl, h⟩ | h
    · rw [h]; simp [cost]
    · rw [h]; simp [cost]; omega
  | not e ih =>
    intro m f
    have := ih 0 0
    rw [render_not]; simp only [cost]; split <;> simp <;> omega
  | bin o l r ihl ihr =>
    intro m f
    rw [render_bin]; simp only [cost]
    split
    · have := ihl m (lp o); have := ihr (rp o) f; simp; omega
    · have := ihl 0 (lp o); have := ihr (rp o) 0; simp; omega
  | assign x e ih =>
    intro m f
    have := ih 0 0
    rw [render_assign]; simp only [cost]; split <;> simp <;> omega

theorem follow_rparen (f : Nat) (rest : List Tok) : Follow f (.rparen :: rest) := by simp [Follow]

/-- Parsing the rendering of `e` (made for minimum precedence `m` and a follower of priority ≤ `f`)
in front of `rest` brings the parser to exactly the state "`e` is the expression so far, `rest` is
left, the loop runs at minimum `m`" — whatever that state then does (`res`). -/
theorem roundtrip_gen (e : OpTree) :
    ∀ (m f : Nat) (rest : List Tok) (n : Nat) (res : OpTree × List Tok) (N : Nat),
      Follow f rest → parseCont n m e rest = some res → n + cost e ≤ N →
      parseStart N m (render m f e ++ rest) = some res := by
  induction e with
  | atom a =>
    intro m f rest n res N _ hc hN
    have hn := parseCont_pos hc
    simp only [cost] at hN
    obtain ⟨N', rfl⟩ := Nat.exists_eq_add_of_le' (show 2 ≤ N by omega)
    rw [parseStart]; unfold startStep
    have h1 : parseTerm (N' + 1) (render m f (.atom a) ++ rest) = some (.atom a, rest) := by
      rw [parseTerm]; cases a <;> rfl
    rw [h1]; exact parseCont_mono (by omega) hc
  | neg e ih =>
    intro m f rest n res N _ hc hN
    have hn := parseCont_pos hc
    simp only [cost] at hN
    obtain ⟨N', rfl⟩ := Nat.exists_eq_add_of_le' (show 3 ≤ N by omega)
    rw [parseStart]; unfold startStep
    rcases render_neg m f e with ⟨x, rfl, h⟩ | h
    · rw [h]
      have h1 : parseTerm (N' + 2) ([.op .Subtract, .id x] ++ rest)
          = some (.neg (.atom (.id x)), rest) := by
        simp [parseTerm, termStep]
      rw [h1]; exact parseCont_mono (by omega) hc
    · rw [h]
      have hbody : parseStart N' 0 (render 0 0 e ++ (.rparen :: rest)) = some (e, .rparen :: rest) :=
        ih 0 0 (.rparen :: rest) 1 _ N' (follow_rparen 0 rest)
          (parseCont_stop0 (follow_rparen 0 rest) 0 0 e) (by omega)
      have h1 : parseTerm (N' + 2) ([.op .Subtract, .lparen] ++ render 0 0 e ++ [.rparen] ++ rest)
          = some (.neg e, rest) := by
        have hl : [Tok.op .Subtract, .lparen] ++ render 0 0 e ++ [.rparen] ++ rest
            = .op .Subtract :: .lparen :: (render 0 0 e ++ .rparen :: rest) := by simp
        rw [hl]
        simp [parseTerm, termStep, hbody]
      rw [h1]; exact parseCont_mono (by omega) hc
  | not e ih =>
    intro m f rest n res N hf hc hN
    have hn := parseCont_pos hc
    simp only [cost] at hN
    -- the unparenthesised form, for any follower that stops everything
    have A : ∀ (m' : Nat) (rest' : List Tok) (n' : Nat) (res' : OpTree × List Tok) (K : Nat),
        Follow 0 rest' → parseCont n' m' (.not e) rest' = some res' → n' + cost e + 3 ≤ K →
        parseStart K m' (.not :: render 0 0 e ++ rest') = some res' := by
      intro m' rest' n' res' K hf' hc' hK
      have hn' := parseCont_pos hc'
      obtain ⟨K', rfl⟩ := Nat.exists_eq_add_of_le' (show 2 ≤ K by omega)
      have hbody : parseStart K' 0 (render 0 0 e ++ rest') = some (e, rest') :=
        ih 0 0 rest' 1 _ K' hf' (parseCont_stop0 hf' 0 0 e) (by omega)
      rw [parseStart]; unfold startStep
      have h1 : parseTerm (K' + 1) (.not :: render 0 0 e ++ rest') = some (.not e, rest') := by
        simp [parseTerm, termStep, hbody]
      rw [h1]; exact parseCont_mono (by omega) hc'
    rw [render_not]
    split
    · rename_i h0; subst h0
      exact A m rest n res N hf hc (by omega)
    · have hb := A 0 (.rparen :: rest) 1 _ (N - 2) (follow_rparen 0 rest)
        (parseCont_stop0 (follow_rparen 0 rest) 0 0 (.not e)) (by omega)
      exact paren_render (toks := .not :: render 0 0 e) hb hc (by omega)
  | assign x e ih =>
    intro m f rest n res N hf hc hN
    have hn := parseCont_pos hc
    simp only [cost] at hN
    have A : ∀ (m' : Nat) (rest' : List Tok) (n' : Nat) (res' : OpTree × List Tok) (K : Nat),
        Follow 0 rest' → parseCont n' m' (.assign x e) rest' = some res' → n' + cost e + 4 ≤ K →
        parseStart K m' ([.id x, .assign] ++ render 0 0 e ++ rest') = some res' := by
      intro m' rest' n' res' K hf' hc' hK
      have hres := parseCont_stop0_eq hf' hc'
      subst hres
      obtain ⟨K', rfl⟩ := Nat.exists_eq_add_of_le' (show 3 ≤ K by omega)
      have hbody : parseStart K' 0 (render 0 0 e ++ rest') = some (e, rest') :=
        ih 0 0 rest' 1 _ K' hf' (parseCont_stop0 hf' 0 0 e) (by omega)
      rw [parseStart]; unfold startStep
      have h1 : parseTerm (K' + 2) ([.id x, .assign] ++ render 0 0 e ++ rest')
          = some (.atom (.id x), .assign :: (render 0 0 e ++ rest')) := by
        simp [parseTerm, termStep]
      rw [h1]
      simp [parseCont, contStep, parseStart_mono (by omega : K' ≤ K' + 1) hbody]
    rw [render_assign]
    split
    · rename_i h0; subst h0
      exact A m rest n res N hf hc (by omega)
    · have hb := A 0 (.rparen :: rest) 1 _ (N - 2) (follow_rparen 0 rest)
        (parseCont_stop0 (follow_rparen 0 rest) 0 0 (.assign x e)) (by omega)
      exact paren_render (toks := [.id x, .assign] ++ render 0 0 e) hb hc (by omega)
  | bin o l r ihl ihr =>
    intro m f rest n res N hf hc hN
    have hn := parseCont_pos hc
    simp only [cost] at hN
    have A : ∀ (m' f' : Nat) (rest' : List Tok) (n' : Nat) (res' : OpTree × List Tok) (K : Nat),
        m' ≤ lp o → f' < rp o → Follow f' rest' → parseCont n' m' (.bin o l r) rest' = some res' →
        n' + cost l + cost r + 3 ≤ K →
        parseStart K m' (render m' (lp o) l ++ [.op o] ++ render (rp o) f' r ++ rest') = some res' := by
      intro m' f' rest' n' res' K hm hf1 hf' hc' hK
      have hn' := parseCont_pos hc'
      -- the right operand, parsed at minimum `rp o`, stops in front of `rest'`
      have hr : parseStart (n' + cost r + 1) (rp o) (render (rp o) f' r ++ rest') = some (r, rest') :=
        ihr (rp o) f' rest' 1 _ _ hf' (parseCont_stop hf' hf1 0 r) (by omega)
      -- so the loop that has `l` and sees `o` builds `bin o l r` and goes on
      have hl : parseCont (n' + cost r + 2) m' l (.op o :: (render (rp o) f' r ++ rest')) = some res' := by
        rw [parseCont]; unfold contStep
        simp [hm, hr]
        exact parseCont_mono (by omega) hc'
      have hlist : render m' (lp o) l ++ [.op o] ++ render (rp o) f' r ++ rest'
          = render m' (lp o) l ++ (.op o :: (render (rp o) f' r ++ rest')) := by simp
      rw [hlist]
      exact ihl m' (lp o) _ _ res' K (by simp [Follow]) hl (by omega)
    rw [render_bin]
    split
    · rename_i hcond
      exact A m f rest n res N hcond.1 hcond.2 hf hc (by omega)
    · have hb := A 0 0 (.rparen :: rest) 1 _ (N - 2) (Nat.zero_le _) (rp_pos o) (follow_rparen 0 rest)
        (parseCont_stop0 (follow_rparen 0 rest) 0 0 (.bin o l r)) (by omega)
      exact paren_render hb hc (by omega)

end KotoVerif.C01
