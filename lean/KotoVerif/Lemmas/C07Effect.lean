/-
Lemmas for C07: what one event of `Model/Unwind.lean` does to the pending callers and to the modules
(exports, placeholders, cached), as one relation `Effect` with `step_effect`.

Every event does one of five things: it removes pending callers that are not imports (an error pops
loops; `Return` and a returning native pop themselves first) or adds one, leaving the modules alone;
it exports a key; it starts an import; it ends one (and, when the import failed, pops loops).
-/
import KotoVerif.Lemmas.C07

namespace KotoVerif.Unwind

def isImporting : Cont → Bool
  | .importing _ _ => true
  | _ => false

inductive Effect (ev : Ev) (st : St) : St → Prop
  | pop {Z cs' vm'} : st.conts = Z ++ cs' → (∀ z ∈ Z, isImporting z = false) →
      vm'.mods = st.vm.mods → Effect ev st ⟨vm', cs'⟩
  | push {k vm'} : isImporting k = false → vm'.mods = st.vm.mods → Effect ev st ⟨vm', k :: st.conts⟩
  | export {k} : ev = .exportVal k → Effect ev st
      ⟨{ st.vm with exports := if k ∈ st.vm.exports then st.vm.exports else st.vm.exports ++ [k] },
        st.conts⟩
  | importBegin {m} : ev = .importBegin m → Effect ev st
      ⟨{ st.vm with placeholders := m :: st.vm.placeholders, exports := [] },
        .importing m st.vm.exports :: st.conts⟩
  | importEnd {ok m saved Z cs' vm'} : ev = .importEnd ok →
      st.conts = .importing m saved :: (Z ++ cs') → (∀ z ∈ Z, isLoop z = true) →
      vm'.mods = (saved, st.vm.placeholders.erase m,
        if ok then m :: st.vm.cached else st.vm.cached) → Effect ev st ⟨vm', cs'⟩

theorem Effect.same {ev : Ev} {st : St} {vm' : VM} (h : vm'.mods = st.vm.mods) :
    Effect ev st ⟨vm', st.conts⟩ :=
  .pop (Z := []) rfl (fun _ hz => nomatch hz) h

theorem isImporting_of_isLoop {z : Cont} (h : isLoop z = true) : isImporting z = false := by
  cases z <;> first | rfl | cases h

/-- an error raised below the callers `Z0` that have already returned -/
theorem Effect.raise {ev : Ev} {st : St} {Z0 cs1 : List Cont} (hcs : st.conts = Z0 ++ cs1)
    (hZ0 : ∀ z ∈ Z0, isImporting z = false) (c : Bool) {vm' : VM} (h : vm'.mods = st.vm.mods) :
    Effect ev st (raiseGo cs1 c vm') := by
  obtain ⟨Z, hZ, hl, hm⟩ := raiseGo_pops cs1 c vm'
  refine .pop (Z := Z0 ++ Z) (by rw [List.append_assoc, ← hZ]; exact hcs) (fun z hz => ?_)
    (hm.trans h)
  cases List.mem_append.mp hz with
  | inl h' => exact hZ0 z h'
  | inr h' => exact isImporting_of_isLoop (hl z h')

theorem enterWith_effect (ev : Ev) (t : Bool) (pre args : Nat) (c : Callee) (st : St) :
    Effect ev st (enterWith t pre args c st) := by
  cases c with
  | koto a => exact .push rfl rfl
  | native => exact .push rfl rfl
  | fail =>
    simp only [enterWith]
    exact .raise (Z0 := []) rfl (fun _ hz => nomatch hz) true (by split <;> rfl)

theorem step_effect (ev : Ev) (st : St) : Effect ev st (step ev st) := by
  have hr : ∀ c (vm' : VM), vm'.mods = st.vm.mods → Effect ev st (raiseGo st.conts c vm') :=
    fun c vm' h => .raise (Z0 := []) rfl (fun _ hz => nomatch hz) c h
  have hsame : Effect ev st st := Effect.same rfl
  cases ev with
  | enter pre args c =>
    simp only [step, enterChecked, enter]; split
    · exact enterWith_effect _ _ _ _ _ _
    · exact hr _ _ rfl
  | enterOp pre args c =>
    simp only [step, enterOpChecked, enterOp]; split
    · exact enterWith_effect _ _ _ _ _ _
    · exact hr _ _ rfl
  | enterDirect pre ok =>
    simp only [step, enterDirectChecked, enterDirect]; split
    · split
      · exact Effect.same rfl
      · exact hr _ _ rfl
    · exact hr _ _ rfl
  | nested a b =>
    simp only [step, nested]; split
    · exact hr _ _ rfl
    · exact .push rfl rfl
  | newFrame n => simp only [step]; split <;> first | exact hsame | exact Effect.same (modTop_mods _ _)
  | tryStart r ip => simp only [step]; split <;> first | exact hsame | exact Effect.same (modTop_mods _ _)
  | tryEnd => simp only [step]; split <;> first | exact hsame | exact Effect.same (modTop_mods _ _)
  | call fb a => simp only [step]; split <;> first | exact hsame | exact Effect.same rfl
  | callNative fb => simp only [step]; split <;> first | exact hsame | exact .push rfl rfl
  | seqStart => simp only [step]; split <;> first | exact hsame | exact Effect.same rfl
  | strStart => simp only [step]; split <;> first | exact hsame | exact Effect.same rfl
  | exportVal k => simp only [step]; split <;> first | exact hsame | exact .export rfl
  | seqEnd =>
    simp only [step]; split
    · split
      · exact hr _ _ rfl
      · exact Effect.same rfl
    · exact hsame
  | strEnd =>
    simp only [step]; split
    · split
      · exact hr _ _ rfl
      · exact Effect.same rfl
    · exact hsame
  | raise c => simp only [step]; split <;> first | exact hsame | exact hr _ _ rfl
  | opSetupFail n => simp only [step]; split <;> first | exact hsame | exact hr _ _ rfl
  | importBegin m =>
    simp only [step]; split
    · split
      · exact hr _ _ rfl
      · split
        · exact hsame
        · exact .importBegin rfl
    · exact hsame
  | ret =>
    simp only [step]; split
    · split
      · rename_i f rest x conts hs hc
        have hp := popTo_mods f rest st.vm
        split
        · rename_i vm1 h; rw [h] at hp; exact Effect.same hp
        · rename_i vm1 h; rw [h] at hp
          cases x <;> exact .pop (Z := [.loop _]) hc (fun z hz => by cases List.mem_singleton.mp hz; rfl) hp
      · exact hsame
    · exact hsame
  | nativeRet ok =>
    simp only [step]; split
    · exact hsame
    · split
      · rename_i fb host conts hc
        have hZ : ∀ z ∈ [Cont.native fb host], isImporting z = false :=
          fun z hz => by cases List.mem_singleton.mp hz; rfl
        cases ok <;> cases host <;> simp only [if_true, if_false, Bool.false_eq_true]
        · exact .raise (Z0 := [.native fb none]) hc hZ true rfl
        · exact .raise (Z0 := [.native fb (some _)]) hc hZ true (by split <;> rfl)
        · exact .pop (Z := [.native fb none]) hc hZ (nativeOk_mods _ _)
        · exact .pop (Z := [.native fb (some _)]) hc hZ (nativeOk_mods _ _)
      · exact hsame
  | importEnd ok =>
    simp only [step]; split
    · exact hsame
    · split
      · rename_i m saved conts hc
        cases ok <;> simp only [Bool.false_eq_true, if_false, if_true]
        · obtain ⟨Z, hZ, hl, hm⟩ := raiseGo_pops conts true _
          exact .importEnd (Z := Z) rfl (hZ ▸ hc) hl hm
        · exact .importEnd (ok := true) (Z := []) rfl hc (fun _ hz => nomatch hz) rfl
      · exact hsame

end KotoVerif.Unwind
