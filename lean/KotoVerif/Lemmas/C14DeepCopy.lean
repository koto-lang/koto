/-
C14 — `deep_copy`: the heap is only extended, everything reachable from the result is new, the
result denotes the same value tree. `deepCopy_cases` says how a call returns; the two invariants
(`deepCopy_good`, `deepCopy_snapshot`) are inductions on the nesting limit over those four cases.
-/
import KotoVerif.Model.Heap
import KotoVerif.Lemmas.C14Heap

namespace KotoVerif
namespace Heap

theorem mapAccumOpt_cons {σ α β : Type} (g : σ → α → Option (σ × β)) (s s2 : σ) (x : α) (xs : List α)
    (ys : List β) (h : mapAccumOpt g s (x :: xs) = some (s2, ys)) :
    ∃ s1 y ys', g s x = some (s1, y) ∧ mapAccumOpt g s1 xs = some (s2, ys') ∧ ys = y :: ys' := by
  simp only [mapAccumOpt] at h
  cases h1 : g s x with
  | none => simp [h1] at h
  | some r =>
    obtain ⟨s1, y⟩ := r
    simp only [h1] at h
    cases h2 : mapAccumOpt g s1 xs with
    | none => simp [h2] at h
    | some r2 =>
      obtain ⟨s2', ys'⟩ := r2
      simp only [h2, Option.some.injEq, Prod.mk.injEq] at h
      exact ⟨s1, y, ys', rfl, by rw [← h.1]; exact h2, h.2.symm⟩

mutual
def freshV (n : Nat) : HVal → Bool
  | .lref h => decide (n ≤ h)
  | .mref h => decide (n ≤ h)
  | .tuple xs => freshL n xs
  | _ => true
def freshL (n : Nat) : List HVal → Bool
  | [] => true
  | x :: xs => freshV n x && freshL n xs
end

def freshObj (n : Nat) : Obj → Bool
  | .list xs => freshL n xs
  | .map es => freshL n (es.map Prod.snd)

mutual
theorem freshV_mono (n m : Nat) (hnm : n ≤ m) : ∀ (v : HVal), freshV m v = true → freshV n v = true
  | .lref h, hv => by simp only [freshV, decide_eq_true_eq] at hv ⊢; omega
  | .mref h, hv => by simp only [freshV, decide_eq_true_eq] at hv ⊢; omega
  | .tuple xs, hv => by simp only [freshV] at hv ⊢; exact freshL_mono n m hnm xs hv
  | .null, _ => rfl
  | .bool _, _ => rfl
  | .num _, _ => rfl
  | .str _, _ => rfl
  | .range _ _, _ => rfl
theorem freshL_mono (n m : Nat) (hnm : n ≤ m) : ∀ (xs : List HVal), freshL m xs = true → freshL n xs = true
  | [], _ => rfl
  | x :: xs, hv => by
    simp only [freshL, Bool.and_eq_true] at hv ⊢
    exact ⟨freshV_mono n m hnm x hv.1, freshL_mono n m hnm xs hv.2⟩
end

theorem freshObj_mono (n m : Nat) (hnm : n ≤ m) (o : Obj) (h : freshObj m o = true) : freshObj n o = true := by
  cases o with
  | list xs => exact freshL_mono n m hnm xs h
  | map es => exact freshL_mono n m hnm _ h

theorem freshL_eq_all (n : Nat) (xs : List HVal) : freshL n xs = xs.all (freshV n) := by
  induction xs with
  | nil => rfl
  | cons x xs ih => rw [freshL, ih, List.all_cons]

theorem freshL_mem (n : Nat) (xs : List HVal) (h : freshL n xs = true) : ∀ x ∈ xs, freshV n x = true :=
  List.all_eq_true.mp (freshL_eq_all n xs ▸ h)

theorem freshL_zip_snd (n : Nat) (ks : List Val) (vs : List HVal) (h : freshL n vs = true) :
    freshL n ((ks.zip vs).map Prod.snd) = true := by
  rw [freshL_eq_all, List.all_eq_true]
  intro v hv
  obtain ⟨e, he, rfl⟩ := List.mem_map.mp hv
  exact freshL_mem n vs h e.2 (List.of_mem_zip he).2

theorem deepCopy_cases {f : Nat} {heap heap' : Heap} {v v' : HVal}
    (h : deepCopy (f + 1) heap v = some (heap', v')) :
    (heap' = heap ∧ v' = v ∧ ∀ n, freshV n v = true) ∨
    (∃ xs xs', v = .tuple xs ∧ mapAccumOpt (deepCopy f) heap xs = some (heap', xs') ∧ v' = .tuple xs') ∨
    (∃ a xs h1 xs', v = .lref a ∧ getList heap a = some xs ∧
      mapAccumOpt (deepCopy f) heap xs = some (h1, xs') ∧
      heap' = h1 ++ [.list xs'] ∧ v' = .lref h1.length) ∨
    (∃ a es h1 vs', v = .mref a ∧ getMap heap a = some es ∧
      mapAccumOpt (deepCopy f) heap (es.map Prod.snd) = some (h1, vs') ∧
      heap' = h1 ++ [.map ((es.map Prod.fst).zip vs')] ∧ v' = .mref h1.length) := by
  cases v with
  | tuple xs =>
    simp only [deepCopy] at h
    split at h
    · cases h; exact Or.inr (Or.inl ⟨xs, _, rfl, ‹_›, rfl⟩)
    · cases h
  | lref a =>
    simp only [deepCopy] at h
    split at h
    · split at h
      · cases h; exact Or.inr (Or.inr (Or.inl ⟨a, _, _, _, rfl, ‹_›, ‹_›, rfl, rfl⟩))
      · cases h
    · cases h
  | mref a =>
    simp only [deepCopy] at h
    split at h
    · split at h
      · cases h; exact Or.inr (Or.inr (Or.inr ⟨a, _, _, _, rfl, ‹_›, ‹_›, rfl, rfl⟩))
      · cases h
    · cases h
  | _ => cases h; exact Or.inl ⟨rfl, rfl, fun _ => rfl⟩

/-- what one `deepCopy` call guarantees: the heap is only extended, the result mentions new handles only,
and so does every new object -/
def Good (heap heap' : Heap) (v' : HVal) : Prop :=
  ∃ ext, heap' = heap ++ ext ∧ freshV heap.length v' = true ∧ ∀ o ∈ ext, freshObj heap.length o = true

theorem mapAccum_good (g : Heap → HVal → Option (Heap × HVal))
    (hg : ∀ heap v heap' v', g heap v = some (heap', v') → Good heap heap' v')
    (heap heap' : Heap) (xs xs' : List HVal) (h : mapAccumOpt g heap xs = some (heap', xs')) :
    ∃ ext, heap' = heap ++ ext ∧ freshL heap.length xs' = true ∧ ∀ o ∈ ext, freshObj heap.length o = true := by
  induction xs generalizing heap xs' with
  | nil =>
    simp only [mapAccumOpt, Option.some.injEq, Prod.mk.injEq] at h
    exact ⟨[], by simp [h.1], by rw [← h.2]; rfl, by intro o ho; cases ho⟩
  | cons x xs ih =>
    obtain ⟨s1, y, ys', h1, h2, hys⟩ := mapAccumOpt_cons g heap heap' x xs xs' h
    obtain ⟨e1, he1, hf1, ho1⟩ := hg _ _ _ _ h1
    obtain ⟨e2, he2, hf2, ho2⟩ := ih s1 ys' h2
    have hlen : heap.length ≤ s1.length := by rw [he1]; simp
    refine ⟨e1 ++ e2, by rw [he2, he1, List.append_assoc], ?_, ?_⟩
    · rw [hys]
      simp only [freshL, Bool.and_eq_true]
      exact ⟨hf1, freshL_mono _ _ hlen _ hf2⟩
    · intro o ho
      rcases List.mem_append.mp ho with ho' | ho'
      · exact ho1 o ho'
      · exact freshObj_mono _ _ hlen o (ho2 o ho')

theorem Good.alloc {heap h1 ext : Heap} (he : h1 = heap ++ ext)
    (ho : ∀ o ∈ ext, freshObj heap.length o = true) (o : Obj) (hf : freshObj heap.length o = true)
    (v' : HVal) (hv : freshV heap.length v' = true) : Good heap (h1 ++ [o]) v' := by
  refine ⟨ext ++ [o], by rw [he, List.append_assoc], hv, fun o' ho' => ?_⟩
  rcases List.mem_append.mp ho' with ho'' | ho''
  · exact ho o' ho''
  · cases List.mem_singleton.mp ho''
    exact hf

theorem deepCopy_good (f : Nat) (heap heap' : Heap) (v v' : HVal)
    (h : deepCopy f heap v = some (heap', v')) : Good heap heap' v' := by
  induction f generalizing heap heap' v v' with
  | zero => cases h
  | succ f ih =>
    have hl := mapAccum_good (deepCopy f) (fun a b c d => ih a c b d)
    rcases deepCopy_cases h with ⟨rfl, rfl, hv⟩ | ⟨xs, xs', rfl, hm, rfl⟩ |
      ⟨a, xs, h1, xs', rfl, _, hm, rfl, rfl⟩ | ⟨a, es, h1, vs', rfl, _, hm, rfl, rfl⟩
    · exact ⟨[], (List.append_nil _).symm, hv _, fun _ ho => nomatch ho⟩
    · exact hl _ _ _ _ hm
    · obtain ⟨e, he, hf, ho⟩ := hl _ _ _ _ hm
      exact Good.alloc he ho (.list xs') hf _ (by rw [he]; simp [freshV])
    · obtain ⟨e, he, hf, ho⟩ := hl _ _ _ _ hm
      exact Good.alloc he ho (.map ((es.map Prod.fst).zip vs')) (freshL_zip_snd _ _ _ hf) _
        (by rw [he]; simp [freshV])

theorem deepCopy_extends (f : Nat) (heap heap' : Heap) (v v' : HVal)
    (h : deepCopy f heap v = some (heap', v')) : ∃ ext, heap' = heap ++ ext :=
  let ⟨ext, he, _, _⟩ := deepCopy_good f heap heap' v v' h
  ⟨ext, he⟩

theorem reach_fresh (old ext : Heap) (hext : ∀ o ∈ ext, freshObj old.length o = true) (g : Nat) :
    ∀ (v : HVal), freshV old.length v = true → ∀ x ∈ reach g (old ++ ext) v, old.length ≤ x := by
  induction g with
  | zero => intro v _ x hx; simp [reach] at hx
  | succ g ih =>
    intro v hv x hx
    have objAt : ∀ a, old.length ≤ a → ∀ o, (old ++ ext)[a]? = some o → freshObj old.length o = true := by
      intro a ha o ho
      rw [List.getElem?_append_right ha] at ho
      exact hext o (List.mem_of_getElem? ho)
    cases v with
    | tuple xs =>
      simp only [reach, List.mem_flatMap] at hx
      obtain ⟨y, hy, hxy⟩ := hx
      exact ih y (freshL_mem _ xs (by simpa [freshV] using hv) y hy) x hxy
    | lref a =>
      simp only [freshV, decide_eq_true_eq] at hv
      simp only [reach] at hx
      cases hgl : getList (old ++ ext) a with
      | none => simp [hgl] at hx
      | some xs =>
        simp only [hgl, List.mem_cons, List.mem_flatMap] at hx
        rcases hx with rfl | ⟨y, hy, hxy⟩
        · exact hv
        · have := objAt a hv _ (getList_eq_some.mp hgl)
          exact ih y (freshL_mem _ xs this y hy) x hxy
    | mref a =>
      simp only [freshV, decide_eq_true_eq] at hv
      simp only [reach] at hx
      cases hgl : getMap (old ++ ext) a with
      | none => simp [hgl] at hx
      | some es =>
        simp only [hgl, List.mem_cons, List.mem_flatMap] at hx
        rcases hx with rfl | ⟨e, he, hxy⟩
        · exact hv
        · have := objAt a hv _ (getMap_eq_some.mp hgl)
          have hmem : e.2 ∈ es.map Prod.snd := List.mem_map_of_mem he
          exact ih e.2 (freshL_mem _ _ this e.2 hmem) x hxy
    | _ => cases hx

theorem deepCopy_reach_fresh (f : Nat) (heap heap' : Heap) (v v' : HVal)
    (h : deepCopy f heap v = some (heap', v')) : ∀ g, ∀ x ∈ reach g heap' v', heap.length ≤ x := by
  obtain ⟨ext, he, hf, ho⟩ := deepCopy_good f heap heap' v v' h
  intro g x hx
  rw [he] at hx
  exact reach_fresh heap ext ho g v' hf x hx

theorem reach_lt (g : Nat) (heap : Heap) : ∀ (v : HVal), ∀ x ∈ reach g heap v, x < heap.length := by
  induction g with
  | zero => intro v x hx; simp [reach] at hx
  | succ g ih =>
    intro v x hx
    cases v with
    | tuple xs =>
      simp only [reach, List.mem_flatMap] at hx
      obtain ⟨y, _, hxy⟩ := hx
      exact ih y x hxy
    | lref a =>
      simp only [reach] at hx
      cases hgl : getList heap a with
      | none => simp [hgl] at hx
      | some xs =>
        simp only [hgl, List.mem_cons, List.mem_flatMap] at hx
        rcases hx with rfl | ⟨y, _, hxy⟩
        · exact getList_lt heap _ xs hgl
        · exact ih y x hxy
    | mref a =>
      simp only [reach] at hx
      cases hgl : getMap heap a with
      | none => simp [hgl] at hx
      | some es =>
        simp only [hgl, List.mem_cons, List.mem_flatMap] at hx
        rcases hx with rfl | ⟨e, _, hxy⟩
        · exact getMap_lt heap _ es hgl
        · exact ih e.2 x hxy
    | _ => cases hx

theorem mapOpt_cons_some {α β : Type} (f : α → Option β) (x : α) (xs : List α) (ts : List β)
    (hm : mapOpt f (x :: xs) = some ts) :
    ∃ t0 ts0, f x = some t0 ∧ mapOpt f xs = some ts0 ∧ ts = t0 :: ts0 := by
  simp only [mapOpt] at hm
  cases h1 : f x with
  | none => simp [h1] at hm
  | some t0 =>
    simp only [h1] at hm
    cases h2 : mapOpt f xs with
    | none => simp [h2] at hm
    | some ts0 =>
      simp only [h2, Option.some.injEq] at hm
      exact ⟨t0, ts0, rfl, rfl, hm.symm⟩

theorem mapOpt_imp {α β : Type} (f f' : α → Option β) (xs : List α) (ts : List β)
    (h : ∀ x ∈ xs, ∀ t, f x = some t → f' x = some t) (hm : mapOpt f xs = some ts) :
    mapOpt f' xs = some ts := by
  induction xs generalizing ts with
  | nil => exact hm
  | cons x xs ih =>
    obtain ⟨t0, ts0, h1, h2, rfl⟩ := mapOpt_cons_some f x xs ts hm
    simp only [mapOpt]
    rw [h x (by simp) t0 h1, ih ts0 (fun y hy => h y (List.mem_cons_of_mem _ hy)) h2]

theorem snapshot_ext (g : Nat) (heap ext : Heap) :
    ∀ (v : HVal) (t : Val), snapshot g heap v = some t → snapshot g (heap ++ ext) v = some t := by
  induction g with
  | zero => intro v t h; simp [snapshot] at h
  | succ g ih =>
    intro v t h
    cases v with
    | tuple xs =>
      simp only [snapshot] at h ⊢
      cases hm : mapOpt (snapshot g heap) xs with
      | none => simp [hm] at h
      | some ts =>
        rw [mapOpt_imp _ _ xs ts (fun x _ t0 hx => ih x t0 hx) hm]
        simpa [hm] using h
    | lref a =>
      simp only [snapshot] at h ⊢
      cases hgl : getList heap a with
      | none => simp [hgl] at h
      | some xs =>
        simp only [hgl] at h
        rw [getList_append_left heap ext a xs hgl]
        simp only
        cases hm : mapOpt (snapshot g heap) xs with
        | none => simp [hm] at h
        | some ts =>
          rw [mapOpt_imp _ _ xs ts (fun x _ t0 hx => ih x t0 hx) hm]
          simpa [hm] using h
    | mref a =>
      simp only [snapshot] at h ⊢
      cases hgl : getMap heap a with
      | none => simp [hgl] at h
      | some es =>
        simp only [hgl] at h
        rw [getMap_append_left heap ext a es hgl]
        simp only
        cases hm : mapOpt (snapshot g heap) (es.map Prod.snd) with
        | none => simp [hm] at h
        | some ts =>
          rw [mapOpt_imp _ _ _ ts (fun x _ t0 hx => ih x t0 hx) hm]
          simpa [hm] using h
    | _ => exact h

theorem mapAccumOpt_length {σ α β : Type} (g : σ → α → Option (σ × β)) (s s' : σ) (xs : List α)
    (ys : List β) (h : mapAccumOpt g s xs = some (s', ys)) : ys.length = xs.length := by
  induction xs generalizing s ys with
  | nil =>
    simp only [mapAccumOpt, Option.some.injEq, Prod.mk.injEq] at h
    rw [← h.2]
    rfl
  | cons x xs ih =>
    obtain ⟨s1, y, ys', _, h2, hys⟩ := mapAccumOpt_cons g s s' x xs ys h
    rw [hys]
    simp [ih s1 ys' h2]

theorem mapAccum_snapshot (f : Nat)
    (H : ∀ heap heap' v v', deepCopy f heap v = some (heap', v') →
      ∀ g t, snapshot g heap v = some t → snapshot g heap' v' = some t)
    (heap heap' : Heap) (xs xs' : List HVal) (h : mapAccumOpt (deepCopy f) heap xs = some (heap', xs'))
    (g : Nat) (ts : List Val) (hs : mapOpt (snapshot g heap) xs = some ts) :
    mapOpt (snapshot g heap') xs' = some ts := by
  induction xs generalizing heap xs' ts with
  | nil =>
    simp only [mapAccumOpt, Option.some.injEq, Prod.mk.injEq] at h
    rw [← h.2]
    simpa [mapOpt] using hs
  | cons x xs ih =>
    obtain ⟨s1, y, ys', h1, h2, hys⟩ := mapAccumOpt_cons _ heap heap' x xs xs' h
    obtain ⟨t0, ts0, hx, hxs, hts⟩ := mapOpt_cons_some _ x xs ts hs
    obtain ⟨e1, he1⟩ := deepCopy_extends f heap s1 x y h1
    obtain ⟨e2, he2, _, _⟩ := mapAccum_good (deepCopy f) (fun a b c d => deepCopy_good f a c b d) s1 heap' xs ys' h2
    have hy1 : snapshot g s1 y = some t0 := H _ _ _ _ h1 g t0 hx
    have hy : snapshot g heap' y = some t0 := by rw [he2]; exact snapshot_ext g s1 e2 y t0 hy1
    have hxs1 : mapOpt (snapshot g s1) xs = some ts0 := by
      rw [he1]
      exact mapOpt_imp _ _ xs ts0 (fun z _ t hz => snapshot_ext g heap e1 z t hz) hxs
    have hrest := ih s1 ys' h2 ts0 hxs1
    rw [hys, hts]
    simp [mapOpt, hy, hrest]

theorem deepCopy_snapshot (f : Nat) : ∀ (heap heap' : Heap) (v v' : HVal),
    deepCopy f heap v = some (heap', v') →
    ∀ g t, snapshot g heap v = some t → snapshot g heap' v' = some t := by
  induction f with
  | zero => intro heap heap' v v' h; cases h
  | succ f ih =>
    intro heap heap' v v' h g t hs
    have hl := mapAccum_snapshot f ih
    cases g with
    | zero => cases hs
    | succ g =>
      rcases deepCopy_cases h with ⟨rfl, rfl, _⟩ | ⟨xs, xs', rfl, hm, rfl⟩ |
        ⟨a, xs, h1, xs', rfl, hgl, hm, rfl, rfl⟩ | ⟨a, es, h1, vs', rfl, hgl, hm, rfl, rfl⟩
      · exact hs
      · obtain ⟨ts, hts, rfl⟩ := Option.map_eq_some_iff.mp hs
        show (mapOpt (snapshot g heap') xs').map Val.tuple = _
        rw [hl heap heap' xs xs' hm g ts hts]
        rfl
      · simp only [snapshot, hgl] at hs
        obtain ⟨ts, hts, rfl⟩ := Option.map_eq_some_iff.mp hs
        have h3 := mapOpt_imp _ _ xs' ts (fun z _ t0 hz => snapshot_ext g h1 [.list xs'] z t0 hz)
          (hl heap h1 xs xs' hm g ts hts)
        have hget : getList (h1 ++ [.list xs']) h1.length = some xs' := by simp [getList]
        simp only [snapshot, hget, h3]
        rfl
      · simp only [snapshot, hgl] at hs
        obtain ⟨ts, hts, rfl⟩ := Option.map_eq_some_iff.mp hs
        have hlen : vs'.length = (es.map Prod.fst).length := by
          rw [mapAccumOpt_length _ _ _ _ _ hm]; simp
        have h3 := mapOpt_imp _ _ vs' ts
          (fun z _ t0 hz => snapshot_ext g h1 [.map ((es.map Prod.fst).zip vs')] z t0 hz)
          (hl heap h1 _ vs' hm g ts hts)
        have hget : getMap (h1 ++ [.map ((es.map Prod.fst).zip vs')]) h1.length
            = some ((es.map Prod.fst).zip vs') := by simp [getMap]
        have hsnd : ((es.map Prod.fst).zip vs').map Prod.snd = vs' := List.map_snd_zip (by omega)
        have hfst : ((es.map Prod.fst).zip vs').map Prod.fst = es.map Prod.fst :=
          List.map_fst_zip (by omega)
        simp only [snapshot, hget, hsnd, hfst, h3]
        rfl

end Heap
end KotoVerif
