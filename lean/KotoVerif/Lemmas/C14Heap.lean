/-
C14 — lemmas about the heap model: every operation writes only the object it is applied to
(frame) and leaves every object its kind, `copy` allocates a fresh top level holding the same
element values, immediate values do not depend on the heap.
-/
import KotoVerif.Model.HeapEval

namespace KotoVerif
namespace Heap
open Equal

theorem setObj_other (heap : Heap) (h h' : Nat) (o : Obj) (hne : h' ≠ h) :
    (setObj heap h o)[h']? = heap[h']? := by
  unfold setObj
  exact List.getElem?_set_ne (Ne.symm hne)

theorem setObj_length (heap : Heap) (h : Nat) (o : Obj) : (setObj heap h o).length = heap.length := by
  simp [setObj]

theorem onList_frame (F : FloatOps) (heap : Heap) (h : Nat) (op : LOp) (h' : Nat) (hne : h' ≠ h) :
    (onList F heap h op).1[h']? = heap[h']? := by
  unfold onList
  split
  · exact setObj_other _ _ _ _ hne
  · rfl

theorem onMap_frame (F : FloatOps) (mech : Bool) (heap : Heap) (h : Nat) (op : MOp) (h' : Nat)
    (hne : h' ≠ h) : (onMap F mech heap h op).1[h']? = heap[h']? := by
  unfold onMap
  split
  · exact setObj_other _ _ _ _ hne
  · rfl

theorem swapLists_frame (heap : Heap) (h h2 h' : Nat) (hne : h' ≠ h) (hne2 : h' ≠ h2) :
    (swapLists heap h h2).1[h']? = heap[h']? := by
  unfold swapLists
  split
  · simp only
    rw [setObj_other _ _ _ _ hne2, setObj_other _ _ _ _ hne]
  · rfl

theorem onList_length (F : FloatOps) (heap : Heap) (h : Nat) (op : LOp) :
    (onList F heap h op).1.length = heap.length := by
  unfold onList
  split
  · exact setObj_length _ _ _
  · rfl

theorem onMap_length (F : FloatOps) (mech : Bool) (heap : Heap) (h : Nat) (op : MOp) :
    (onMap F mech heap h op).1.length = heap.length := by
  unfold onMap
  split
  · exact setObj_length _ _ _
  · rfl

theorem getList_eq_some {heap : Heap} {h : Nat} {xs : List HVal} :
    getList heap h = some xs ↔ heap[h]? = some (.list xs) := by
  unfold getList
  split
  · rename_i ys e; rw [e]; exact ⟨fun e' => by rw [Option.some.inj e'], fun e' => by cases e'; rfl⟩
  · rename_i hno
    exact ⟨nofun, fun e' => absurd e' (hno xs)⟩

theorem getMap_eq_some {heap : Heap} {h : Nat} {es : List (Val × HVal)} :
    getMap heap h = some es ↔ heap[h]? = some (.map es) := by
  unfold getMap
  split
  · rename_i ys e; rw [e]; exact ⟨fun e' => by rw [Option.some.inj e'], fun e' => by cases e'; rfl⟩
  · rename_i hno
    exact ⟨nofun, fun e' => absurd e' (hno es)⟩

theorem setObj_kinds (heap : Heap) (h : Nat) (o o' : Obj) (ho : heap[h]? = some o)
    (hk : (∃ xs ys, o = .list xs ∧ o' = .list ys) ∨ (∃ es fs, o = .map es ∧ o' = .map fs)) (h' : Nat) :
    (getList (setObj heap h o') h').isSome = (getList heap h').isSome ∧
    (getMap (setObj heap h o') h').isSome = (getMap heap h').isSome := by
  by_cases e : h' = h
  · subst e
    have hlt : h' < heap.length := (List.getElem?_eq_some_iff.mp ho).1
    have hs : (setObj heap h' o')[h']? = some o' := List.getElem?_set_self hlt
    unfold getList getMap
    rw [hs, ho]
    rcases hk with ⟨_, _, rfl, rfl⟩ | ⟨_, _, rfl, rfl⟩ <;> exact ⟨rfl, rfl⟩
  · unfold getList getMap
    rw [setObj_other heap h h' o' e]
    exact ⟨rfl, rfl⟩

theorem onList_kinds (F : FloatOps) (heap : Heap) (h : Nat) (op : LOp) (h' : Nat) :
    (getList (onList F heap h op).1 h').isSome = (getList heap h').isSome ∧
    (getMap (onList F heap h op).1 h').isSome = (getMap heap h').isSome := by
  unfold onList
  split
  · rename_i xs hx
    exact setObj_kinds heap h _ _ (getList_eq_some.mp hx) (Or.inl ⟨_, _, rfl, rfl⟩) h'
  · exact ⟨rfl, rfl⟩

theorem onMap_kinds (F : FloatOps) (mech : Bool) (heap : Heap) (h : Nat) (op : MOp) (h' : Nat) :
    (getList (onMap F mech heap h op).1 h').isSome = (getList heap h').isSome ∧
    (getMap (onMap F mech heap h op).1 h').isSome = (getMap heap h').isSome := by
  unfold onMap
  split
  · rename_i es hx
    exact setObj_kinds heap h _ _ (getMap_eq_some.mp hx) (Or.inr ⟨_, _, rfl, rfl⟩) h'
  · exact ⟨rfl, rfl⟩

theorem swapLists_kinds (heap : Heap) (h h2 h' : Nat) :
    (getList (swapLists heap h h2).1 h').isSome = (getList heap h').isSome ∧
    (getMap (swapLists heap h h2).1 h').isSome = (getMap heap h').isSome := by
  unfold swapLists
  split
  · rename_i xs ys hx hy
    have k1 := setObj_kinds heap h _ (.list ys) (getList_eq_some.mp hx) (Or.inl ⟨_, _, rfl, rfl⟩)
    obtain ⟨zs, hz⟩ := Option.isSome_iff_exists.mp (((k1 h2).1).trans (by rw [hy]; rfl))
    have k2 := setObj_kinds (setObj heap h (.list ys)) h2 _ (.list xs) (getList_eq_some.mp hz)
      (Or.inl ⟨_, _, rfl, rfl⟩) h'
    exact ⟨k2.1.trans (k1 h').1, k2.2.trans (k1 h').2⟩
  · exact ⟨rfl, rfl⟩

theorem swapLists_length (heap : Heap) (h h2 : Nat) : (swapLists heap h h2).1.length = heap.length := by
  unfold swapLists
  split
  · simp only [setObj_length]
  · rfl

theorem getList_lt (heap : Heap) (h : Nat) (xs : List HVal) (hg : getList heap h = some xs) : h < heap.length :=
  (List.getElem?_eq_some_iff.mp (getList_eq_some.mp hg)).1

theorem getMap_lt (heap : Heap) (h : Nat) (es : List (Val × HVal)) (hg : getMap heap h = some es) : h < heap.length :=
  (List.getElem?_eq_some_iff.mp (getMap_eq_some.mp hg)).1

theorem getList_append_left (heap ext : Heap) (h : Nat) (xs : List HVal) (hg : getList heap h = some xs) :
    getList (heap ++ ext) h = some xs := by
  rw [getList_eq_some, List.getElem?_append_left (getList_lt heap h xs hg)]
  exact getList_eq_some.mp hg

theorem getMap_append_left (heap ext : Heap) (h : Nat) (es : List (Val × HVal)) (hg : getMap heap h = some es) :
    getMap (heap ++ ext) h = some es := by
  rw [getMap_eq_some, List.getElem?_append_left (getMap_lt heap h es hg)]
  exact getMap_eq_some.mp hg

/-- the copy of a list is a *new* object holding the *same* element values -/
theorem copyVal_list (heap : Heap) (h : Nat) (xs : List HVal) (hg : getList heap h = some xs) :
    copyVal heap (.lref h) = (heap ++ [.list xs], .lref heap.length) ∧
    heap.length ≠ h ∧
    getList (heap ++ [.list xs]) heap.length = some xs ∧
    getList (heap ++ [.list xs]) h = some xs := by
  refine ⟨by simp [copyVal, hg, allocList], ?_, ?_, getList_append_left _ _ _ _ hg⟩
  · have := getList_lt _ _ _ hg; omega
  · simp [getList]

theorem copyVal_map (heap : Heap) (h : Nat) (es : List (Val × HVal)) (hg : getMap heap h = some es) :
    copyVal heap (.mref h) = (heap ++ [.map es], .mref heap.length) ∧
    heap.length ≠ h ∧
    getMap (heap ++ [.map es]) heap.length = some es ∧
    getMap (heap ++ [.map es]) h = some es := by
  refine ⟨by simp [copyVal, hg, allocMap], ?_, ?_, getMap_append_left _ _ _ _ hg⟩
  · have := getMap_lt _ _ _ hg; omega
  · simp [getMap]

mutual
/-- no handle anywhere in the value: numbers, strings, ranges, booleans, null and tuples of these -/
def immediate : HVal → Bool
  | .lref _ => false
  | .mref _ => false
  | .tuple xs => immediateList xs
  | _ => true
def immediateList : List HVal → Bool
  | [] => true
  | x :: xs => immediate x && immediateList xs
end

theorem mapOpt_congr {α β : Type} (f g : α → Option β) (xs : List α) (h : ∀ x ∈ xs, f x = g x) :
    mapOpt f xs = mapOpt g xs := by
  induction xs with
  | nil => rfl
  | cons x xs ih =>
    simp only [mapOpt]
    rw [h x (by simp), ih (fun y hy => h y (List.mem_cons_of_mem _ hy))]

theorem immediateList_mem (xs : List HVal) (h : immediateList xs = true) : ∀ x ∈ xs, immediate x = true := by
  induction xs with
  | nil => intro x hx; cases hx
  | cons y ys ih =>
    simp only [immediateList, Bool.and_eq_true] at h
    exact List.forall_mem_cons.mpr ⟨h.1, ih h.2⟩

theorem snapshot_immediate (f : Nat) (heap heap' : Heap) (v : HVal) (h : immediate v = true) :
    snapshot f heap v = snapshot f heap' v := by
  induction f generalizing v with
  | zero => rfl
  | succ f ih =>
    cases v with
    | tuple xs =>
      simp only [snapshot]
      have hx := immediateList_mem xs (by simpa [immediate] using h)
      rw [mapOpt_congr _ _ xs (fun x hx' => ih x (hx x hx'))]
    | lref _ => simp [immediate] at h
    | mref _ => simp [immediate] at h
    | _ => rfl

end Heap
end KotoVerif
