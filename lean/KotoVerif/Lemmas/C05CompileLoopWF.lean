/-
C05 `compile_wf`, statement layer: the registers of the loop code `compileS` emits
(`CompiledS.regsN`); hence what `compileProg` emits, as a stream (`compileProg_facts`):
registers below `registers_used() ≤ 255`, jumps in range (`flattenL_range`), and — for the fragment
without `break` / `continue` / endless `loop` — covered by control: the hypotheses of
`wfChunk_encodeProg`, and without coverage those of `progInstrs_ok` and `cert_of_program`.
-/
import KotoVerif.Lemmas.C05Blocks

namespace KotoVerif.Compile
open KotoVerif.Gen KotoVerif.Bytecode

/-- every register mentioned by loop code is below `n` -/
def CBL : LCode → Nat → Prop
  | .base c, n => CB c n
  | .seq a b, n => CBL a n ∧ CBL b n
  | .ifElse r t _ e, n => r < n ∧ CBL t n ∧ CBL e n
  | .loop none body, n => CBL body n
  | .loop (some (cc, r, _)) body, n => CB cc n ∧ r < n ∧ CBL body n
  | .brk, _ => True
  | .cont, _ => True

theorem flatAux_regs : ∀ (c : LCode) (n : Nat), CBL c n → ∀ pre post, ∀ f ∈ flatAux c pre post,
    ∀ r ∈ lflatRegs f, r < n := by
  intro c
  induction c with
  | base c =>
    intro n h pre post
    simp only [flatAux]
    exact ofFlat_regs _ n (flatten_regs c n h)
  | seq a b iha ihb =>
    intro n h pre post f hf
    simp only [flatAux, List.mem_append] at hf
    exact hf.elim (iha n h.1 _ _ f) (ihb n h.2 _ _ f)
  | ifElse q t w e iht ihe =>
    intro n h pre post f hf r hr
    cases w with
    | true =>
      simp only [flatAux, List.mem_cons, List.mem_append] at hf
      have := h.1
      rcases hf with (rfl | hf) | rfl | hf
      · simp [lflatRegs] at hr; omega
      · exact iht n h.2.1 _ _ f hf r hr
      · simp [lflatRegs] at hr
      · exact ihe n h.2.2 _ _ f hf r hr
    | false =>
      simp only [flatAux, List.mem_cons, List.mem_append] at hf
      have := h.1
      rcases hf with (rfl | hf) | hf
      · simp [lflatRegs] at hr; omega
      · exact iht n h.2.1 _ _ f hf r hr
      · exact ihe n h.2.2 _ _ f hf r hr
  | loop cond body ih =>
    intro n h pre post f hf r hr
    cases cond with
    | none =>
      simp only [flatAux, flatHdr, List.nil_append, List.mem_append, List.mem_singleton] at hf
      rcases hf with hf | rfl
      · exact ih n h _ _ f hf r hr
      · simp [lflatRegs] at hr
    | some hd =>
      obtain ⟨cc, q, neg⟩ := hd
      simp only [flatAux, flatHdr, List.mem_append, List.mem_singleton] at hf
      rcases hf with ((hf | rfl) | hf) | rfl
      · exact ofFlat_regs _ n (flatten_regs cc n h.1) f hf r hr
      · have := h.2.1
        cases neg <;> simp [lflatRegs] at hr <;> omega
      · exact ih n h.2.2 _ _ f hf r hr
      · simp [lflatRegs] at hr
  | brk => intro n h pre post f hf r hr; simp [flatAux] at hf; subst hf; simp [lflatRegs] at hr
  | cont => intro n h pre post f hf r hr; simp [flatAux] at hf; subst hf; simp [lflatRegs] at hr

/-- statements of the fragment: no `break` / `continue`, every loop has a condition -/
def SimpleS : Stmt → Prop
  | .expr _ => True
  | .seq a b => SimpleS a ∧ SimpleS b
  | .ite _ t e => SimpleS t ∧ SimpleS e
  | .ifThen _ t => SimpleS t
  | .loop (some _) b => SimpleS b
  | .loop none _ => False
  | .brk => False
  | .cont => False

theorem CompiledCond.regsN {c : Expr} {F F2 : Frame} {cc : Code} {rc : Reg} (h : CompiledCond c F cc rc F2)
    (hk : Ok F) {N : Nat} (hN : F2.tb + F2.tmax ≤ N) : CB cc N ∧ rc < N := by
  obtain ⟨hc, hr, hp⟩ := h
  obtain ⟨cb, hv⟩ := hc.regsN hk N ((popIf_ext hp).le_of hN) noFix_any
  exact ⟨cb, hv _ hr⟩

theorem CompiledS.regsN {s : Stmt} {inLoop : Bool} {F F' : Frame} {lc : LCode} (h : CompiledS s inLoop F lc F') :
    Ok F → ∀ N, F'.tb + F'.tmax ≤ N → CBL lc N ∧ (SimpleS s → Simple lc) := by
  induction h with
  | expr hc => exact fun hk N hN => ⟨(hc.regsN hk N hN noFix_none).1, fun _ => trivial⟩
  | seq ha hb iha ihb =>
    intro hk N hN
    obtain ⟨ra, sa⟩ := iha hk N (hb.ext.le_of hN)
    obtain ⟨rb, sb⟩ := ihb (ha.ext.ok hk) N hN
    exact ⟨⟨ra, rb⟩, fun hs => ⟨sa hs.1, sb hs.2⟩⟩
  | ite hc ht he iht ihe =>
    intro hk N hN
    have k1 := hc.ext.ok hk
    have hN2 := he.ext.le_of hN
    obtain ⟨cbc, hrc⟩ := hc.regsN hk (ht.ext.le_of hN2)
    obtain ⟨rt, st⟩ := iht k1 N hN2
    obtain ⟨re, se⟩ := ihe (ht.ext.ok k1) N hN
    exact ⟨⟨cbc, hrc, rt, re⟩, fun hs => ⟨trivial, st hs.1, se hs.2⟩⟩
  | ifThen hc ht iht =>
    intro hk N hN
    obtain ⟨cbc, hrc⟩ := hc.regsN hk (ht.ext.le_of hN)
    obtain ⟨rt, st⟩ := iht (hc.ext.ok hk) N hN
    exact ⟨⟨cbc, hrc, rt, CB_nil _⟩, fun hs => ⟨trivial, st hs, trivial⟩⟩
  | loop hh hb ih =>
    intro hk N hN
    cases hh with
    | noCond => exact ⟨(ih hk N hN).1, fun hs => absurd hs (by simp [SimpleS])⟩
    | cond hc =>
      obtain ⟨cbc, hrc⟩ := hc.regsN hk (hb.ext.le_of hN)
      obtain ⟨rb, sb⟩ := ih (hc.ext.ok hk) N hN
      exact ⟨⟨cbc, hrc, rb⟩, fun hs => sb hs⟩
  | brk | cont => exact fun _ _ _ => ⟨trivial, fun hs => absurd hs (by simp [SimpleS])⟩

theorem compileProg_facts {s : Stmt} {e : Expr} {lc : Nat} {flat : List LFlat} {o : Out} {F2 : Frame}
    (h : compileProg s e lc = some (flat, o, F2)) (hlc : lc ≤ 254) :
    ∃ r, o.reg = some r ∧ r < F2.registersUsed ∧ F2.registersUsed ≤ 255
      ∧ Rng 0 0 flat
      ∧ (∀ f ∈ flat, ∀ q ∈ lflatRegs f, q < F2.registersUsed) ∧ (SimpleS s → CovB flat) := by
  simp only [compileProg, bind, Option.bind_eq_some_iff, Prod.exists, pure, Option.some.injEq, Prod.mk.injEq] at h
  obtain ⟨cs, F1, hcs, ce, o', F2', hce, rfl, rfl, rfl⟩ := h
  have hs := CompiledS.of_compile hcs
  have he := Compiled.of_compile hce
  have hk0 : Ok ({ tb := 1 + lc } : Frame) := ⟨C01.mainFrame_wf lc, Nat.le_refl _⟩
  have hu0 : U ({ tb := 1 + lc } : Frame) := by simp only [U]; omega
  obtain ⟨rcs, scs⟩ := hs.regsN hk0 _ (he.ext.le_of (Nat.le_refl _))
  obtain ⟨cbe, hv⟩ := he.regsN (hs.ext.ok hk0) _ (Nat.le_refl _) noFix_any
  obtain ⟨r, hr⟩ := (he.bal.shape).any_reg
  exact ⟨r, hr, hv r hr, he.ext.u (hs.ext.u hu0),
    Rng.append (flattenL_length cs) rfl ((flattenL_range cs).mono (Nat.zero_le _) (Nat.le_refl _))
      (Rng.ofFlat (flatten_jumpsOk ce) 0 _),
    fun f hf => (List.mem_append.1 hf).elim (flatAux_regs cs _ rcs 0 0 f)
      (ofFlat_regs _ _ (flatten_regs ce _ cbe) f),
    fun hs => (cov_lcode cs (scs hs) 0 0).append (cov_code ce)⟩

end KotoVerif.Compile
