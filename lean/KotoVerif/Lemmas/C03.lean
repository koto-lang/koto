/-
Lemmas for C03: the VM operations against the sequence view; `Outcome`, the relation between a piece
of pattern code and its declarative reading; the matcher against the declarative definition in every
position where it is specified (`mPat_sound`, by mutual structural induction on patterns, one lemma
per pattern shape); the variables a pattern may write (`frame_pat`).
-/
import KotoVerif.Model.Match

namespace KotoVerif
namespace Match

variable {C : Cfg}

theorem apply_append (ρ : Env) (β₁ β₂ : Writes) : ρ.apply (β₁ ++ β₂) = (ρ.apply β₁).apply β₂ := by
  induction β₁ generalizing ρ with
  | nil => rfl
  | cons h t ih => cases h; simp [Env.apply, ih]

@[simp] theorem apply_nil (ρ : Env) : ρ.apply [] = ρ := rfl
@[simp] theorem apply_single (ρ : Env) (x : Name) (v : Val) : ρ.apply [(x, v)] = ρ.set x v := rfl

theorem apply_frame (ρ : Env) (β : Writes) (y : Name) (h : y ∉ β.map Prod.fst) : (ρ.apply β) y = ρ y := by
  induction β generalizing ρ with
  | nil => rfl
  | cons b t ih =>
    obtain ⟨x, v⟩ := b
    simp only [List.map_cons, List.mem_cons, not_or] at h
    simp only [Env.apply]
    rw [ih _ h.2]
    simp [Env.set, h.1]

theorem apply_mem (β : Writes) (y : Name) (h : y ∈ β.map Prod.fst) :
    ∃ v, (y, v) ∈ β ∧ ∀ ρ : Env, (ρ.apply β) y = v := by
  induction β with
  | nil => simp at h
  | cons b t ih =>
    obtain ⟨x, w⟩ := b
    by_cases hy : y ∈ t.map Prod.fst
    · obtain ⟨v, hm, hv⟩ := ih hy
      exact ⟨v, List.mem_cons_of_mem _ hm, fun ρ => hv _⟩
    · obtain rfl : y = x := by simpa [hy] using h
      exact ⟨w, List.mem_cons_self, fun ρ => by rw [Env.apply, apply_frame _ _ _ hy]; simp [Env.set]⟩

theorem sidx_nat (j n : Nat) : sidx (j : Int) n = j := by
  simp [sidx]
  omega

theorem sidx_neg (k n : Nat) (hk : 0 < k) (hkn : k ≤ n) : sidx (-(k : Int)) n = n - k := by
  have h : (-(k : Int)) < 0 := by omega
  simp [sidx, hk, Nat.min_eq_left hkn]

theorem noCont_take_drop (bs : List Nat) (i k : Nat) (h : noCont bs = true) :
    noCont ((bs.drop i).take k) = true := by
  simp only [noCont, List.all_eq_true] at *
  intro b hb
  exact h b (List.mem_of_mem_drop (List.mem_of_mem_take hb))

theorem strBounds_plain (bs : List Nat) (i j : Nat) (h : noCont bs = true) :
    plain (strBounds bs i j) = true := by
  unfold strBounds; split
  · simpa [plain] using noCont_take_drop bs i (j - i) h
  · rfl

theorem plainL_eq_all (xs : List Val) : plainL xs = xs.all plain := by
  induction xs with
  | nil => rfl
  | cons a t ih => simp [plainL, ih]

theorem plainL_map_str (bs : List Nat) (l : List Nat) (h : noCont bs = true) :
    plainL (l.map (fun i => strBounds bs i (i + 1))) = true := by
  simp [plainL_eq_all, strBounds_plain _ _ _ h]

theorem boundary_of_noCont (bs : List Nat) (i : Nat) (h : noCont bs = true) (hi : i ≤ bs.length) :
    boundary bs i = true := by
  unfold boundary
  by_cases he : i = bs.length
  · simp [he]
  · have hlt : i < bs.length := by omega
    simp only [noCont, List.all_eq_true] at h
    have := h bs[i] (List.getElem_mem hlt)
    simp [List.getElem?_eq_getElem hlt, this]

theorem strBounds_ok (bs : List Nat) (i j : Nat) (h : noCont bs = true) (hij : i ≤ j) (hj : j ≤ bs.length) :
    strBounds bs i j = .str ((bs.drop i).take (j - i)) := by
  simp [strBounds, hij, hj, boundary_of_noCont bs i h (by omega), boundary_of_noCont bs j h hj]

theorem strCut_ok (bs : List Nat) (i j : Nat) (h : noCont bs = true) (hij : i ≤ j) (hj : j ≤ bs.length) :
    strCut bs i j = .ok (strBounds bs i j) := by
  simp [strCut, strBounds_ok bs i j h hij hj]

theorem plainL_map_pair (es : List (Val × Val)) (h : plainM es = true) :
    plainL (es.map pairOf) = true := by
  induction es with
  | nil => rfl
  | cons e t ih =>
    obtain ⟨k, v⟩ := e
    simp [plainM] at h
    simp [plainL, pairOf, plain, h, ih]

theorem view_cases {v : Val} {xs sl} (h : view v = some (xs, sl)) :
    (v = .tuple xs ∧ sl = fun i j => .tuple ((xs.drop i).take (j - i))) ∨
    (v = .list xs ∧ sl = fun i j => .list ((xs.drop i).take (j - i))) ∨
    (∃ bs, v = .str bs ∧ noCont bs = true ∧ xs = (List.range bs.length).map (fun i => strBounds bs i (i + 1)) ∧
      sl = fun i j => strBounds bs i j) ∨
    (∃ es, v = .map es ∧ xs = es.map pairOf ∧ sl = fun i j => .map ((es.drop i).take (j - i))) := by
  cases v <;> simp only [view, Option.some.injEq, Prod.mk.injEq, reduceCtorEq] at h
  · split at h
    · next hnc => simp only [Option.some.injEq, Prod.mk.injEq] at h; exact .inr (.inr (.inl ⟨_, rfl, hnc, h.1.symm, h.2.symm⟩))
    · cases h
  · obtain ⟨rfl, rfl⟩ := h; exact .inl ⟨rfl, rfl⟩
  · obtain ⟨rfl, rfl⟩ := h; exact .inr (.inl ⟨rfl, rfl⟩)
  · exact .inr (.inr (.inr ⟨_, rfl, h.1.symm, h.2.symm⟩))

theorem view_plain {v : Val} {xs sl} (h : view v = some (xs, sl)) (hr : plain v = true) :
    plainL xs = true := by
  rcases view_cases h with ⟨rfl, -⟩ | ⟨rfl, -⟩ | ⟨bs, rfl, hnc, rfl, -⟩ | ⟨es, rfl, rfl, -⟩
  · simpa [plain] using hr
  · simpa [plain] using hr
  · exact plainL_map_str _ _ hnc
  · exact plainL_map_pair _ (by simpa [plain] using hr)

theorem plainL_append (xs ys : List Val) :
    plainL (xs ++ ys) = (plainL xs && plainL ys) := by
  simp only [plainL_eq_all, List.all_append]

theorem plainL_take (xs : List Val) (k : Nat) (h : plainL xs = true) : plainL (xs.take k) = true := by
  simp only [plainL_eq_all, List.all_eq_true] at *
  exact fun x hx => h x (List.mem_of_mem_take hx)

theorem plainL_drop (xs : List Val) (k : Nat) (h : plainL xs = true) : plainL (xs.drop k) = true := by
  simp only [plainL_eq_all, List.all_eq_true] at *
  exact fun x hx => h x (List.mem_of_mem_drop hx)

theorem view_none_size {v : Val} (h : view v = none) (hr : plain v = true) : vmSize v = none := by
  cases v <;> simp_all [view, vmSize, plain]

theorem view_size {v : Val} {xs sl} (h : view v = some (xs, sl)) : vmSize v = some xs.length := by
  rcases view_cases h with ⟨rfl, -⟩ | ⟨rfl, -⟩ | ⟨bs, rfl, -, rfl, -⟩ | ⟨es, rfl, rfl, -⟩ <;> simp [vmSize]

theorem view_tempIndex {v : Val} {xs sl} (h : view v = some (xs, sl)) (i : Int) (k : Nat)
    (hs : sidx i xs.length = k) (hk : k < xs.length) : tempIndex v i = .ok xs[k] := by
  rcases view_cases h with ⟨rfl, -⟩ | ⟨rfl, -⟩ | ⟨bs, rfl, hnc, rfl, -⟩ | ⟨es, rfl, rfl, -⟩
  · simp [tempIndex, hs, hk]
  · simp [tempIndex, hs, hk]
  · simp only [List.length_map, List.length_range] at hs hk
    simp [tempIndex, hs, strCut_ok bs k (k + 1) hnc (by omega) (by omega)]
  · simp only [List.length_map] at hs hk
    simp [tempIndex, hs, hk]

theorem view_sliceFrom {v : Val} {xs sl} (h : view v = some (xs, sl)) (i : Int) (k : Nat)
    (hs : sidx i xs.length = k) (hk : k ≤ xs.length) : sliceFrom C v i = .ok (sl k xs.length) := by
  rcases view_cases h with ⟨rfl, rfl⟩ | ⟨rfl, rfl⟩ | ⟨bs, rfl, hnc, rfl, rfl⟩ | ⟨es, rfl, rfl, rfl⟩
  · simp [sliceFrom, hs, hk, List.take_of_length_le]
  · simp [sliceFrom, hs, hk, List.take_of_length_le]
  · simp only [List.length_map, List.length_range] at hs hk
    simp [sliceFrom, hs, strCut_ok bs k bs.length hnc hk (Nat.le_refl _)]
  · simp only [List.length_map] at hs hk
    simp [sliceFrom, hs, hk, List.take_of_length_le]

theorem view_sliceTo {v : Val} {xs sl} (h : view v = some (xs, sl)) (i : Int) (k : Nat)
    (hs : sidx i xs.length = k) (hk : k ≤ xs.length) : sliceTo C v i = .ok (sl 0 k) := by
  rcases view_cases h with ⟨rfl, rfl⟩ | ⟨rfl, rfl⟩ | ⟨bs, rfl, hnc, rfl, rfl⟩ | ⟨es, rfl, rfl, rfl⟩
  · simp [sliceTo, hs, hk]
  · simp [sliceTo, hs, hk]
  · simp only [List.length_map, List.length_range] at hs hk
    simp [sliceTo, hs, strCut_ok bs 0 k hnc (Nat.zero_le _) hk]
  · simp only [List.length_map] at hs hk
    simp [sliceTo, hs, hk]

/-- the access path `a` reads the value `v` out of temporaries (independent of the registers) -/
def Reads (a : Acc) (v : Val) : Prop :=
  a = .direct (.tmp v) ∨ ∃ c i, a = .elem (.tmp c) i ∧ tempIndex c i = .ok v

theorem Reads.fetch {a : Acc} {v : Val} (h : Reads a v) (ρ : Env) : fetch ρ a = .ok v := by
  rcases h with rfl | ⟨c, i, rfl, h⟩
  · rfl
  · simpa [Match.fetch, Src.rd] using h

theorem Reads.container {a : Acc} {v : Val} (h : Reads a v) (ρ : Env) :
    container ρ a = .ok (.tmp v) := by
  rcases h with rfl | ⟨c, i, rfl, h⟩
  · rfl
  · simp [Match.container, Src.rd, h, Except.map]

@[simp] theorem fin_true (il : Bool) (ρ : Env) : fin true il ρ = .ok ρ := by simp [fin]

/-! ### outcomes of pattern code against a declarative reading

A piece of pattern code run on registers `ρ` either *hits* — it signals success, by the jump to
`match_end` (`j = true`: the last pattern of a non-last alternative) or by falling through
(`j = false`), with the declared bindings written — or it *misses*. -/

def hit (j : Bool) (ρ : Env) : R := if j then .done ρ else .ok ρ

@[simp] theorem hit_false (ρ : Env) : hit false ρ = .ok ρ := rfl
@[simp] theorem hit_true (ρ : Env) : hit true ρ = .done ρ := rfl

theorem fin_eq_hit (la il : Bool) (ρ : Env) : fin la il ρ = hit (!la && il) ρ := rfl

/-- the results that signal "no match": the jump to the next alternative, an error, or — where
success would be the jump to `match_end` — falling through -/
def Miss (j : Bool) : R → Prop
  | .ok _ => j = true
  | .done _ => False
  | .fail _ => True
  | .err _ => True

theorem hit_inj {j : Bool} {ρ ρ' : Env} (h : hit j ρ = hit j ρ') : ρ = ρ' := by
  cases j <;> simpa [hit] using h

theorem not_miss_hit (j : Bool) (ρ : Env) : ¬ Miss j (hit j ρ) := by
  cases j <;> simp [hit, Miss]

/-- `r` is the result, on registers `ρ`, of code whose declarative reading is `D` -/
structure Outcome (j : Bool) (D : Writes → Prop) (ρ : Env) (r : R) : Prop where
  hits : ∀ β, D β → r = hit j (ρ.apply β)
  misses : (¬ ∃ β, D β) → Miss j r

namespace Outcome

variable {j : Bool} {D D' : Writes → Prop} {ρ : Env} {r : R}

theorem hit_iff (h : Outcome j D ρ r) (ρ' : Env) : r = hit j ρ' ↔ ∃ β, D β ∧ ρ' = ρ.apply β := by
  constructor
  · intro hr
    by_cases hd : ∃ β, D β
    · obtain ⟨β, hβ⟩ := hd
      exact ⟨β, hβ, (hit_inj ((h.hits β hβ).symm.trans hr)).symm⟩
    · exact absurd (hr ▸ h.misses hd) (not_miss_hit j ρ')
  · rintro ⟨β, hβ, rfl⟩
    exact h.hits β hβ

theorem congr (h : Outcome j D ρ r) (hd : ∀ β, D' β ↔ D β) : Outcome j D' ρ r :=
  ⟨fun β hβ => h.hits β ((hd β).1 hβ), fun hn => h.misses fun ⟨β, hβ⟩ => hn ⟨β, (hd β).2 hβ⟩⟩

theorem of_hit {β : Writes} (hd : D β) (hβ : ∀ β', D β' → β' = β) (hr : r = hit j (ρ.apply β)) :
    Outcome j D ρ r :=
  ⟨fun β' h' => hβ β' h' ▸ hr, fun hn => absurd ⟨β, hd⟩ hn⟩

theorem of_miss (hd : ∀ β, ¬ D β) (hr : Miss j r) : Outcome j D ρ r :=
  ⟨fun β h => absurd h (hd β), fun _ => hr⟩

theorem after (w : Writes) (h : Outcome j D (ρ.apply w) r) :
    Outcome j (fun β => ∃ β', D β' ∧ β = w ++ β') ρ r :=
  ⟨fun _ ⟨β', hβ', e⟩ => by rw [e, apply_append]; exact h.hits β' hβ',
   fun hn => h.misses fun ⟨β', hβ'⟩ => hn ⟨_, β', hβ', rfl⟩⟩

end Outcome

def R.andThen : R → (Env → R) → R
  | .ok ρ, k => k ρ
  | r, _ => r

@[simp] theorem R.andThen_ok (r : R) : r.andThen .ok = r := by cases r <;> rfl

theorem Outcome.andThen {j : Bool} {D₁ D₂ : Writes → Prop} {ρ : Env} {r : R} {k : Env → R}
    (h₁ : Outcome false D₁ ρ r) (h₂ : ∀ β₁, D₁ β₁ → Outcome j D₂ (ρ.apply β₁) (k (ρ.apply β₁))) :
    Outcome j (fun β => ∃ β₁ β₂, D₁ β₁ ∧ D₂ β₂ ∧ β = β₁ ++ β₂) ρ (r.andThen k) := by
  constructor
  · rintro _ ⟨β₁, β₂, d₁, d₂, rfl⟩
    rw [h₁.hits β₁ d₁, apply_append]
    exact (h₂ β₁ d₁).hits β₂ d₂
  · intro hn
    by_cases hd : ∃ β₁, D₁ β₁
    · obtain ⟨β₁, d₁⟩ := hd
      rw [h₁.hits β₁ d₁]
      exact (h₂ β₁ d₁).misses fun ⟨β₂, d₂⟩ => hn ⟨_, β₁, β₂, d₁, d₂, rfl⟩
    · have hm := h₁.misses hd
      cases r with
      | ok _ => cases hm
      | done _ => cases hm
      | fail _ => trivial
      | err _ => trivial

theorem tryAccess_some_iff (v : Val) (key : List Nat) (x : Val) :
    tryAccess C v key = .ok (some x) ↔ ∃ m, v = .map m ∧ lookupKey key m = some x := by
  cases v <;> simp [tryAccess]
  all_goals split <;> simp

def entWrites (e : Ent) (x : Val) : Writes :=
  match e.bind with
  | some n => [(n, x)]
  | none => []

theorem declEnts_cons {e : Ent} {es : List Ent} {v x : Val} (ha : tryAccess C v e.key = .ok (some x))
    (β : Writes) :
    DeclEnts (e :: es) v β ↔ tyFail e.ty x = false ∧ ∃ β', DeclEnts es v β' ∧ β = entWrites e x ++ β' := by
  obtain ⟨m, rfl, hl⟩ := (tryAccess_some_iff v e.key x).1 ha
  simp only [DeclEnts, Val.map.injEq, entWrites]
  constructor
  · rintro ⟨m', x', β', rfl, hl', ht, hd, rfl⟩
    cases hl.symm.trans hl'
    exact ⟨ht, β', hd, rfl⟩
  · rintro ⟨ht, β', hd, rfl⟩
    exact ⟨m, x, β', rfl, hl, ht, hd, rfl⟩

theorem declEnts_cons_access {e : Ent} {es : List Ent} {v : Val} {β : Writes} (h : DeclEnts (e :: es) v β) :
    ∃ x, tryAccess C v e.key = .ok (some x) := by
  obtain ⟨m, x, _, rfl, hl, _⟩ := h
  exact ⟨x, (tryAccess_some_iff _ _ _).2 ⟨m, rfl, hl⟩⟩

theorem mEntsSeq_sound (es : List Ent) (v : Val) (ρ : Env) :
    Outcome false (DeclEnts es v) ρ (mEntsSeq C es (.tmp v) ρ) := by
  induction es generalizing ρ with
  | nil => exact .of_hit (β := []) rfl (fun _ h => h) rfl
  | cons e es ih =>
    simp only [mEntsSeq, Src.rd]
    cases ha : tryAccess C v e.key with
    | error er => exact .of_miss (fun β hd => by simpa [ha] using declEnts_cons_access (C := C) hd) trivial
    | ok o =>
      cases o with
      | none => exact .of_miss (fun β hd => by simpa [ha] using declEnts_cons_access (C := C) hd) trivial
      | some x =>
        dsimp only
        cases ht : tyFail e.ty x with
        | true => exact .of_miss (fun β hd => by simpa [ht] using ((declEnts_cons ha β).1 hd).1) trivial
        | false =>
          simp only [Bool.false_eq_true, if_false]
          cases hb : e.bind with
          | none => exact (ih ρ).congr fun β => by simp [declEnts_cons ha β, ht, entWrites, hb]
          | some n =>
            exact ((ih (ρ.set n x)).after [(n, x)]).congr fun β => by simp [declEnts_cons ha β, ht, entWrites, hb]

theorem collectEnts_cons {e : Ent} {es : List Ent} {v x : Val} (ha : tryAccess C v e.key = .ok (some x)) :
    collectEnts C (e :: es) v =
      if tyFail e.ty x then .ok none
      else match collectEnts C es v with
        | .error er => .error er
        | .ok none => .ok none
        | .ok (some β) => .ok (some (entWrites e x ++ β)) := by
  rw [collectEnts, ha]; rfl

theorem collect_some_iff : ∀ (es : List Ent) (v : Val) (β : Writes),
    collectEnts C es v = .ok (some β) ↔ DeclEnts es v β
  | [], v, β => by simp [collectEnts, DeclEnts, eq_comm]
  | e :: es, v, β => by
    cases ha : tryAccess C v e.key with
    | error er => rw [collectEnts, ha]; exact ⟨nofun, fun hd => by simpa [ha] using declEnts_cons_access (C := C) hd⟩
    | ok o =>
      cases o with
      | none => rw [collectEnts, ha]; exact ⟨nofun, fun hd => by simpa [ha] using declEnts_cons_access (C := C) hd⟩
      | some x =>
        rw [collectEnts_cons ha, declEnts_cons ha]
        cases ht : tyFail e.ty x with
        | true => simp
        | false =>
          simp only [Bool.false_eq_true, if_false, true_and, ← collect_some_iff es v]
          cases collectEnts C es v with
          | error er => simp
          | ok o => cases o <;> simp [eq_comm]

theorem mEnts_sound (es : List Ent) (v : Val) (ρ : Env) :
    Outcome false (DeclEnts es v) ρ (mEnts C es (.tmp v) ρ) := by
  unfold mEnts
  split
  · constructor
    · intro β hd
      rw [Src.rd, (collect_some_iff es v β).2 hd]; rfl
    · intro hn
      cases hc : collectEnts C es (Src.tmp v |>.rd ρ) with
      | error er => trivial
      | ok o =>
        cases o with
        | none => trivial
        | some β => exact absurd ⟨β, (collect_some_iff es v β).1 hc⟩ hn
  · exact mEntsSeq_sound es v ρ

def Elems (c : Val) (i : Int) (ys : List Val) : Prop :=
  ∀ j (h : j < ys.length), tempIndex c (i + (j : Int)) = .ok ys[j]

theorem Elems.head {c : Val} {i : Int} {y : Val} {ys : List Val} (h : Elems c i (y :: ys)) :
    Reads (.elem (.tmp c) i) y :=
  .inr ⟨c, i, rfl, by simpa using h 0 (Nat.zero_lt_succ _)⟩

theorem Elems.tail {c : Val} {i : Int} {y : Val} {ys : List Val} (h : Elems c i (y :: ys)) :
    Elems c (i + 1) ys := by
  intro j hj
  have := h (j + 1) (by simp; omega)
  simp only [List.getElem_cons_succ] at this
  rw [← this]; congr 1; push_cast; omega

theorem Elems.take {c : Val} {i : Int} {ys : List Val} (h : Elems c i ys) (k : Nat) : Elems c i (ys.take k) := by
  intro j hj
  simpa [List.getElem_take] using h j (by simp at hj; omega)

theorem view_elems {v : Val} {xs sl} (hv : view v = some (xs, sl)) : Elems v 0 xs :=
  fun j h => view_tempIndex hv _ j (by simpa using sidx_nat j xs.length) h

/-- after a leading ellipsis the last `k` elements are indexed from the end -/
theorem view_elems_drop {v : Val} {xs sl} (hv : view v = some (xs, sl)) {k : Nat} (hk : k ≤ xs.length) :
    Elems v (-(k : Int)) (xs.drop (xs.length - k)) := by
  intro j h
  have hj : j < k := by simp at h; omega
  have e1 : -(k : Int) + (j : Int) = -((k - j : Nat) : Int) := by omega
  rw [view_tempIndex hv _ (xs.length - k + j) (by rw [e1, sidx_neg _ _ (by omega) (by omega)]; omega) (by omega)]
  simp only [List.getElem_drop]

/-! ### the declarative definition in the terms of the matcher -/

theorem declAll_length {F : FloatOps} : ∀ (ps : List Pat) (ys : List Val) (β : Writes),
    DeclAll F ps ys β → ys.length = ps.length
  | [], ys, β, h => by simp [DeclAll] at h; simp [h.1]
  | p :: ps, ys, β, h => by
    simp only [DeclAll] at h
    obtain ⟨y, ys', β₁, β₂, rfl, _, h2, _⟩ := h
    simp [declAll_length ps ys' β₂ h2]

theorem declAll_nil_iff {F : FloatOps} {ys : List Val} {β : Writes} :
    DeclAll F [] ys β ↔ ys = [] ∧ β = [] := by simp [DeclAll]

theorem declAll_cons {F : FloatOps} {p : Pat} {ps : List Pat} {y : Val} {ys : List Val} (β : Writes) :
    DeclAll F (p :: ps) (y :: ys) β ↔ ∃ β₁ β₂, Decl F p y β₁ ∧ DeclAll F ps ys β₂ ∧ β = β₁ ++ β₂ := by
  simp only [DeclAll, List.cons.injEq]
  constructor
  · rintro ⟨_, _, β₁, β₂, ⟨rfl, rfl⟩, h⟩; exact ⟨β₁, β₂, h⟩
  · rintro ⟨β₁, β₂, h⟩; exact ⟨y, ys, β₁, β₂, ⟨rfl, rfl⟩, h⟩

@[simp] theorem restWrites_none (v : Val) : restWrites none v = [] := rfl
@[simp] theorem restWrites_anon (v : Val) : restWrites (some none) v = [] := rfl
@[simp] theorem restWrites_named (x : Name) (v : Val) : restWrites (some (some x)) v = [(x, v)] := rfl

/-- The split of a parenthesised pattern is forced by the lengths of its fixed parts: `pre` takes
the first elements, `post` the last ones, `rest` what lies between. -/
theorem declSeq_iff {F : FloatOps} {pre post : List Pat} {rest : Option (Option Name)} {xs : List Val}
    {sl : Nat → Nat → Val} {β : Writes} :
    DeclSeq F pre rest post xs sl β ↔
      pre.length + post.length ≤ xs.length ∧ (rest = none → xs.length = pre.length + post.length) ∧
      ∃ β₁ β₂, DeclAll F pre (xs.take pre.length) β₁ ∧ DeclAll F post (xs.drop (xs.length - post.length)) β₂ ∧
        β = β₁ ++ restWrites rest (sl pre.length (xs.length - post.length)) ++ β₂ := by
  constructor
  · rintro ⟨a, mid, b, β₁, β₂, rfl, hm, h1, h2, rfl⟩
    have ha := declAll_length _ _ _ h1
    have hb := declAll_length _ _ _ h2
    have et : (a ++ mid ++ b).take pre.length = a := by rw [List.append_assoc, List.take_left' ha]
    have el : (a ++ mid ++ b).length - post.length = a.length + mid.length := by
      simp only [List.length_append]; omega
    have ed : (a ++ mid ++ b).drop ((a ++ mid ++ b).length - post.length) = b := by
      rw [el, ← List.length_append, List.drop_left]
    refine ⟨by simp only [List.length_append]; omega,
      fun hr => by simp only [hm hr, List.length_append, List.length_nil]; omega, β₁, β₂, et.symm ▸ h1, ed.symm ▸ h2, ?_⟩
    rw [el, ha]
  · rintro ⟨hle, hr, β₁, β₂, h1, h2, rfl⟩
    refine ⟨xs.take pre.length, (xs.drop pre.length).take (xs.length - post.length - pre.length),
      xs.drop (xs.length - post.length), β₁, β₂, ?_, ?_, h1, h2, ?_⟩
    · have e : xs.drop (xs.length - post.length) =
          (xs.drop pre.length).drop (xs.length - post.length - pre.length) := by
        rw [List.drop_drop]; congr 1; omega
      rw [e, List.append_assoc, List.take_append_drop, List.take_append_drop]
    · intro h; rw [hr h, Nat.add_sub_cancel, Nat.sub_self, List.take_zero]
    · have e1 : (xs.take pre.length).length = pre.length := by rw [List.length_take]; omega
      have e2 : pre.length + ((xs.drop pre.length).take (xs.length - post.length - pre.length)).length =
          xs.length - post.length := by rw [List.length_take, List.length_drop]; omega
      rw [e1, e2]

theorem decl_seq_view {F : FloatOps} {pre post : List Pat} {rest : Option (Option Name)} {v : Val} {xs sl}
    (hv : view v = some (xs, sl)) (β : Writes) :
    Decl F (.seq pre rest post) v β ↔ DeclSeq F pre rest post xs sl β := by
  simp only [Decl, DeclSeq, hv, Option.some.injEq, Prod.mk.injEq]
  constructor
  · rintro ⟨_, _, a, mid, b, β₁, β₂, ⟨rfl, rfl⟩, h⟩; exact ⟨a, mid, b, β₁, β₂, h⟩
  · rintro ⟨a, mid, b, β₁, β₂, h⟩; exact ⟨xs, sl, a, mid, b, β₁, β₂, ⟨rfl, rfl⟩, h⟩

theorem decl_seq_iff {F : FloatOps} {pre post : List Pat} {rest : Option (Option Name)} {v : Val} {xs sl}
    (hv : view v = some (xs, sl)) (β : Writes) :
    Decl F (.seq pre rest post) v β ↔
      pre.length + post.length ≤ xs.length ∧ (rest = none → xs.length = pre.length + post.length) ∧
      ∃ β₁ β₂, DeclAll F pre (xs.take pre.length) β₁ ∧ DeclAll F post (xs.drop (xs.length - post.length)) β₂ ∧
        β = β₁ ++ restWrites rest (sl pre.length (xs.length - post.length)) ++ β₂ :=
  (decl_seq_view hv β).trans declSeq_iff

/-! ### the matcher's code, shape by shape -/

theorem mPats_cons (F : FloatOps) (la : Bool) (p : Pat) (ps : List Pat) (s : Src) (i : Int) (lf : Bool) (ρ : Env) :
    mPats F C la (p :: ps) s i lf ρ =
      (mPat F C la p (lf && ps.isEmpty) (.elem s i) ρ).andThen (mPats F C la ps s (i + 1) lf) := by
  rw [mPats]; cases mPat F C la p (lf && ps.isEmpty) (.elem s i) ρ <;> rfl

@[simp] theorem mPats_nil (F : FloatOps) (la : Bool) (s : Src) (i : Int) (lf : Bool) :
    mPats F C la [] s i lf = .ok := by
  funext ρ; rw [mPats]

/-- the size test in front of a parenthesised pattern's elements -/
def sized (c : Except Err Bool) (ρ : Env) (r : R) : R :=
  match c with
  | .error e => .err e
  | .ok false => .fail ρ
  | .ok true => r

theorem mPat_exact (F : FloatOps) (la il : Bool) (pre : List Pat) (a : Acc) (ρ : Env) (s : Src)
    (hpre : pre ≠ []) (hc : container ρ a = .ok s) :
    mPat F C la (.seq pre none []) il a ρ =
      sized (sizeCheck C (s.rd ρ) pre.length false) ρ
        (mPats F C la pre s 0 (if C.nestedLast then il else true) ρ) := by
  have : pre.length ≠ 0 := by simpa using hpre
  simp [mPat, hc, restCount, this]
  cases sizeCheck C (s.rd ρ) pre.length false with
  | error e => rfl
  | ok b => cases b <;> rfl

theorem mPat_trailing (F : FloatOps) (la il : Bool) (pre : List Pat) (r : Option Name) (a : Acc)
    (ρ : Env) (s : Src) (hc : container ρ a = .ok s) :
    mPat F C la (.seq pre (some r) []) il a ρ =
      sized (sizeCheck C (s.rd ρ) (pre.length + 1) true) ρ
        ((mPats F C la pre s 0 false ρ).andThen fun ρ1 =>
          match r with
          | none => fin la (if C.nestedLast then il else true) ρ1
          | some x =>
            match sliceFrom C (s.rd ρ1) pre.length with
            | .error e => .err e
            | .ok v => fin la (if C.nestedLast then il else true) (ρ1.set x v)) := by
  simp [mPat, hc, restCount]
  cases sizeCheck C (s.rd ρ) (pre.length + 1) true with
  | error e => rfl
  | ok b =>
    cases b with
    | false => rfl
    | true =>
      simp only [sized]
      cases mPats F C la pre s 0 false ρ with
      | ok ρ1 =>
        cases r with
        | none => rfl
        | some x => simp only [R.andThen]; cases sliceFrom C (s.rd ρ1) (pre.length : Int) <;> rfl
      | done _ => rfl
      | fail _ => rfl
      | err _ => rfl

theorem mPat_leading (F : FloatOps) (la il : Bool) (post : List Pat) (r : Option Name) (a : Acc)
    (ρ : Env) (s : Src) (hpost : post ≠ []) (hc : container ρ a = .ok s) :
    mPat F C la (.seq [] (some r) post) il a ρ =
      sized (sizeCheck C (s.rd ρ) (1 + post.length) true) ρ
        (match (match r with
                | none => Except.ok ρ
                | some x => (sliceTo C (s.rd ρ) (-(post.length : Int))).map (ρ.set x)) with
         | .error e => .err e
         | .ok ρ1 => mPats F C la post s (-(post.length : Int)) (if C.nestedLast then il else true) ρ1) := by
  have h1 := List.isEmpty_eq_false_iff.2 hpost
  simp [mPat, hc, restCount, h1]
  cases sizeCheck C (s.rd ρ) (1 + post.length) true with
  | error e => rfl
  | ok b =>
    cases b with
    | false => rfl
    | true =>
      simp only [sized]
      cases r with
      | none => rfl
      | some x => simp only; cases sliceTo C (s.rd ρ) (-(post.length : Int)) <;> rfl

theorem sizeCheck_view {v : Val} {xs sl} (hv : view v = some (xs, sl)) (n : Nat) (hasRest : Bool) :
    sizeCheck C v n hasRest = .ok (if hasRest then decide (n - 1 ≤ xs.length) else xs.length == n) := by
  simp [sizeCheck, view_size hv]

/-- a value without a sequence view has no size: the test fails (F-C03-1: or raises) -/
theorem miss_sized_of_view_none {v : Val} (hv : view v = none) (hp : plain v = true) (j : Bool) (n : Nat)
    (hasRest : Bool) (ρ : Env) (r : R) : Miss j (sized (sizeCheck C v n hasRest) ρ r) := by
  rw [sizeCheck, view_none_size hv hp]
  dsimp only
  split <;> trivial

theorem not_decl_seq_of_view_none {F : FloatOps} {pre post : List Pat} {rest : Option (Option Name)} {v : Val}
    (hv : view v = none) (β : Writes) : ¬ Decl F (.seq pre rest post) v β := by
  simp [Decl, hv]

/-! ### the matcher against the declarative definition

`la` = the alternative is the last one of its arm, `il` = the pattern is the last of its list: success
is the jump to `match_end` exactly when `!la && il`. -/

def Sound (F : FloatOps) (C : Cfg) (la il : Bool) (p : Pat) : Prop :=
  ∀ (a : Acc) (ρ : Env) (v : Val), Reads a v → plain v = true →
    Outcome (!la && il) (Decl F p v) ρ (mPat F C la p il a ρ)

def SoundL (F : FloatOps) (C : Cfg) (la lf : Bool) (ps : List Pat) : Prop :=
  ∀ (c : Val) (i : Int) (ρ : Env) (ys : List Val), ys.length = ps.length → Elems c i ys → plainL ys = true →
    Outcome (!la && lf && !ps.isEmpty) (DeclAll F ps ys) ρ (mPats F C la ps (.tmp c) i lf ρ)

theorem sound_lit (F : FloatOps) (la il : Bool) (l : Lit) : Sound F C la il (.lit l) := by
  intro a ρ v hr _
  simp only [mPat, hr.fetch, Decl]
  cases litEq F l v with
  | true => exact .of_hit (β := []) ⟨rfl, rfl⟩ (fun _ h => h.2) rfl
  | false => exact .of_miss (fun _ h => nomatch h.1) (by cases la <;> cases il <;> simp [Miss])

theorem sound_id (F : FloatOps) (la il : Bool) (x : Name) (ty : Option Ty) : Sound F C la il (.id x ty) := by
  intro a ρ v hr _
  simp only [mPat, hr.fetch, Decl]
  cases tyFail ty v with
  | false => exact .of_hit (β := [(x, v)]) ⟨rfl, rfl⟩ (fun _ h => h.2) rfl
  | true => exact .of_miss (fun _ h => nomatch h.1) trivial

theorem sound_wild (F : FloatOps) (la il : Bool) (ty : Option Ty) : Sound F C la il (.wild ty) := by
  intro a ρ v hr _
  cases ty with
  | none => exact .of_hit (β := []) ⟨rfl, rfl⟩ (fun _ h => h.2) (by simp only [mPat]; rfl)
  | some t =>
    simp only [mPat, hr.fetch, Decl, tyFail]
    cases tyOk t v with
    | true => exact .of_hit (β := []) ⟨rfl, rfl⟩ (fun _ h => h.2) rfl
    | false => exact .of_miss (fun _ h => nomatch h.1) trivial

theorem sound_map (F : FloatOps) (la il : Bool) (es : List Ent) (ty : Option Ty) : Sound F C la il (.map es ty) := by
  intro a ρ v hr _
  simp only [mPat, hr.container, Decl, Src.rd]
  rcases Bool.eq_false_or_eq_true (tyFail ty v) with ht | ht
  · simp only [ht, if_true]
    exact .of_miss (fun _ h => nomatch h.1) trivial
  · simp only [ht, Bool.false_eq_true, if_false, true_and]
    have h := (mEnts_sound (C := C) es v ρ).andThen (j := !la && il) (D₂ := (· = [])) (k := fin la il)
      fun β₁ _ => .of_hit rfl (fun _ h => h) rfl
    cases hm : mEnts C es (.tmp v) ρ <;> rw [hm] at h <;> exact h.congr fun β => by simp

theorem soundL_nil (F : FloatOps) (la lf : Bool) : SoundL F C la lf [] := by
  intro c i ρ ys hlen _ _
  obtain rfl : ys = [] := by simpa using hlen
  simpa using Outcome.of_hit (j := false) (D := DeclAll F [] []) (β := []) ⟨rfl, rfl⟩ (fun _ h => h.2) rfl

theorem soundL_cons (F : FloatOps) (la lf : Bool) (p : Pat) (ps : List Pat)
    (hp : Sound F C la (lf && ps.isEmpty) p) (hps : SoundL F C la lf ps) : SoundL F C la lf (p :: ps) := by
  intro c i ρ ys hlen hel hpl
  cases ys with
  | nil => simp at hlen
  | cons y ys =>
    simp only [plainL, Bool.and_eq_true] at hpl
    have h1 := hp (.elem (.tmp c) i) ρ y hel.head hpl.1
    have h2 := fun ρ1 => hps c (i + 1) ρ1 ys (by simpa using hlen) hel.tail hpl.2
    rw [mPats_cons]
    cases ps with
    | nil =>
      obtain rfl : ys = [] := by simpa using hlen
      simp only [mPats_nil, R.andThen_ok]
      simpa using h1.congr (D' := DeclAll F [p] [y]) fun β => by simp [declAll_cons, declAll_nil_iff]
    | cons q qs =>
      simp only [List.isEmpty_cons, Bool.and_false, Bool.not_false, Bool.and_true] at h1 h2 ⊢
      exact (h1.andThen fun β₁ _ => h2 _).congr declAll_cons

/-! Parenthesised patterns.  `lf` is the flag the nested list is compiled with; the pattern is
specified where the jump its last element may take is the jump the pattern itself may take. -/

theorem sound_exact (F : FloatOps) (la il : Bool) (pre : List Pat) (hpre : pre ≠ [])
    (hlf : (!la && if C.nestedLast then il else true) = (!la && il))
    (hs : SoundL F C la (if C.nestedLast then il else true) pre) : Sound F C la il (.seq pre none []) := by
  intro a ρ v hr hp
  rw [mPat_exact F la il pre a ρ (.tmp v) hpre (hr.container ρ), Src.rd]
  cases hv : view v with
  | none => exact .of_miss (not_decl_seq_of_view_none hv) (miss_sized_of_view_none hv hp ..)
  | some w =>
    obtain ⟨xs, sl⟩ := w
    rw [sizeCheck_view hv]
    by_cases hl : xs.length = pre.length
    · have sp := hs v 0 ρ xs hl (view_elems hv) (view_plain hv hp)
      simp only [hlf, List.isEmpty_eq_false_iff.2 hpre, Bool.not_false, Bool.and_true] at sp
      simp only [Bool.false_eq_true, if_false, hl, beq_self_eq_true, sized]
      exact sp.congr fun β => by simp [decl_seq_iff hv, ← hl, declAll_nil_iff]
    · have hb : (xs.length == pre.length) = false := by simpa using hl
      simp only [Bool.false_eq_true, if_false, hb, sized]
      exact .of_miss (fun β hd => hl (((decl_seq_iff hv β).1 hd).2.1 rfl)) trivial

theorem sound_trailing (F : FloatOps) (la il : Bool) (pre : List Pat) (r : Option Name)
    (hlf : (!la && if C.nestedLast then il else true) = (!la && il))
    (hs : SoundL F C la false pre) : Sound F C la il (.seq pre (some r) []) := by
  intro a ρ v hr hp
  rw [mPat_trailing F la il pre r a ρ (.tmp v) (hr.container ρ), Src.rd]
  cases hv : view v with
  | none => exact .of_miss (not_decl_seq_of_view_none hv) (miss_sized_of_view_none hv hp ..)
  | some w =>
    obtain ⟨xs, sl⟩ := w
    rw [sizeCheck_view hv]
    simp only [if_true, Nat.add_sub_cancel]
    by_cases hl : pre.length ≤ xs.length
    · have sp := hs v 0 ρ (xs.take pre.length) (by simp; omega) ((view_elems hv).take _)
        (plainL_take _ _ (view_plain hv hp))
      simp only [Bool.and_false, Bool.false_and] at sp
      simp only [decide_eq_true hl, sized, fin_eq_hit, hlf]
      refine (sp.andThen (D₂ := (· = restWrites (some r) (sl pre.length xs.length))) fun β₁ _ => ?_).congr
        fun β => by simp [decl_seq_iff hv, hl, declAll_nil_iff]
      cases r with
      | none => exact .of_hit rfl (fun _ h => h) rfl
      | some x =>
        simp only [Src.rd, view_sliceFrom hv _ _ (sidx_nat _ _) hl]
        exact .of_hit rfl (fun _ h => h) rfl
    · simp only [decide_eq_false hl, sized]
      exact .of_miss (fun β hd => hl (by have := ((decl_seq_iff hv β).1 hd).1; omega)) trivial

theorem sound_leading (F : FloatOps) (la il : Bool) (post : List Pat) (r : Option Name) (hpost : post ≠ [])
    (hlf : (!la && if C.nestedLast then il else true) = (!la && il))
    (hs : SoundL F C la (if C.nestedLast then il else true) post) : Sound F C la il (.seq [] (some r) post) := by
  intro a ρ v hr hp
  rw [mPat_leading F la il post r a ρ (.tmp v) hpost (hr.container ρ), Src.rd]
  cases hv : view v with
  | none => exact .of_miss (not_decl_seq_of_view_none hv) (miss_sized_of_view_none hv hp ..)
  | some w =>
    obtain ⟨xs, sl⟩ := w
    rw [sizeCheck_view hv]
    simp only [if_true, Nat.add_sub_cancel_left]
    by_cases hl : post.length ≤ xs.length
    · have sp := fun ρ1 => hs v (-(post.length : Int)) ρ1 (xs.drop (xs.length - post.length)) (by simp; omega)
        (view_elems_drop hv hl) (plainL_drop _ _ (view_plain hv hp))
      simp only [hlf, List.isEmpty_eq_false_iff.2 hpost, Bool.not_false, Bool.and_true] at sp
      simp only [decide_eq_true hl, sized]
      cases r with
      | none => exact (sp ρ).congr fun β => by simp [decl_seq_iff hv, hl, declAll_nil_iff]
      | some x =>
        have hq : 0 < post.length := List.length_pos_iff.2 hpost
        simp only [view_sliceTo hv _ _ (sidx_neg _ _ hq hl) (Nat.sub_le _ _), Except.map]
        exact ((sp _).after [(x, sl 0 (xs.length - post.length))]).congr fun β => by
          simp [decl_seq_iff hv, hl, declAll_nil_iff]
    · simp only [decide_eq_false hl, sized]
      exact .of_miss (fun β hd => hl (by have := ((decl_seq_iff hv β).1 hd).1; omega)) trivial

/-! ### where the matcher is specified

Everywhere in a last alternative and in the code since /repo 075f64d (`nestedLast`).  Before it, a
nested parenthesised pattern of a non-last alternative sends its own last element to `match_end`,
skipping whatever follows it (F-C03-3): such an alternative is specified as long as non-empty
parenthesised patterns stand in last positions only (`earlyFree`). -/

def okAt (C : Cfg) (la il : Bool) (p : Pat) : Bool :=
  la || C.nestedLast || (earlyFree p && (il || !isSeqNonEmpty p))

def okAtL (C : Cfg) (la lf : Bool) (ps : List Pat) : Bool :=
  la || C.nestedLast || earlyFreeL ps lf

theorem okAtL_cons (la lf : Bool) (p : Pat) (ps : List Pat) :
    okAtL C la lf (p :: ps) = (okAt C la (lf && ps.isEmpty) p && okAtL C la lf ps) := by
  cases ps <;> cases la <;> cases hn : C.nestedLast <;> simp [okAtL, okAt, earlyFreeL, Bool.and_assoc, hn]

/-- the three shapes the compiler accepts: `(pre…)`, `(pre…, r...)`, `(r..., post…)` -/
theorem wf_seq_shape {pre post : List Pat} {rest : Option (Option Name)} (hw : wf (.seq pre rest post) = true) :
    (post = [] ∧ rest = none ∧ pre ≠ []) ∨ (post = [] ∧ ∃ r, rest = some r) ∨
    (pre = [] ∧ post ≠ [] ∧ ∃ r, rest = some r) := by
  simp only [wf, Bool.and_eq_true, Bool.or_eq_true, decide_eq_true_eq, List.isEmpty_iff] at hw
  obtain ⟨⟨⟨hshape, hn⟩, _⟩, _⟩ := hw
  by_cases hpost : post = []
  · subst hpost
    cases rest with
    | none => exact .inl ⟨rfl, rfl, by rintro rfl; simp [restCount] at hn⟩
    | some r => exact .inr (.inl ⟨rfl, r, rfl⟩)
  · obtain ⟨rfl, hr⟩ := hshape.resolve_left hpost
    exact .inr (.inr ⟨rfl, hpost, Option.isSome_iff_exists.1 hr⟩)

theorem isSeqNonEmpty_of_wf {pre post : List Pat} {rest : Option (Option Name)}
    (hw : wf (.seq pre rest post) = true) : isSeqNonEmpty (.seq pre rest post) = true := by
  rcases wf_seq_shape hw with ⟨rfl, rfl, hpre⟩ | ⟨rfl, r, rfl⟩ | ⟨rfl, -, r, rfl⟩
  · cases pre <;> first | exact absurd rfl hpre | rfl
  · cases pre <;> rfl
  · rfl

/-- in a specified position the jump of the last element is the jump of the pattern -/
theorem okAt_seq_jump {la il : Bool} {pre post : List Pat} {rest : Option (Option Name)}
    (hw : wf (.seq pre rest post) = true) (hk : okAt C la il (.seq pre rest post) = true) :
    (!la && if C.nestedLast then il else true) = (!la && il) := by
  have := isSeqNonEmpty_of_wf hw
  cases la <;> cases hn : C.nestedLast <;> simp_all [okAt]

theorem okAt_seq_pre {la il : Bool} {pre : List Pat} {rest : Option (Option Name)}
    (hk : okAt C la il (.seq pre rest []) = true) :
    okAtL C la (rest.isNone && if C.nestedLast then il else true) pre = true := by
  cases la <;> cases hn : C.nestedLast <;> simp_all [okAt, okAtL, earlyFree]

theorem okAt_seq_post {la il : Bool} {pre post : List Pat} {rest : Option (Option Name)} (hpost : post ≠ [])
    (hk : okAt C la il (.seq pre rest post) = true) :
    okAtL C la (if C.nestedLast then il else true) post = true := by
  have : post.isEmpty = false := List.isEmpty_eq_false_iff.2 hpost
  cases la <;> cases hn : C.nestedLast <;> simp_all [okAt, okAtL, earlyFree]

theorem sound_seq (F : FloatOps) (la il : Bool) (pre : List Pat) (rest : Option (Option Name)) (post : List Pat)
    (hw : wf (.seq pre rest post) = true) (hk : okAt C la il (.seq pre rest post) = true)
    (h1 : ∀ lf, okAtL C la lf pre = true → SoundL F C la lf pre)
    (h2 : ∀ lf, okAtL C la lf post = true → SoundL F C la lf post) : Sound F C la il (.seq pre rest post) := by
  have hlf := okAt_seq_jump hw hk
  rcases wf_seq_shape hw with ⟨rfl, rfl, hpre⟩ | ⟨rfl, r, rfl⟩ | ⟨rfl, hpost, r, rfl⟩
  · exact sound_exact F la il pre hpre hlf (by simpa using h1 _ (okAt_seq_pre hk))
  · exact sound_trailing F la il pre r hlf (by simpa using h1 _ (okAt_seq_pre hk))
  · exact sound_leading F la il post r hpost hlf (h2 _ (okAt_seq_post hpost hk))

mutual
/-- The matcher against the declarative definition, in every specified position: it signals success
exactly when the pattern matches, with exactly the declared bindings written. -/
theorem mPat_sound (F : FloatOps) : ∀ (p : Pat) (la il : Bool), wf p = true → okAt C la il p = true →
    Sound F C la il p
  | .lit l, la, il, _, _ => sound_lit F la il l
  | .id x ty, la, il, _, _ => sound_id F la il x ty
  | .wild ty, la, il, _, _ => sound_wild F la il ty
  | .map es ty, la, il, _, _ => sound_map F la il es ty
  | .seq pre rest post, la, il, hw, hk =>
    sound_seq F la il pre rest post hw hk
      (fun lf => mPats_sound F pre la lf (by simp only [wf, Bool.and_eq_true] at hw; exact hw.1.2))
      (fun lf => mPats_sound F post la lf (by simp only [wf, Bool.and_eq_true] at hw; exact hw.2))
theorem mPats_sound (F : FloatOps) : ∀ (ps : List Pat) (la lf : Bool), wfL ps = true → okAtL C la lf ps = true →
    SoundL F C la lf ps
  | [], la, lf, _, _ => soundL_nil F la lf
  | p :: ps, la, lf, hw, hk => by
    simp only [wfL, Bool.and_eq_true] at hw
    simp only [okAtL_cons, Bool.and_eq_true] at hk
    exact soundL_cons F la lf p ps (mPat_sound F p la _ hw.1 hk.1) (mPats_sound F ps la lf hw.2 hk.2)
end

/-! ### alternatives other than the last one, on `earlyFree` patterns -/

def notSeq : Pat → Bool
  | .seq _ _ _ => false
  | _ => true

/-- success of a whole pattern list in a non-last alternative = the jump to `match_end` -/
def SpecNL (F : FloatOps) (C : Cfg) (ps : List Pat) : Prop :=
  ∀ (c : Val) (i : Int) (ρ : Env) (ys : List Val), ys.length = ps.length →
    (∀ j (h : j < ys.length), tempIndex c (i + (j : Int)) = .ok ys[j]) → plainL ys = true →
    (∀ β, DeclAll F ps ys β → mPats F C false ps (.tmp c) i true ρ = .done (ρ.apply β)) ∧
    (∀ ρ', mPats F C false ps (.tmp c) i true ρ = .done ρ' → ∃ β, DeclAll F ps ys β ∧ ρ' = ρ.apply β)

theorem specN_pats (F : FloatOps) : ∀ (ps : List Pat), wfL ps = true → earlyFreeL ps true = true →
    ps ≠ [] → SpecNL F C ps
  | ps, hw, he, hne, c, i, ρ, ys, hlen, hel, hpl => by
    have h := mPats_sound (C := C) F ps false true hw (by simp [okAtL, he]) c i ρ ys hlen hel hpl
    simp only [List.isEmpty_eq_false_iff.2 hne, Bool.not_false, Bool.and_self] at h
    exact ⟨h.hits, fun ρ' => (h.hit_iff ρ').1⟩

/-! ### the declared bindings name the pattern's variables, in order -/

theorem declEnts_names : ∀ (es : List Ent) (v : Val) (β : Writes),
    DeclEnts es v β → β.map Prod.fst = entVars es
  | [], _, β, h => by cases (h : β = []); rfl
  | e :: es, v, β, h => by
    obtain ⟨m, x, β', _, _, _, hd, rfl⟩ := h
    rw [List.map_append, declEnts_names es v β' hd, entVars]
    cases e.bind <;> rfl

mutual
theorem decl_names (F : FloatOps) : ∀ (p : Pat) (v : Val) (β : Writes),
    Decl F p v β → β.map Prod.fst = patVars p
  | .lit _, _, β, h => by obtain ⟨_, rfl⟩ := h; rfl
  | .id x _, _, β, h => by obtain ⟨_, rfl⟩ := h; rfl
  | .wild _, _, β, h => by obtain ⟨_, rfl⟩ := h; rfl
  | .map es _, v, β, h => declEnts_names es v β h.2
  | .seq pre rest post, v, β, h => by
    obtain ⟨xs, sl, a, mid, b, β₁, β₂, _, _, _, h1, h2, rfl⟩ := h
    rw [List.map_append, List.map_append, declAll_names F pre a β₁ h1, declAll_names F post b β₂ h2]
    rcases rest with _ | _ | r <;> rfl
theorem declAll_names (F : FloatOps) : ∀ (ps : List Pat) (ys : List Val) (β : Writes),
    DeclAll F ps ys β → β.map Prod.fst = patsVars ps
  | [], _, β, h => by obtain ⟨_, rfl⟩ := h; rfl
  | p :: ps, ys, β, h => by
    obtain ⟨y, ys', β₁, β₂, _, h1, h2, rfl⟩ := h
    rw [List.map_append, decl_names F p y β₁ h1, declAll_names F ps ys' β₂ h2]
    rfl
end

/-! ### frame: whatever a pattern does, it only writes its own variables -/

def Agree (xs : List Name) (ρ ρ' : Env) : Prop := ∀ y, y ∉ xs → ρ' y = ρ y

theorem Agree.refl (xs : List Name) (ρ : Env) : Agree xs ρ ρ := fun _ _ => rfl

theorem Agree.set {xs : List Name} {ρ ρ' : Env} (h : Agree xs ρ ρ') (x : Name) (v : Val) (hx : x ∈ xs) :
    Agree xs ρ (ρ'.set x v) := by
  intro y hy
  have : y ≠ x := fun e => hy (e ▸ hx)
  simp [Env.set, this, h y hy]

theorem Agree.mono {xs ys : List Name} {ρ ρ' : Env} (h : Agree xs ρ ρ') (hs : ∀ x, x ∈ xs → x ∈ ys) :
    Agree ys ρ ρ' := fun y hy => h y (fun hx => hy (hs y hx))

theorem Agree.trans {xs : List Name} {ρ ρ₁ ρ₂ : Env} (h1 : Agree xs ρ ρ₁) (h2 : Agree xs ρ₁ ρ₂) :
    Agree xs ρ ρ₂ := fun y hy => (h2 y hy).trans (h1 y hy)

def Within (xs : List Name) (ρ : Env) : R → Prop
  | .ok ρ' => Agree xs ρ ρ'
  | .done ρ' => Agree xs ρ ρ'
  | .fail ρ' => Agree xs ρ ρ'
  | .err _ => True

theorem Within.mono {xs ys : List Name} {ρ : Env} {r : R} (h : Within xs ρ r)
    (hs : ∀ x, x ∈ xs → x ∈ ys) : Within ys ρ r := by
  cases r <;> simp only [Within] at * <;> first | exact h.mono hs | trivial

theorem Within.trans {xs : List Name} {ρ ρ₁ : Env} {r : R} (h1 : Agree xs ρ ρ₁) (h2 : Within xs ρ₁ r) :
    Within xs ρ r := by
  cases r <;> simp only [Within] at * <;> first | exact h1.trans h2 | trivial

theorem within_fin (xs : List Name) (ρ ρ' : Env) (la il : Bool) (h : Agree xs ρ ρ') :
    Within xs ρ (fin la il ρ') := by
  unfold fin; split <;> exact h

theorem Within.andThen {xs : List Name} {ρ : Env} {r : R} {k : Env → R} (h : Within xs ρ r)
    (hk : ∀ ρ1, Agree xs ρ ρ1 → Within xs ρ (k ρ1)) : Within xs ρ (r.andThen k) := by
  cases r <;> first | exact hk _ h | exact h

theorem frame_entsSeq : ∀ (es : List Ent) (s : Src) (ρ : Env), Within (entVars es) ρ (mEntsSeq C es s ρ)
  | [], _, ρ => by simp [mEntsSeq, Within, Agree.refl]
  | e :: es, s, ρ => by
    simp only [mEntsSeq]
    split
    · trivial
    · exact Agree.refl _ _
    · rename_i v _
      have hstep : Agree (entVars (e :: es)) ρ (match e.bind with | some x => ρ.set x v | none => ρ) := by
        cases hb : e.bind with
        | none => exact Agree.refl _ _
        | some x => exact (Agree.refl _ ρ).set x v (by simp [entVars, hb])
      split
      · simp only [Within]; split
        · exact Agree.refl _ _
        · exact hstep
      · exact Within.trans hstep ((frame_entsSeq es s _).mono (by intro x hx; simp [entVars, hx]))

theorem frame_ents (es : List Ent) (s : Src) (ρ : Env) : Within (entVars es) ρ (mEnts C es s ρ) := by
  unfold mEnts
  split
  · cases hc : collectEnts C es (s.rd ρ) with
    | error er => trivial
    | ok o =>
      cases o with
      | none => exact Agree.refl _ _
      | some β =>
        simp only [Within]
        intro y hy
        have hn := declEnts_names es _ β ((collect_some_iff es _ β).1 hc)
        exact apply_frame ρ β y (by rwa [hn])
  · exact frame_entsSeq es s ρ

theorem frame_lit (F : FloatOps) (l : Lit) (la il : Bool) (a : Acc) (ρ : Env) :
    Within (patVars (.lit l)) ρ (mPat F C la (.lit l) il a ρ) := by
  simp only [mPat]
  split
  · trivial
  · split
    · exact within_fin _ _ _ _ _ (Agree.refl _ _)
    · split <;> exact Agree.refl _ _

theorem frame_id (F : FloatOps) (x : Name) (ty : Option Ty) (la il : Bool) (a : Acc) (ρ : Env) :
    Within (patVars (.id x ty)) ρ (mPat F C la (.id x ty) il a ρ) := by
  simp only [mPat]
  split
  · trivial
  · have h : Agree (patVars (.id x ty)) ρ (ρ.set x ‹Val›) := (Agree.refl _ ρ).set x _ (by simp [patVars])
    split
    · simp only [Within]; split
      · exact Agree.refl _ _
      · exact h
    · exact within_fin _ _ _ _ _ h

theorem frame_wild (F : FloatOps) (ty : Option Ty) (la il : Bool) (a : Acc) (ρ : Env) :
    Within (patVars (.wild ty)) ρ (mPat F C la (.wild ty) il a ρ) := by
  simp only [mPat]
  split
  · exact within_fin _ _ _ _ _ (Agree.refl _ _)
  · split
    · trivial
    · split
      · exact within_fin _ _ _ _ _ (Agree.refl _ _)
      · exact Agree.refl _ _

theorem frame_map (F : FloatOps) (es : List Ent) (ty : Option Ty) (la il : Bool) (a : Acc) (ρ : Env) :
    Within (patVars (.map es ty)) ρ (mPat F C la (.map es ty) il a ρ) := by
  simp only [mPat]
  split
  · trivial
  · rename_i s _
    split
    · exact Agree.refl _ _
    · have h := frame_ents (C := C) es s ρ
      simp only [patVars]
      split
      · rename_i ρ1 hr
        rw [hr] at h
        exact within_fin _ _ _ _ _ h
      · exact h

theorem frame_cons (F : FloatOps) (p : Pat) (ps : List Pat) (la : Bool) (s : Src) (i : Int) (lf : Bool) (ρ : Env)
    (hp : Within (patVars p) ρ (mPat F C la p (lf && ps.isEmpty) (.elem s i) ρ))
    (hps : ∀ ρ1, Within (patsVars ps) ρ1 (mPats F C la ps s (i + 1) lf ρ1)) :
    Within (patsVars (p :: ps)) ρ (mPats F C la (p :: ps) s i lf ρ) := by
  rw [mPats_cons]
  exact (hp.mono (by intro x hx; simp [patsVars, hx])).andThen fun ρ1 h1 =>
    Within.trans h1 ((hps ρ1).mono (by intro x hx; simp [patsVars, hx]))

theorem within_sized {xs : List Name} {ρ : Env} {r : R} (c : Except Err Bool) (h : Within xs ρ r) :
    Within xs ρ (sized c ρ r) := by
  unfold sized
  split
  · trivial
  · exact Agree.refl _ _
  · exact h

theorem frame_seq (F : FloatOps) (pre : List Pat) (rest : Option (Option Name)) (post : List Pat) (la il : Bool)
    (a : Acc) (ρ : Env)
    (h1 : ∀ s i lf ρ, Within (patsVars pre) ρ (mPats F C la pre s i lf ρ))
    (h2 : ∀ s i lf ρ, Within (patsVars post) ρ (mPats F C la post s i lf ρ)) :
    Within (patVars (.seq pre rest post)) ρ (mPat F C la (.seq pre rest post) il a ρ) := by
  have hpre : ∀ x, x ∈ patsVars pre → x ∈ patVars (.seq pre rest post) := by
    intro x hx; simp [patVars, hx]
  have hpost : ∀ x, x ∈ patsVars post → x ∈ patVars (.seq pre rest post) := by
    intro x hx; simp [patVars, hx]
  cases hc : container ρ a with
  | error e => simp only [mPat, hc]; trivial
  | ok s =>
    -- no `wf` here: the shapes the compiler rejects (`.err .compile`) and `()` are cases of their own
    by_cases hp : post = []
    · subst hp
      cases rest with
      | none =>
        by_cases hq : pre = []
        · subst hq; simp [mPat, hc, restCount, Within, Agree.refl]
        · rw [mPat_exact F la il pre a ρ s hq hc]
          exact within_sized _ ((h1 s 0 _ ρ).mono hpre)
      | some r =>
        rw [mPat_trailing F la il pre r a ρ s hc]
        refine within_sized _ (((h1 s 0 false ρ).mono hpre).andThen fun ρ1 h => ?_)
        cases r with
        | none => exact within_fin _ _ _ _ _ h
        | some x =>
          dsimp only
          split
          · trivial
          · exact within_fin _ _ _ _ _ (h.set x _ (by simp [patVars]))
    · have hpe : post.isEmpty = false := List.isEmpty_eq_false_iff.2 hp
      by_cases hq : pre = []
      · subst hq
        cases rest with
        | none => simp [mPat, hc, hpe, Within]
        | some r =>
          rw [mPat_leading F la il post r a ρ s hp hc]
          refine within_sized _ ?_
          cases r with
          | none => exact (h2 s _ _ ρ).mono hpost
          | some x =>
            dsimp only
            cases sliceTo C (s.rd ρ) (-(post.length : Int)) with
            | error e => trivial
            | ok w =>
              exact Within.trans ((Agree.refl _ ρ).set x w (by simp [patVars])) ((h2 s _ _ _).mono hpost)
      · have hqe : pre.isEmpty = false := List.isEmpty_eq_false_iff.2 hq
        cases rest <;> simp [mPat, hc, hpe, hqe, Within]

mutual
theorem frame_pat (F : FloatOps) : ∀ (p : Pat) (la il : Bool) (a : Acc) (ρ : Env),
    Within (patVars p) ρ (mPat F C la p il a ρ)
  | .lit l, la, il, a, ρ => frame_lit F l la il a ρ
  | .id x ty, la, il, a, ρ => frame_id F x ty la il a ρ
  | .wild ty, la, il, a, ρ => frame_wild F ty la il a ρ
  | .map es ty, la, il, a, ρ => frame_map F es ty la il a ρ
  | .seq pre rest post, la, il, a, ρ =>
    frame_seq F pre rest post la il a ρ (fun s i lf ρ => frame_pats F pre la s i lf ρ)
      (fun s i lf ρ => frame_pats F post la s i lf ρ)
theorem frame_pats (F : FloatOps) : ∀ (ps : List Pat) (la : Bool) (s : Src) (i : Int) (lf : Bool) (ρ : Env),
    Within (patsVars ps) ρ (mPats F C la ps s i lf ρ)
  | [], _, _, _, _, ρ => by rw [mPats_nil]; exact Agree.refl _ _
  | p :: ps, la, s, i, lf, ρ =>
    frame_cons F p ps la s i lf ρ (frame_pat F p la _ _ ρ) (fun ρ1 => frame_pats F ps la s (i + 1) lf ρ1)
end

end Match
end KotoVerif
