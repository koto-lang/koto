/-
C01 layer 5, `compile_sem`: the rules of `Compiled` for assignment, compound assignment, blocks and
conditionals preserve `SemAt`; the induction over `Compiled` (`Compiled.sem`) and its function form
`compile_sem`.
-/
import KotoVerif.Lemmas.C01SemOps

namespace KotoVerif.Compile
open KotoVerif.C01

variable {S : Sem}

theorem relEx_after_assign {E : List VarId} {F2 F3 : Frame} {σ1 : Regs S} {ρ1 : Env S} {x : VarId} {rx : Reg}
    {v : S.V} (h : RelEx (x :: E) F2 σ1 ρ1) (hle : FrameLe F2 F3) (hhas : Has F3 rx x) (hv : σ1 rx = v) :
    RelEx E F3 σ1 (ρ1.set x v) := by
  intro y w hy hE
  by_cases hyx : y = x
  · subst hyx
    simp at hy; subst hy
    exact ⟨rx, hhas, hv⟩
  · rw [Env.set_other _ _ hyx] at hy
    obtain ⟨q, h1, h2⟩ := h y w hy (by simp [hyx, hE])
    exact ⟨q, hle.has _ _ h1, h2⟩

theorem sem_assign {x : VarId} {e : Expr} {m : Mode} {F F1 F2 F' : Frame} {rx vr : Reg} {c : Code} {o : Out}
    (hres : F.reserve x = some (rx, F1)) (hc : Compiled e (.fixed rx) F1 c o F2) (hvr : o.reg = some vr)
    (hcm : commitIf o vr F2 = some F') (ih : SemAt S e (.fixed rx) F1 c o F2) :
    SemAt S (.assign x e) m F (assignOut m c o vr).1 (assignOut m c o vr).2 F' := by
  intro E fx hw hm hsafe σ ρ ρ' v hrel hev
  have ff := (Compiled.assign (m := m) hres hc hvr hcm).frame hw
  obtain ⟨r1, r2, r3, r4, r5, _⟩ := reserve_spec hw hres
  have le01 : FrameLe F F1 := FrameLe.of_slots r3 r5
  have ffe := hc.frame r2
  have so : o = ⟨some rx, false⟩ := ffe.shape
  subst so
  cases hvr
  replace hcm : F2.commit rx = some F' := hcm
  obtain ⟨c1, _, c3, c4, c5, c6, _⟩ := commit_spec ffe.wf (ffe.le.named _ _ r1) hcm
  have le23 : FrameLe F2 F' := ⟨c3, c5, c6⟩
  rw [ceval_assign] at hev
  obtain ⟨ve, ρ1, he, hev⟩ := obind_some hev
  simp only [Option.some.injEq, Prod.mk.injEq] at hev
  obtain ⟨rfl, rfl⟩ := hev
  simp only [safe] at hsafe
  obtain ⟨σ1, x1, x2, x3, x4⟩ := ih E (some x) r2 r1 hsafe σ ρ ρ1 ve (hrel.frame le01) he
  have hv : σ1 rx = ve := x3 rx rfl
  have hrel3 : RelEx E F' σ1 (ρ1.set x ve) := relEx_after_assign x2 le23 c1 hv
  -- `rx` is a local slot, below every temporary
  have hrx : rx < F.tb := by
    have := r1.lt; have := r2.len; omega
  have k1 : TempsKept m F σ σ1 := by
    refine (TempsKept.refl m F σ).sub x4 r3 (by omega) fun t ht h5 _ => ?_
    simp only [Mode.fixed.injEq] at ht
    omega
  cases m with
  | none =>
    have := modeFx_fx_none hm (by intro r; simp)
    subst this
    exact ⟨σ1, x1, hrel3, nofun, k1⟩
  | any =>
    have := modeFx_fx_none hm (by intro r; simp)
    subst this
    refine ⟨σ1, x1, hrel3, ?_, k1⟩
    intro r hr
    cases hr
    exact hv
  | fixed r =>
    have hcode : (assignOut (.fixed r) c ⟨some rx, false⟩ rx).1
        = if r ≠ rx then .seq c (.instr (.copy r rx)) else c := rfl
    rw [hcode]
    by_cases hrr : r = rx
    · subst hrr
      rw [if_neg (fun h => h rfl)]
      refine ⟨σ1, x1, hrel3.addOpt, ?_, k1⟩
      intro q hq
      cases hq
      exact hv
    · rw [if_pos hrr]
      refine ⟨σ1.set r (σ1 rx), ?_, ?_, ?_, ?_⟩
      · rw [exec_seq x1]; rfl
      · exact hrel3.setFixed ff.le ff.wf hm _
      · intro q hq
        cases hq
        rw [Regs.set_same, hv]
      · exact k1.set (fun _ ht _ _ => ht) _

theorem sem_compound {op : BinOp} {x : VarId} {e : Expr} {m : Mode} {F F1 F2 F' : Frame} {out orr : Out}
    {cr : Code} {rr rl : Reg} (ha : assignResult m F = some (out, F1)) (hc : Compiled e .any F1 cr orr F2)
    (hrr : orr.reg = some rr) (hrl : F2.getAssigned x = some rl) (hp : popIf orr.temp F2 = some F')
    (ih : SemAt S e .any F1 cr orr F2) :
    SemAt S (.compound op x e) m F
      (.seq cr (.seq (.instr (.compound op rl rr)) (instrIf out.reg fun r => .copy r rl))) out F' := by
  intro E fx hw hm hsafe σ ρ ρ' v hrel hev
  have ff := (Compiled.compound (op := op) ha hc hrr hrl hp).frame hw
  simp only [safe, Bool.and_eq_true, Bool.not_eq_true', List.contains_eq_mem, decide_eq_false_iff_not] at hsafe
  obtain ⟨⟨hse, hxE⟩, hnw⟩ := hsafe
  rw [ceval_compound] at hev
  cases hx : ρ x with
  | none => simp [hx] at hev
  | some vx =>
    simp only [hx] at hev
    obtain ⟨vr, ρ1, he, hev⟩ := obind_some hev
    simp only [Option.map_eq_some_iff, Prod.mk.injEq] at hev
    obtain ⟨w, hop, rfl, rfl⟩ := hev
    obtain ⟨σ1, x1, hvr, x2, k0, hw3, le03, _⟩ := operand_sem ha hc hrr hp ih hw hse hrel he
    obtain ⟨p1, p2, _⟩ := popIf_spec hp
    have hhas : Has F' rl x := (FrameLe.of_locals_eq p1 p2).has _ _ (getAssigned_has hrl)
    have hx1 : ρ1 x = some vx := by rw [eval_not_writes x e ρ ρ1 vr hnw he]; exact hx
    obtain ⟨q, hq1, hq2⟩ := x2 x vx hx1 hxE
    have hq := has_unique hw3 hq1 hhas
    subst hq
    -- the compound instruction updates the local's own register
    have hstep : exec S (.instr (.compound op q rr)) σ1 = some (σ1.set q w) := by
      simp [exec, stepInstr, hq2, hvr, hop]
    have hrel2 : RelEx E F' (σ1.set q w) (ρ1.set x w) := by
      refine relEx_after_assign ((x2.weaken fun _ => List.mem_cons_of_mem x).set q w fun y hy => ?_)
        (FrameLe.refl _) hhas (Regs.set_same _ _ _)
      rw [named_unique_name hy.named hhas.named]
      exact List.mem_cons_self
    have hql : q < F.tb := le03.tb ▸ hhas.lt_tb hw3
    have k1 : TempsKept m F σ (σ1.set q w) := by
      intro t t1 t2 t3
      rw [Regs.set_other _ _ (by omega)]
      exact k0 t t1 t2 t3
    obtain ⟨σ', z1, z2, z3, z4⟩ := finish_result (f := fun r => Instr.copy r q) (v := w) ha ff.le ff.wf hm
      hrel2 k1 (fun r _ => by simp [stepInstr])
    exact ⟨σ', by rw [exec_seq x1, exec_seq hstep]; exact z1, z2, z3, z4⟩

theorem sem_seq {a b : Expr} {m : Mode} {F F1 F' : Frame} {oa out : Out} {ca cb : Code}
    (hca : Compiled a .none F ca oa F1) (iha : SemAt S a .none F ca oa F1) (ihb : SemAt S b m F1 cb out F') :
    SemAt S (.seq a b) m F (.seq ca cb) out F' := by
  intro E fx hw hm hsafe σ ρ ρ' v hrel hev
  simp only [safe, Bool.and_eq_true] at hsafe
  rw [ceval_seq] at hev
  obtain ⟨va, ρ1, hea, hev⟩ := obind_some hev
  obtain ⟨σ1, x1, x2, _, x4⟩ := iha E Option.none hw trivial hsafe.1 σ ρ ρ1 va hrel hea
  have ffa := hca.frame hw
  have sa : oa = ⟨Option.none, false⟩ := ffa.shape
  subst sa
  have tca : F1.tc = F.tc := by have := ffa.tc; simpa [tempCount] using this
  obtain ⟨σ2, y1, y2, y3, y4⟩ := ihb E fx ffa.wf (hm.mono ffa.le (Nat.le_of_eq tca.symm)) hsafe.2 σ1 ρ1 ρ' v x2 hev
  refine ⟨σ2, by rw [exec_seq x1]; exact y1, y2, y3, ?_⟩
  have k1 : TempsKept m F σ σ1 := (TempsKept.refl m F σ).sub x4 rfl (Nat.le_refl _) nofun
  exact k1.sub y4 ffa.le.tb (by omega) (fun t ht _ _ => ht)

theorem modeFx_branch {m : Mode} {fx : Option VarId} {F F1 G : Frame} {res : Out}
    (ha : assignResult m F = some (res, F1)) (hm : ModeFx m fx F) (hle : FrameLe F G) (htc : G.tc = F1.tc) :
    ModeFx (branchMode res.reg) fx G := by
  cases hr : res.reg with
  | some r => simp only [branchMode]; exact modeFx_fixed_of_res ha hm hr hle htc
  | none =>
    rcases assignResult_cases ha with ⟨q, _, rfl, _⟩ | ⟨rfl, _, _⟩ | ⟨_, rfl, _⟩
    · cases hr
    · cases modeFx_fx_none hm nofun
      trivial
    · cases hr

theorem tempsKept_branch {m : Mode} {F F1 G : Frame} {res : Out} {σ σ0 σ1 : Regs S}
    (ha : assignResult m F = some (res, F1)) (h0 : TempsKept m F σ σ0)
    (h : TempsKept (branchMode res.reg) G σ0 σ1) (htb : G.tb = F.tb) (htc : F.tc ≤ G.tc) :
    TempsKept m F σ σ1 := by
  apply h0.sub h htb htc
  intro t ht t1 t2
  cases hr : res.reg with
  | none => simp [branchMode, hr] at ht
  | some r =>
    exact resReg_spare ha hr t (by simpa only [branchMode, hr] using ht) t1 t2

theorem out_branch {e : Expr} {F : Frame} {o : Out} {F' : Frame} {res : Out}
    (hs : OutShape (branchMode res.reg) e F o F') : ∀ r, res.reg = some r → o.reg = some r := by
  intro r hr
  simp only [branchMode, hr, OutShape] at hs
  rw [hs]

theorem sem_ite {c t e : Expr} {m : Mode} {F F1 F2 F3 F4 F' : Frame} {out oc ot oe : Out} {cc ct ce : Code}
    {rc : Reg} (ha : assignResult m F = some (out, F1)) (hcc : Compiled c .any F1 cc oc F2)
    (hrc : oc.reg = some rc) (hp : popIf oc.temp F2 = some F3)
    (hct : Compiled t (branchMode out.reg) F3 ct ot F4) (hce : Compiled e (branchMode out.reg) F4 ce oe F')
    (ihc : SemAt S c .any F1 cc oc F2) (iht : SemAt S t (branchMode out.reg) F3 ct ot F4)
    (ihe : SemAt S e (branchMode out.reg) F4 ce oe F') :
    SemAt S (.ite c t e) m F (.seq cc (.ifElse rc ct true ce)) out F' := by
  intro E fx hw hm hsafe σ ρ ρ' v hrel hev
  simp only [safe, Bool.and_eq_true] at hsafe
  obtain ⟨⟨hsc, hst⟩, hse⟩ := hsafe
  rw [ceval_ite] at hev
  obtain ⟨vc, ρ1, hec, hev⟩ := obind_some hev
  obtain ⟨σ1, x1, hcv, hrel3, k1, hw3, le03, tc3, tc03⟩ := operand_sem ha hcc hrc hp ihc hw hsc hrel hec
  have fft := hct.frame hw3
  have ffe := hce.frame fft.wf
  have tct : F4.tc = F3.tc := by have := fft.tc; have := branchMode_temp fft.shape; omega
  have hm3 : ModeFx (branchMode out.reg) fx F3 := modeFx_branch ha hm le03 tc3
  by_cases htr : S.truthy vc = true
  · simp only [htr, if_true] at hev
    obtain ⟨σ2, y1, y2, y3, y4⟩ := iht E fx hw3 hm3 hst σ1 ρ1 ρ' v hrel3 hev
    refine ⟨σ2, ?_, y2.frame ffe.le, ?_, ?_⟩
    · rw [exec_seq x1]; simp [exec, hcv, htr, y1]
    · intro r hr; exact y3 r (out_branch fft.shape r hr)
    · exact tempsKept_branch ha k1 y4 le03.tb (by omega)
  · simp only [htr] at hev
    simp only [Bool.false_eq_true, if_false] at hev
    have hm4 : ModeFx (branchMode out.reg) fx F4 := hm3.mono fft.le (Nat.le_of_eq tct.symm)
    obtain ⟨σ2, y1, y2, y3, y4⟩ := ihe E fx fft.wf hm4 hse σ1 ρ1 ρ' v (hrel3.frame fft.le) hev
    refine ⟨σ2, ?_, y2, ?_, ?_⟩
    · rw [exec_seq x1]; simp [exec, hcv, htr, y1]
    · intro r hr; exact y3 r (out_branch ffe.shape r hr)
    · exact tempsKept_branch ha k1 y4 (by rw [fft.le.tb, le03.tb]) (by omega)

theorem sem_ifThen {c t : Expr} {m : Mode} {F F1 F2 F3 F' : Frame} {out oc ot : Out} {cc ct : Code} {rc : Reg}
    (ha : assignResult m F = some (out, F1)) (hcc : Compiled c .any F1 cc oc F2)
    (hrc : oc.reg = some rc) (hp : popIf oc.temp F2 = some F3)
    (hct : Compiled t (branchMode out.reg) F3 ct ot F')
    (ihc : SemAt S c .any F1 cc oc F2) (iht : SemAt S t (branchMode out.reg) F3 ct ot F') :
    SemAt S (.ifThen c t) m F (.seq cc (.ifElse rc ct out.reg.isSome (instrIf out.reg .setNull))) out F' := by
  intro E fx hw hm hsafe σ ρ ρ' v hrel hev
  have ff := (Compiled.ifThen ha hcc hrc hp hct).frame hw
  simp only [safe, Bool.and_eq_true] at hsafe
  obtain ⟨hsc, hst⟩ := hsafe
  rw [ceval_ifThen] at hev
  obtain ⟨vc, ρ1, hec, hev⟩ := obind_some hev
  obtain ⟨σ1, x1, hcv, hrel3, k1, hw3, le03, tc3, tc03⟩ := operand_sem ha hcc hrc hp ihc hw hsc hrel hec
  have fft := hct.frame hw3
  have hm3 : ModeFx (branchMode out.reg) fx F3 := modeFx_branch ha hm le03 tc3
  by_cases htr : S.truthy vc = true
  · simp only [htr, if_true] at hev
    obtain ⟨σ2, y1, y2, y3, y4⟩ := iht E fx hw3 hm3 hst σ1 ρ1 ρ' v hrel3 hev
    refine ⟨σ2, ?_, y2, ?_, ?_⟩
    · rw [exec_seq x1]
      cases hr : out.reg <;> simp [exec, hcv, htr, y1, instrIf]
    · intro r hr; exact y3 r (out_branch fft.shape r hr)
    · exact tempsKept_branch ha k1 y4 le03.tb (by omega)
  · simp only [htr] at hev
    simp only [Bool.false_eq_true, if_false, Option.some.injEq, Prod.mk.injEq] at hev
    obtain ⟨rfl, rfl⟩ := hev
    obtain ⟨σ', z1, z2, z3, z4⟩ := finish_result (f := Instr.setNull) (v := S.null) ha ff.le ff.wf hm
      (hrel3.frame fft.le) k1 (fun r _ => rfl)
    refine ⟨σ', ?_, z2, z3, z4⟩
    rw [exec_seq x1]; simp [exec, hcv, htr, z1]

theorem Compiled.sem {e : Expr} {m : Mode} {F : Frame} {code : Code} {out : Out} {F' : Frame}
    (h : Compiled e m F code out F') : SemAt S e m F code out F' := by
  induction h with
  | null ha => exact sem_lit S.null .setNull ha (fun _ => rfl) (fun _ _ => rfl)
  | bool ha => exact sem_lit (S.ofBool _) (.setBool · _) ha (fun _ => rfl) (fun _ _ => rfl)
  | int ha => exact sem_lit (S.ofInt _) (.setInt · _) ha (fun _ => rfl) (fun _ _ => rfl)
  | varNone hg => exact sem_varNone hg
  | varAny hg => exact sem_varAny hg
  | varFixed hg => exact sem_varFixed hg
  | un ha hc hvr hp ih => exact sem_un ha hc hvr hp ih
  | @binReg op _ _ _ _ res _ r _ _ _ ra _ _ _ rb _ _ ha hr hca hra hcb hrb hpa hpb iha ihb =>
    have := Compiled.binReg (op := op) ha hr hca hra hcb hrb hpa hpb
    rw [← show instrIf res.reg (fun r => .binop op r ra rb) = .instr (.binop op r ra rb) by rw [hr]; rfl] at this ⊢
    obtain ⟨p1, p2, _⟩ := popIf_spec hpa
    obtain ⟨q1, q2, _⟩ := popIf_spec hpb
    exact sem_binlike (Expr.bin _) _ (fun _ _ => rfl) (fun _ => rfl) this ha rfl rfl (Nat.le_refl _) hca hra hcb hrb
      ⟨by rw [q1, p1], by rw [q2, p2]⟩ iha ihb
  | binNone ha hr hca _ iha ihb => exact sem_binNone ha hr hca iha ihb
  | cmp ha hrt hca hra hcb hrb iha ihb =>
    obtain ⟨t1, t2, t3⟩ := resultOrTemp_spec hrt
    exact sem_binlike (Expr.cmp _) _ (fun _ _ => rfl) (fun _ => rfl) (Compiled.cmp ha hrt hca hra hcb hrb) ha t1 t2
      (by rcases t3 with ⟨_, h⟩ | ⟨_, _, h⟩ <;> omega) hca hra hcb hrb ⟨rfl, rfl⟩ iha ihb
  | chain3 ha hrt hca hra hcb hrb hcc hrc iha ihb ihc => exact sem_chain3 ha hrt hca hra hcb hrb hcc hrc iha ihb ihc
  | and ha hrt hca hcb hp iha ihb =>
    exact sem_short .and .jumpIfFalse id (fun _ _ => rfl) (fun _ => rfl) (fun _ => rfl) ha hrt hca hcb hp iha ihb
  | @or _ _ _ _ _ _ reg _ _ _ _ _ _ _ _ ha hrt hca hcb hp iha ihb =>
    -- `or` jumps when the left operand is truthy: `go` is negation
    refine sem_short .or .jumpIfTrue (!·) (fun _ _ => rfl) (fun ρ => ?_) (fun σ => ?_) ha hrt hca hcb hp iha ihb
    · rw [ceval_or]; congr; funext va ρ1; cases S.truthy va <;> rfl
    · simp only [exec]; cases S.truthy (σ reg) <;> rfl
  | assign hres hc hvr hcm ih => exact sem_assign hres hc hvr hcm ih
  | compound ha hc hrr hrl hp ih => exact sem_compound ha hc hrr hrl hp ih
  | seq hca _ iha ihb => exact sem_seq hca iha ihb
  | ite ha hcc hrc hp hct hce ihc iht ihe => exact sem_ite ha hcc hrc hp hct hce ihc iht ihe
  | ifThen ha hcc hrc hp hct ihc iht => exact sem_ifThen ha hcc hrc hp hct ihc iht

def SemOk (S : Sem) (e : Expr) : Prop :=
  ∀ (m : Mode) (F : Frame) (code : Code) (out : Out) (F' : Frame) (E : List VarId) (fx : Option VarId),
    compile e m F = some (code, out, F') → WF F → ModeFx m fx F → safe E fx e = true →
    ∀ (σ : Regs S) (ρ ρ' : Env S) (v : S.V), RelEx E F σ ρ → eval S e ρ = some (v, ρ') →
    ∃ σ', exec S code σ = some σ' ∧ RelEx (addOpt fx E) F' σ' ρ' ∧
      (∀ r, out.reg = some r → σ' r = v) ∧ TempsKept m F σ σ'

/-- **Semantic correctness of the compiler model**, for every expression of the core. -/
theorem compile_sem (e : Expr) : SemOk S e :=
  fun _ _ _ _ _ E fx h => (Compiled.of_compile h).sem E fx

end KotoVerif.Compile
