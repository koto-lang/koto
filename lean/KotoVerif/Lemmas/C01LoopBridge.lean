/-
C01 — bridge for the loop layer: the statement semantics `Compile.evalS (coreSem F)` of the compiler
model (`Model/CompileLoop.lean`) against the reference semantics of the language guide `Core.eval`
(`Model/CoreEval.lean`) on the embedded statement `toCoreS s` (`while` / `until` / `loop`, `break`,
`continue`, blocks, `if` with statement branches). `stmt_conv` (guide ⇒ model) is an induction on the
guide's fuel that builds the `RunS` derivation, `stmt_fwd` (model ⇒ guide) a rule induction on `RunS`;
expression parts are discharged by `lockstep_any_fuel` and `bridge_fwd` of `Lemmas/C01Bridge.lean`.
-/
import KotoVerif.Lemmas.C01Bridge
import KotoVerif.Lemmas.C01LoopSem

namespace KotoVerif.C01
open KotoVerif KotoVerif.Core

def coreCond : Option (Compile.Expr × Bool) → Option (Core.Expr × Bool)
  | none => none
  | some (c, neg) => some (toCore c, neg)

def toCoreS : Compile.Stmt → Core.Expr
  | .expr e => toCore e
  | .seq a b => .block (.cons (toCoreS a) (.cons (toCoreS b) .nil))
  | .ite c t e => .ifElse (toCore c) (toCoreS t) (toCoreS e)
  | .ifThen c t => .ifThen (toCore c) (toCoreS t)
  | .loop cond b =>
    match cond with
    | some (c, false) => .while (toCore c) (toCoreS b)
    | some (c, true) => .until (toCore c) (toCoreS b)
    | none => .loop (toCoreS b)
  | .brk => .brk
  | .cont => .cont

def wfS : Compile.Stmt → Bool
  | .expr e => wfE e
  | .seq a b => wfS a && wfS b
  | .ite c t e => wfE c && wfS t && wfS e
  | .ifThen c t => wfE c && wfS t
  | .loop (some (c, _)) b => wfE c && wfS b
  | .loop none b => wfS b
  | .brk | .cont => true

/-- the completion signal of a finished guide evaluation -/
def sigOf : Res Val → Option Compile.Sig
  | .ok _ => some .normal
  | .brk _ => some .brk
  | .cont => some .cont
  | .err _ => none
  | .nofuel => none

theorem eval_toCoreS_loop (F : FloatOps) (n : Nat) (cond : Option (Compile.Expr × Bool)) (b : Compile.Stmt)
    (s : St) :
    eval F (n + 1) (toCoreS (.loop cond b)) s = evalLoop F n (coreCond cond) (toCoreS b) .null s := by
  cases cond with
  | none => simp only [toCoreS, coreCond, eval_loop]
  | some p =>
    obtain ⟨c, neg⟩ := p
    cases neg with
    | false => simp only [toCoreS, coreCond, eval_while]
    | true => simp only [toCoreS, coreCond, eval_until]

theorem wfS_loop_body {cond : Option (Compile.Expr × Bool)} {b : Compile.Stmt} (h : wfS (.loop cond b) = true) :
    wfS b = true := by
  cases cond with
  | none => simpa [wfS] using h
  | some p => obtain ⟨c, neg⟩ := p; simp only [wfS, Bool.and_eq_true] at h; exact h.2

theorem sigOf_ne_nofuel {r : Res Val} {sig : Compile.Sig} (h : sigOf r = some sig) : r ≠ .nofuel := by
  intro hc; subst hc; simp [sigOf] at h

theorem eval_fuel_le (F : FloatOps) {n m : Nat} {e : Expr} {s s' : St} {r : Res Val} {sig : Compile.Sig}
    (h : eval F n e s = (r, s')) (hs : sigOf r = some sig) (hm : n ≤ m) : eval F m e s = (r, s') :=
  eval_mono F h (sigOf_ne_nofuel hs) hm

theorem evalLoop_fuel_le (F : FloatOps) {n m : Nat} {c : Option (Expr × Bool)} {b : Expr} {acc : Val}
    {s s' : St} {r : Res Val} {sig : Compile.Sig}
    (h : evalLoop F n c b acc s = (r, s')) (hs : sigOf r = some sig) (hm : n ≤ m) :
    evalLoop F m c b acc s = (r, s') :=
  evalLoop_mono F h (sigOf_ne_nofuel hs) hm

/-- an embedded *expression* never signals: if the guide's evaluation finishes without an error, it
finishes normally, and `Compile.eval` agrees -/
theorem expr_conv (F : FloatOps) (e : Compile.Expr) (ρ : Compile.Env (coreSem F)) (st st' : St)
    (fuel : Nat) (r : Res Val) (sig : Compile.Sig)
    (hw : wfE e = true) (hr : EnvRel ρ st.env)
    (hev : Core.eval F fuel (toCore e) st = (r, st')) (hs : sigOf r = some sig) :
    ∃ v ρ', r = .ok v ∧ Compile.eval (coreSem F) e ρ = some (v, ρ') ∧ EnvRel ρ' st'.env := by
  obtain ⟨v, ρ', hv, he, h3, _⟩ :=
    (lockstep_any_fuel F e ρ st st' fuel r hw hr hev (sigOf_ne_nofuel hs)).ok_inv
      (by rintro er rfl; simp [sigOf] at hs)
  exact ⟨v, ρ', hv, he, h3⟩

/-- the guide's `seq` taken apart, given that it finished without an error -/
theorem seq_sig {r : Res Val × St} {k : Val → St → Res Val × St} {r' : Res Val} {st' : St} {sig : Compile.Sig}
    (h : seq r k = (r', st')) (hs : sigOf r' = some sig) :
    (∃ v s, r = (.ok v, s) ∧ k v s = (r', st')) ∨ (r = (r', st') ∧ sig ≠ .normal) := by
  obtain ⟨x, s⟩ := r
  cases x with
  | ok v => exact .inl ⟨v, s, rfl, h⟩
  | err e => cases h; cases hs
  | nofuel => cases h; cases hs
  | brk v => cases h; cases hs; exact .inr ⟨rfl, nofun⟩
  | cont => cases h; cases hs; exact .inr ⟨rfl, nofun⟩

/-- `a; b`: either `a` finishes normally and the block's result is `b`'s, or `a` signals and that is
the block's result -/
theorem block2_inv (F : FloatOps) (m : Nat) (a b : Expr) (st st' : St) (r : Res Val) (sig : Compile.Sig)
    (h : eval F (m + 1) (.block (.cons a (.cons b .nil))) st = (r, st')) (hs : sigOf r = some sig) :
    (∃ k j va sa, k ≤ m ∧ j ≤ m ∧ eval F k a st = (.ok va, sa) ∧ eval F j b sa = (r, st')) ∨
    (∃ k, k ≤ m ∧ eval F k a st = (r, st') ∧ sig ≠ .normal) := by
  rw [eval_block] at h
  cases m with
  | zero => cases h; cases hs
  | succ k =>
    rw [evalBlock_cons] at h
    rcases seq_sig h hs with ⟨va, sa, ha, h⟩ | ⟨ha, hne⟩
    · cases k with
      | zero => cases h; cases hs
      | succ j =>
        rw [evalBlock_cons] at h
        refine .inl ⟨j + 1, j, va, sa, Nat.le_succ _, Nat.le_succ_of_le (Nat.le_succ _), ha, ?_⟩
        rcases seq_sig h hs with ⟨vb, sb, hb, h⟩ | ⟨hb, _⟩
        · cases j with
          | zero => cases h; cases hs
          | succ i => rw [hb]; exact h
        · exact hb
    · exact .inr ⟨k, Nat.le_succ _, ha, hne⟩

theorem cond_inv (F : FloatOps) (c : Compile.Expr) (ρ : Compile.Env (coreSem F)) (st st' : St) (m : Nat)
    (k : Val → St → Res Val × St) (r : Res Val) (sig : Compile.Sig)
    (hw : wfE c = true) (hr : EnvRel ρ st.env)
    (h : seq (eval F m (toCore c) st) k = (r, st')) (hs : sigOf r = some sig) :
    ∃ vc ρ1 s1, Compile.eval (coreSem F) c ρ = some (vc, ρ1) ∧ EnvRel ρ1 s1.env ∧ k vc s1 = (r, st') := by
  rcases seq_sig h hs with ⟨vc, sc, hc, h⟩ | ⟨hc, _⟩
  · obtain ⟨v, ρ1, hv, he, hrel⟩ := expr_conv F c ρ st sc m (.ok vc) .normal hw hr hc rfl
    cases hv
    exact ⟨vc, ρ1, sc, he, hrel, h⟩
  · -- an expression does not signal
    obtain ⟨v, ρ1, rfl, he, hrel⟩ := expr_conv F c ρ st st' m r sig hw hr hc hs
    exact ⟨v, ρ1, st', he, hrel, by rw [hc] at h; exact h⟩

/-- what `stmt_conv` says at fuel `N` of the guide's evaluation, for `eval` on statements and for
`evalLoop` with any value so far -/
def ConvAt (F : FloatOps) (N : Nat) : Prop :=
  (∀ (s : Compile.Stmt) (ρ : Compile.Env (coreSem F)) (st st' : St) (r : Res Val)
      (sig : Compile.Sig), wfS s = true → EnvRel ρ st.env →
      Core.eval F N (toCoreS s) st = (r, st') → sigOf r = some sig →
      ∃ ρ', Compile.RunS (coreSem F) s ρ sig ρ' ∧ EnvRel ρ' st'.env) ∧
  (∀ (cond : Option (Compile.Expr × Bool)) (b : Compile.Stmt) (acc : Val)
      (ρ : Compile.Env (coreSem F)) (st st' : St) (r : Res Val) (sig : Compile.Sig),
      wfS (.loop cond b) = true → EnvRel ρ st.env →
      evalLoop F N (coreCond cond) (toCoreS b) acc st = (r, st') → sigOf r = some sig →
      ∃ ρ', Compile.RunS (coreSem F) (.loop cond b) ρ sig ρ' ∧ EnvRel ρ' st'.env)

/-- one loop round: the header has decided to run the body (`hcnd`) and left `(ρ1, s1)` -/
theorem loop_round (F : FloatOps) (N : Nat) (ih : ConvAt F N)
    (cond : Option (Compile.Expr × Bool)) (b : Compile.Stmt)
    (ρ ρ1 : Compile.Env (coreSem F)) (s1 st' : St) (r : Res Val) (sig : Compile.Sig)
    (hw : wfS (.loop cond b) = true) (hr1 : EnvRel ρ1 s1.env)
    (hcnd : Compile.evalCond (coreSem F) cond ρ = some (true, ρ1))
    (h : loopStep (eval F N (toCoreS b) s1) (fun v s => evalLoop F N (coreCond cond) (toCoreS b) v s) = (r, st'))
    (hs : sigOf r = some sig) :
    ∃ ρ', Compile.RunS (coreSem F) (.loop cond b) ρ sig ρ' ∧ EnvRel ρ' st'.env := by
  have hwb := wfS_loop_body hw
  cases hrb : eval F N (toCoreS b) s1 with
  | mk rb sb =>
    rw [hrb] at h
    cases rb with
    | err e => simp only [loopStep, Prod.mk.injEq] at h; rw [← h.1] at hs; simp [sigOf] at hs
    | nofuel => simp only [loopStep, Prod.mk.injEq] at h; rw [← h.1] at hs; simp [sigOf] at hs
    | brk v =>
      simp only [loopStep, Prod.mk.injEq] at h
      obtain ⟨rfl, rfl⟩ := h
      simp only [sigOf, Option.some.injEq] at hs
      subst hs
      obtain ⟨ρ2, e1, r2⟩ := ih.1 b ρ1 s1 sb (.brk v) .brk hwb hr1 hrb rfl
      exact ⟨ρ2, .loopBrk hcnd e1, r2⟩
    | ok v =>
      simp only [loopStep] at h
      obtain ⟨ρ2, e1, r2⟩ := ih.1 b ρ1 s1 sb (.ok v) .normal hwb hr1 hrb rfl
      obtain ⟨ρ3, e2, r3⟩ := ih.2 cond b v ρ2 sb st' r sig hw r2 h hs
      exact ⟨ρ3, .loopNext hcnd e1 nofun e2, r3⟩
    | cont =>
      simp only [loopStep] at h
      obtain ⟨ρ2, e1, r2⟩ := ih.1 b ρ1 s1 sb .cont .cont hwb hr1 hrb rfl
      obtain ⟨ρ3, e2, r3⟩ := ih.2 cond b .null ρ2 sb st' r sig hw r2 h hs
      exact ⟨ρ3, .loopNext hcnd e1 nofun e2, r3⟩

theorem stmt_conv_at (F : FloatOps) : ∀ N, ConvAt F N := by
  intro N
  induction N with
  | zero =>
    constructor
    · intro s ρ st st' r sig _ _ hev hs
      simp only [eval_zero, Prod.mk.injEq] at hev
      rw [← hev.1] at hs; simp [sigOf] at hs
    · intro cond b acc ρ st st' r sig _ _ hev hs
      simp only [evalLoop_zero, Prod.mk.injEq] at hev
      rw [← hev.1] at hs; simp [sigOf] at hs
  | succ N ih =>
    constructor
    · intro s ρ st st' r sig hw hr hev hs
      cases s with
      | expr e =>
        simp only [wfS] at hw
        simp only [toCoreS] at hev
        obtain ⟨v, ρ', rfl, he, hrel⟩ := expr_conv F e ρ st st' _ _ sig hw hr hev hs
        simp only [sigOf, Option.some.injEq] at hs
        subst hs
        exact ⟨ρ', .expr he, hrel⟩
      | brk =>
        simp only [toCoreS, eval_brk, Prod.mk.injEq] at hev
        obtain ⟨rfl, rfl⟩ := hev
        simp only [sigOf, Option.some.injEq] at hs
        subst hs
        exact ⟨ρ, .brk, hr⟩
      | cont =>
        simp only [toCoreS, eval_cont, Prod.mk.injEq] at hev
        obtain ⟨rfl, rfl⟩ := hev
        simp only [sigOf, Option.some.injEq] at hs
        subst hs
        exact ⟨ρ, .cont, hr⟩
      | seq a b =>
        simp only [wfS, Bool.and_eq_true] at hw
        simp only [toCoreS] at hev
        rcases block2_inv F N _ _ st st' r sig hev hs with ⟨k, j, va, sa, hk, hj, ha, hb⟩ | ⟨k, hk, ha, hne⟩
        -- the parts of the block ran with less fuel: lifted to `N`
        · obtain ⟨ρ1, e1, r1⟩ := ih.1 a ρ st sa (.ok va) .normal hw.1 hr (eval_fuel_le F ha rfl hk) rfl
          obtain ⟨ρ2, e2, r2⟩ := ih.1 b ρ1 sa st' r sig hw.2 r1 (eval_fuel_le F hb hs hj) hs
          exact ⟨ρ2, .seq e1 e2, r2⟩
        · obtain ⟨ρ1, e1, r1⟩ := ih.1 a ρ st st' r sig hw.1 hr (eval_fuel_le F ha hs hk) hs
          exact ⟨ρ1, .seqStop e1 hne, r1⟩
      | ite c t e =>
        simp only [wfS, Bool.and_eq_true] at hw
        simp only [toCoreS, eval_ifElse] at hev
        obtain ⟨vc, ρ1, s1, hc, hr1, hk⟩ := cond_inv F c ρ st st' N _ r sig hw.1.1 hr hev hs
        cases htr : vc.truthy with
        | true =>
          simp only [htr, if_true] at hk
          obtain ⟨ρ2, e1, r2⟩ := ih.1 t ρ1 s1 st' r sig hw.1.2 hr1 hk hs
          exact ⟨ρ2, .iteT hc htr e1, r2⟩
        | false =>
          simp only [htr, Bool.false_eq_true, if_false] at hk
          obtain ⟨ρ2, e1, r2⟩ := ih.1 e ρ1 s1 st' r sig hw.2 hr1 hk hs
          exact ⟨ρ2, .iteF hc htr e1, r2⟩
      | ifThen c t =>
        simp only [wfS, Bool.and_eq_true] at hw
        simp only [toCoreS, eval_ifThen] at hev
        obtain ⟨vc, ρ1, s1, hc, hr1, hk⟩ := cond_inv F c ρ st st' N _ r sig hw.1 hr hev hs
        cases htr : vc.truthy with
        | true =>
          simp only [htr, if_true] at hk
          obtain ⟨ρ2, e1, r2⟩ := ih.1 t ρ1 s1 st' r sig hw.2 hr1 hk hs
          exact ⟨ρ2, .ifThenT hc htr e1, r2⟩
        | false =>
          simp only [htr, Bool.false_eq_true, if_false, Prod.mk.injEq] at hk
          obtain ⟨rfl, rfl⟩ := hk
          simp only [sigOf, Option.some.injEq] at hs
          subst hs
          exact ⟨ρ1, .ifThenF hc htr, hr1⟩
      | loop cond b =>
        rw [eval_toCoreS_loop] at hev
        exact ih.2 cond b .null ρ st st' r sig hw hr hev hs
    · intro cond b acc ρ st st' r sig hw hr hev hs
      cases cond with
      | none =>
        simp only [coreCond, evalLoop_none] at hev
        exact loop_round F N ih none b ρ ρ st st' r sig hw hr rfl hev hs
      | some p =>
        obtain ⟨c, neg⟩ := p
        have hwc : wfE c = true := by simp only [wfS, Bool.and_eq_true] at hw; exact hw.1
        simp only [coreCond, evalLoop_cond] at hev
        obtain ⟨vc, ρ1, s1, hc, hr1, hk⟩ := cond_inv F c ρ st st' N _ r sig hwc hr hev hs
        cases hgo : (vc.truthy != neg) with
        | true =>
          simp only [hgo, if_true] at hk
          have hcnd : Compile.evalCond (coreSem F) (some (c, neg)) ρ = some (true, ρ1) := by
            simp only [Compile.evalCond, hc]
            exact congrArg (fun b => some (b, ρ1)) hgo
          exact loop_round F N ih (some (c, neg)) b ρ ρ1 s1 st' r sig hw hr1 hcnd hk hs
        | false =>
          simp only [hgo, Bool.false_eq_true, if_false, Prod.mk.injEq] at hk
          obtain ⟨rfl, rfl⟩ := hk
          simp only [sigOf, Option.some.injEq] at hs
          subst hs
          have hcnd : Compile.evalCond (coreSem F) (some (c, neg)) ρ = some (false, ρ1) := by
            simp only [Compile.evalCond, hc]
            exact congrArg (fun b => some (b, ρ1)) hgo
          exact ⟨ρ1, .loopExit hcnd, hr1⟩

/-- **guide ⇒ compiler model, statements.** A finished evaluation of the embedded statement by the
reference semantics of the guide (any fuel; normal completion, or a `break` / `continue` on its way
to an enclosing loop) is a finished evaluation by `evalS (coreSem F)` with the same signal and a
related final environment. -/
theorem stmt_conv (F : FloatOps) (s : Compile.Stmt) (ρ : Compile.Env (coreSem F)) (st st' : St)
    (fuel : Nat) (r : Res Val) (sig : Compile.Sig)
    (hw : wfS s = true) (hr : EnvRel ρ st.env)
    (hev : Core.eval F fuel (toCoreS s) st = (r, st')) (hs : sigOf r = some sig) :
    ∃ n ρ', Compile.evalS (coreSem F) n s ρ = .ok (sig, ρ') ∧ EnvRel ρ' st'.env := by
  obtain ⟨ρ', h, hrel⟩ := (stmt_conv_at F fuel).1 s ρ st st' r sig hw hr hev hs
  obtain ⟨n, hn⟩ := h.to_evalS
  exact ⟨n, ρ', hn, hrel⟩

/-- the last step of a two-expression block hands the second result through -/
theorem seq_ret {rb : Res Val} {sb : St} {sig : Compile.Sig} (h : sigOf rb = some sig) :
    ∃ r, (seq (rb, sb) fun v s => ((.ok v : Res Val), s)) = (r, sb) ∧ sigOf r = some sig := by
  cases rb with
  | ok v => exact ⟨.ok v, rfl, h⟩
  | brk v => exact ⟨.brk v, rfl, h⟩
  | cont => exact ⟨.cont, rfl, h⟩
  | err e => simp [sigOf] at h
  | nofuel => simp [sigOf] at h

/-- the loop header on the guide's side: with enough fuel, `evalLoop` evaluates the condition as
`evalCond` does and then either runs the body or ends the loop -/
theorem hdr_fwd (F : FloatOps) (cond : Option (Compile.Expr × Bool)) (b : Compile.Stmt) (b' : Expr)
    (ρ ρ1 : Compile.Env (coreSem F)) (st : St) (go : Bool)
    (hw : wfS (.loop cond b) = true) (hr : EnvRel ρ st.env)
    (h : Compile.evalCond (coreSem F) cond ρ = some (go, ρ1)) :
    ∃ s1 M, EnvRel ρ1 s1.env ∧ ∀ N, M ≤ N → ∀ acc,
      evalLoop F (N + 1) (coreCond cond) b' acc st =
        if go then loopStep (eval F N b' s1) (fun v s => evalLoop F N (coreCond cond) b' v s)
        else (.ok acc, s1) := by
  cases cond with
  | none =>
    simp only [Compile.evalCond, Option.some.injEq, Prod.mk.injEq] at h
    obtain ⟨rfl, rfl⟩ := h
    exact ⟨st, 0, hr, fun N _ acc => by simp only [coreCond, evalLoop_none, if_true]⟩
  | some p =>
    obtain ⟨c, neg⟩ := p
    have hwc : wfE c = true := by simp only [wfS, Bool.and_eq_true] at hw; exact hw.1
    simp only [Compile.evalCond] at h
    cases hv : Compile.eval (coreSem F) c ρ with
    | none => simp [hv] at h
    | some q =>
      obtain ⟨v, ρ2⟩ := q
      simp only [hv, Option.some.injEq, Prod.mk.injEq] at h
      obtain ⟨rfl, rfl⟩ := h
      obtain ⟨s1, h1, h2, _⟩ := bridge_fwd F c ρ ρ2 st v hwc hr hv
      refine ⟨s1, need c, h2, fun N hN acc => ?_⟩
      simp only [coreCond, evalLoop_cond, h1 N hN, seq]

/-- what `stmt_fwd` says of one statement: for a loop, about `evalLoop` with any value so far -/
def FwdGoal (F : FloatOps) (s : Compile.Stmt) (st : St) (sig : Compile.Sig) (ρ' : Compile.Env (coreSem F)) : Prop :=
  match s with
  | .loop cond b => ∀ acc, ∃ fuel r st',
      evalLoop F fuel (coreCond cond) (toCoreS b) acc st = (r, st') ∧ sigOf r = some sig ∧ EnvRel ρ' st'.env
  | s => ∃ fuel r st', eval F fuel (toCoreS s) st = (r, st') ∧ sigOf r = some sig ∧ EnvRel ρ' st'.env

theorem FwdGoal.eval {F : FloatOps} {s : Compile.Stmt} {st : St} {sig : Compile.Sig} {ρ' : Compile.Env (coreSem F)}
    (h : FwdGoal F s st sig ρ') :
    ∃ fuel r st', eval F fuel (toCoreS s) st = (r, st') ∧ sigOf r = some sig ∧ EnvRel ρ' st'.env := by
  cases s with
  | loop cond b =>
    obtain ⟨fl, r, st', e1, g1, r1⟩ := h .null
    exact ⟨fl + 1, r, st', by rw [eval_toCoreS_loop]; exact e1, g1, r1⟩
  | _ => exact h

theorem stmt_fwd_run (F : FloatOps) {s : Compile.Stmt} {ρ ρ' : Compile.Env (coreSem F)} {sig : Compile.Sig}
    (hev : Compile.RunS (coreSem F) s ρ sig ρ') :
    wfS s = true → ∀ st : St, EnvRel ρ st.env → FwdGoal F s st sig ρ' := by
  induction hev with
  | expr he =>
    intro hw st hr
    obtain ⟨st', h1, h2, _⟩ := bridge_fwd F _ _ _ st _ hw hr he
    exact ⟨_, .ok _, st', h1 _ (Nat.le_refl _), rfl, h2⟩
  | brk => exact fun _ st hr => ⟨1, .brk .null, st, rfl, rfl, hr⟩
  | cont => exact fun _ st hr => ⟨1, .cont, st, rfl, rfl, hr⟩
  | seq _ _ iha ihb =>
    intro hw st hr
    simp only [wfS, Bool.and_eq_true] at hw
    obtain ⟨fa, ra, sa, e1, g1, r1⟩ := (iha hw.1 st hr).eval
    obtain ⟨fb, rb, sb, e2, g2, r2⟩ := (ihb hw.2 sa r1).eval
    cases ra with
    | ok va =>
      have e1' := eval_fuel_le F e1 g1 (Nat.le_add_right_of_le (k := 2) (Nat.le_max_left fa fb))
      have e2' := eval_fuel_le F e2 g2 (Nat.le_add_right_of_le (k := 1) (Nat.le_max_right fa fb))
      obtain ⟨r, hr', gr⟩ := seq_ret (sb := sb) g2
      refine ⟨max fa fb + 4, r, sb, ?_, gr, r2⟩
      simp only [toCoreS]
      rw [eval_block2, e1']
      simp only [seq]
      rw [e2']
      exact hr'
    | brk v => simp [sigOf] at g1
    | cont => simp [sigOf] at g1
    | err e => simp [sigOf] at g1
    | nofuel => simp [sigOf] at g1
  | seqStop _ hne iha =>
    intro hw st hr
    simp only [wfS, Bool.and_eq_true] at hw
    obtain ⟨fa, ra, sa, e1, g1, r1⟩ := (iha hw.1 st hr).eval
    have e1' := eval_fuel_le F e1 g1 (Nat.le_add_right fa 2)
    refine ⟨fa + 4, ra, sa, ?_, g1, r1⟩
    simp only [toCoreS]
    rw [eval_block2, e1']
    cases ra with
    | ok v => simp only [sigOf, Option.some.injEq] at g1; exact absurd g1.symm hne
    | brk v => rfl
    | cont => rfl
    | err e => simp [sigOf] at g1
    | nofuel => simp [sigOf] at g1
  | @iteT c _ _ _ _ _ _ _ hv htr _ ih | @iteF c _ _ _ _ _ _ _ hv htr _ ih =>
    intro hw st hr
    simp only [wfS, Bool.and_eq_true] at hw
    obtain ⟨s1, c1, c2, _⟩ := bridge_fwd F _ _ _ st _ hw.1.1 hr hv
    obtain ⟨ft, r, st', e1, g1, r1⟩ := (ih (by first | exact hw.1.2 | exact hw.2) s1 c2).eval
    refine ⟨max (need c) ft + 1, r, st', ?_, g1, r1⟩
    simp only [toCoreS, eval_ifElse, c1 _ (Nat.le_max_left _ _), seq]
    rw [show Val.truthy _ = _ from htr]
    exact eval_fuel_le F e1 g1 (Nat.le_max_right _ _)
  | @ifThenT c _ _ _ _ _ _ hv htr _ ih =>
    intro hw st hr
    simp only [wfS, Bool.and_eq_true] at hw
    obtain ⟨s1, c1, c2, _⟩ := bridge_fwd F _ _ _ st _ hw.1 hr hv
    obtain ⟨ft, r, st', e1, g1, r1⟩ := (ih hw.2 s1 c2).eval
    refine ⟨max (need c) ft + 1, r, st', ?_, g1, r1⟩
    simp only [toCoreS, eval_ifThen, c1 _ (Nat.le_max_left _ _), seq]
    rw [show Val.truthy _ = _ from htr]
    exact eval_fuel_le F e1 g1 (Nat.le_max_right _ _)
  | @ifThenF c _ _ _ _ hv htr =>
    intro hw st hr
    simp only [wfS, Bool.and_eq_true] at hw
    obtain ⟨s1, c1, c2, _⟩ := bridge_fwd F _ _ _ st _ hw.1 hr hv
    refine ⟨need c + 1, .ok .null, s1, ?_, rfl, c2⟩
    simp only [toCoreS, eval_ifThen, c1 _ (Nat.le_refl _), seq]
    rw [show Val.truthy _ = _ from htr]
    rfl
  | @loopExit cond b _ _ hcnd =>
    intro hw st hr acc
    obtain ⟨s1, M, hr1, hM⟩ := hdr_fwd F cond b (toCoreS b) _ _ st false hw hr hcnd
    exact ⟨M + 1, .ok acc, s1, by simp only [hM M (Nat.le_refl _) acc]; rfl, rfl, hr1⟩
  | @loopBrk cond b _ _ _ hcnd _ ih =>
    intro hw st hr acc
    obtain ⟨s1, M, hr1, hM⟩ := hdr_fwd F cond b (toCoreS b) _ _ st true hw hr hcnd
    obtain ⟨fb, rb, sb, e1, g1, r1⟩ := (ih (wfS_loop_body hw) s1 hr1).eval
    have e1' := eval_fuel_le F e1 g1 (Nat.le_max_right M fb)
    cases rb with
    | brk v =>
      refine ⟨max M fb + 1, .ok v, sb, ?_, rfl, r1⟩
      simp only [hM _ (Nat.le_max_left M fb) acc, if_true, e1', loopStep]
    | ok v => simp [sigOf] at g1
    | cont => simp [sigOf] at g1
    | err e => simp [sigOf] at g1
    | nofuel => simp [sigOf] at g1
  | @loopNext cond b _ _ sg _ _ _ hcnd _ hsg _ ihb ihl =>
    intro hw st hr acc
    obtain ⟨s1, M, hr1, hM⟩ := hdr_fwd F cond b (toCoreS b) _ _ st true hw hr hcnd
    obtain ⟨fb, rb, sb, e1, g1, r1⟩ := (ihb (wfS_loop_body hw) s1 hr1).eval
    -- the value the guide's loop carries on with
    have hnext : ∃ w, ∀ (k : Val → St → Res Val × St), loopStep (rb, sb) k = k w sb := by
      cases rb with
      | ok v => exact ⟨v, fun _ => rfl⟩
      | cont => exact ⟨.null, fun _ => rfl⟩
      | brk v => simp only [sigOf, Option.some.injEq] at g1; exact absurd g1.symm hsg
      | err e => simp [sigOf] at g1
      | nofuel => simp [sigOf] at g1
    obtain ⟨w, hwk⟩ := hnext
    obtain ⟨fl, r, st', e2, g2, r2⟩ := ihl hw sb r1 w
    have e1' := eval_fuel_le F e1 g1 (Nat.le_trans (Nat.le_max_left fb fl) (Nat.le_max_right M _))
    have e2' := evalLoop_fuel_le F e2 g2 (Nat.le_trans (Nat.le_max_right fb fl) (Nat.le_max_right M _))
    refine ⟨max M (max fb fl) + 1, r, st', ?_, g2, r2⟩
    simp only [hM _ (Nat.le_max_left _ _) acc, if_true, e1', hwk]
    exact e2'

/-- **compiler model ⇒ guide, statements.** A finished `evalS (coreSem F)` evaluation is a finished
evaluation of the embedded statement by the reference semantics of the guide, with the same signal
and a related final environment. -/
theorem stmt_fwd (F : FloatOps) (s : Compile.Stmt) (ρ ρ' : Compile.Env (coreSem F)) (st : St)
    (n : Nat) (sig : Compile.Sig) (hw : wfS s = true) (hr : EnvRel ρ st.env)
    (hev : Compile.evalS (coreSem F) n s ρ = .ok (sig, ρ')) :
    ∃ fuel r st', Core.eval F fuel (toCoreS s) st = (r, st') ∧ sigOf r = some sig ∧ EnvRel ρ' st'.env :=
  (stmt_fwd_run F (Compile.RunS.of_evalS n hev) hw st hr).eval

end KotoVerif.C01
