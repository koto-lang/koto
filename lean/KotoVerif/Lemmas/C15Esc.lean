/-
Helper lemmas for C15: escape processing of a well-formed literal yields well-formed UTF-8: every arm of
`escape_string_character` pushes an ASCII character, nothing, or the encoding of a scalar value. Core Lean only.
-/
import KotoVerif.Lemmas.C15Closed
import KotoVerif.Lemmas.C15Enc

namespace KotoVerif.Str
open KotoVerif.Utf8

theorem simpleEscape_ascii {b r : Nat} (h : KotoVerif.Gen.simpleEscape b = some r) : r < 0x80 := by
  simp only [KotoVerif.Gen.simpleEscape] at h
  cases hf : KotoVerif.Gen.simpleEscapeTable.find? (fun r => r.1 == b) with
  | none => rw [hf] at h; cases h
  | some p =>
    rw [hf] at h
    simp only [Option.map_some, Option.some.injEq] at h
    have hm := List.mem_of_find?_eq_some hf
    have hall : ∀ q ∈ KotoVerif.Gen.simpleEscapeTable, q.2 < 0x80 := by decide
    rw [← h]; exact hall p hm

theorem skipLineWs_sub (U : UFacts) : ∀ (cs : List Bytes), ∀ x ∈ skipLineWs U cs, x ∈ cs
  | [], x, h => by simp [skipLineWs] at h
  | c :: cs, x, h => by
    simp only [skipLineWs] at h
    split at h
    · exact List.mem_cons_of_mem _ (skipLineWs_sub U cs x h)
    · exact h

theorem hexRun_sub : ∀ (cs : List Bytes) (acc : Nat) (ovf : Bool), ∀ x ∈ (hexRun cs acc ovf).2.2, x ∈ cs
  | [], _, _, x, h => by simp [hexRun] at h
  | c :: cs, acc, ovf, x, h => by
    simp only [hexRun] at h
    split at h
    · exact List.mem_cons_of_mem _ (hexRun_sub cs _ _ x h)
    · exact h

/-- one escape sequence: what is pushed is well-formed, what remains is a part of the input -/
theorem escapeOne_ok (U : UFacts) (checked : EscCfg) {cs rest : List Bytes} {o : Bytes}
    (h : escapeOne U checked cs = .ok (o, rest)) : validUtf8 o = true ∧ ∀ x ∈ rest, x ∈ cs := by
  revert h
  -- one goal per arm of `escapeOne`; only six of them return `.ok`
  fun_cases escapeOne U checked cs
  case case3 r hs =>
    rintro ⟨⟩
    exact ⟨ascii_valid (simpleEscape_ascii hs), fun x hx => .tail _ hx⟩
  case case4 =>
    rintro ⟨⟩
    exact ⟨valid_nil, fun x hx => .tail _ (skipLineWs_sub U _ x hx)⟩
  case case5 =>
    rintro ⟨⟩
    exact ⟨valid_nil, fun x hx => .tail _ (.tail _ (skipLineWs_sub U _ x hx))⟩
  case case6 =>
    rintro ⟨⟩
    exact ⟨valid_nil, fun x hx => .tail _ hx⟩
  case case11 hle _ _ _ _ =>
    rintro ⟨⟩
    exact ⟨ascii_valid (Nat.lt_succ_of_le hle), fun x hx => .tail _ (.tail _ (.tail _ hx))⟩
  case case17 h0 => rw [if_pos h0]; nofun
  case case18 h0 h6 => rw [if_neg h0, if_pos h6]; nofun
  case case19 cs1 _ code _ _ cs2 hsc _ _ _ _ _ hr h0 h6 =>
    rw [if_neg h0, if_neg h6, if_pos hsc]
    rintro ⟨⟩
    refine ⟨utf8Enc_valid hsc, fun x hx => .tail _ (.tail _ ?_)⟩
    have := hexRun_sub cs1 0 false x
    rw [hr] at this
    exact this (.tail _ hx)
  case case20 hsc _ _ _ _ _ _ h0 h6 => rw [if_neg h0, if_neg h6, if_neg hsc]; nofun
  all_goals nofun

theorem unescapeLoop_valid (U : UFacts) (checked : EscCfg) :
    ∀ (fuel : Nat) (cs : List Bytes) (out : Bytes), (∀ c ∈ cs, validUtf8 c = true) →
      unescapeLoop U checked fuel cs = .ok out → validUtf8 out = true
  | 0, _, out, _, h => by simp only [unescapeLoop, Except.ok.injEq] at h; rw [← h]; exact valid_nil
  | _ + 1, [], out, _, h => by simp only [unescapeLoop, Except.ok.injEq] at h; rw [← h]; exact valid_nil
  | fuel + 1, c :: cs, out, hcs, h => by
    simp only [unescapeLoop] at h
    split at h
    · cases he : escapeOne U checked cs with
      | error e => simp [he] at h
      | ok p =>
        obtain ⟨o, rest⟩ := p
        simp only [he] at h
        obtain ⟨hov, hsub⟩ := escapeOne_ok U checked he
        cases hr : unescapeLoop U checked fuel rest with
        | error e => simp [hr] at h
        | ok tail =>
          simp only [hr, Except.ok.injEq] at h
          rw [← h]
          exact valid_append hov (unescapeLoop_valid U checked fuel rest tail
            (fun x hx => hcs x (List.mem_cons_of_mem _ (hsub x hx))) hr)
    · cases hr : unescapeLoop U checked fuel cs with
      | error e => simp [hr] at h
      | ok tail =>
        simp only [hr, Except.ok.injEq] at h
        rw [← h]
        exact valid_append (hcs c (by simp)) (unescapeLoop_valid U checked fuel cs tail
          (fun x hx => hcs x (List.mem_cons_of_mem _ hx)) hr)

theorem unescape_valid (U : UFacts) (checked : EscCfg) {lit out : Bytes} (hv : validUtf8 lit = true)
    (h : unescape U lit checked = .ok out) : validUtf8 out = true :=
  unescapeLoop_valid U checked _ _ out (charsOf_valid hv) h

end KotoVerif.Str
