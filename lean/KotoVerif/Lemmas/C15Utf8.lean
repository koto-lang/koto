/-
Helper lemmas for C15: the UTF-8 validator, character boundaries, and how well-formedness behaves
under concatenation and under cutting at boundaries. Core Lean only.
-/
import KotoVerif.Model.Utf8

namespace KotoVerif.Utf8

theorem u8run_append (st : U8) (a b : Bytes) :
    u8run st (a ++ b) = (u8run st a).bind (fun st' => u8run st' b) := by
  induction a generalizing st with
  | nil => simp [u8run]
  | cons x xs ih =>
    simp only [List.cons_append, u8run]
    cases h : u8step st x with
    | none => simp
    | some st' => simpa using ih st'

theorem validUtf8_iff (bs : Bytes) : validUtf8 bs = true ↔ u8run .start bs = some .start := by
  simp [validUtf8]

theorem valid_nil : validUtf8 [] = true := by decide

theorem valid_append {a b : Bytes} (ha : validUtf8 a = true) (hb : validUtf8 b = true) :
    validUtf8 (a ++ b) = true := by
  rw [validUtf8_iff] at *
  rw [u8run_append, ha]
  simpa using hb

theorem valid_of_append_left {a b : Bytes} (hab : validUtf8 (a ++ b) = true) (ha : validUtf8 a = true) :
    validUtf8 b = true := by
  rw [validUtf8_iff] at *
  rw [u8run_append, ha] at hab
  simpa using hab

theorem valid_flatten {xs : List Bytes} (h : ∀ x ∈ xs, validUtf8 x = true) : validUtf8 xs.flatten = true := by
  induction xs with
  | nil => exact valid_nil
  | cons x xs ih =>
    simp only [List.flatten_cons]
    exact valid_append (h x (by simp)) (ih (fun y hy => h y (by simp [hy])))

theorem valid_replicate {s : Bytes} (n : Nat) (h : validUtf8 s = true) :
    validUtf8 (List.replicate n s).flatten = true :=
  valid_flatten (fun x hx => by rw [(List.mem_replicate.mp hx).2]; exact h)

theorem isCont_iff {b : Nat} : isCont b = true ↔ 0x80 ≤ b ∧ b < 0xC0 := by
  simp only [isCont, Bool.and_eq_true, decide_eq_true_eq]

/-- the bytes the start state rejects: continuation bytes, the overlong leads C0 and C1, and everything
above F4 -/
theorem u8step_start_none {b : Nat} (h : (0x80 ≤ b ∧ b < 0xC2) ∨ 0xF4 < b) : u8step .start b = none := by
  simp only [u8step]
  rw [if_neg (by omega), if_neg (by omega), if_neg (by omega), if_neg (by omega), if_neg (by omega),
    if_neg (by omega), if_neg (by omega), if_neg (by omega)]

theorem start_rejects_cont {b : Nat} (h : isCont b = true) : u8step .start b = none :=
  u8step_start_none (.inl ⟨(isCont_iff.mp h).1, Nat.lt_trans (isCont_iff.mp h).2 (by decide)⟩)

theorem need_accepts_only_cont {k lo hi b : Nat} {st : U8} (h : u8step (.need k lo hi) b = some st) :
    isCont b = true := by
  simp only [u8step] at h
  split at h
  · rename_i hc; exact hc.1
  · cases h

theorem u8step_byte_le {st st' : U8} {b : Nat} (h : u8step st b = some st') : b ≤ 0xF4 := by
  cases st with
  | start =>
    rcases Nat.lt_or_ge 0xF4 b with hb | hb
    · rw [u8step_start_none (.inr hb)] at h; cases h
    · exact hb
  | need k lo hi =>
    have := (isCont_iff.mp (need_accepts_only_cont h)).2
    omega

theorem u8run_bytes_le : ∀ {bs : Bytes} {st st' : U8}, u8run st bs = some st' → ∀ b ∈ bs, b ≤ 0xF4
  | [], _, _, _, _, hb => nomatch hb
  | x :: xs, st, st', h, b, hb => by
    simp only [u8run] at h
    cases hs : u8step st x with
    | none => rw [hs] at h; cases h
    | some s2 =>
      rw [hs] at h
      rcases List.mem_cons.mp hb with rfl | hb
      · exact u8step_byte_le hs
      · exact u8run_bytes_le h b hb

theorem run_cons_noncont {st st' : U8} {b : Nat} {r : Bytes} (h : u8run st (b :: r) = some st')
    (hb : isCont b = false) : st = .start := by
  cases st with
  | start => rfl
  | need k lo hi =>
    simp only [u8run] at h
    cases hs : u8step (.need k lo hi) b with
    | none => simp [hs] at h
    | some s2 => have := need_accepts_only_cont hs; simp [hb] at this

theorem valid_head_noncont {c : Nat} {r : Bytes} (h : validUtf8 (c :: r) = true) : isCont c = false := by
  cases hc : isCont c with
  | false => rfl
  | true =>
    rw [validUtf8_iff] at h
    simp [u8run, start_rejects_cont hc] at h

theorem valid_append_noncont {a r : Bytes} {c : Nat} (h : validUtf8 (a ++ c :: r) = true)
    (hc : isCont c = false) : validUtf8 a = true ∧ validUtf8 (c :: r) = true := by
  rw [validUtf8_iff, u8run_append] at h
  cases hr : u8run .start a with
  | none => rw [hr] at h; cases h
  | some st =>
    rw [hr] at h
    cases run_cons_noncont h hc
    exact ⟨(validUtf8_iff a).mpr hr, (validUtf8_iff _).mpr h⟩

theorem valid_of_append_right {a b : Bytes} (hab : validUtf8 (a ++ b) = true) (hb : validUtf8 b = true) :
    validUtf8 a = true := by
  cases b with
  | nil => simpa using hab
  | cons c r => exact (valid_append_noncont hab (valid_head_noncont hb)).1

theorem ascii_noncont {b : Nat} (h : b < 0x80) : isCont b = false := by
  cases hc : isCont b with
  | false => rfl
  | true => have := (isCont_iff.mp hc).1; omega

theorem step_ascii {b : Nat} (h : b < 0x80) : u8step .start b = some .start := by
  simp [u8step, h]

theorem ascii_valid {b : Nat} (h : b < 0x80) : validUtf8 [b] = true := by
  rw [validUtf8_iff]; simp [u8run, step_ascii h]

theorem ascii_all_valid : ∀ {s : Bytes}, (∀ b ∈ s, b < 0x80) → validUtf8 s = true
  | [], _ => valid_nil
  | c :: _, h =>
    valid_append (a := [c]) (ascii_valid (h c (.head _))) (ascii_all_valid fun b hb => h b (.tail _ hb))

/-! ### character boundaries -/

theorem isBoundary_zero (s : Bytes) : isBoundary s 0 = true := rfl

theorem isBoundary_of_ne_zero {s : Bytes} {i : Nat} (h : i ≠ 0) :
    isBoundary s i = match s[i]? with
      | some b => !isCont b
      | none => i == s.length := by
  rw [isBoundary, if_neg h]
  rfl

theorem isBoundary_length (s : Bytes) : isBoundary s s.length = true := by
  simp only [isBoundary]
  split
  · rfl
  · simp

theorem isBoundary_le_length {s : Bytes} {i : Nat} (h : isBoundary s i = true) : i ≤ s.length := by
  rcases Nat.lt_or_ge s.length i with hi | hi
  · rw [isBoundary_of_ne_zero (by omega), List.getElem?_eq_none (by omega)] at h
    simp at h; omega
  · exact hi

theorem eq_take_append_cons_drop {s : Bytes} {i b : Nat} (h : s[i]? = some b) :
    s = s.take i ++ b :: s.drop (i + 1) := by
  obtain ⟨hlt, rfl⟩ := List.getElem?_eq_some_iff.mp h
  rw [← List.drop_eq_getElem_cons hlt, List.take_append_drop]

theorem isBoundary_of_getElem? {s : Bytes} {i b : Nat} (h : s[i]? = some b) (hb : isCont b = false) :
    isBoundary s i = true := by
  by_cases h0 : i = 0
  · rw [h0]; rfl
  · rw [isBoundary_of_ne_zero h0, h]; simp [hb]

theorem isBoundary_append_noncont (a : Bytes) {c : Nat} (r : Bytes) (hc : isCont c = false) :
    isBoundary (a ++ c :: r) a.length = true :=
  isBoundary_of_getElem? (by rw [List.getElem?_append_right (Nat.le_refl _), Nat.sub_self]; rfl) hc

theorem valid_split {s : Bytes} {i : Nat} (hv : validUtf8 s = true) (hb : isBoundary s i = true) :
    validUtf8 (s.take i) = true ∧ validUtf8 (s.drop i) = true := by
  by_cases h0 : i = 0
  · subst h0; exact ⟨valid_nil, hv⟩
  rcases Nat.lt_or_ge i s.length with hi | hi
  · -- `s = s.take i ++ s[i] :: s.drop (i + 1)` and `s[i]` is not a continuation byte
    have hd : s.drop i = s[i] :: s.drop (i + 1) := List.drop_eq_getElem_cons hi
    have hc : isCont s[i] = false := by
      rw [isBoundary_of_ne_zero h0, List.getElem?_eq_getElem hi] at hb
      simpa using hb
    rw [hd]
    refine valid_append_noncont ?_ hc
    rw [← hd, List.take_append_drop]; exact hv
  · rw [List.take_of_length_le hi, List.drop_of_length_le hi]
    exact ⟨hv, valid_nil⟩

theorem isBoundary_drop {s : Bytes} {a : Nat} (ha : isBoundary s a = true) (i : Nat) :
    isBoundary (s.drop a) i = isBoundary s (a + i) := by
  by_cases hi0 : i = 0
  · subst hi0; exact ha.symm
  have hale := isBoundary_le_length ha
  rw [isBoundary_of_ne_zero hi0, isBoundary_of_ne_zero (by omega), List.getElem?_drop, List.length_drop]
  cases s[a + i]? with
  | none => rw [Bool.eq_iff_iff]; simp; omega
  | some b => rfl

theorem valid_slice {s : Bytes} {a b : Nat} (hv : validUtf8 s = true) (hab : a ≤ b)
    (ha : isBoundary s a = true) (hb : isBoundary s b = true) :
    validUtf8 ((s.drop a).take (b - a)) = true := by
  refine (valid_split (valid_split hv ha).2 ?_).1
  rw [isBoundary_drop ha, Nat.add_sub_cancel' hab]; exact hb

theorem boundary_after_valid_prefix {a b : Bytes} (hab : validUtf8 (a ++ b) = true) (ha : validUtf8 a = true) :
    isBoundary (a ++ b) a.length = true := by
  cases b with
  | nil => rw [List.append_nil]; exact isBoundary_length a
  | cons x r => exact isBoundary_append_noncont a r (valid_head_noncont (valid_of_append_left hab ha))

theorem isBoundary_succ_of_ascii {s : Bytes} {i b : Nat} (hv : validUtf8 s = true) (h : s[i]? = some b)
    (hb : b < 0x80) : isBoundary s (i + 1) = true := by
  have hlt := (List.getElem?_eq_some_iff.mp h).1
  have hs := eq_take_append_cons_drop h
  rw [hs] at hv
  have ha := (valid_append_noncont hv (ascii_noncont hb)).1
  rw [List.append_cons] at hv hs
  have := boundary_after_valid_prefix hv (valid_append ha (ascii_valid hb))
  rwa [← hs, List.length_append, List.length_take_of_le (Nat.le_of_lt hlt)] at this

end KotoVerif.Utf8
