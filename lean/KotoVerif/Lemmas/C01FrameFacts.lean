/-
C01 layer 5: what `compile` does to the compile-time frame. `Ext F F'` (`F'` is a later state of the frame
`F`) is what every frame operation does, and so every compilation (`Compiled.ext`); `Bal m e F out F'` is
what a whole compilation does beyond that (`Compiled.bal`). Both hold of every derivation, from any frame:
well-formedness of `F` is needed for that of `F'` only. `Compiled.frame` / `compile_frame` (the record `FF`)
put the two together; `CompiledS.ext`, `CompiledS.bal` are the same for the statement compiler.
-/
import KotoVerif.Lemmas.C01Static
import KotoVerif.Lemmas.C01CompileInv

namespace KotoVerif.Compile

structure FrameLe (F F' : Frame) : Prop where
  tb : F'.tb = F.tb
  has : ∀ k y, Has F k y → Has F' k y
  named : ∀ k y, Named F k y → Named F' k y

theorem FrameLe.refl (F : Frame) : FrameLe F F := ⟨rfl, fun _ _ h => h, fun _ _ h => h⟩

theorem FrameLe.trans {A B C : Frame} (h1 : FrameLe A B) (h2 : FrameLe B C) : FrameLe A C :=
  ⟨by rw [h2.tb, h1.tb], fun k y h => h2.has k y (h1.has k y h), fun k y h => h2.named k y (h1.named k y h)⟩

theorem FrameLe.of_locals_eq {F F' : Frame} (h1 : F'.locals = F.locals) (h2 : F'.tb = F.tb) : FrameLe F F' :=
  ⟨h2, fun k y h => by simpa [Has, h1] using h, fun k y h => by simpa [Named, h1] using h⟩

theorem FrameLe.of_slots {F F' : Frame} (h2 : F'.tb = F.tb)
    (h : ∀ (k : Nat) (s : Slot), F.locals[k]? = some s → F'.locals[k]? = some s) : FrameLe F F' := by
  refine ⟨h2, fun k y hk => h k _ hk, fun k y hk => ?_⟩
  unfold Named at hk ⊢
  cases hs : F.locals[k]? with
  | none => simp [hs] at hk
  | some s => rwa [h k s hs, ← hs]

def NoRes (F : Frame) : Prop := ∀ (k : Nat) (x : VarId), F.locals[k]? ≠ some (Slot.reserved x)

def ResLe (F F' : Frame) : Prop :=
  ∀ (k : Nat) (x : VarId), F'.locals[k]? = some (Slot.reserved x) → F.locals[k]? = some (Slot.reserved x)

theorem ResLe.refl (F : Frame) : ResLe F F := fun _ _ h => h

theorem ResLe.trans {A B C : Frame} (h1 : ResLe A B) (h2 : ResLe B C) : ResLe A C :=
  fun k x h => h1 k x (h2 k x h)

theorem ResLe.of_locals_eq {F F' : Frame} (h : F'.locals = F.locals) : ResLe F F' :=
  fun k x hk => by rw [h] at hk; exact hk

theorem NoRes.of_resLe {F F' : Frame} (h : NoRes F) (hle : ResLe F F') : NoRes F' :=
  fun k x hk => h k x (hle k x hk)

theorem NoRes.has {F : Frame} (h : NoRes F) {k : Reg} {x : VarId} (hn : Named F k x) : Has F k x := by
  unfold Named at hn
  unfold Has
  cases hs : F.locals[k]? with
  | none => simp [hs] at hn
  | some s =>
    cases s with
    | allocated => simp [hs, Slot.id?] at hn
    | assigned y => simp [hs, Slot.id?] at hn; rw [hn]
    | reserved y => exact absurd hs (h k y)

def tempCount (o : Out) : Nat := bcount o.temp

def OutShape (m : Mode) (e : Expr) (F : Frame) (out : Out) (F' : Frame) : Prop :=
  match m with
  | .fixed r => out = ⟨some r, false⟩
  | .none => out = ⟨Option.none, false⟩
  | .any => out = ⟨some (F.tb + F.tc), true⟩ ∨
      (out.temp = false ∧ ∃ y r, outLocal e = some y ∧ out.reg = some r ∧ Has F' r y)

structure FF (m : Mode) (e : Expr) (F : Frame) (out : Out) (F' : Frame) : Prop where
  le : FrameLe F F'
  tc : F'.tc = F.tc + tempCount out
  wf : WF F'
  shape : OutShape m e F out F'

theorem assignResult_cases {m : Mode} {F F1 : Frame} {res : Out} (h : assignResult m F = some (res, F1)) :
    (∃ r, m = .fixed r ∧ res = ⟨some r, false⟩ ∧ F1 = F) ∨ (m = .none ∧ res = ⟨Option.none, false⟩ ∧ F1 = F) ∨
    (m = .any ∧ res = ⟨some (F.tb + F.tc), true⟩ ∧ F.pushReg = some (F.tb + F.tc, F1)) := by
  cases m with
  | fixed r => cases h; exact Or.inl ⟨r, rfl, rfl, rfl⟩
  | none => cases h; exact Or.inr (Or.inl ⟨rfl, rfl, rfl⟩)
  | any =>
    obtain ⟨⟨r, F2⟩, hp, h⟩ := Option.map_eq_some_iff.1 h
    cases h
    cases (pushReg_spec hp).1
    exact Or.inr (Or.inr ⟨rfl, rfl, hp⟩)

theorem assignResult_spec {m : Mode} {F F1 : Frame} {res : Out} (h : assignResult m F = some (res, F1)) :
    F1.locals = F.locals ∧ F1.tb = F.tb ∧ F1.tc = F.tc + tempCount res := by
  rcases assignResult_cases h with ⟨r, rfl, rfl, rfl⟩ | ⟨rfl, rfl, rfl⟩ | ⟨rfl, rfl, hp⟩
  · exact ⟨rfl, rfl, rfl⟩
  · exact ⟨rfl, rfl, rfl⟩
  · exact (pushReg_spec hp).2

theorem assignResult_shape {m : Mode} {e : Expr} {F F1 F' : Frame} {res : Out}
    (h : assignResult m F = some (res, F1)) : OutShape m e F res F' := by
  rcases assignResult_cases h with ⟨r, rfl, rfl, _⟩ | ⟨rfl, rfl, _⟩ | ⟨rfl, rfl, _⟩
  · rfl
  · rfl
  · exact Or.inl rfl

theorem resultOrTemp_spec {res : Out} {F1 F2 : Frame} {reg : Reg} (h : resultOrTemp res F1 = some (reg, F2)) :
    F2.locals = F1.locals ∧ F2.tb = F1.tb ∧
    ((res.reg = some reg ∧ F2.tc = F1.tc) ∨ (res.reg = Option.none ∧ reg = F1.tb + F1.tc ∧ F2.tc = F1.tc + 1)) := by
  unfold resultOrTemp at h
  cases hr : res.reg with
  | some r => simp [hr] at h; obtain ⟨rfl, rfl⟩ := h; simp
  | none =>
    simp only [hr] at h
    obtain ⟨h1, h2, h3, h4⟩ := pushReg_spec h
    simp [h1, h2, h3, h4]

theorem OutShape.any_reg {e : Expr} {F F' : Frame} {out : Out} (h : OutShape .any e F out F') :
    ∃ r, out.reg = some r := by
  rcases h with h | ⟨_, _, r, _, hr, _⟩
  · exact ⟨_, by rw [h]⟩
  · exact ⟨r, hr⟩

/-- `popIf_spec` for the temporary of an output, in the unit `FF.tc` counts in -/
theorem popIf_temp {o : Out} {F F' : Frame} (h : popIf o.temp F = some F') :
    F'.locals = F.locals ∧ F'.tb = F.tb ∧ F'.tc + tempCount o = F.tc := popIf_spec h

theorem assignResult_temp_none {m : Mode} {F F1 : Frame} {res : Out} (h : assignResult m F = some (res, F1))
    (hr : res.reg = Option.none) : tempCount res = 0 := by
  rcases assignResult_cases h with ⟨r, _, rfl, _⟩ | ⟨_, rfl, _⟩ | ⟨_, rfl, _⟩
  · rfl
  · rfl
  · cases hr

theorem OutShape.no_temp {m : Mode} {e : Expr} {F : Frame} {o : Out} {F' : Frame}
    (h : OutShape m e F o F') (hm : m ≠ .any) : tempCount o = 0 := by
  cases m with
  | any => exact absurd rfl hm
  | none | fixed r => rw [show o = _ from h]; rfl

theorem branchMode_temp {r : Option Reg} {e : Expr} {F : Frame} {o : Out} {F' : Frame}
    (h : OutShape (branchMode r) e F o F') : tempCount o = 0 :=
  h.no_temp (by cases r <;> nofun)

/-! ### `Ext`: a later state of the same frame -/

/-- the live temporaries are covered by the high-water mark `temporaries_used_in_frame` -/
def T (F : Frame) : Prop := F.tc ≤ F.tmax

/-- the frame's register count fits the u8 register file -/
def U (F : Frame) : Prop := F.tb + F.tmax ≤ 255

/-- `F'` is a later state of the frame `F`: what every frame operation, and so every compilation, does -/
structure Ext (F F' : Frame) : Prop where
  le : FrameLe F F'
  tmax : F.tmax ≤ F'.tmax
  t : T F → T F'
  u : U F → U F'
  wf : WF F → WF F'

theorem Ext.refl (F : Frame) : Ext F F := ⟨.refl _, Nat.le_refl _, id, id, id⟩

theorem Ext.trans {A B C : Frame} (h1 : Ext A B) (h2 : Ext B C) : Ext A C :=
  ⟨h1.le.trans h2.le, Nat.le_trans h1.tmax h2.tmax, h2.t ∘ h1.t, h2.u ∘ h1.u, h2.wf ∘ h1.wf⟩

theorem Ext.bound {F F' : Frame} (h : Ext F F') : F.tb + F.tmax ≤ F'.tb + F'.tmax := by
  have := h.le.tb; have := h.tmax; omega

theorem Ext.lt {F F' : Frame} (h : Ext F F') {r : Reg} (hr : r < F.tb + F.tmax) : r < F'.tb + F'.tmax :=
  Nat.lt_of_lt_of_le hr h.bound

theorem Ext.le_of {F F' : Frame} (h : Ext F F') {N : Nat} (hN : F'.tb + F'.tmax ≤ N) : F.tb + F.tmax ≤ N :=
  Nat.le_trans h.bound hN

theorem Ext.of_le {F F' : Frame} (le : FrameLe F F') (wf : WF F → WF F') (htc : F'.tc ≤ F.tc)
    (htm : F'.tmax = F.tmax) : Ext F F' :=
  ⟨le, Nat.le_of_eq htm.symm, fun h => by simp only [T] at *; omega,
    fun h => by have := le.tb; simp only [U] at *; omega, wf⟩

theorem Ext.of_locals_eq {F F' : Frame} (h1 : F'.locals = F.locals) (h2 : F'.tb = F.tb) (htc : F'.tc ≤ F.tc)
    (htm : F'.tmax = F.tmax) : Ext F F' :=
  .of_le (.of_locals_eq h1 h2) (fun hw => hw.of_locals_eq h1 h2) htc htm

/-- `truncate_register_stack` to an earlier size (the end of a comparison) -/
theorem Ext.truncate {F1 F3 : Frame} (h : Ext F1 F3) : Ext F1 { F3 with tc := F1.tc } :=
  ⟨h.le.trans (.of_locals_eq rfl rfl), h.tmax, fun ht => Nat.le_trans ht h.tmax, h.u,
    fun hw => (h.wf hw).of_locals_eq rfl rfl⟩

/-- `push_register`: the new temporary is covered by the high-water mark, which still fits because
register 255 is refused -/
theorem pushReg_ext {F F' : Frame} {r : Reg} (h : F.pushReg = some (r, F')) :
    Ext F F' ∧ T F' ∧ r < F'.tb + F'.tmax := by
  unfold Frame.pushReg at h
  simp only at h
  split at h
  · cases h
  · cases h
    refine ⟨⟨.of_locals_eq rfl rfl, by simp; omega, fun _ => by simp [T]; omega, fun hu => by simp only [U] at *; omega,
      fun hw => hw.of_locals_eq rfl rfl⟩, by simp [T]; omega, by simp; omega⟩

theorem popIf_ext {b : Bool} {F F' : Frame} (h : popIf b F = some F') : Ext F F' := by
  unfold popIf Frame.popReg at h
  split at h
  · split at h
    · cases h
    · cases h; exact .of_locals_eq rfl rfl (Nat.sub_le _ _) rfl
  · cases h; exact .refl _

theorem assignResult_ext {m : Mode} {F F1 : Frame} {res : Out} (h : assignResult m F = some (res, F1)) :
    Ext F F1 := by
  rcases assignResult_cases h with ⟨_, _, _, rfl⟩ | ⟨_, _, rfl⟩ | ⟨_, _, hp⟩
  · exact .refl _
  · exact .refl _
  · exact (pushReg_ext hp).1

theorem resultOrTemp_ext {res : Out} {F1 F2 : Frame} {reg : Reg} (h : resultOrTemp res F1 = some (reg, F2)) :
    Ext F1 F2 ∧ (res.reg = Option.none → reg < F2.tb + F2.tmax) := by
  unfold resultOrTemp at h
  split at h
  · cases h; exact ⟨.refl _, fun hn => by simp_all⟩
  · exact ⟨(pushReg_ext h).1, fun _ => (pushReg_ext h).2.2⟩

theorem reserve_ext {F F' : Frame} {x : VarId} {r : Reg} (h : F.reserve x = some (r, F')) :
    Ext F F' ∧ F'.tc = F.tc ∧ Named F' r x := by
  obtain ⟨s1, s2, s3, s4, s5, _⟩ := reserve_slots h
  exact ⟨.of_le (.of_slots s2 s5) (fun hw => (reserve_spec hw h).2.1) (Nat.le_of_eq s3) s4, s3, s1⟩

theorem commit_ext {F F' : Frame} {r : Reg} (h : F.commit r = some F') : Ext F F' ∧ F'.tc = F.tc := by
  obtain ⟨c1, c2, c3, c4, c5, c6, _⟩ := commit_slots h
  exact ⟨.of_le ⟨c1, c5, fun k y => (c6 k y).2⟩ c4 (Nat.le_of_eq c2) c3, c2⟩

theorem commitIf_ext {o : Out} {vr : Reg} {F F' : Frame} (h : commitIf o vr F = some F') :
    Ext F F' ∧ F'.tc = F.tc := by
  unfold commitIf at h
  split at h
  · cases h; exact ⟨.refl _, rfl⟩
  · exact commit_ext h

/-- every rule of `Compiled` is a chain of frame operations and sub-compilations -/
theorem Compiled.ext {e : Expr} {m : Mode} {F F' : Frame} {code : Code} {out : Out}
    (h : Compiled e m F code out F') : Ext F F' := by
  induction h with
  | null ha | bool ha | int ha => exact assignResult_ext ha
  | varNone | varAny | varFixed => exact .refl _
  | un ha _ _ hp ih | compound ha _ _ _ hp ih => exact (assignResult_ext ha).trans (ih.trans (popIf_ext hp))
  | binReg ha _ _ _ _ _ hpa hpb iha ihb =>
    exact (assignResult_ext ha).trans (iha.trans (ihb.trans ((popIf_ext hpa).trans (popIf_ext hpb))))
  | binNone ha _ _ _ iha ihb => exact (assignResult_ext ha).trans (iha.trans ihb)
  | cmp ha hrt _ _ _ _ iha ihb =>
    exact (assignResult_ext ha).trans ((resultOrTemp_ext hrt).1.trans (iha.trans ihb)).truncate
  | chain3 ha hrt _ _ _ _ _ _ iha ihb ihc =>
    exact (assignResult_ext ha).trans ((resultOrTemp_ext hrt).1.trans (iha.trans (ihb.trans ihc))).truncate
  | and ha hrt _ _ hp iha ihb | or ha hrt _ _ hp iha ihb =>
    exact (assignResult_ext ha).trans ((resultOrTemp_ext hrt).1.trans (iha.trans (ihb.trans (popIf_ext hp))))
  | assign hres _ _ hcm ih => exact (reserve_ext hres).1.trans (ih.trans (commitIf_ext hcm).1)
  | seq _ _ iha ihb => exact iha.trans ihb
  | ite ha _ _ hp _ _ ihc iht ihe =>
    exact (assignResult_ext ha).trans (ihc.trans ((popIf_ext hp).trans (iht.trans ihe)))
  | ifThen ha _ _ hp _ ihc iht => exact (assignResult_ext ha).trans (ihc.trans ((popIf_ext hp).trans iht))

/-! ### `Bal`: what a whole compilation does -/

/-- what a whole compilation does beyond `Ext`: the temporaries are handed back but for the one the
output may occupy, the output has the shape the mode prescribes, no reservation is left behind -/
structure Bal (m : Mode) (e : Expr) (F : Frame) (out : Out) (F' : Frame) : Prop where
  tc : F'.tc = F.tc + tempCount out
  shape : OutShape m e F out F'
  res : ResLe F F'

theorem assignResult_res {m : Mode} {F F1 : Frame} {res : Out} (h : assignResult m F = some (res, F1)) : ResLe F F1 :=
  .of_locals_eq (assignResult_spec h).1

theorem resultOrTemp_res {res : Out} {F1 F2 : Frame} {reg : Reg} (h : resultOrTemp res F1 = some (reg, F2)) :
    ResLe F1 F2 :=
  .of_locals_eq (resultOrTemp_spec h).1

theorem popIf_res {b : Bool} {F F' : Frame} (h : popIf b F = some F') : ResLe F F' :=
  .of_locals_eq (popIf_spec h).1

theorem Compiled.bal {e m F code out F'} (h : Compiled e m F code out F') : Bal m e F out F' := by
  induction h with
  | null ha | bool ha | int ha => exact ⟨(assignResult_spec ha).2.2, assignResult_shape ha, assignResult_res ha⟩
  | varNone | varFixed => exact ⟨rfl, rfl, .refl _⟩
  | varAny hg => exact ⟨rfl, Or.inr ⟨rfl, _, _, rfl, rfl, getAssigned_has hg⟩, .refl _⟩
  | un ha _ _ hp ih | compound ha _ _ _ hp ih =>
    refine ⟨?_, assignResult_shape ha, (assignResult_res ha).trans (ih.res.trans (popIf_res hp))⟩
    have := (assignResult_spec ha).2.2; have := ih.tc; have := (popIf_temp hp).2.2
    omega
  | binReg ha _ _ _ _ _ hpa hpb iha ihb =>
    refine ⟨?_, assignResult_shape ha,
      (assignResult_res ha).trans (iha.res.trans (ihb.res.trans ((popIf_res hpa).trans (popIf_res hpb))))⟩
    have := (assignResult_spec ha).2.2; have := iha.tc; have := ihb.tc
    have := (popIf_temp hpa).2.2; have := (popIf_temp hpb).2.2
    omega
  | binNone ha _ _ _ iha ihb =>
    refine ⟨?_, assignResult_shape ha, (assignResult_res ha).trans (iha.res.trans ihb.res)⟩
    have := (assignResult_spec ha).2.2; have := iha.tc; have := ihb.tc
    have := iha.shape.no_temp nofun; have := ihb.shape.no_temp nofun
    omega
  | cmp ha hrt _ _ _ _ iha ihb =>
    exact ⟨(assignResult_spec ha).2.2, assignResult_shape ha, (assignResult_res ha).trans
      ((resultOrTemp_res hrt).trans (iha.res.trans (ihb.res.trans (.of_locals_eq rfl))))⟩
  | chain3 ha hrt _ _ _ _ _ _ iha ihb ihc =>
    exact ⟨(assignResult_spec ha).2.2, assignResult_shape ha, (assignResult_res ha).trans
      ((resultOrTemp_res hrt).trans (iha.res.trans (ihb.res.trans (ihc.res.trans (.of_locals_eq rfl)))))⟩
  | and ha hrt _ _ hp iha ihb | or ha hrt _ _ hp iha ihb =>
    refine ⟨?_, assignResult_shape ha, (assignResult_res ha).trans
      ((resultOrTemp_res hrt).trans (iha.res.trans (ihb.res.trans (popIf_res hp))))⟩
    have := (assignResult_spec ha).2.2; have := iha.tc; have := ihb.tc
    have := iha.shape.no_temp nofun; have := ihb.shape.no_temp nofun
    have p3 := (popIf_spec hp).2.2
    -- the final pop takes back exactly what `resultOrTemp` pushed
    rcases (resultOrTemp_spec hrt).2.2 with ⟨t3, t4⟩ | ⟨t3, _, t4⟩
    · rw [t3] at p3
      have p3 : _ + 0 = _ := p3
      omega
    · rw [t3] at p3
      have := assignResult_temp_none ha t3
      have p3 : _ + 1 = _ := p3
      omega
  | @assign x _ m F rx F1 _ o _ _ _ hres hc hvr hcm ih =>
    obtain ⟨_, r4, r1⟩ := reserve_ext hres
    -- mode `fixed rx` makes the output non-temporary, so the commit does happen, at `rx`
    have so : o = ⟨some rx, false⟩ := ih.shape
    subst so
    cases hvr
    have hn : Named _ rx x := hc.ext.le.named _ _ r1
    replace hcm : Frame.commit _ rx = some _ := hcm
    refine ⟨?_, ?_, fun k y hk => ?_⟩
    · have : ∀ c, tempCount (assignOut m c ⟨some rx, false⟩ rx).2 = 0 := fun _ => by cases m <;> rfl
      rw [this, (commit_ext hcm).2, ih.tc, r4]
      rfl
    · cases m with
      | fixed r => rfl
      | none => rfl
      | any => exact Or.inr ⟨rfl, x, rx, rfl, rfl, commit_assigns hn hcm⟩
    · obtain ⟨hne, hk2⟩ := commit_reserved hn hcm k y hk
      exact (reserve_reserved hres k y (ih.res k y hk2)).resolve_left hne
  | @seq _ _ m F _ _ F1 _ _ _ hca _ iha ihb =>
    have ta' : F1.tc = F.tc := by
      have := iha.tc; have := iha.shape.no_temp nofun
      omega
    refine ⟨by rw [ihb.tc, ta'], ?_, iha.res.trans ihb.res⟩
    have := ihb.shape
    cases m with
    | fixed r => exact this
    | none => exact this
    | any =>
      rcases this with h | ⟨h1, y, r, h2, h3, h4⟩
      · left; rw [h, hca.ext.le.tb, ta']
      · right; exact ⟨h1, y, r, h2, h3, h4⟩
  | ite ha _ _ hp _ _ ihc iht ihe =>
    refine ⟨?_, assignResult_shape ha,
      (assignResult_res ha).trans (ihc.res.trans ((popIf_res hp).trans (iht.res.trans ihe.res)))⟩
    have := (assignResult_spec ha).2.2; have := ihc.tc; have := iht.tc; have := ihe.tc
    have := (popIf_temp hp).2.2
    have := branchMode_temp iht.shape
    have := branchMode_temp ihe.shape
    omega
  | ifThen ha _ _ hp _ ihc iht =>
    refine ⟨?_, assignResult_shape ha, (assignResult_res ha).trans (ihc.res.trans ((popIf_res hp).trans iht.res))⟩
    have := (assignResult_spec ha).2.2; have := ihc.tc; have := iht.tc
    have := (popIf_temp hp).2.2
    have := branchMode_temp iht.shape
    omega

theorem Compiled.frame {e m F code out F'} (h : Compiled e m F code out F') (hw : WF F) : FF m e F out F' :=
  ⟨h.ext.le, h.bal.tc, h.ext.wf hw, h.bal.shape⟩

theorem compile_frame : ∀ (e : Expr) (m : Mode) (F : Frame) (code : Code) (out : Out) (F' : Frame),
    compile e m F = some (code, out, F') → WF F → FF m e F out F' :=
  fun _ _ _ _ _ _ h hw => (Compiled.of_compile h).frame hw

/-! ### the statement compiler: `Ext`, and what a whole statement does -/

theorem CompiledCond.ext {c : Expr} {F F1 : Frame} {cc : Code} {rc : Reg} (h : CompiledCond c F cc rc F1) :
    Ext F F1 := by
  obtain ⟨hc, _, hp⟩ := h
  exact hc.ext.trans (popIf_ext hp)

theorem CompiledHdr.ext {cond : Option (Expr × Bool)} {F F1 : Frame} {hdr : Option (Code × Reg × Bool)}
    (h : CompiledHdr cond F hdr F1) : Ext F F1 := by
  cases h with
  | noCond => exact .refl _
  | cond hc => exact hc.ext

theorem CompiledS.ext {s : Stmt} {il : Bool} {F F' : Frame} {code : LCode} (h : CompiledS s il F code F') :
    Ext F F' := by
  induction h with
  | expr hc => exact hc.ext
  | seq _ _ iha ihb => exact iha.trans ihb
  | ite hc _ _ iht ihe => exact hc.ext.trans (iht.trans ihe)
  | ifThen hc _ iht => exact hc.ext.trans iht
  | loop hh _ ihb => exact hh.ext.trans ihb
  | brk | cont => exact .refl _

/-- statement position: every temporary is handed back, no reservation is left behind -/
def BalS (F F' : Frame) : Prop := F'.tc = F.tc ∧ ResLe F F'

theorem BalS.refl (F : Frame) : BalS F F := ⟨rfl, .refl _⟩

theorem BalS.trans {A B C : Frame} (h1 : BalS A B) (h2 : BalS B C) : BalS A C :=
  ⟨h2.1.trans h1.1, h1.2.trans h2.2⟩

theorem CompiledCond.bal {c : Expr} {F F1 : Frame} {cc : Code} {rc : Reg} (h : CompiledCond c F cc rc F1) :
    BalS F F1 := by
  obtain ⟨hc, _, hp⟩ := h
  refine ⟨?_, hc.bal.res.trans (popIf_res hp)⟩
  have := hc.bal.tc; have := (popIf_temp hp).2.2
  omega

theorem CompiledHdr.bal {cond : Option (Expr × Bool)} {F F1 : Frame} {hdr : Option (Code × Reg × Bool)}
    (h : CompiledHdr cond F hdr F1) : BalS F F1 := by
  cases h with
  | noCond => exact .refl _
  | cond hc => exact hc.bal

theorem CompiledS.bal {s : Stmt} {il : Bool} {F F' : Frame} {code : LCode} (h : CompiledS s il F code F') :
    BalS F F' := by
  induction h with
  | expr hc => exact ⟨hc.bal.tc.trans (congrArg (_ + ·) (hc.bal.shape.no_temp nofun)), hc.bal.res⟩
  | seq _ _ iha ihb => exact iha.trans ihb
  | ite hc _ _ iht ihe => exact hc.bal.trans (iht.trans ihe)
  | ifThen hc _ iht => exact hc.bal.trans iht
  | loop hh _ ihb => exact hh.bal.trans ihb
  | brk | cont => exact .refl _

end KotoVerif.Compile
