/-
C01 layer 5, loop layer: semantic correctness of `compileS` (`CompiledS.sem`). The
finished runs of the reference semantics `evalS` are given as a rule system, `RunS` (`RunS.of_evalS`,
`RunS.to_evalS` connect it with the fuel-indexed evaluator), and `CompiledS.sem` is a rule induction
on it; expression parts are discharged by the core's `Compiled.sem` (used as a black box). A loop
iteration after the first runs in a register file related to the environment by the frame at the
*end* of the body, not by the frame the loop was compiled in: `CompiledS.again` (the same code is
emitted there) bridges the two.
-/
import KotoVerif.Lemmas.C01LoopFrame
import KotoVerif.Lemmas.C01SemCtl

namespace KotoVerif.Compile

theorem Res.andThen_ok {α : Type} {r : Res (Sig × α)} {k : α → Res (Sig × α)} {sg : Sig} {a' : α}
    (h : r.andThen k = .ok (sg, a')) :
    (∃ a, r = .ok (.normal, a) ∧ k a = .ok (sg, a')) ∨ (sg ≠ .normal ∧ r = .ok (sg, a')) := by
  unfold Res.andThen at h
  split at h
  · rename_i a; exact Or.inl ⟨a, rfl, h⟩
  · rename_i hne
    subst h
    refine Or.inr ⟨?_, rfl⟩
    intro hs; subst hs; exact hne a' rfl

theorem Res.andThen_normal {α : Type} {r : Res (Sig × α)} {k : α → Res (Sig × α)} {a : α}
    (h : r = .ok (.normal, a)) : r.andThen k = k a := by
  subst h; rfl

theorem Res.andThen_abrupt {α : Type} {r : Res (Sig × α)} {k : α → Res (Sig × α)} {sg : Sig} {a : α}
    (h : r = .ok (sg, a)) (hs : sg ≠ .normal) : r.andThen k = .ok (sg, a) := by
  subst h
  cases sg with
  | normal => exact absurd rfl hs
  | brk => rfl
  | cont => rfl

theorem Res.andThen_err {α : Type} {r : Res (Sig × α)} {k : α → Res (Sig × α)} (h : r = .err) :
    r.andThen k = .err := by
  subst h; rfl

theorem Res.andThen_id {α : Type} {r : Res (Sig × α)} {k : α → Res (Sig × α)}
    (hk : ∀ a, k a = .ok (.normal, a)) : r.andThen k = r := by
  unfold Res.andThen
  split
  · rw [hk]
  · rfl

theorem Res.loopNext_ok {α : Type} {r : Res (Sig × α)} {k : α → Res (Sig × α)} {sg : Sig} {a' : α}
    (h : r.loopNext k = .ok (sg, a')) :
    (sg = .normal ∧ r = .ok (.brk, a')) ∨ (∃ s a, s ≠ .brk ∧ r = .ok (s, a) ∧ k a = .ok (sg, a')) := by
  unfold Res.loopNext at h
  split at h
  · rename_i a
    simp only [Res.ok.injEq, Prod.mk.injEq] at h
    obtain ⟨rfl, rfl⟩ := h
    exact Or.inl ⟨rfl, rfl⟩
  · rename_i s a hne
    refine Or.inr ⟨s, a, ?_, rfl, h⟩
    intro hs; subst hs; exact hne rfl
  · rename_i h1 h2
    subst h
    cases sg with
    | brk => exact absurd rfl (h1 a')
    | normal => exact absurd rfl (h2 _ a')
    | cont => exact absurd rfl (h2 _ a')

theorem Res.loopNext_brk {α : Type} {r : Res (Sig × α)} {k : α → Res (Sig × α)} {a : α}
    (h : r = .ok (.brk, a)) : r.loopNext k = .ok (.normal, a) := by
  subst h; rfl

theorem Res.loopNext_go {α : Type} {r : Res (Sig × α)} {k : α → Res (Sig × α)} {s : Sig} {a : α}
    (h : r = .ok (s, a)) (hs : s ≠ .brk) : r.loopNext k = k a := by
  subst h
  cases s with
  | brk => exact absurd rfl hs
  | normal => rfl
  | cont => rfl

theorem Res.loopNext_err {α : Type} {r : Res (Sig × α)} {k : α → Res (Sig × α)} (h : r = .err) :
    r.loopNext k = .err := by
  subst h; rfl

/-- `r'` is `r` run with more fuel: `r` ran out of fuel, or the two are the same -/
def Res.Upto {α : Type} (r r' : Res α) : Prop := r = .nofuel ∨ r = r'

theorem Res.Upto.andThen {α : Type} {r r' : Res (Sig × α)} {k k' : α → Res (Sig × α)}
    (h : r.Upto r') (hk : ∀ a, (k a).Upto (k' a)) : (r.andThen k).Upto (r'.andThen k') := by
  rcases h with rfl | rfl
  · exact .inl rfl
  · unfold Res.andThen
    split
    · exact hk _
    · exact .inr rfl

theorem Res.Upto.loopNext {α : Type} {r r' : Res (Sig × α)} {k k' : α → Res (Sig × α)}
    (h : r.Upto r') (hk : ∀ a, (k a).Upto (k' a)) : (r.loopNext k).Upto (r'.loopNext k') := by
  rcases h with rfl | rfl
  · exact .inl rfl
  · unfold Res.loopNext
    split
    · exact .inr rfl
    · exact hk _
    · exact .inr rfl

theorem Res.Upto.finished {α : Type} {r r' : Res α} (h : r.Upto r') (hr : r ≠ .nofuel) : r' = r :=
  (h.resolve_left hr).symm

variable {S : Sem}

theorem execL_base (n : Nat) (c : Code) (σ : Regs S) :
    execL S (n + 1) (.base c) σ =
      match exec S c σ with
      | some σ1 => .ok (.normal, σ1)
      | none => .err := rfl

theorem execL_seq (n : Nat) (a b : LCode) (σ : Regs S) :
    execL S (n + 1) (.seq a b) σ = (execL S n a σ).andThen (execL S n b) := rfl

theorem execL_ifElse (n : Nat) (r : Reg) (t e : LCode) (wj : Bool) (σ : Regs S) :
    execL S (n + 1) (.ifElse r t wj e) σ =
      if S.truthy (σ r) then
        (execL S n t σ).andThen (fun σ1 => if wj then .ok (.normal, σ1) else execL S n e σ1)
      else execL S n e σ := rfl

theorem execL_loop (n : Nat) (cond : Option (Code × Reg × Bool)) (body : LCode) (σ : Regs S) :
    execL S (n + 1) (.loop cond body) σ =
      match execCond S cond σ with
      | some (true, σ1) => (execL S n body σ1).loopNext (execL S n (.loop cond body))
      | some (false, σ1) => .ok (.normal, σ1)
      | none => .err := rfl

theorem execL_brk (n : Nat) (σ : Regs S) : execL S (n + 1) .brk σ = .ok (.brk, σ) := rfl
theorem execL_cont (n : Nat) (σ : Regs S) : execL S (n + 1) .cont σ = .ok (.cont, σ) := rfl

theorem execL_succ : ∀ (n : Nat) (c : LCode) (σ : Regs S), (execL S n c σ).Upto (execL S (n + 1) c σ) := by
  intro n
  induction n with
  | zero => exact fun _ _ => .inl rfl
  | succ n ih =>
    intro c σ
    cases c with
    | base | brk | cont => exact .inr rfl
    | seq a b => exact (ih a σ).andThen (ih b)
    | ifElse r t wj e =>
      rw [execL_ifElse, execL_ifElse]
      split
      · refine (ih t σ).andThen fun σ1 => ?_
        split
        · exact .inr rfl
        · exact ih e σ1
      · exact ih e σ
    | loop cond body =>
      rw [execL_loop, execL_loop]
      split
      · exact (ih body _).loopNext (ih _)
      · exact .inr rfl
      · exact .inr rfl

theorem execL_mono : ∀ (n : Nat) (c : LCode) (σ : Regs S) (r : Sig × Regs S),
    execL S n c σ = .ok r → ∀ m, n ≤ m → execL S m c σ = .ok r := by
  intro n c σ r h m hm
  induction hm with
  | refl => exact h
  | step _ ih => rw [(execL_succ _ c σ).finished (ih ▸ nofun), ih]

theorem execL_base_ok {c : Code} {σ σ1 : Regs S} (h : exec S c σ = some σ1) (n : Nat) :
    execL S (n + 1) (.base c) σ = .ok (.normal, σ1) := by
  rw [execL_base, h]

theorem execL_seq_base {cc : Code} {σ σ1 : Regs S} (h : exec S cc σ = some σ1) (n : Nat) (X : LCode) :
    execL S (n + 2) (.seq (.base cc) X) σ = execL S (n + 1) X σ1 := by
  rw [execL_seq, Res.andThen_normal (execL_base_ok h n)]

theorem evalS_expr (n : Nat) (e : Expr) (ρ : Env S) :
    evalS S (n + 1) (.expr e) ρ =
      match eval S e ρ with
      | some (_, ρ1) => .ok (.normal, ρ1)
      | none => .err := rfl

theorem evalS_seq (n : Nat) (a b : Stmt) (ρ : Env S) :
    evalS S (n + 1) (.seq a b) ρ = (evalS S n a ρ).andThen (evalS S n b) := rfl

theorem evalS_ite (n : Nat) (c : Expr) (t e : Stmt) (ρ : Env S) :
    evalS S (n + 1) (.ite c t e) ρ =
      match eval S c ρ with
      | some (v, ρ1) => if S.truthy v then evalS S n t ρ1 else evalS S n e ρ1
      | none => .err := rfl

theorem evalS_ifThen (n : Nat) (c : Expr) (t : Stmt) (ρ : Env S) :
    evalS S (n + 1) (.ifThen c t) ρ =
      match eval S c ρ with
      | some (v, ρ1) => if S.truthy v then evalS S n t ρ1 else .ok (.normal, ρ1)
      | none => .err := rfl

theorem evalS_loop (n : Nat) (cond : Option (Expr × Bool)) (b : Stmt) (ρ : Env S) :
    evalS S (n + 1) (.loop cond b) ρ =
      match evalCond S cond ρ with
      | some (true, ρ1) => (evalS S n b ρ1).loopNext (evalS S n (.loop cond b))
      | some (false, ρ1) => .ok (.normal, ρ1)
      | none => .err := rfl

theorem evalS_brk (n : Nat) (ρ : Env S) : evalS S (n + 1) .brk ρ = .ok (.brk, ρ) := rfl
theorem evalS_cont (n : Nat) (ρ : Env S) : evalS S (n + 1) .cont ρ = .ok (.cont, ρ) := rfl

theorem evalS_succ : ∀ (n : Nat) (s : Stmt) (ρ : Env S), (evalS S n s ρ).Upto (evalS S (n + 1) s ρ) := by
  intro n
  induction n with
  | zero => exact fun _ _ => .inl rfl
  | succ n ih =>
    intro s ρ
    cases s with
    | expr | brk | cont => exact .inr rfl
    | seq a b => exact (ih a ρ).andThen (ih b)
    | ite c t e =>
      rw [evalS_ite, evalS_ite]
      split
      · split
        · exact ih t _
        · exact ih e _
      · exact .inr rfl
    | ifThen c t =>
      rw [evalS_ifThen, evalS_ifThen]
      split
      · split
        · exact ih t _
        · exact .inr rfl
      · exact .inr rfl
    | loop cond b =>
      rw [evalS_loop, evalS_loop]
      split
      · exact (ih b _).loopNext (ih _)
      · exact .inr rfl
      · exact .inr rfl

theorem evalS_mono : ∀ (n : Nat) (s : Stmt) (ρ : Env S) (r : Sig × Env S),
    evalS S n s ρ = .ok r → ∀ m, n ≤ m → evalS S m s ρ = .ok r := by
  intro n s ρ r h m hm
  induction hm with
  | refl => exact h
  | step _ ih => rw [(evalS_succ _ s ρ).finished (ih ▸ nofun), ih]

/-- the statement semantics as a rule system: `RunS S s ρ sig ρ'` iff `evalS S n s ρ = .ok (sig, ρ')`
for some fuel `n` (`RunS.of_evalS`, `RunS.to_evalS`) -/
inductive RunS (S : Sem) : Stmt → Env S → Sig → Env S → Prop
  | expr {e ρ v ρ1} (h : eval S e ρ = some (v, ρ1)) : RunS S (.expr e) ρ .normal ρ1
  | seq {a b ρ ρ1 sig ρ'} (ha : RunS S a ρ .normal ρ1) (hb : RunS S b ρ1 sig ρ') : RunS S (.seq a b) ρ sig ρ'
  | seqStop {a b ρ sig ρ'} (ha : RunS S a ρ sig ρ') (hs : sig ≠ .normal) : RunS S (.seq a b) ρ sig ρ'
  | iteT {c t e ρ v ρ1 sig ρ'} (hc : eval S c ρ = some (v, ρ1)) (hv : S.truthy v = true)
      (ht : RunS S t ρ1 sig ρ') : RunS S (.ite c t e) ρ sig ρ'
  | iteF {c t e ρ v ρ1 sig ρ'} (hc : eval S c ρ = some (v, ρ1)) (hv : S.truthy v = false)
      (he : RunS S e ρ1 sig ρ') : RunS S (.ite c t e) ρ sig ρ'
  | ifThenT {c t ρ v ρ1 sig ρ'} (hc : eval S c ρ = some (v, ρ1)) (hv : S.truthy v = true)
      (ht : RunS S t ρ1 sig ρ') : RunS S (.ifThen c t) ρ sig ρ'
  | ifThenF {c t ρ v ρ1} (hc : eval S c ρ = some (v, ρ1)) (hv : S.truthy v = false) :
      RunS S (.ifThen c t) ρ .normal ρ1
  | loopExit {cond b ρ ρ1} (hc : evalCond S cond ρ = some (false, ρ1)) : RunS S (.loop cond b) ρ .normal ρ1
  | loopBrk {cond b ρ ρ1 ρ'} (hc : evalCond S cond ρ = some (true, ρ1)) (hb : RunS S b ρ1 .brk ρ') :
      RunS S (.loop cond b) ρ .normal ρ'
  | loopNext {cond b ρ ρ1 sg ρ2 sig ρ'} (hc : evalCond S cond ρ = some (true, ρ1)) (hb : RunS S b ρ1 sg ρ2)
      (hs : sg ≠ .brk) (hl : RunS S (.loop cond b) ρ2 sig ρ') : RunS S (.loop cond b) ρ sig ρ'
  | brk {ρ} : RunS S .brk ρ .brk ρ
  | cont {ρ} : RunS S .cont ρ .cont ρ


theorem RunS.of_evalS : ∀ (n : Nat) {s : Stmt} {ρ ρ' : Env S} {sig : Sig},
    evalS S n s ρ = .ok (sig, ρ') → RunS S s ρ sig ρ' := by
  intro n
  induction n with
  | zero => intro s ρ ρ' sig h; cases h
  | succ n ih =>
    intro s ρ ρ' sig h
    cases s with
    | expr e =>
      rw [evalS_expr] at h
      cases he : eval S e ρ with
      | none => simp [he] at h
      | some p =>
        simp only [he, Res.ok.injEq, Prod.mk.injEq] at h
        obtain ⟨rfl, rfl⟩ := h
        exact .expr he
    | brk => cases h; exact .brk
    | cont => cases h; exact .cont
    | seq a b =>
      rw [evalS_seq] at h
      rcases Res.andThen_ok h with ⟨ρ1, h1, h2⟩ | ⟨hne, h1⟩
      · exact .seq (ih h1) (ih h2)
      · exact .seqStop (ih h1) hne
    | ite c t e =>
      rw [evalS_ite] at h
      cases hc : eval S c ρ with
      | none => simp [hc] at h
      | some p =>
        simp only [hc] at h
        cases hv : S.truthy p.1 with
        | true => simp only [hv, if_true] at h; exact .iteT hc hv (ih h)
        | false => simp only [hv, Bool.false_eq_true, if_false] at h; exact .iteF hc hv (ih h)
    | ifThen c t =>
      rw [evalS_ifThen] at h
      cases hc : eval S c ρ with
      | none => simp [hc] at h
      | some p =>
        simp only [hc] at h
        cases hv : S.truthy p.1 with
        | true => simp only [hv, if_true] at h; exact .ifThenT hc hv (ih h)
        | false =>
          simp only [hv, Bool.false_eq_true, if_false, Res.ok.injEq, Prod.mk.injEq] at h
          obtain ⟨rfl, rfl⟩ := h
          exact .ifThenF hc hv
    | loop cond b =>
      rw [evalS_loop] at h
      cases hc : evalCond S cond ρ with
      | none => simp [hc] at h
      | some p =>
        obtain ⟨go, ρ1⟩ := p
        cases go with
        | false =>
          simp only [hc, Res.ok.injEq, Prod.mk.injEq] at h
          obtain ⟨rfl, rfl⟩ := h
          exact .loopExit hc
        | true =>
          simp only [hc] at h
          rcases Res.loopNext_ok h with ⟨rfl, h1⟩ | ⟨sg, ρ2, hsg, h1, h2⟩
          · exact .loopBrk hc (ih h1)
          · exact .loopNext hc (ih h1) hsg (ih h2)

theorem RunS.to_evalS {s : Stmt} {ρ ρ' : Env S} {sig : Sig} (h : RunS S s ρ sig ρ') :
    ∃ n, evalS S n s ρ = .ok (sig, ρ') := by
  induction h with
  | expr he => exact ⟨1, by rw [evalS_expr, he]⟩
  | brk => exact ⟨1, rfl⟩
  | cont => exact ⟨1, rfl⟩
  | seq _ _ iha ihb =>
    obtain ⟨na, ea⟩ := iha
    obtain ⟨nb, eb⟩ := ihb
    refine ⟨max na nb + 1, ?_⟩
    rw [evalS_seq, Res.andThen_normal (evalS_mono _ _ _ _ ea _ (Nat.le_max_left _ _))]
    exact evalS_mono _ _ _ _ eb _ (Nat.le_max_right _ _)
  | seqStop _ hs iha =>
    obtain ⟨na, ea⟩ := iha
    exact ⟨na + 1, by rw [evalS_seq, Res.andThen_abrupt ea hs]⟩
  | iteT hc hv _ ih =>
    obtain ⟨n, e⟩ := ih
    exact ⟨n + 1, by rw [evalS_ite, hc]; simp only [hv, if_true]; exact e⟩
  | iteF hc hv _ ih =>
    obtain ⟨n, e⟩ := ih
    exact ⟨n + 1, by rw [evalS_ite, hc]; simp only [hv, Bool.false_eq_true, if_false]; exact e⟩
  | ifThenT hc hv _ ih =>
    obtain ⟨n, e⟩ := ih
    exact ⟨n + 1, by rw [evalS_ifThen, hc]; simp only [hv, if_true]; exact e⟩
  | ifThenF hc hv => exact ⟨1, by rw [evalS_ifThen, hc]; simp only [hv, Bool.false_eq_true, if_false]⟩
  | loopExit hc => exact ⟨1, by rw [evalS_loop, hc]⟩
  | loopBrk hc _ ih =>
    obtain ⟨n, e⟩ := ih
    exact ⟨n + 1, by rw [evalS_loop, hc]; exact Res.loopNext_brk e⟩
  | loopNext hc _ hs _ ihb ihl =>
    obtain ⟨nb, eb⟩ := ihb
    obtain ⟨nl, el⟩ := ihl
    refine ⟨max nb nl + 1, ?_⟩
    rw [evalS_loop, hc]
    simp only
    rw [Res.loopNext_go (evalS_mono _ _ _ _ eb _ (Nat.le_max_left _ _)) hs]
    exact evalS_mono _ _ _ _ el _ (Nat.le_max_right _ _)

/-- live temporaries of `F` are not disturbed: `TempsKept` of the expression layer without its exemption
for a fixed result register, which a statement does not have -/
def KeepTemps (F : Frame) (σ σ' : Regs S) : Prop := ∀ t, F.tb ≤ t → t < F.tb + F.tc → σ' t = σ t

theorem KeepTemps.refl (F : Frame) (σ : Regs S) : KeepTemps F σ σ := fun _ _ _ => rfl

theorem KeepTemps.trans {F F1 : Frame} {σ σ1 σ2 : Regs S} (h1 : KeepTemps F σ σ1) (h2 : KeepTemps F1 σ1 σ2)
    (sf : SF F F1) : KeepTemps F σ σ2 := by
  intro t a b
  rw [h2 t (by rw [sf.le.tb]; exact a) (by rw [sf.le.tb, sf.tc]; exact b), h1 t a b]

theorem sem_cond {c : Expr} {F F1 : Frame} {cc : Code} {rc : Reg}
    (h : CompiledCond c F cc rc F1) (hw : WF F) (hs : safe [] none c = true)
    {σ : Regs S} {ρ ρ1 : Env S} {v : S.V} (hrel : RelEx [] F σ ρ) (hev : eval S c ρ = some (v, ρ1)) :
    ∃ σ1, exec S cc σ = some σ1 ∧ RelEx [] F1 σ1 ρ1 ∧ σ1 rc = v ∧ KeepTemps F σ σ1 := by
  obtain ⟨hc, hrc, hp⟩ := h
  obtain ⟨σ1, h1, h2, h3, h4⟩ := hc.sem [] none hw trivial hs σ ρ ρ1 v hrel hev
  obtain ⟨p1, p2, _⟩ := popIf_spec hp
  exact ⟨σ1, h1, RelEx.frame h2 (FrameLe.of_locals_eq p1 p2), h3 _ hrc, fun t a b => h4 t a b (by simp)⟩

theorem safeS_loop_body {cond : Option (Expr × Bool)} {b : Stmt} (h : safeS (.loop cond b) = true) :
    safeS b = true := by
  cases cond with
  | none => simpa [safeS] using h
  | some p => obtain ⟨c, neg⟩ := p; simp only [safeS, Bool.and_eq_true] at h; exact h.2

theorem sem_hdr {cond : Option (Expr × Bool)} {F F1 : Frame} {hdr : Option (Code × Reg × Bool)}
    (h : CompiledHdr cond F hdr F1) (hw : WF F) {b : Stmt} (hs : safeS (.loop cond b) = true)
    {σ : Regs S} {ρ ρ1 : Env S} {go : Bool} (hrel : RelEx [] F σ ρ) (hev : evalCond S cond ρ = some (go, ρ1)) :
    ∃ σ1, execCond S hdr σ = some (go, σ1) ∧ RelEx [] F1 σ1 ρ1 ∧ KeepTemps F σ σ1 := by
  cases h with
  | noCond =>
    cases hev
    exact ⟨σ, rfl, hrel, KeepTemps.refl _ _⟩
  | @cond c neg _ cc rc _ hc =>
    simp only [safeS, Bool.and_eq_true] at hs
    simp only [evalCond] at hev
    cases hv : eval S c ρ with
    | none => simp [hv] at hev
    | some q =>
      obtain ⟨v, ρ2⟩ := q
      simp only [hv, Option.some.injEq, Prod.mk.injEq] at hev
      obtain ⟨rfl, rfl⟩ := hev
      obtain ⟨σ1, x1, x2, x3, x4⟩ := sem_cond hc hw hs.1 hrel hv
      exact ⟨σ1, by simp [execCond, x1, x3], x2, x4⟩

theorem CompiledS.sem {s : Stmt} {ρ ρ' : Env S} {sig : Sig} (hev : RunS S s ρ sig ρ') :
    ∀ {il : Bool} {F : Frame} {code : LCode} {F' : Frame}, CompiledS s il F code F' → WF F → NoRes F →
    safeS s = true → ∀ σ : Regs S, RelEx [] F σ ρ →
    ∃ n' σ', execL S n' code σ = .ok (sig, σ') ∧ RelEx [] F' σ' ρ' ∧ KeepTemps F σ σ' := by
  induction hev with
  | expr he =>
    intro il F code F' hc hw hn hs σ hrel
    cases hc with
    | expr hce =>
      obtain ⟨σ1, h1, h2, _, h4⟩ := hce.sem [] none hw trivial hs σ _ _ _ hrel he
      exact ⟨1, σ1, execL_base_ok h1 0, h2, fun t a b => h4 t a b (by simp)⟩
  | brk =>
    intro il F code F' hc hw hn hs σ hrel
    cases hc
    exact ⟨1, σ, rfl, hrel, KeepTemps.refl _ _⟩
  | cont =>
    intro il F code F' hc hw hn hs σ hrel
    cases hc
    exact ⟨1, σ, rfl, hrel, KeepTemps.refl _ _⟩
  | seq _ _ iha ihb =>
    intro il F code F' hc hw hn hs σ hrel
    simp only [safeS, Bool.and_eq_true] at hs
    cases hc with
    | seq ha hb =>
      have fa := ha.frame hw
      obtain ⟨n1, σ1, e1, r1, k1⟩ := iha ha hw hn hs.1 σ hrel
      obtain ⟨n2, σ2, e2, r2, k2⟩ := ihb hb fa.wf (fa.noRes hn) hs.2 σ1 r1
      refine ⟨max n1 n2 + 1, σ2, ?_, r2, k1.trans k2 fa⟩
      rw [execL_seq, Res.andThen_normal (execL_mono _ _ _ _ e1 _ (Nat.le_max_left _ _))]
      exact execL_mono _ _ _ _ e2 _ (Nat.le_max_right _ _)
  | seqStop _ hne iha =>
    intro il F code F' hc hw hn hs σ hrel
    simp only [safeS, Bool.and_eq_true] at hs
    cases hc with
    | seq ha hb =>
      obtain ⟨n1, σ1, e1, r1, k1⟩ := iha ha hw hn hs.1 σ hrel
      exact ⟨n1 + 1, σ1, by rw [execL_seq, Res.andThen_abrupt e1 hne],
        r1.frame (hb.frame (ha.frame hw).wf).le, k1⟩
  | iteT hv htr _ ih =>
    intro il F code F' hc hw hn hs σ hrel
    simp only [safeS, Bool.and_eq_true] at hs
    cases hc with
    | ite hcc ht he =>
      have fc := hcc.frame hw
      obtain ⟨σ1, x1, x2, x3, x4⟩ := sem_cond hcc hw hs.1.1 hrel hv
      obtain ⟨n1, σ2, e1, r1, k1⟩ := ih ht fc.wf (fc.noRes hn) hs.1.2 σ1 x2
      refine ⟨n1 + 2, σ2, ?_, r1.frame (he.frame (ht.frame fc.wf).wf).le, x4.trans k1 fc⟩
      rw [execL_seq_base x1, execL_ifElse, x3, if_pos htr, e1]
      exact Res.andThen_id (fun _ => rfl)
  | iteF hv htr _ ih =>
    intro il F code F' hc hw hn hs σ hrel
    simp only [safeS, Bool.and_eq_true] at hs
    cases hc with
    | ite hcc ht he =>
      have fc := hcc.frame hw
      have ft := ht.frame fc.wf
      obtain ⟨σ1, x1, x2, x3, x4⟩ := sem_cond hcc hw hs.1.1 hrel hv
      obtain ⟨n1, σ2, e1, r1, k1⟩ := ih he ft.wf (ft.noRes (fc.noRes hn)) hs.2 σ1 (x2.frame ft.le)
      refine ⟨n1 + 2, σ2, ?_, r1, x4.trans k1 (fc.trans ft)⟩
      rw [execL_seq_base x1, execL_ifElse, x3, htr]
      exact e1
  | ifThenT hv htr _ ih =>
    intro il F code F' hc hw hn hs σ hrel
    simp only [safeS, Bool.and_eq_true] at hs
    cases hc with
    | ifThen hcc ht =>
      have fc := hcc.frame hw
      obtain ⟨σ1, x1, x2, x3, x4⟩ := sem_cond hcc hw hs.1 hrel hv
      obtain ⟨n1, σ2, e1, r1, k1⟩ := ih ht fc.wf (fc.noRes hn) hs.2 σ1 x2
      refine ⟨n1 + 1 + 2, σ2, ?_, r1, x4.trans k1 fc⟩
      rw [execL_seq_base x1, execL_ifElse, x3, if_pos htr, execL_mono _ _ _ _ e1 (n1 + 1) (Nat.le_succ _)]
      exact Res.andThen_id (fun _ => rfl)
  | ifThenF hv htr =>
    intro il F code F' hc hw hn hs σ hrel
    simp only [safeS, Bool.and_eq_true] at hs
    cases hc with
    | ifThen hcc ht =>
      have fc := hcc.frame hw
      obtain ⟨σ1, x1, x2, x3, x4⟩ := sem_cond hcc hw hs.1 hrel hv
      refine ⟨3, σ1, ?_, x2.frame (ht.frame fc.wf).le, x4⟩
      rw [execL_seq_base x1, execL_ifElse, x3, htr]
      rfl
  | loopExit hcnd =>
    intro il F code F' hc hw hn hs σ hrel
    cases hc with
    | loop hh hb =>
      obtain ⟨σ1, x1, x2, x4⟩ := sem_hdr hh hw hs hrel hcnd
      exact ⟨1, σ1, by rw [execL_loop, x1], x2.frame (hb.frame (hh.frame hw).wf).le, x4⟩
  | loopBrk hcnd _ ih =>
    intro il F code F' hc hw hn hs σ hrel
    cases hc with
    | loop hh hb =>
      have fh := hh.frame hw
      obtain ⟨σ1, x1, x2, x4⟩ := sem_hdr hh hw hs hrel hcnd
      obtain ⟨n1, σ2, e1, r1, k1⟩ := ih hb fh.wf (fh.noRes hn) (safeS_loop_body hs) σ1 x2
      exact ⟨n1 + 1, σ2, by rw [execL_loop, x1]; exact Res.loopNext_brk e1, r1, x4.trans k1 fh⟩
  | loopNext hcnd _ hsg _ ihb ihl =>
    intro il F code F' hc hw hn hs σ hrel
    have sf := hc.frame hw
    -- the next iteration: the loop, recompiled in the frame at the end of the body
    obtain ⟨t, hcG⟩ := hc.again hw hn
    cases hc with
    | loop hh hb =>
      have fh := hh.frame hw
      obtain ⟨σ1, x1, x2, x4⟩ := sem_hdr hh hw hs hrel hcnd
      obtain ⟨n1, σ2, e1, r1, k1⟩ := ihb hb fh.wf (fh.noRes hn) (safeS_loop_body hs) σ1 x2
      obtain ⟨n2, σ3, e2, r2, k2⟩ := ihl hcG sf.wf (sf.noRes hn) hs σ2 r1
      refine ⟨max n1 n2 + 1, σ3, ?_, r2, (x4.trans k1 fh).trans k2 sf⟩
      rw [execL_loop, x1]
      simp only
      rw [Res.loopNext_go (execL_mono _ _ _ _ e1 _ (Nat.le_max_left _ _)) hsg]
      exact execL_mono _ _ _ _ e2 _ (Nat.le_max_right _ _)

/-- outside of a loop a statement that compiles cannot end with a pending `break` / `continue` -/
theorem CompiledS.top_normal {s : Stmt} {ρ ρ' : Env S} {sig : Sig} (hev : RunS S s ρ sig ρ') :
    ∀ {F : Frame} {code : LCode} {F' : Frame}, CompiledS s false F code F' → sig = .normal := by
  induction hev with
  | expr | ifThenF | loopExit | loopBrk => intros; rfl
  | brk | cont => intro F code F' hc; cases hc
  | seq _ _ _ ihb => intro F code F' hc; cases hc with | seq _ hb => exact ihb hb
  | seqStop _ hne iha => intro F code F' hc; cases hc with | seq ha _ => exact absurd (iha ha) hne
  | iteT _ _ _ ih => intro F code F' hc; cases hc with | ite _ ht _ => exact ih ht
  | iteF _ _ _ ih => intro F code F' hc; cases hc with | ite _ _ he => exact ih he
  | ifThenT _ _ _ ih => intro F code F' hc; cases hc with | ifThen _ ht => exact ih ht
  | loopNext _ _ _ _ _ ihl => intro F code F' hc; exact ihl hc

end KotoVerif.Compile
