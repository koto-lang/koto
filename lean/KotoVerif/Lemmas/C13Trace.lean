/-
C13: pull order for arbitrary pipelines. Every adaptor drives its input only through the input's own
`next` / `next_back`: one call on the adaptor is *some sequence of calls on the input*, from the input
state the adaptor holds (`π st`) to the one it holds afterwards, plus callback events (`Over`). Hence
(`over_run`) the source events (`strip`: callback events removed) of any run (`runD`) of the adaptor
are those of a run of its input, and by induction over the pipeline those of any run of a pipeline
are a run of its source — resp. an interleaving (`Shuffle`) of runs of its sources for `chain` /
`zip` (`SrcTr`, `pipe_trace`).
-/
import KotoVerif.Lemmas.C13Lazy

namespace KotoVerif.Iter

def isCall : Ev → Bool
  | .call .. => true
  | _ => false

def strip (es : List Ev) : List Ev := es.filter (fun e => !isCall e)

theorem strip_append (a b : List Ev) : strip (a ++ b) = strip a ++ strip b := List.filter_append ..

theorem strip_call (f : Nat) (args : List Val) : strip [Ev.call f args] = [] := rfl

theorem strip_nil : strip [] = [] := rfl

theorem strip_cons_call (f : Nat) (args : List Val) (es : List Ev) :
    strip (Ev.call f args :: es) = strip es := rfl

def runD (c : Co) : List Bool → c.σ → c.σ × List Ev
  | [], s => (s, [])
  | true :: ds, s =>
    let r := c.next s
    let (s', e) := runD c ds r.st
    (s', r.ev ++ e)
  | false :: ds, s =>
    let r := c.back s
    let (s', e) := runD c ds r.st
    (s', r.ev ++ e)

theorem runD_nil (c : Co) (s : c.σ) : runD c [] s = (s, []) := rfl

theorem runD_true (c : Co) (ds : List Bool) (s : c.σ) :
    runD c (true :: ds) s = ((runD c ds (c.next s).st).1, (c.next s).ev ++ (runD c ds (c.next s).st).2) := rfl

theorem runD_false (c : Co) (ds : List Bool) (s : c.σ) :
    runD c (false :: ds) s = ((runD c ds (c.back s).st).1, (c.back s).ev ++ (runD c ds (c.back s).st).2) := rfl

theorem runD_append (c : Co) : ∀ (d1 d2 : List Bool) (s : c.σ),
    runD c (d1 ++ d2) s =
      ((runD c d2 (runD c d1 s).1).1, (runD c d1 s).2 ++ (runD c d2 (runD c d1 s).1).2) := by
  intro d1
  induction d1 with
  | nil => intro d2 s; rfl
  | cons d d1 ih =>
    intro d2 s
    cases d with
    | true => rw [List.cons_append, runD_true, runD_true, ih, List.append_assoc]
    | false => rw [List.cons_append, runD_false, runD_false, ih, List.append_assoc]

/-- `next_back` default implementation: no call on the input -/
theorem noBack_sim {A c : Co} {R : A.σ → c.σ → Prop} (st : A.σ) (s : c.σ) (hr : R st s)
    (hb : A.back st = ⟨none, st, []⟩) :
    ∃ ds, R (A.back st).st (runD c ds s).1 ∧ strip (A.back st).ev = strip (runD c ds s).2 :=
  ⟨[], by rw [hb]; exact hr, by rw [hb]; rfl⟩

/-! ### runs of the input -/

/-- "state `s'` and events `e` result from some run of `c` from `s`" (up to callback events) -/
def IsRun (c : Co) (s s' : c.σ) (e : List Ev) : Prop :=
  ∃ ds, s' = (runD c ds s).1 ∧ strip e = strip (runD c ds s).2

theorem isRun_refl (c : Co) (s : c.σ) : IsRun c s s [] := ⟨[], rfl, rfl⟩

theorem isRun_next (c : Co) (s : c.σ) : IsRun c s (c.next s).st (c.next s).ev :=
  ⟨[true], rfl, congrArg strip (List.append_nil _).symm⟩

theorem isRun_back (c : Co) (s : c.σ) : IsRun c s (c.back s).st (c.back s).ev :=
  ⟨[false], rfl, congrArg strip (List.append_nil _).symm⟩

theorem isRun_trans {c : Co} {s1 s2 s3 : c.σ} {e1 e2 : List Ev}
    (h1 : IsRun c s1 s2 e1) (h2 : IsRun c s2 s3 e2) : IsRun c s1 s3 (e1 ++ e2) := by
  obtain ⟨d1, rfl, b1⟩ := h1
  obtain ⟨d2, rfl, b2⟩ := h2
  exact ⟨d1 ++ d2, by rw [runD_append], by rw [runD_append, strip_append, strip_append, b1, b2]⟩

theorem isRun_calls {c : Co} {s s' : c.σ} {e e' : List Ev} (h : IsRun c s s' e) (he : strip e' = strip e) :
    IsRun c s s' e' := by
  obtain ⟨ds, a, b⟩ := h
  exact ⟨ds, a, he.trans b⟩

theorem IsRun.call {c : Co} {s s' : c.σ} {e : List Ev} (h : IsRun c s s' e) (f : Nat) (args : List Val) :
    IsRun c s s' (e ++ [Ev.call f args]) :=
  isRun_calls h (by rw [strip_append, strip_call, List.append_nil])

/-! ### the loops as runs of the input -/

theorem pullN_run (c : Co) : ∀ (n : Nat) (s : c.σ), IsRun c s (pullN c n s).1 (pullN c n s).2 := by
  intro n
  induction n with
  | zero => intro s; exact isRun_refl c s
  | succ n ih => intro s; rw [pullN_succ]; exact isRun_trans (isRun_next c s) (ih _)

theorem takeUpTo_run (c : Co) (n : Nat) (s : c.σ) : IsRun c s (takeUpTo c n s).2.1 (takeUpTo c n s).2.2 := by
  rw [takeUpTo_eq_pullN]; exact pullN_run c _ s

theorem nth_run (c : Co) (n : Nat) (s : c.σ) : IsRun c s (nth c n s).st (nth c n s).ev := by
  have h := takeUpTo_run c n s
  simp only [nth, advance_eq_takeUpTo]
  split
  · exact isRun_trans h (isRun_next c _)
  · exact h

theorem keepLoop_run (p : Pred) (c : Co) (n : Nat) (s : c.σ) :
    IsRun c s (keepLoop p c n s).st (keepLoop p c n s).ev := by
  induction n generalizing s with
  | zero => exact isRun_refl c s
  | succ n ih =>
    cases h : (c.next s).out with
    | none => rw [keepLoop_none p n h]; exact isRun_next c s
    | some v =>
      rw [keepLoop_some p n h]
      split
      · exact (isRun_next c s).call _ _
      · exact isRun_trans ((isRun_next c s).call _ _) (ih _)

theorem flattenLoop_run (c : Co) (n : Nat) (s : c.σ) (nested : Option (List Val)) :
    IsRun c s (flattenLoop c n s nested).st.1 (flattenLoop c n s nested).ev := by
  induction n generalizing s nested with
  | zero => exact isRun_refl c s
  | succ n ih =>
    cases hn : nested.getD [] with
    | cons x more =>
      obtain rfl : nested = some (x :: more) := by cases nested <;> simp_all
      exact isRun_refl c s
    | nil =>
      rw [flattenLoop_outer n s hn]
      split
      · exact isRun_next c s
      · split
        · exact isRun_trans (isRun_next c s) (ih _ _)
        · exact isRun_next c s

/-! ### every adaptor works through its input -/

structure Over (A c : Co) (π : A.σ → c.σ) : Prop where
  next : ∀ st, IsRun c (π st) (π (A.next st).st) (A.next st).ev
  back : ∀ st, IsRun c (π st) (π (A.back st).st) (A.back st).ev

theorem over_run {A c : Co} {π : A.σ → c.σ} (h : Over A c π) (ds : List Bool) (st : A.σ) :
    IsRun c (π st) (π (runD A ds st).1) (runD A ds st).2 := by
  induction ds generalizing st with
  | nil => exact isRun_refl c _
  | cons d ds ih =>
    cases d with
    | true => exact isRun_trans (h.next st) (ih _)
    | false => exact isRun_trans (h.back st) (ih _)

theorem each_over (f : Fn) (c : Co) : Over (eachCo f c) c (fun st => st) where
  next st := by
    simp only [eachCo]
    split
    · exact (isRun_next c st).call _ _
    · exact isRun_next c st
  back st := by
    simp only [eachCo]
    split
    · exact (isRun_back c st).call _ _
    · exact isRun_back c st

theorem pair_over (first : Bool) (c : Co) : Over (pairCo first c) c (fun st => st) where
  next st := isRun_next c st
  back st := isRun_refl c st

theorem enumerate_over (c : Co) : Over (enumerateCo c) c (fun st => st.1) where
  next st := isRun_next c st.1
  back st := isRun_refl c st.1

theorem take_over (c : Co) : Over (takeCo c) c (fun st => st.1) where
  next st := by
    simp only [takeCo]
    split
    · exact isRun_next c st.1
    · exact isRun_refl c st.1
  back st := isRun_refl c st.1

theorem takeWhile_over (p : Pred) (c : Co) : Over (takeWhileCo p c) c (fun st => st.1) where
  next := by
    rintro ⟨s, done⟩
    cases done with
    | true => exact isRun_refl c s
    | false =>
      cases h : (c.next s).out with
      | none => rw [takeWhileCo_next_none p h]; exact isRun_next c s
      | some v => rw [takeWhileCo_next_some p h]; split <;> exact (isRun_next c s).call _ _
  back st := isRun_refl c st.1

theorem skip_over (c : Co) : Over (skipCo c) c (fun st => st.1) where
  next := by
    rintro ⟨s, k⟩
    cases k with
    | zero => exact isRun_next c s
    | succ k => exact nth_run c (k + 1) s
  back := by
    rintro ⟨s, k⟩
    cases k with
    | zero => exact isRun_back c s
    | succ k => rw [skipCo_back_succ]; exact isRun_trans (nth_run c k s) (isRun_back c _)

theorem step_over (n : Nat) (c : Co) : Over (stepCo n c) c (fun st => st.1) where
  next st := by
    have ⟨_, e2, e3, _⟩ := step_next_eq n c st
    rw [e2, e3]; exact nth_run c st.2 st.1
  back st := isRun_refl c st.1

theorem chunks_over (n : Nat) (c : Co) : Over (chunksCo n c) c (fun st => st) where
  next st := takeUpTo_run c n st
  back st := isRun_refl c st

theorem windows_over (n : Nat) (c : Co) : Over (windowsCo n c) c (fun st => st.1) where
  next st := by
    show IsRun c st.1 (fillCache c _ st.1 _).2.1 (fillCache c _ st.1 _).2.2
    rw [fillCache_eq_takeUpTo]; exact takeUpTo_run c _ st.1
  back st := isRun_refl c st.1

theorem intersperse_over (sep : Val) (lg : Bool) (c : Co) :
    Over (intersperseCo sep lg c) c (fun st => st.inner) where
  next := by
    intro (st : Inter c.σ)
    have hcur : IsRun c st.inner st.cur.st st.cur.ev := by
      obtain ⟨inner, peeked, nis⟩ := st
      cases peeked with
      | some v => exact isRun_refl c inner
      | none => exact isRun_next c inner
    rw [intersperseCo_next sep lg st]
    split
    · split
      · exact isRun_calls hcur (by cases lg <;> simp [strip_append, strip_call])
      · exact hcur
    · exact hcur
  back st := isRun_refl c st.inner

theorem keep_over (fuel : Nat) (p : Pred) (c : Co) : Over (keepCo fuel p c) c (fun st => st) where
  next st := keepLoop_run p c fuel st
  back st := isRun_refl c st

theorem flatten_over (fuel : Nat) (c : Co) : Over (flattenCo fuel c) c (fun st => st.1) where
  next st := flattenLoop_run c fuel st.1 st.2
  back st := isRun_refl c st.1

theorem cycle_over (c : Co) : Over (cycleCo c) c (fun st => st.inner) where
  next := by
    intro (st : Cyc c.σ)
    cases h : (c.next st.inner).out with
    | some v => rw [cycleCo_next_some h]; exact isRun_next c st.inner
    | none => rw [cycleCo_next_none h]; split <;> exact isRun_next c st.inner
  back st := isRun_refl c st.inner

theorem reversed_over (c : Co) : Over (reversedCo c) c (fun st => st) where
  next st := isRun_back c st
  back st := isRun_next c st

theorem peekable_over (c : Co) : Over (peekableCo c) c (fun st => st.inner) where
  next := by
    rintro ⟨inner, front, rear⟩
    cases front with
    | some v => exact isRun_refl c inner
    | none =>
      cases h : (c.next inner).out with
      | some v => rw [peekableCo_next_some rear h]; exact isRun_next c inner
      | none => rw [peekableCo_next_none rear h]; exact isRun_next c inner
  back := by
    rintro ⟨inner, front, rear⟩
    cases hb : c.bidir with
    | false => rw [peekableCo_back_fwdOnly hb]; exact isRun_refl c inner
    | true =>
      cases rear with
      | some v => rw [peekableCo_back_cached hb]; exact isRun_refl c inner
      | none =>
        cases h : (c.back inner).out with
        | some v => rw [peekableCo_back_some hb front h]; exact isRun_back c inner
        | none => rw [peekableCo_back_none hb front h]; exact isRun_back c inner

/-! ### two inputs: interleavings -/

/-- `c` is an interleaving of `a` and `b` (each keeps its own order) -/
inductive Shuffle : List Ev → List Ev → List Ev → Prop
  | nil : Shuffle [] [] []
  | left {a b c : List Ev} (x : Ev) : Shuffle a b c → Shuffle (x :: a) b (x :: c)
  | right {a b c : List Ev} (y : Ev) : Shuffle a b c → Shuffle a (y :: b) (y :: c)

theorem shuffle_prefix (x y : List Ev) {a b c : List Ev} (h : Shuffle a b c) :
    Shuffle (x ++ a) (y ++ b) (x ++ y ++ c) := by
  induction x with
  | cons e x ih => exact Shuffle.left e ih
  | nil =>
    induction y with
    | nil => exact h
    | cons e y ih => exact Shuffle.right e ih

theorem shuffle_nil_right : ∀ (a : List Ev), Shuffle a [] a
  | [] => Shuffle.nil
  | x :: a => Shuffle.left x (shuffle_nil_right a)

theorem shuffle_nil_left : ∀ (b : List Ev), Shuffle [] b b
  | [] => Shuffle.nil
  | y :: b => Shuffle.right y (shuffle_nil_left b)

/-- one call on a two-input adaptor = a run of `a` followed by a run of `b` -/
structure Sim2 (A a b : Co) (R : A.σ → a.σ → b.σ → Prop) : Prop where
  next : ∀ st sa sb, R st sa sb → ∃ sa' sb' ea eb, R (A.next st).st sa' sb' ∧
    IsRun a sa sa' ea ∧ IsRun b sb sb' eb ∧ strip (A.next st).ev = strip ea ++ strip eb
  back : ∀ st sa sb, R st sa sb → ∃ sa' sb' ea eb, R (A.back st).st sa' sb' ∧
    IsRun a sa sa' ea ∧ IsRun b sb sb' eb ∧ strip (A.back st).ev = strip ea ++ strip eb

theorem sim2_run {A a b : Co} {R : A.σ → a.σ → b.σ → Prop} (h : Sim2 A a b R)
    (ds : List Bool) (st : A.σ) (sa : a.σ) (sb : b.σ) (hr : R st sa sb) :
    ∃ dsa dsb, Shuffle (strip (runD a dsa sa).2) (strip (runD b dsb sb).2) (strip (runD A ds st).2) := by
  induction ds generalizing st sa sb with
  | nil => exact ⟨[], [], Shuffle.nil⟩
  | cons d ds ih =>
    have key : ∀ (r : Res A.σ), (∃ sa' sb' ea eb, R r.st sa' sb' ∧ IsRun a sa sa' ea ∧ IsRun b sb sb' eb ∧
        strip r.ev = strip ea ++ strip eb) →
        ∃ dsa dsb, Shuffle (strip (runD a dsa sa).2) (strip (runD b dsb sb).2)
          (strip (r.ev ++ (runD A ds r.st).2)) := by
      intro r ⟨sa', sb', ea, eb, hr', ⟨da, a1, a2⟩, ⟨db, b1, b2⟩, he⟩
      obtain ⟨da2, db2, hs⟩ := ih r.st sa' sb' hr'
      refine ⟨da ++ da2, db ++ db2, ?_⟩
      rw [runD_append, runD_append, strip_append, strip_append, strip_append, he, a2, b2, ← a1, ← b1]
      exact shuffle_prefix _ _ hs
    cases d with
    | true => exact key (A.next st) (h.next st sa sb hr)
    | false => exact key (A.back st) (h.back st sa sb hr)

theorem zip_sim2 (a b : Co) : Sim2 (zipCo a b) a b (fun st sa sb => st = (sa, sb)) where
  next := by
    rintro _ sa sb rfl
    cases ha : (a.next sa).out with
    | none =>
      rw [zipCo_next_none sb ha]
      exact ⟨_, _, _, [], rfl, isRun_next a sa, isRun_refl b sb, (List.append_nil _).symm⟩
    | some va =>
      rw [zipCo_next_some sb ha]
      exact ⟨_, _, _, _, rfl, isRun_next a sa, isRun_next b sb, strip_append _ _⟩
  back := by
    rintro _ sa sb rfl
    exact ⟨sa, sb, [], [], rfl, isRun_refl a sa, isRun_refl b sb, rfl⟩

theorem chain_sim2 (a b : Co) :
    Sim2 (chainCo a b) a b (fun st sa sb => st.2 = sb ∧ (st.1 = some sa ∨ st.1 = none)) where
  next := by
    rintro ⟨s1, sb⟩ sa _ ⟨rfl, h1⟩
    rcases h1 with rfl | rfl
    · cases ha : (a.next sa).out with
      | some v =>
        rw [chainCo_next_some sb ha]
        exact ⟨_, _, _, [], ⟨rfl, Or.inl rfl⟩, isRun_next a sa, isRun_refl b sb, (List.append_nil _).symm⟩
      | none =>
        rw [chainCo_next_none sb ha]
        exact ⟨(a.next sa).st, _, _, _, ⟨rfl, Or.inr rfl⟩, isRun_next a sa, isRun_next b sb, strip_append _ _⟩
    · exact ⟨sa, _, [], _, ⟨rfl, Or.inr rfl⟩, isRun_refl a sa, isRun_next b sb, rfl⟩
  back := by
    intro st sa sb hr
    exact ⟨sa, sb, [], [], hr, isRun_refl a sa, isRun_refl b sb, rfl⟩

/-! ### whole pipelines -/

/-- "`es` is a run of the pipeline's source(s)": a run of the source itself; for `chain` / `zip` an
interleaving of such runs of the two sides; adaptors with one input add nothing -/
def SrcTr : Pipe → List Ev → Prop
  | .src s, es => ∃ ds, es = strip (runD s.it.c ds s.it.s).2
  | .chain p q, es | .zip p q, es => ∃ ea eb, SrcTr p ea ∧ SrcTr q eb ∧ Shuffle ea eb es
  | .each _ p, es | .keep _ p, es | .take _ p, es | .takeWhile _ p, es | .skip _ p, es | .step _ p, es
  | .enumerate p, es | .chunks _ p, es | .windows _ p, es | .flatten p, es | .intersperse _ p, es
  | .intersperseWith p, es | .cycle p, es | .reversed p, es | .peekable p, es | .pairFirst p, es
  | .pairSecond p, es => SrcTr p es

theorem over_strip {A c : Co} {π : A.σ → c.σ} (h : Over A c π) {P : List Ev → Prop} {st : A.σ}
    (ih : ∀ ds, P (strip (runD c ds (π st)).2)) (ds : List Bool) : P (strip (runD A ds st).2) := by
  obtain ⟨ds', _, he⟩ := over_run h ds st
  exact he ▸ ih ds'

theorem pipe_trace (fuel : Nat) (p : Pipe) :
    ∀ ds, SrcTr p (strip (runD (build fuel p).c ds (build fuel p).s).2) := by
  induction p with
  | src s => intro ds; exact ⟨ds, rfl⟩
  | chain p q ihp ihq =>
    intro ds
    obtain ⟨da, db, hs⟩ := sim2_run (chain_sim2 (build fuel p).c (build fuel q).c) ds
      (some (build fuel p).s, (build fuel q).s) (build fuel p).s (build fuel q).s ⟨rfl, Or.inl rfl⟩
    exact ⟨_, _, ihp da, ihq db, hs⟩
  | zip p q ihp ihq =>
    intro ds
    obtain ⟨da, db, hs⟩ := sim2_run (zip_sim2 (build fuel p).c (build fuel q).c) ds
      ((build fuel p).s, (build fuel q).s) (build fuel p).s (build fuel q).s rfl
    exact ⟨_, _, ihp da, ihq db, hs⟩
  | each f p ih => exact over_strip (P := SrcTr p) (each_over f _) ih
  | keep q p ih => exact over_strip (P := SrcTr p) (keep_over fuel q _) ih
  | take n p ih => exact over_strip (P := SrcTr p) (take_over _) ih
  | takeWhile q p ih => exact over_strip (P := SrcTr p) (takeWhile_over q _) ih
  | skip n p ih => exact over_strip (P := SrcTr p) (skip_over _) ih
  | step n p ih => exact over_strip (P := SrcTr p) (step_over n _) ih
  | enumerate p ih => exact over_strip (P := SrcTr p) (enumerate_over _) ih
  | chunks n p ih => exact over_strip (P := SrcTr p) (chunks_over n _) ih
  | windows n p ih => exact over_strip (P := SrcTr p) (windows_over n _) ih
  | flatten p ih => exact over_strip (P := SrcTr p) (flatten_over fuel _) ih
  | intersperse v p ih => exact over_strip (P := SrcTr p) (intersperse_over v false _) ih
  | intersperseWith p ih => exact over_strip (P := SrcTr p) (intersperse_over sepVal true _) ih
  | cycle p ih => exact over_strip (P := SrcTr p) (cycle_over _) ih
  | reversed p ih => exact over_strip (P := SrcTr p) (reversed_over _) ih
  | peekable p ih => exact over_strip (P := SrcTr p) (peekable_over _) ih
  | pairFirst p ih => exact over_strip (P := SrcTr p) (pair_over true _) ih
  | pairSecond p ih => exact over_strip (P := SrcTr p) (pair_over false _) ih

/-! ### what a run of a logging source looks like -/

/-- traces of a generator over `n` elements standing at element `i`:
`pull i, pull (i+1), …` one element at a time, in order, optionally ended by `done` -/
inductive GenOrd (k n : Nat) : Nat → List Ev → Prop
  | nil (i : Nat) : GenOrd k n i []
  | pull (i : Nat) (es : List Ev) : i < n → GenOrd k n (i + 1) es → GenOrd k n i (Ev.pull k i :: es)
  | done (i : Nat) : n ≤ i → GenOrd k n i [Ev.done k]

theorem gen_silent (k : Nat) (xs : List Val) (ds : List Bool) (i : Nat) (hi : xs.length ≤ i) :
    runD (genCo k xs) ds (i, true) = ((i, true), []) := by
  induction ds with
  | nil => rfl
  | cons d ds ih =>
    have e : (genCo k xs).next (i, true) = ⟨none, (i, true), []⟩ := genCo_next_ge k hi
    cases d with
    | true => rw [runD_true (genCo k xs) ds (i, true), e, ih]; rfl
    | false => rw [runD_false (genCo k xs) ds (i, true)]; exact (congrArg (fun r => (r.1, [] ++ r.2)) ih :)

theorem gen_ordered (k : Nat) (xs : List Val) (ds : List Bool) (s : Nat × Bool) :
    GenOrd k xs.length s.1 (runD (genCo k xs) ds s).2 := by
  induction ds generalizing s with
  | nil => exact GenOrd.nil _
  | cons d ds ih =>
    cases d with
    | false => exact ih s
    | true =>
      rw [runD_true (genCo k xs) ds s]
      by_cases hlt : s.1 < xs.length
      · rw [genCo_next_lt k hlt]
        exact GenOrd.pull _ _ hlt (ih (s.1 + 1, false))
      · have hle : xs.length ≤ s.1 := Nat.le_of_not_lt hlt
        rw [genCo_next_ge k hle]
        obtain ⟨i, b⟩ := s
        cases b with
        | true => exact ih (i, true)
        | false =>
          show GenOrd k xs.length i ([Ev.done k] ++ (runD (genCo k xs) ds (i, true)).2)
          rw [gen_silent k xs ds i hle]
          exact GenOrd.done _ hle

theorem strip_cons_pull (k i : Nat) (es : List Ev) : strip (Ev.pull k i :: es) = Ev.pull k i :: strip es := rfl

theorem genOrd_strip {k n i : Nat} {es : List Ev} (h : GenOrd k n i es) : strip es = es := by
  induction h with
  | nil => rfl
  | pull i es _ _ ih => rw [strip_cons_pull, ih]
  | done => rfl

/-- traces of an `@next` object over `n` elements standing at index `i`: every call logs the current
index; it advances by one while there are elements and stays at `n` afterwards -/
inductive ObjOrd (k n : Nat) : Nat → List Ev → Prop
  | nil (i : Nat) : ObjOrd k n i []
  | pull (i : Nat) (es : List Ev) : i < n → ObjOrd k n (i + 1) es → ObjOrd k n i (Ev.pull k i :: es)
  | stay (i : Nat) (es : List Ev) : n ≤ i → ObjOrd k n i es → ObjOrd k n i (Ev.pull k i :: es)

theorem obj_ordered (k : Nat) (xs : List Val) (ds : List Bool) (i : Nat) :
    ObjOrd k xs.length i (runD (metaCo k xs) ds i).2 := by
  induction ds generalizing i with
  | nil => exact ObjOrd.nil _
  | cons d ds ih =>
    cases d with
    | false => exact ih i
    | true =>
      rw [runD_true (metaCo k xs) ds i]
      by_cases hlt : i < xs.length
      · rw [metaCo_next_lt k hlt]
        exact ObjOrd.pull _ _ hlt (ih (i + 1))
      · have hle : xs.length ≤ i := Nat.le_of_not_lt hlt
        rw [metaCo_next_ge k hle]
        exact ObjOrd.stay _ _ hle (ih i)

theorem objOrd_strip {k n i : Nat} {es : List Ev} (h : ObjOrd k n i es) : strip es = es := by
  induction h with
  | nil => rfl
  | pull i es _ _ ih => rw [strip_cons_pull, ih]
  | stay i es _ _ ih => rw [strip_cons_pull, ih]

/-- the source of a pipeline without `chain` / `zip` -/
def Pipe.root : Pipe → Option Src
  | .src s => some s
  | .chain _ _ | .zip _ _ => none
  | .each _ p => p.root
  | .keep _ p => p.root
  | .take _ p => p.root
  | .takeWhile _ p => p.root
  | .skip _ p => p.root
  | .step _ p => p.root
  | .enumerate p => p.root
  | .chunks _ p => p.root
  | .windows _ p => p.root
  | .flatten p => p.root
  | .intersperse _ p => p.root
  | .intersperseWith p => p.root
  | .cycle p => p.root
  | .reversed p => p.root
  | .peekable p => p.root
  | .pairFirst p => p.root
  | .pairSecond p => p.root

theorem srcTr_root (p : Pipe) : ∀ (s : Src) (es : List Ev), p.root = some s → SrcTr p es →
    ∃ ds, es = strip (runD s.it.c ds s.it.s).2 := by
  induction p with
  | src s0 => intro s es h hs; cases h; exact hs
  | chain p q _ _ => intro s es h; exact nomatch h
  | zip p q _ _ => intro s es h; exact nomatch h
  | _ => rename_i ih; exact ih

end KotoVerif.Iter
