/-
Lemmas behind Props/C11.
`source_slice`: the bytes between two true offsets on a line are the token (`slice_true`); columns
(`slice_text_col`) or table entries (`slice_text_tbl`) only have to produce those offsets.
Format options: `roundtrip` runs `parse`'s loop over the rendered text one arm at a time;
`parse_wf` is the loop invariant `J`.
-/
import KotoVerif.Model.FmtOptions
import KotoVerif.Model.SrcSlice

namespace KotoVerif.C11.Lemmas
open KotoVerif.SrcSlice

/-! ## source_slice -/

theorem byteLen_append (a b : List Ch) : byteLen (a ++ b) = byteLen a + byteLen b := by
  induction a with
  | nil => simp [byteLen]
  | cons c cs ih => rw [List.cons_append, byteLen, byteLen, ih, Nat.add_assoc]

theorem lineOffset_eq (ls : List Line) (k : Nat) : lineOffset ls k = byteLen (ls.take k).flatten := by
  induction ls generalizing k with
  | nil => cases k <;> simp [lineOffset, byteLen]
  | cons l ls ih =>
    cases k with
    | zero => simp [lineOffset, byteLen]
    | succ k => simp [lineOffset, byteLen_append, ih]

theorem dropBytes_cons_le (c : Ch) (cs : List Ch) (m : Nat) (hm : 0 < m) (hc : c.bytes ≤ m) :
    dropBytes (c :: cs) m = dropBytes cs (m - c.bytes) := by
  cases m with
  | zero => cases hm
  | succ n => rw [dropBytes, if_pos hc]

theorem takeBytes_cons_le (c : Ch) (cs : List Ch) (m : Nat) (hm : 0 < m) (hc : c.bytes ≤ m) :
    takeBytes (c :: cs) m = (takeBytes cs (m - c.bytes)).map (c :: ·) := by
  cases m with
  | zero => cases hm
  | succ n => rw [takeBytes, if_pos hc]

theorem dropBytes_cons (c : Ch) (cs : List Ch) (n : Nat) (hc : 1 ≤ c.bytes) :
    dropBytes (c :: cs) (c.bytes + n) = dropBytes cs n := by
  rw [dropBytes_cons_le c cs _ (Nat.lt_of_lt_of_le hc (Nat.le_add_right _ _)) (Nat.le_add_right _ _),
    Nat.add_sub_cancel_left]

theorem takeBytes_cons (c : Ch) (cs : List Ch) (n : Nat) (hc : 1 ≤ c.bytes) :
    takeBytes (c :: cs) (c.bytes + n) = (takeBytes cs n).map (c :: ·) := by
  rw [takeBytes_cons_le c cs _ (Nat.lt_of_lt_of_le hc (Nat.le_add_right _ _)) (Nat.le_add_right _ _),
    Nat.add_sub_cancel_left]

theorem dropBytes_append (a b : List Ch) (h : ∀ c ∈ a, 1 ≤ c.bytes) :
    dropBytes (a ++ b) (byteLen a) = some b := by
  induction a with
  | nil => cases b <;> rfl
  | cons c cs ih =>
    rw [List.cons_append, byteLen, dropBytes_cons c _ _ (h c (by simp))]
    exact ih (fun x hx => h x (by simp [hx]))

theorem takeBytes_append (a b : List Ch) (h : ∀ c ∈ a, 1 ≤ c.bytes) :
    takeBytes (a ++ b) (byteLen a) = some a := by
  induction a with
  | nil => cases b <;> rfl
  | cons c cs ih =>
    rw [List.cons_append, byteLen, takeBytes_cons c _ _ (h c (by simp)),
      ih (fun x hx => h x (by simp [hx]))]
    rfl

theorem dropBytes_sound (cs : List Ch) : ∀ (n : Nat) (r : List Ch), dropBytes cs n = some r →
    ∃ pre, cs = pre ++ r ∧ byteLen pre = n := by
  intro n
  fun_induction dropBytes cs n with
  | case1 cs => intro r h; exact ⟨[], by simpa using h, rfl⟩
  | case2 n => intro r h; cases h
  | case3 c cs n hle ih =>
    intro r h
    obtain ⟨pre, hp, hb⟩ := ih r h
    exact ⟨c :: pre, by simp [hp], by rw [byteLen, hb, Nat.add_sub_cancel' hle]⟩
  | case4 c cs n hle => intro r h; cases h

theorem takeBytes_sound (cs : List Ch) : ∀ (n : Nat) (t : List Ch), takeBytes cs n = some t →
    ∃ post, cs = t ++ post ∧ byteLen t = n := by
  intro n
  fun_induction takeBytes cs n with
  | case1 cs => intro t h; cases h; exact ⟨cs, rfl, rfl⟩
  | case2 n => intro t h; cases h
  | case3 c cs n hle ih =>
    intro t h
    obtain ⟨r, hr, rfl⟩ := Option.map_eq_some_iff.mp h
    obtain ⟨post, hp, hb⟩ := ih r hr
    exact ⟨post, by simp [hp], by rw [byteLen, hb, Nat.add_sub_cancel' hle]⟩
  | case4 c cs n hle => intro t h; cases h

theorem dropBytes_add (cs : List Ch) (n : Nat) : ∀ (k : Nat) (r : List Ch), dropBytes cs n = some r →
    dropBytes cs (n + k) = dropBytes r k := by
  fun_induction dropBytes cs n with
  | case1 cs => intro k r h; cases h; rw [Nat.zero_add]
  | case2 n => intro k r h; cases h
  | case3 c cs n hle ih =>
    intro k r h
    rw [dropBytes_cons_le c cs _ (Nat.add_pos_left (Nat.succ_pos n) k)
      (Nat.le_trans hle (Nat.le_add_right _ _)), Nat.sub_add_comm hle]
    exact ih k r h
  | case4 c cs n hle => intro k r h; cases h

theorem takeBytes_add (cs : List Ch) (n : Nat) : ∀ (k : Nat) (a r : List Ch), takeBytes cs n = some a →
    dropBytes cs n = some r → takeBytes cs (n + k) = (takeBytes r k).map (a ++ ·) := by
  fun_induction takeBytes cs n with
  | case1 cs => intro k a r ha hr; cases ha; cases cs <;> cases hr <;> simp
  | case2 n => intro k a r ha; cases ha
  | case3 c cs n hle ih =>
    intro k a r ha hr
    obtain ⟨a', ha', rfl⟩ := Option.map_eq_some_iff.mp ha
    rw [dropBytes, if_pos hle] at hr
    rw [takeBytes_cons_le c cs _ (Nat.add_pos_left (Nat.succ_pos n) k)
      (Nat.le_trans hle (Nat.le_add_right _ _)), Nat.sub_add_comm hle, ih k a' r ha' hr]
    cases takeBytes r k <;> rfl
  | case4 c cs n hle => intro k a r ha; cases ha

theorem sliceText_mid (x tok y : List Ch) (hx : ∀ c ∈ x, 1 ≤ c.bytes) (ht : ∀ c ∈ tok, 1 ≤ c.bytes) :
    sliceText (x ++ (tok ++ y)) (byteLen x) (byteLen x + byteLen tok) = some tok := by
  simp only [sliceText, Nat.le_add_right, if_true, Nat.add_sub_cancel_left, dropBytes_append x (tok ++ y) hx,
    Option.bind_some]
  exact takeBytes_append tok y ht

theorem sliceText_sound (src : List Ch) (s e : Nat) (t : List Ch) (h : sliceText src s e = some t) :
    s ≤ e ∧ ∃ pre post, src = pre ++ t ++ post ∧ byteLen pre = s ∧ byteLen t = e - s := by
  unfold sliceText at h
  split at h
  · rename_i hse
    obtain ⟨r, hd, ht⟩ := Option.bind_eq_some_iff.mp h
    obtain ⟨pre, hp, hb⟩ := dropBytes_sound _ _ _ hd
    obtain ⟨post, hq, hc⟩ := takeBytes_sound _ _ _ ht
    exact ⟨hse, pre, post, by simp [hp, hq], hb, hc⟩
  · cases h

theorem sliceText_append (src : List Ch) (s m e : Nat) (a b : List Ch)
    (h₁ : sliceText src s m = some a) (h₂ : sliceText src m e = some b) :
    sliceText src s e = some (a ++ b) := by
  unfold sliceText at *
  split at h₁
  · split at h₂
    · rename_i hsm hme
      obtain ⟨r, hd, ha⟩ := Option.bind_eq_some_iff.mp h₁
      obtain ⟨r', hd', hb⟩ := Option.bind_eq_some_iff.mp h₂
      have e1 : dropBytes r (m - s) = some r' := by
        rw [← dropBytes_add src s (m - s) r hd, Nat.add_sub_cancel' hsm, hd']
      have e2 : e - s = (m - s) + (e - m) := by rw [Nat.add_comm, Nat.sub_add_sub_cancel hme hsm]
      rw [if_pos (Nat.le_trans hsm hme), hd, Option.bind_some, e2,
        takeBytes_add r (m - s) (e - m) a r' ha e1, hb]
      rfl
    · cases h₂
  · cases h₁

theorem flatten_split (ls : List Line) (k : Nat) (l : Line) (h : ls[k]? = some l) :
    ∃ A B, ls.flatten = A ++ l ++ B ∧ byteLen A = lineOffset ls k := by
  obtain ⟨hk, rfl⟩ := List.getElem?_eq_some_iff.mp h
  refine ⟨(ls.take k).flatten, (ls.drop (k + 1)).flatten, ?_, (lineOffset_eq ls k).symm⟩
  calc ls.flatten = (ls.take k ++ ls[k] :: ls.drop (k + 1)).flatten := by
        rw [List.getElem_cons_drop hk, List.take_append_drop]
    _ = _ := by simp only [List.flatten_append, List.flatten_cons, List.append_assoc]

theorem slice_true (ls : List Line) (k : Nat) (pre tok post : List Ch)
    (hline : ls[k]? = some (pre ++ tok ++ post))
    (hbytes : ∀ l ∈ ls, ∀ c ∈ l, 1 ≤ c.bytes) :
    sliceText ls.flatten (truePos ls k pre) (truePos ls k (pre ++ tok)) = some tok := by
  obtain ⟨A, B, hf, hb⟩ := flatten_split ls k _ hline
  have hflat : ls.flatten = (A ++ pre) ++ (tok ++ (post ++ B)) := by simp [hf]
  have hall : ∀ c ∈ (A ++ pre) ++ (tok ++ (post ++ B)), 1 ≤ c.bytes := by
    intro c hc
    obtain ⟨l, hl, hcl⟩ := List.mem_flatten.mp (hflat ▸ hc)
    exact hbytes l hl c hcl
  have hs : truePos ls k pre = byteLen (A ++ pre) := by simp [truePos, byteLen_append, hb]
  have he : truePos ls k (pre ++ tok) = byteLen (A ++ pre) + byteLen tok := by
    simp only [truePos, byteLen_append, hb, Nat.add_assoc]
  rw [hs, he, hflat]
  exact sliceText_mid (A ++ pre) tok (post ++ B) (fun c hc => hall c (List.mem_append_left _ hc))
    (fun c hc => hall c (List.mem_append_right _ (List.mem_append_left _ hc)))

theorem colLen_eq_byteLen (l : List Ch) (h : ∀ c ∈ l, c.width = c.bytes) : colLen l = byteLen l := by
  induction l with
  | nil => rfl
  | cons c cs ih =>
    have hc : c.width = c.bytes := h c (by simp)
    have hcs : ∀ x ∈ cs, x.width = x.bytes := fun x hx => h x (by simp [hx])
    simp [colLen, byteLen, hc, ih hcs]

theorem slice_offsets (ls : List Line) (k₁ k₂ : Nat) (pre₁ pre₂ : List Ch)
    (h₁ : ∀ c ∈ pre₁, c.width = c.bytes) (h₂ : ∀ c ∈ pre₂, c.width = c.bytes) :
    sourceSliceCol ls { start := lexPos k₁ pre₁, stop := lexPos k₂ pre₂ }
      = (truePos ls k₁ pre₁, truePos ls k₂ pre₂) := by
  simp [sourceSliceCol, byteOfCol, lexPos, truePos, colLen_eq_byteLen _ h₁, colLen_eq_byteLen _ h₂]

/-- the fallback arithmetic is right when columns are byte counts -/
theorem slice_text_col (ls : List Line) (k : Nat) (pre tok post : List Ch)
    (hline : ls[k]? = some (pre ++ tok ++ post))
    (hbytes : ∀ l ∈ ls, ∀ c ∈ l, 1 ≤ c.bytes)
    (hpre : ∀ c ∈ pre, c.width = c.bytes) (htok : ∀ c ∈ tok, c.width = c.bytes) :
    sourceSliceTextCol ls { start := lexPos k pre, stop := lexPos k (pre ++ tok) } = some tok := by
  have hpt : ∀ c ∈ pre ++ tok, c.width = c.bytes := by
    intro c hc
    rcases List.mem_append.mp hc with h | h
    · exact hpre c h
    · exact htok c h
  unfold sourceSliceTextCol
  rw [slice_offsets ls k k pre (pre ++ tok) hpre hpt]
  exact slice_true ls k pre tok post hline hbytes

theorem lookup_sound (tbl : Table) (p : Pos) (b : Nat) (h : lookup tbl p = some b) : (p, b) ∈ tbl := by
  induction tbl with
  | nil => simp [lookup] at h
  | cons e rest ih =>
    obtain ⟨q, c⟩ := e
    simp only [lookup] at h
    split at h
    · rename_i hq
      simp at h
      simp [hq, h]
    · exact List.mem_cons_of_mem _ (ih h)

theorem lookup_none_iff (tbl : Table) (p : Pos) : lookup tbl p = none ↔ ∀ b, (p, b) ∉ tbl := by
  induction tbl with
  | nil => simp [lookup]
  | cons e rest ih =>
    obtain ⟨q, c⟩ := e
    simp only [lookup]
    split
    · rename_i hq
      subst hq
      constructor
      · intro h; cases h
      · intro h; exact absurd (by simp) (h c)
    · rename_i hq
      rw [ih]
      constructor
      · intro h b hm
        rcases List.mem_cons.mp hm with h1 | h1
        · exact hq (by cases h1; rfl)
        · exact h b h1
      · intro h b hm
        exact h b (List.mem_cons_of_mem _ hm)

theorem lookup_of_mem (tbl : Table) (p : Pos) (b : Nat) (hm : (p, b) ∈ tbl)
    (hf : ∀ b', (p, b') ∈ tbl → b' = b) : lookup tbl p = some b := by
  cases h : lookup tbl p with
  | none => exact absurd hm ((lookup_none_iff tbl p).1 h b)
  | some b' => rw [hf b' (lookup_sound tbl p b' h)]

theorem slice_text_tbl (ls : List Line) (tbl : Table) (k : Nat) (pre tok post : List Ch) (sp ep : Pos)
    (hline : ls[k]? = some (pre ++ tok ++ post))
    (hbytes : ∀ l ∈ ls, ∀ c ∈ l, 1 ≤ c.bytes)
    (hs : (sp, truePos ls k pre) ∈ tbl) (he : (ep, truePos ls k (pre ++ tok)) ∈ tbl)
    (hfs : ∀ b, (sp, b) ∈ tbl → b = truePos ls k pre)
    (hfe : ∀ b, (ep, b) ∈ tbl → b = truePos ls k (pre ++ tok)) :
    sourceSliceText ls tbl { start := sp, stop := ep } = some tok := by
  unfold sourceSliceText sourceSlice byteOf
  simp only [lookup_of_mem tbl sp _ hs hfs, lookup_of_mem tbl ep _ he hfe]
  exact slice_true ls k pre tok post hline hbytes

/-! ## format options: decimal digits -/

open KotoVerif.FmtOptions

def dstep (a d : Nat) : Nat := a * 10 + (d - 48)

theorem isDigit_add (m : Nat) (hm : m < 10) : isDigit (48 + m) = true := by
  simp [isDigit]; omega

/-- With enough fuel `digitsAux` puts the same digits in front of every `acc`. The first is `0` only for the
number 0 itself: the zero-fill arm of `step` (`0` in front of a digit) must not claim the first digit of a width. -/
theorem digitsAux_spec (f n : Nat) (h : n < f) :
    ∃ m tl, (∀ acc, digitsAux f n acc = (48 + m) :: (tl ++ acc)) ∧ m < 10 ∧ (m = 0 → tl = [])
      ∧ (∀ d ∈ tl, isDigit d = true) ∧ tl.foldl dstep m = n := by
  induction f generalizing n with
  | zero => omega
  | succ f ih =>
    by_cases hn : n < 10
    · exact ⟨n, [], fun acc => by rw [digitsAux, if_pos hn, List.nil_append], hn, fun _ => rfl, by simp, rfl⟩
    · obtain ⟨m, tl, he, hm, h0, hd, hv⟩ := ih (n / 10) (by omega)
      refine ⟨m, tl ++ [48 + n % 10], fun acc => ?_, hm, ?_, ?_, ?_⟩
      · rw [digitsAux, if_neg hn, he, List.append_assoc, List.singleton_append]
      · -- m = 0 would mean n / 10 = 0
        intro hm0
        rw [h0 hm0, hm0] at hv
        simp at hv
        omega
      · intro d hd'
        rcases List.mem_append.mp hd' with h | h
        · exact hd d h
        · rw [List.mem_singleton.mp h]
          exact isDigit_add _ (Nat.mod_lt _ (by decide))
      · rw [List.foldl_append, hv]
        simp [dstep]
        omega

theorem digits_eq (n : Nat) :
    ∃ m tl, digits n = (48 + m) :: tl ∧ m < 10 ∧ (m = 0 → tl = [])
      ∧ (∀ d ∈ tl, isDigit d = true) ∧ tl.foldl dstep m = n := by
  obtain ⟨m, tl, he, h⟩ := digitsAux_spec (n + 1) n (Nat.lt_succ_self n)
  exact ⟨m, tl, by rw [digits, he, List.append_nil], h⟩

theorem digits_ne_nil (n : Nat) : digits n ≠ [] := by
  obtain ⟨m, tl, he, _⟩ := digits_eq n
  simp [he]

theorem digits_isDigit (n : Nat) : ∀ d ∈ digits n, isDigit d = true := by
  obtain ⟨m, tl, he, hm, _, htl, _⟩ := digits_eq n
  intro d hd
  rw [he] at hd
  rcases List.mem_cons.mp hd with rfl | h
  · exact isDigit_add m hm
  · exact htl d h

theorem foldl_dstep_ge (ds : List Nat) (acc : Nat) : acc ≤ ds.foldl dstep acc := by
  induction ds generalizing acc with
  | nil => simp
  | cons d ds ih =>
    simp only [List.foldl_cons]
    exact Nat.le_trans (by simp [dstep]; omega) (ih (dstep acc d))

theorem consumeDigits_run (ds rest : List Nat) (acc : Nat)
    (hd : ∀ d ∈ ds, isDigit d = true)
    (hrest : ∀ c, rest.head? = some c → isDigit c = false)
    (hmax : ds.foldl dstep acc ≤ u32Max) :
    consumeDigits acc (ds ++ rest) = some (ds.foldl dstep acc, rest) := by
  induction ds generalizing acc with
  | nil =>
    cases rest with
    | nil => simp [consumeDigits]
    | cons c cs =>
      have : isDigit c = false := hrest c (by simp)
      simp [consumeDigits, this]
  | cons d ds ih =>
    have hdd : isDigit d = true := hd d (by simp)
    have hds : ∀ x ∈ ds, isDigit x = true := fun x hx => hd x (by simp [hx])
    simp only [List.foldl_cons] at hmax
    have hle : dstep acc d ≤ u32Max := Nat.le_trans (foldl_dstep_ge ds _) hmax
    have hnot : ¬ (acc * 10 + (d - 48) > u32Max) := by
      simp only [dstep] at hle
      omega
    simp only [List.cons_append, consumeDigits, hdd, if_true, hnot, if_false, List.foldl_cons]
    exact ih (dstep acc d) hds hmax

/-- What the number-reading arms of `parse` see for the text `n.to_string() ++ rest`. -/
theorem digits_spec (n : Nat) (hn : n ≤ u32Max) (rest : List Nat)
    (hrest : ∀ c, rest.head? = some c → isDigit c = false) :
    ∃ m tl, digits n = (48 + m) :: tl ∧ m < 10 ∧ (m = 0 → tl = [])
      ∧ (∀ d ∈ tl, isDigit d = true)
      ∧ consumeDigits m (tl ++ rest) = some (n, rest) := by
  obtain ⟨m, tl, he, hm, h0, htl, hval⟩ := digits_eq n
  refine ⟨m, tl, he, hm, h0, htl, ?_⟩
  rw [consumeDigits_run tl rest m htl hrest (by rw [hval]; exact hn), hval]

/-! ## format options: one iteration of `parse` on rendered text -/

theorem isDigit_not_align (c : Nat) (h : isDigit c = true) : isAlignCh c = false := by
  simp [isDigit, isAlignCh] at *
  omega

theorem headIs_append (p : Nat → Bool) (a b : List Nat) :
    headIs p (a ++ b) = if a = [] then headIs p b else headIs p a := by
  cases a <;> simp [headIs]

theorem headIs_false_of (p : Nat → Bool) (l : List Nat) (h : ∀ c, l.head? = some c → p c = false) :
    headIs p l = false := by
  cases l with
  | nil => rfl
  | cons c cs => simpa [headIs] using h c (by simp)

/-- the width arm -/
theorem step_num (s : List Nat) (g1 n : Nat) (rest : List Nat) (pos : PPos) (o : Opts)
    (hn : n ≤ u32Max) (hpos : pos = .start ∨ pos = .minWidth)
    (hrd : ∀ c, rest.head? = some c → isDigit c = false)
    (hra : ∀ c, rest.head? = some c → isAlignCh c = false) :
    ∃ d tl, digits n = d :: tl ∧
      step s g1 d (tl ++ rest) pos o = .ok (.precision, { o with minWidth := some n }, rest) := by
  obtain ⟨m, tl, he, hm, h0, htl, hc⟩ := digits_spec n hn rest hrd
  refine ⟨48 + m, tl, he, ?_⟩
  have hpa : headIs isAlignCh (tl ++ rest) = false := by
    rw [headIs_append]
    split
    · exact headIs_false_of _ _ hra
    · cases tl with
      | nil => contradiction
      | cons t ts => simpa [headIs] using isDigit_not_align t (htl t (by simp))
  have hna : isAlignCh (48 + m) = false := isDigit_not_align _ (isDigit_add m hm)
  have hz : ((48 + m == 48) && headIs isDigit (tl ++ rest)) = false := by
    by_cases hm0 : m = 0
    · subst hm0
      rw [h0 rfl]
      simp [headIs_false_of _ _ hrd]
    · have : (48 + m == 48) = false := by simp; omega
      simp [this]
  have hd : isDigit (48 + m) = true := isDigit_add m hm
  have hp : posIn pos [.start, .minWidth] = true := by
    rcases hpos with h | h <;> subst h <;> decide
  simp only [step, hpa, hna, hz, hd, hp, Nat.add_sub_cancel_left, hc, Bool.and_false, Bool.false_and,
    Bool.and_true, if_false, if_true, Bool.false_eq_true]

theorem step_prec (s : List Nat) (g1 p : Nat) (rest : List Nat) (pos : PPos) (o : Opts)
    (hp : p ≤ u32Max) (hpos : pos = .start ∨ pos = .minWidth ∨ pos = .precision)
    (hrd : ∀ c, rest.head? = some c → isDigit c = false) :
    step s g1 46 (digits p ++ rest) pos o = .ok (.type, { o with precision := some p }, rest) := by
  obtain ⟨m, tl, he, hm, _, _, hc⟩ := digits_spec p hp rest hrd
  have hna : isAlignCh (48 + m) = false := isDigit_not_align _ (isDigit_add m hm)
  have hd : isDigit (48 + m) = true := isDigit_add m hm
  have hpo : posIn pos [.start, .minWidth, .precision] = true := by
    rcases hpos with h | h | h <;> subst h <;> decide
  have h46a : isAlignCh 46 = false := by decide
  have h46d : isDigit 46 = false := by decide
  have h4648 : (46 == 48) = false := by decide
  rw [he]
  simp only [List.cons_append, step, headIs, hna, hd, hpo, Nat.add_sub_cancel_left, hc, h46a, h46d, h4648,
    Bool.and_false, Bool.false_and, Bool.and_true, if_false, if_true, Bool.false_eq_true, beq_self_eq_true,
    List.isEmpty_cons, Bool.not_false]

theorem step_align (s : List Nat) (g1 ac : Nat) (rest : List Nat) (pos : PPos) (o : Opts)
    (hac : isAlignCh ac = true) (hpos : pos = .alignment ∨ (pos = .start ∧ headIs isAlignCh rest = false)) :
    step s g1 ac rest pos o = .ok (.minWidth, { o with align := alignOf ac }, rest) := by
  rcases hpos with h | ⟨h, hr⟩
  · subst h
    have h1 : (PPos.alignment == PPos.start) = false := by decide
    have h2 : posIn .alignment [.start, .alignment] = true := by decide
    simp only [step, h1, hac, h2, Bool.false_and, Bool.and_true, if_false, if_true, Bool.false_eq_true]
  · subst h
    have h2 : posIn .start [.start, .alignment] = true := by decide
    simp only [step, hr, hac, h2, Bool.and_false, Bool.and_true, if_false, if_true, Bool.false_eq_true]

theorem step_fill1 (s : List Nat) (g1 c ac : Nat) (rest : List Nat) (o : Opts)
    (hac : isAlignCh ac = true) :
    step s g1 c (ac :: rest) .start o
      = .ok (.minWidth, { o with fill := some [c], align := alignOf ac }, rest) := by
  have h1 : (PPos.start == PPos.start) = true := by decide
  simp only [step, headIs, h1, hac, Bool.and_true, if_true]

theorem step_zero (s : List Nat) (g1 : Nat) (rest : List Nat) (o : Opts)
    (hra : headIs isAlignCh rest = false) (hrd : headIs isDigit rest = true) :
    step s g1 48 rest .start o = .ok (.minWidth, { o with fill := some [48] }, rest) := by
  have h2 : isAlignCh 48 = false := by decide
  have h3 : posIn .start [.start, .minWidth] = true := by decide
  simp only [step, hra, hrd, h2, h3, Bool.and_false, Bool.and_true, Bool.false_and, if_false, if_true,
    Bool.false_eq_true, beq_self_eq_true]

/-- The fall-back arm at `Start`: the first grapheme cluster is the fill. -/
theorem step_cluster (s : List Nat) (g1 c : Nat) (rest : List Nat) (o : Opts)
    (hc : plainStart c = true) (hra : headIs isAlignCh rest = false)
    (hdot : (c == 46 && !rest.isEmpty) = false) :
    step s g1 c rest .start o
      = .ok (.alignment, { o with fill := some (s.take (max g1 1)) }, s.drop (max g1 1)) := by
  simp only [plainStart, Bool.and_eq_true, Bool.not_eq_true', Option.isNone_iff_eq_none] at hc
  obtain ⟨⟨ha, hd⟩, hr⟩ := hc
  have h48 : (c == 48) = false := by
    simp [isDigit] at hd
    simp
    omega
  have h1 : (PPos.start == PPos.start) = true := by decide
  have hr' : (reprOf c).isSome = false := by simp [hr]
  simp only [step, hra, ha, hd, h48, hdot, hr', h1, Bool.and_false, Bool.false_and,
    if_false, if_true, Bool.false_eq_true]

/-! ## format options: the loop over the rendered width, precision and representation -/

theorem loop_step {s : List Nat} {g1 f next : Nat} {rest : List Nat} {pos pos' : PPos} {o o' : Opts}
    {rest' : List Nat} (h : step s g1 next rest pos o = .ok (pos', o', rest')) :
    loop s g1 (f + 1) pos o (next :: rest) = loop s g1 f pos' o' rest' := by
  simp [loop, h]

theorem loop_nil (s : List Nat) (g1 f : Nat) (pos : PPos) (o : Opts) : loop s g1 f pos o [] = .ok o := by
  cases f <;> simp [loop]

def wText (w : Option Nat) : List Nat := optStr (w.map digits)
def pText (p : Option Nat) : List Nat := optStr (p.map (fun p => 46 :: digits p))

/-- the representation letter: what `parse` reads back, and that no other arm claims it -/
theorem reprText_spec (r : Repr') :
    ∃ rc, reprText (some r) = [rc] ∧ reprOf rc = some r ∧ isAlignCh rc = false ∧ isDigit rc = false
      ∧ (rc == 46) = false ∧ (rc == 48) = false := by
  cases r
  · exact ⟨63, rfl, by decide, by decide, by decide, by decide, by decide⟩
  · exact ⟨120, rfl, by decide, by decide, by decide, by decide, by decide⟩
  · exact ⟨88, rfl, by decide, by decide, by decide, by decide, by decide⟩
  · exact ⟨98, rfl, by decide, by decide, by decide, by decide, by decide⟩
  · exact ⟨111, rfl, by decide, by decide, by decide, by decide, by decide⟩
  · exact ⟨101, rfl, by decide, by decide, by decide, by decide, by decide⟩
  · exact ⟨69, rfl, by decide, by decide, by decide, by decide, by decide⟩

theorem reprText_head (r : Option Repr') :
    ∀ c, (reprText r).head? = some c → isDigit c = false ∧ isAlignCh c = false := by
  intro c hc
  cases r with
  | none => simp [reprText] at hc
  | some r =>
    obtain ⟨rc, h, _, ha, hd, _⟩ := reprText_spec r
    simp [h] at hc
    subst hc
    exact ⟨hd, ha⟩

def tailText (w p : Option Nat) (r : Option Repr') : List Nat := wText w ++ pText p ++ reprText r

theorem tail_no_align (w p : Option Nat) (r : Option Repr') :
    ∀ x ∈ tailText w p r, isAlignCh x = false := by
  intro x hx
  simp only [tailText, wText, pText, List.mem_append] at hx
  rcases hx with (hx | hx) | hx
  · cases w with
    | none => simp [optStr] at hx
    | some n =>
      simp only [Option.map_some, optStr] at hx
      exact isDigit_not_align x (digits_isDigit n x hx)
  · cases p with
    | none => simp [optStr] at hx
    | some q =>
      simp only [Option.map_some, optStr, List.mem_cons] at hx
      rcases hx with hx | hx
      · subst hx; decide
      · exact isDigit_not_align x (digits_isDigit q x hx)
  · cases r with
    | none => simp [reprText] at hx
    | some r =>
      obtain ⟨rc, h, _, ha, _⟩ := reprText_spec r
      simp [h] at hx
      subst hx
      exact ha

theorem loop_repr (s : List Nat) (g1 : Nat) (r : Option Repr') (pos : PPos) (o : Opts) (f : Nat)
    (hf : (reprText r).length ≤ f)
    (hpos : pos = .start ∨ pos = .minWidth ∨ pos = .precision ∨ pos = .type)
    (hor : o.repr = none) :
    loop s g1 f pos o (reprText r) = .ok { o with repr := r } := by
  cases r with
  | none =>
    simp only [reprText, loop_nil]
    cases o; simp_all
  | some r =>
    obtain ⟨rc, hs, hro, ha, hd, h46, h48⟩ := reprText_spec r
    obtain ⟨f', rfl⟩ : ∃ f', f = f' + 1 := ⟨f - 1, by simp only [hs, List.length_singleton] at hf; omega⟩
    have hpo : posIn pos [.start, .minWidth, .precision, .type] = true := by
      rcases hpos with h | h | h | h <;> subst h <;> decide
    have hstep : step s g1 rc [] pos o = .ok (.end, { o with repr := some r }, []) := by
      simp only [step, headIs, ha, hd, h46, h48, hpo, hro, Option.isSome_some, Bool.and_false,
        Bool.false_and, Bool.and_true, if_false, if_true, Bool.false_eq_true]
    rw [hs, loop_step hstep, loop_nil]

theorem prText_head (p : Option Nat) (r : Option Repr') :
    ∀ c, (pText p ++ reprText r).head? = some c → isDigit c = false ∧ isAlignCh c = false := by
  intro c hc
  cases p with
  | none => exact reprText_head r c hc
  | some q => cases hc; exact ⟨by decide, by decide⟩

theorem loop_prec_repr (s : List Nat) (g1 : Nat) (p : Option Nat) (r : Option Repr') (pos : PPos)
    (o : Opts) (f : Nat) (hf : (pText p ++ reprText r).length ≤ f) (hp : ∀ n, p = some n → n ≤ u32Max)
    (hpos : pos = .start ∨ pos = .minWidth ∨ pos = .precision)
    (hop : o.precision = none) (hor : o.repr = none) :
    loop s g1 f pos o (pText p ++ reprText r) = .ok { o with precision := p, repr := r } := by
  cases p with
  | none =>
    rw [show pText none ++ reprText r = reprText r from rfl,
      loop_repr s g1 r pos o f hf
        (by rcases hpos with h | h | h <;> simp [h]) hor]
    cases o; simp_all
  | some q =>
    have hlen : (pText (some q)).length = (digits q).length + 1 := rfl
    rw [List.length_append] at hf
    obtain ⟨f', rfl⟩ : ∃ f', f = f' + 1 := ⟨f - 1, by omega⟩
    have hs := step_prec s g1 q (reprText r) pos o (hp q rfl) hpos (fun c hc => (reprText_head r c hc).1)
    rw [show pText (some q) ++ reprText r = 46 :: (digits q ++ reprText r) from rfl,
      loop_step hs,
      loop_repr s g1 r .type { o with precision := some q } f' (by omega) (by simp) hor]

theorem loop_tail (s : List Nat) (g1 : Nat) (w p : Option Nat) (r : Option Repr') (pos : PPos)
    (o : Opts) (f : Nat)
    (hf : (wText w ++ pText p ++ reprText r).length ≤ f)
    (hw : ∀ n, w = some n → n ≤ u32Max) (hp : ∀ n, p = some n → n ≤ u32Max)
    (hpos : pos = .start ∨ pos = .minWidth)
    (hom : o.minWidth = none) (hop : o.precision = none) (hor : o.repr = none) :
    loop s g1 f pos o (wText w ++ pText p ++ reprText r)
      = .ok { o with minWidth := w, precision := p, repr := r } := by
  have hpr := prText_head p r
  rw [List.append_assoc] at hf ⊢
  cases w with
  | none =>
    rw [show wText none ++ (pText p ++ reprText r) = pText p ++ reprText r from rfl,
      loop_prec_repr s g1 p r pos o f hf hp
        (by rcases hpos with h | h <;> simp [h]) hop hor]
    cases o; simp_all
  | some n =>
    obtain ⟨d, tl, he, hs⟩ := step_num s g1 n (pText p ++ reprText r) pos o (hw n rfl) hpos
      (fun c hc => (hpr c hc).1) (fun c hc => (hpr c hc).2)
    rw [show wText (some n) = digits n from rfl, he, List.cons_append] at hf ⊢
    simp only [List.length_cons, List.length_append] at hf
    obtain ⟨f', rfl⟩ : ∃ f', f = f' + 1 := ⟨f - 1, by omega⟩
    rw [loop_step hs,
      loop_prec_repr s g1 p r .precision { o with minWidth := some n } f'
        (by rw [List.length_append]; omega) hp (by simp) hop hor]

/-! ## format options: `parse (render o) = o` -/

theorem alignStr_spec (a : Align) (h : a ≠ .default) :
    ∃ ac, alignStr a = [ac] ∧ isAlignCh ac = true ∧ alignOf ac = a := by
  cases a with
  | default => contradiction
  | left => exact ⟨60, rfl, by decide, by decide⟩
  | center => exact ⟨94, rfl, by decide, by decide⟩
  | right => exact ⟨62, rfl, by decide, by decide⟩

theorem preCheck_none (s : List Nat) (g1 g2 : Nat) (h : ∀ a, s[g1]? = some a → isAlignCh a = false) :
    preCheck s g1 g2 = none := by
  unfold preCheck
  split
  · cases hs : s[g1]? with
    | none => rfl
    | some a => simp [h a hs]
  · rfl

theorem preCheck_none_cons (c : Nat) (l : List Nat) (g1 g2 : Nat)
    (h : ∀ x ∈ l, isAlignCh x = false) : preCheck (c :: l) g1 g2 = none := by
  cases g1 with
  | zero => simp [preCheck]
  | succ k =>
    apply preCheck_none
    intro a ha
    simp only [List.getElem?_cons_succ] at ha
    exact h a (List.mem_of_getElem? ha)

/-- a single-character fill in front of an alignment: the check in front of the loop either takes
exactly that fill (first cluster = the character, second = the alignment character) or does not fire -/
theorem preCheck_fill1 (c ac : Nat) (T : List Nat) (g1 g2 : Nat) (hac : isAlignCh ac = true)
    (h : ∀ x ∈ T, isAlignCh x = false) :
    preCheck (c :: ac :: T) g1 g2 = some ({ fill := some [c], align := alignOf ac }, T)
      ∨ preCheck (c :: ac :: T) g1 g2 = none := by
  match g1 with
  | 0 => right; simp [preCheck]
  | 1 =>
    by_cases hg2 : g2 = 1
    · left; subst hg2; simp [preCheck, hac]
    · right
      have : (g2 == 1) = false := by simp [hg2]
      simp [preCheck, this]
  | k + 2 =>
    right
    apply preCheck_none
    intro a ha
    simp only [List.getElem?_cons_succ] at ha
    exact h a (List.mem_of_getElem? ha)

theorem preCheck_some (s : List Nat) (g1 g2 : Nat) (o : Opts) (rest : List Nat)
    (h : preCheck s g1 g2 = some (o, rest)) :
    1 ≤ g1 ∧ g2 = 1 ∧ ∃ a, s[g1]? = some a ∧ isAlignCh a = true ∧
      o = { fill := some (s.take g1), align := alignOf a } ∧ rest = s.drop (g1 + 1) := by
  unfold preCheck at h
  split at h
  · rename_i hg
    simp only [Bool.and_eq_true, decide_eq_true_eq, beq_iff_eq] at hg
    split at h
    · rename_i a hs
      split at h
      · rename_i ha
        simp only [Option.some.injEq, Prod.mk.injEq] at h
        exact ⟨hg.1, hg.2, a, hs, ha, h.1.symm, h.2.symm⟩
      · cases h
    · cases h
  · cases h

theorem render_eq (o : Opts) :
    render o = optStr o.fill ++ alignStr o.align ++ tailText o.minWidth o.precision o.repr := by
  simp [render, tailText, wText, pText]

theorem roundtrip (o : Opts) (g g2 : Nat) (hwf : WF o) (hg : GraphemeOk o g g2) :
    parse (render o) g g2 = .ok o := by
  obtain ⟨align, w, p, fill, r⟩ := o
  simp only [WF, wf, Bool.and_eq_true] at hwf
  obtain ⟨⟨hw, hp⟩, hfill⟩ := hwf
  have hwb : ∀ n, w = some n → n ≤ u32Max := by
    intro n hn; subst hn; simpa using hw
  have hpb : ∀ n, p = some n → n ≤ u32Max := by
    intro n hn; subst hn; simpa using hp
  have htl : ∀ (s : List Nat) (pos : PPos) (o : Opts) (f : Nat), (tailText w p r).length ≤ f →
      (pos = .start ∨ pos = .minWidth) → o.minWidth = none → o.precision = none → o.repr = none →
      loop s g f pos o (tailText w p r) = .ok { o with minWidth := w, precision := p, repr := r } :=
    fun s pos o f hf hpos h1 h2 h3 => loop_tail s g w p r pos o f hf hwb hpb hpos h1 h2 h3
  have hTall : ∀ x ∈ tailText w p r, isAlignCh x = false := tail_no_align w p r
  have hta : headIs isAlignCh (tailText w p r) = false :=
    headIs_false_of _ _ fun c hc => hTall c (List.mem_of_mem_head? (by simp [hc]))
  rw [render_eq]
  generalize hT : tailText w p r = T at *
  cases fill with
  | none =>
    by_cases ha : align = .default
    · subst ha
      simp only [optStr, alignStr, List.nil_append]
      have hpc : preCheck T g g2 = none :=
        preCheck_none T g g2 (fun a ha => hTall a (List.mem_of_getElem? ha))
      simp only [parse, hpc]
      rw [htl _ .start {} _ (Nat.le_refl _) (Or.inl rfl) rfl rfl rfl]
    · obtain ⟨ac, hs, hac, hao⟩ := alignStr_spec align ha
      simp only [optStr, hs, List.nil_append, List.cons_append]
      have hpc : preCheck (ac :: T) g g2 = none := preCheck_none_cons ac T g g2 hTall
      simp only [parse, hpc, List.length_cons]
      rw [loop_step (step_align _ g ac _ .start {} hac (Or.inr ⟨rfl, hta⟩))]
      rw [htl _ .minWidth _ _ (Nat.le_refl _) (Or.inr rfl) rfl rfl rfl, hao]
  | some fl =>
    match fl, hfill, hg with
    | [], hfill, _ => simp at hfill
    | [c], hfill, _ =>
      by_cases ha : align = .default
      · subst ha
        simp only [bne_self_eq_false, Bool.false_eq_true, if_false] at hfill
        by_cases hc : c = 48
        · subst hc
          simp only [beq_self_eq_true, if_true] at hfill
          obtain ⟨n, rfl⟩ : ∃ n, w = some n := Option.isSome_iff_exists.mp hfill
          obtain ⟨m, tl, he', hm, _⟩ := digits_eq n
          have hrd : headIs isDigit T = true := by
            rw [← hT]
            simp [tailText, wText, optStr, he', headIs, isDigit_add m hm]
          simp only [optStr, alignStr, List.append_nil, List.cons_append, List.nil_append]
          have hpc : preCheck (48 :: T) g g2 = none := preCheck_none_cons 48 T g g2 hTall
          simp only [parse, hpc, List.length_cons]
          rw [loop_step (step_zero _ g _ {} hta hrd)]
          rw [htl _ .minWidth _ _ (Nat.le_refl _) (Or.inr rfl) rfl rfl rfl]
        · have hc' : (c == 48) = false := by simp [hc]
          simp only [hc', Bool.false_eq_true, if_false, Bool.and_eq_true, Option.isNone_iff_eq_none] at hfill
          obtain ⟨⟨⟨hpl, hwn⟩, hpn⟩, hrn⟩ := hfill
          subst hwn; subst hpn; subst hrn
          have hT0 : T = [] := by rw [← hT]; rfl
          subst hT0
          simp only [optStr, alignStr, List.append_nil]
          have hpc : preCheck [c] g g2 = none := preCheck_none_cons c [] g g2 (by simp)
          simp only [parse, hpc, List.length_cons, List.length_nil]
          have hgen := step_cluster [c] g c [] {} hpl (by simp [headIs]) (by simp)
          rw [loop_step hgen]
          obtain ⟨k, hk⟩ : ∃ k, max g 1 = k + 1 := ⟨max g 1 - 1, by omega⟩
          simp [hk, loop_nil]
      · obtain ⟨ac, hs, hac, hao⟩ := alignStr_spec align ha
        simp only [optStr, hs, List.cons_append, List.nil_append]
        rcases preCheck_fill1 c ac T g g2 hac hTall with hpc | hpc
        · -- the check in front of the loop takes the fill
          simp only [parse, hpc, List.length_cons]
          rw [htl _ .minWidth _ _ (by omega) (Or.inr rfl) rfl rfl rfl, hao]
        · simp only [parse, hpc, List.length_cons]
          rw [loop_step (step_fill1 _ g c ac _ {} hac)]
          rw [htl _ .minWidth _ _ (by omega) (Or.inr rfl) rfl rfl rfl, hao]
    | c :: d :: t, hfill, hg =>
      have hg' : g = t.length + 2 ∧ (align = .default ∨ g2 = 1) := by
        simpa [GraphemeOk, graphemeOk] using hg
      obtain ⟨hg1, hg2⟩ := hg'
      by_cases ha : align = .default
      · -- a lone cluster: left to the loop, whose first-cluster arm takes it
        subst ha
        simp only [bne_self_eq_false, Bool.false_eq_true, if_false, Bool.and_eq_true,
          Bool.not_eq_true', bne_iff_ne, ne_eq, Option.isNone_iff_eq_none] at hfill
        obtain ⟨⟨⟨⟨⟨hpl, hc46⟩, hda⟩, hw0⟩, hp0⟩, hr0⟩ := hfill
        subst hw0; subst hp0; subst hr0
        have hT0 : T = [] := by rw [← hT]; rfl
        subst hT0
        simp only [optStr, alignStr, List.append_nil]
        have hpc : preCheck (c :: d :: t) g g2 = none := by
          apply preCheck_none
          intro a ha
          have : (c :: d :: t)[g]? = none := List.getElem?_eq_none (by simp [hg1])
          simp [this] at ha
        simp only [parse, hpc]
        have hmax : max g 1 = (c :: d :: t).length := by simp [hg1]
        have hdot : (c == 46 && !(d :: t).isEmpty) = false := by simp [hc46]
        have hgen := step_cluster (c :: d :: t) g c (d :: t) {} hpl (by simpa [headIs] using hda) hdot
        rw [hmax] at hgen
        simp only [List.take_length, List.drop_length] at hgen
        have hlen : (c :: d :: t).length = (t.length + 1) + 1 := by simp
        rw [hlen, loop_step hgen, loop_nil]
      · -- a cluster in front of an alignment: the check in front of the loop takes it
        have hg2' : g2 = 1 := by
          rcases hg2 with h | h
          · exact absurd h ha
          · exact h
        obtain ⟨ac, hs, hac, hao⟩ := alignStr_spec align ha
        simp only [optStr, hs]
        have hpc : preCheck ((c :: d :: t) ++ [ac] ++ T) g g2
            = some ({ fill := some (c :: d :: t), align := alignOf ac }, T) := by
          simp [preCheck, hg2', hac, hg1]
        simp only [parse, hpc]
        rw [htl _ .minWidth _ _ (by simp; omega) (Or.inr rfl) rfl rfl rfl, hao]

/-! ## format options: everything `parse` returns is well-formed -/

def bounds (o : Opts) : Bool :=
  (match o.minWidth with | some w => decide (w ≤ u32Max) | none => true)
  && (match o.precision with | some p => decide (p ≤ u32Max) | none => true)

def wfFill (o : Opts) : Bool :=
  match o.fill with
  | none => true
  | some [] => false
  | some [c] =>
    if o.align != .default then true
    else if c == 48 then o.minWidth.isSome
    else plainStart c && o.minWidth.isNone && o.precision.isNone && o.repr.isNone
  | some (c :: d :: _) =>
    if o.align != .default then true
    else plainStart c && c != 46 && !isAlignCh d
      && o.minWidth.isNone && o.precision.isNone && o.repr.isNone

theorem wf_eq (o : Opts) : wf o = (bounds o && wfFill o) := rfl

/-- Under the default alignment there is no fill or the zero fill: the shapes after which the width,
precision and representation arms can fire (a lone fill ends the string, any other fill is followed
by an alignment). -/
def simpleFill (o : Opts) : Prop := o.align = .default → o.fill = none ∨ o.fill = some [48]

def posFacts (s : List Nat) (pos : PPos) (o : Opts) (rest : List Nat) : Prop :=
  match pos with
  | .start => o = {} ∧ rest = s
  | .alignment => o.align = .default ∧ o.minWidth = none ∧ o.precision = none ∧ o.repr = none
  | .minWidth => o.minWidth = none ∧ o.precision = none ∧ o.repr = none ∧ simpleFill o
  | .precision => o.minWidth.isSome = true ∧ o.precision = none ∧ o.repr = none ∧ simpleFill o
  | .type => o.precision.isSome = true ∧ o.repr = none ∧ simpleFill o
  | .end => True

/-- The loop invariant of `parse`. The only state that is not yet well-formed is a zero fill that
still waits for its width (`0` seen, a digit follows). -/
def J (s : List Nat) (pos : PPos) (o : Opts) (rest : List Nat) : Prop :=
  bounds o = true ∧ posFacts s pos o rest ∧
    (wfFill o = true
      ∨ (pos = .minWidth ∧ o.fill = some [48] ∧ o.align = .default ∧ headIs isDigit rest = true))

theorem consumeDigits_bound (cs : List Nat) (n m : Nat) (r : List Nat)
    (h : consumeDigits n cs = some (m, r)) (hn : n ≤ u32Max) : m ≤ u32Max := by
  induction cs generalizing n with
  | nil => simp [consumeDigits] at h; omega
  | cons c cs ih =>
    simp only [consumeDigits] at h
    split at h
    · split at h
      · simp at h
      · rename_i hle
        exact ih _ h (by omega)
    · simp at h; omega

theorem alignOf_ne_default (c : Nat) : alignOf c ≠ .default := by
  simp only [alignOf]
  split
  · simp
  · split <;> simp

theorem isDigit_sub_le (c : Nat) (h : isDigit c = true) : c - 48 ≤ u32Max := by
  simp [isDigit] at h
  simp [u32Max]
  omega

theorem wfFill_fill_ne (o : Opts) (h : wfFill o = true) : o.fill ≠ some [] := by
  intro hf
  simp [wfFill, hf] at h

theorem wfFill_simple (o : Opts) (hs : simpleFill o) :
    wfFill o = true
      ↔ o.fill ≠ some [] ∧ (o.align = .default → o.fill = some [48] → o.minWidth.isSome = true) := by
  obtain ⟨al, w, p, f, r⟩ := o
  by_cases hal : al = .default
  · rcases hs hal with hf | hf <;> simp only at hf <;> subst hf <;> simp [wfFill, hal]
  · have hb : (al != Align.default) = true := by simp [hal]
    match f with
    | none => simp [wfFill]
    | some [] => simp [wfFill]
    | some [c] => simp [wfFill, hb, hal]
    | some (c :: d :: t) => simp [wfFill, hb, hal]

theorem simpleFill_of_aligned (o : Opts) (h : o.align ≠ .default) : simpleFill o :=
  fun hd => absurd hd h

theorem posIn_iff (pos : PPos) (l : List PPos) : posIn pos l = true ↔ pos ∈ l := by
  simp [posIn]

theorem facts_sm (s : List Nat) (pos : PPos) (o : Opts) (rest : List Nat)
    (hpos : pos = .start ∨ pos = .minWidth) (h : posFacts s pos o rest) :
    o.minWidth = none ∧ o.precision = none ∧ o.repr = none ∧ simpleFill o := by
  rcases hpos with rfl | rfl
  · obtain ⟨rfl, _⟩ := h
    exact ⟨rfl, rfl, rfl, fun _ => Or.inl rfl⟩
  · exact h

theorem facts_smp (s : List Nat) (pos : PPos) (o : Opts) (rest : List Nat)
    (hpos : pos = .start ∨ pos = .minWidth ∨ pos = .precision) (h : posFacts s pos o rest) :
    o.precision = none ∧ o.repr = none ∧ simpleFill o := by
  rcases hpos with hp | hp | rfl
  · exact (facts_sm s pos o rest (Or.inl hp) h).2
  · exact (facts_sm s pos o rest (Or.inr hp) h).2
  · exact h.2

theorem facts_smpt (s : List Nat) (pos : PPos) (o : Opts) (rest : List Nat)
    (hpos : pos = .start ∨ pos = .minWidth ∨ pos = .precision ∨ pos = .type) (h : posFacts s pos o rest) :
    o.repr = none ∧ simpleFill o := by
  rcases hpos with hp | hp | hp | rfl
  · exact (facts_smp s pos o rest (Or.inl hp) h).2
  · exact (facts_smp s pos o rest (Or.inr (Or.inl hp)) h).2
  · exact (facts_smp s pos o rest (Or.inr (Or.inr hp)) h).2
  · exact h.2

theorem step_J (s : List Nat) (g next : Nat) (rest : List Nat) (pos pos' : PPos) (o o' : Opts)
    (rest' : List Nat)
    (h : step s g next rest pos o = .ok (pos', o', rest'))
    (hJ : J s pos o (next :: rest)) : J s pos' o' rest' := by
  obtain ⟨hb, hpf, hfill⟩ := hJ
  have hne : o.fill ≠ some [] := by
    rcases hfill with h | h
    · exact wfFill_fill_ne o h
    · rw [h.2.1]; simp
  simp only [step] at h
  by_cases c1 : (pos == PPos.start && headIs isAlignCh rest) = true
  · -- single-character fill followed by an alignment
    rw [if_pos c1] at h
    simp only [Bool.and_eq_true, beq_iff_eq] at c1
    obtain ⟨rfl, _⟩ := c1
    obtain ⟨rfl, _⟩ := hpf
    cases rest with
    | nil => simp at h
    | cons p r =>
      simp only [Except.ok.injEq, Prod.mk.injEq] at h
      obtain ⟨rfl, rfl, rfl⟩ := h
      have ha := alignOf_ne_default p
      exact ⟨rfl, ⟨rfl, rfl, rfl, simpleFill_of_aligned _ ha⟩,
        Or.inl ((wfFill_simple _ (simpleFill_of_aligned _ ha)).2 ⟨by simp, fun h => absurd h ha⟩)⟩
  rw [if_neg c1] at h
  by_cases c2 : (isAlignCh next && posIn pos [PPos.start, PPos.alignment]) = true
  · -- alignment
    rw [if_pos c2] at h
    simp only [Bool.and_eq_true, posIn_iff, List.mem_cons, List.not_mem_nil, or_false] at c2
    simp only [Except.ok.injEq, Prod.mk.injEq] at h
    obtain ⟨rfl, rfl, rfl⟩ := h
    have ha := alignOf_ne_default next
    have hnone : o.minWidth = none ∧ o.precision = none ∧ o.repr = none := by
      rcases c2.2 with rfl | rfl
      · obtain ⟨rfl, _⟩ := hpf
        exact ⟨rfl, rfl, rfl⟩
      · exact hpf.2
    exact ⟨hb, ⟨hnone.1, hnone.2.1, hnone.2.2, simpleFill_of_aligned _ ha⟩,
      Or.inl ((wfFill_simple _ (simpleFill_of_aligned _ ha)).2 ⟨hne, fun h => absurd h ha⟩)⟩
  rw [if_neg c2] at h
  by_cases c3 : (next == 48 && headIs isDigit rest && posIn pos [PPos.start, PPos.minWidth]) = true
  · -- zero fill
    rw [if_pos c3] at h
    simp only [Bool.and_eq_true, posIn_iff, List.mem_cons, List.not_mem_nil, or_false] at c3
    obtain ⟨⟨_, hdig⟩, hpos⟩ := c3
    simp only [Except.ok.injEq, Prod.mk.injEq] at h
    obtain ⟨rfl, rfl, rfl⟩ := h
    obtain ⟨hw0, hp0, hr0, _⟩ := facts_sm s pos o _ hpos hpf
    have hs' : simpleFill { o with fill := some [48] } := fun _ => Or.inr rfl
    refine ⟨hb, ⟨hw0, hp0, hr0, hs'⟩, ?_⟩
    by_cases hal : o.align = .default
    · exact Or.inr ⟨rfl, rfl, hal, hdig⟩
    · exact Or.inl ((wfFill_simple _ hs').2 ⟨by simp, fun h => absurd h hal⟩)
  rw [if_neg c3] at h
  by_cases c4 : (isDigit next && posIn pos [PPos.start, PPos.minWidth]) = true
  · -- min width
    rw [if_pos c4] at h
    simp only [Bool.and_eq_true, posIn_iff, List.mem_cons, List.not_mem_nil, or_false] at c4
    obtain ⟨hdn, hpos⟩ := c4
    cases hcd : consumeDigits (next - 48) rest with
    | none => simp [hcd] at h
    | some res =>
      obtain ⟨n, r⟩ := res
      simp only [hcd, Except.ok.injEq, Prod.mk.injEq] at h
      obtain ⟨rfl, rfl, rfl⟩ := h
      have hn : n ≤ u32Max := consumeDigits_bound rest _ n r hcd (isDigit_sub_le next hdn)
      obtain ⟨_, hp0, hr0, hs⟩ := facts_sm s pos o _ hpos hpf
      have hb' : bounds { o with minWidth := some n } = true := by
        simp [bounds, hp0, hn]
      exact ⟨hb', ⟨rfl, hp0, hr0, hs⟩, Or.inl ((wfFill_simple { o with minWidth := some n } hs).2 ⟨hne, fun _ _ => rfl⟩)⟩
  rw [if_neg c4] at h
  by_cases c5 : (next == 46 && !rest.isEmpty && posIn pos [PPos.start, PPos.minWidth, PPos.precision]) = true
  · -- precision
    rw [if_pos c5] at h
    simp only [Bool.and_eq_true, posIn_iff, List.mem_cons, List.not_mem_nil, or_false, beq_iff_eq] at c5
    obtain ⟨⟨rfl, _⟩, hpos⟩ := c5
    cases rest with
    | nil => simp at h
    | cons d r0 =>
      simp only at h
      by_cases hd : isDigit d = true
      · rw [if_pos hd] at h
        cases hcd : consumeDigits (d - 48) r0 with
        | none => simp [hcd] at h
        | some res =>
          obtain ⟨n, r⟩ := res
          simp only [hcd, Except.ok.injEq, Prod.mk.injEq] at h
          obtain ⟨rfl, rfl, rfl⟩ := h
          have hn : n ≤ u32Max := consumeDigits_bound r0 _ n r hcd (isDigit_sub_le d hd)
          -- the zero-fill exception cannot be pending: the next character is `.`
          have hwf : wfFill o = true := by
            rcases hfill with h | h
            · exact h
            · have := h.2.2.2
              simp [headIs, isDigit] at this
          obtain ⟨_, hr0, hs⟩ := facts_smp s pos o _ hpos hpf
          have hb' : bounds { o with precision := some n } = true := by
            simp only [bounds, Bool.and_eq_true] at hb ⊢
            exact ⟨hb.1, by simp [hn]⟩
          exact ⟨hb', ⟨rfl, hr0, hs⟩,
            Or.inl ((wfFill_simple { o with precision := some n } hs).2 ((wfFill_simple o hs).1 hwf))⟩
      · rw [if_neg hd] at h
        simp at h
  rw [if_neg c5] at h
  by_cases c6 : ((reprOf next).isSome && posIn pos [PPos.start, PPos.minWidth, PPos.precision, PPos.type]) = true
  · -- representation
    rw [if_pos c6] at h
    simp only [Bool.and_eq_true, posIn_iff, List.mem_cons, List.not_mem_nil, or_false] at c6
    obtain ⟨_, hpos⟩ := c6
    simp only [Except.ok.injEq, Prod.mk.injEq] at h
    obtain ⟨rfl, rfl, rfl⟩ := h
    have hwf : wfFill o = true := by
      rcases hfill with h | h
      · exact h
      · -- pending zero fill: the next character would be a digit, but then the width arm fired
        obtain ⟨rfl, _, _, hdg⟩ := h
        have : isDigit next = true := by simpa [headIs] using hdg
        simp [this, posIn_iff] at c4
    obtain ⟨_, hs⟩ := facts_smpt s pos o _ hpos hpf
    exact ⟨hb, trivial,
      Or.inl ((wfFill_simple { o with repr := reprOf next } hs).2 ((wfFill_simple o hs).1 hwf))⟩
  rw [if_neg c6] at h
  by_cases c7 : (pos == PPos.start) = true
  · -- the first grapheme cluster is the fill
    rw [if_pos c7] at h
    simp only [beq_iff_eq] at c7
    subst c7
    obtain ⟨rfl, hs⟩ := hpf
    simp only [Except.ok.injEq, Prod.mk.injEq] at h
    obtain ⟨rfl, rfl, rfl⟩ := h
    refine ⟨rfl, ⟨rfl, rfl, rfl, rfl⟩, Or.inl ?_⟩
    -- facts from the arms that did not fire at `Start`
    have hp : ∀ l, posIn PPos.start (PPos.start :: l) = true := fun l => by simp [posIn]
    have hra : headIs isAlignCh rest = false := by simpa using c1
    have hna : isAlignCh next = false := by simpa [hp] using c2
    have hnd : isDigit next = false := by simpa [hp] using c4
    have hnr : (reprOf next).isSome = false := by simpa [hp] using c6
    have hdot : (next == 46 && !rest.isEmpty) = false := by simpa [hp] using c5
    have hplain : plainStart next = true := by
      simp only [plainStart, hna, hnd, Bool.not_false, Bool.true_and]
      cases hro : reprOf next with
      | none => rfl
      | some x => simp [hro] at hnr
    have h48 : (next == 48) = false := by
      simp [isDigit] at hnd
      simp
      omega
    obtain ⟨k, hk⟩ : ∃ k, max g 1 = k + 1 := ⟨max g 1 - 1, by omega⟩
    rw [← hs, hk]
    simp only [List.take_succ_cons]
    cases htk : rest.take k with
    | nil => simp [wfFill, h48, hplain]
    | cons d' t' =>
      cases rest with
      | nil => simp at htk
      | cons d r0 =>
        cases k with
        | zero => simp at htk
        | succ k' =>
          simp only [List.take_succ_cons, List.cons.injEq] at htk
          obtain ⟨rfl, _⟩ := htk
          have hda : isAlignCh d = false := by simpa [headIs] using hra
          have h46 : (next == 46) = false := by simpa using hdot
          have h46' : (next != 46) = true := by simp [bne, h46]
          simp [wfFill, hplain, h46', hda]
  · rw [if_neg c7] at h
    simp at h

theorem loop_J (s : List Nat) (g : Nat) : ∀ (fuel : Nat) (pos : PPos) (o : Opts) (rest : List Nat) (o' : Opts),
    J s pos o rest → loop s g fuel pos o rest = .ok o' → wf o' = true := by
  -- at the end of the text the zero-fill exception cannot be pending
  have hnil : ∀ (fuel : Nat) (pos : PPos) (o o' : Opts),
      J s pos o [] → loop s g fuel pos o [] = .ok o' → wf o' = true := by
    intro fuel pos o o' ⟨hb, _, hf⟩ h
    rw [loop_nil] at h
    cases h
    rcases hf with hf | hf
    · simp [wf_eq, hb, hf]
    · simp [headIs] at hf
  intro fuel
  induction fuel with
  | zero =>
    intro pos o rest o' hJ h
    cases rest with
    | nil => exact hnil 0 pos o o' hJ h
    | cons c cs => simp [loop] at h
  | succ fuel ih =>
    intro pos o rest o' hJ h
    cases rest with
    | nil => exact hnil (fuel + 1) pos o o' hJ h
    | cons c cs =>
      simp only [loop] at h
      cases hst : step s g c cs pos o with
      | error e => simp [hst] at h
      | ok res =>
        obtain ⟨pos', o1, r'⟩ := res
        simp only [hst] at h
        exact ih pos' o1 r' o' (step_J s g c cs pos pos' o o1 r' hst hJ) h

theorem parse_wf (s : List Nat) (g1 g2 : Nat) (o : Opts) (h : parse s g1 g2 = .ok o) : WF o := by
  unfold parse at h
  cases hpc : preCheck s g1 g2 with
  | none =>
    simp only [hpc] at h
    exact loop_J s g1 s.length .start {} s o ⟨by decide, ⟨rfl, rfl⟩, Or.inl (by decide)⟩ h
  | some res =>
    obtain ⟨o0, rest⟩ := res
    simp only [hpc] at h
    -- the pre-filled options: a non-empty fill and a non-default alignment
    obtain ⟨hg1, _, a, hs, _, rfl, _⟩ := preCheck_some s g1 g2 o0 rest hpc
    have ha := alignOf_ne_default a
    have hne : s.take g1 ≠ [] := by
      rw [Ne, List.take_eq_nil_iff]
      rintro (rfl | rfl)
      · cases hg1
      · cases hs
    exact loop_J s g1 s.length .minWidth _ _ o
      ⟨rfl, ⟨rfl, rfl, rfl, simpleFill_of_aligned _ ha⟩,
        Or.inl ((wfFill_simple _ (simpleFill_of_aligned _ ha)).2
          ⟨by simpa using hne, fun h => absurd h ha⟩)⟩ h

end KotoVerif.C11.Lemmas
