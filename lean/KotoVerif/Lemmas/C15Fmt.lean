/-
Helper lemmas for C15: fill counts of the alignments, the width of a padded field, the grid of option values
for the parse round trip, and that the formatted text is well-formed UTF-8. Core Lean only.
-/
import KotoVerif.Model.FmtSpec
import KotoVerif.Lemmas.C15Ops
import KotoVerif.Lemmas.C15Num

namespace KotoVerif.FmtSpec
open KotoVerif.Utf8

theorem f32Exp_small {n : Nat} (h : n < 16777216) : ∀ fuel, f32Exp fuel n = 0
  | 0 => rfl
  | _ + 1 => by simp [f32Exp, h]

/-- below 2^24 the conversion to `f32` is exact -/
theorem roundF32_small {n : Nat} (h : n < 16777216) : roundF32 n = n := by
  simp [roundF32, f32Exp_small h]

/-- centre alignment: ⌊n/2⌋ on the left, ⌈n/2⌉ on the right (while the count is below 2^24) -/
theorem center_floor_ceil {n : Nat} (b : Bool) (h : n < 16777216) :
    fillCounts .center b n = (n / 2, (n + 1) / 2) := by
  simp [fillCounts, roundF32_small h]

/-- the two fill counts add up to the number of missing clusters, except where the `f32` rounding of the
centre alignment bites (`exact`: requests/C15-fix-2.diff applied) -/
theorem fillCounts_sum (a : Align) (b : Bool) (n : Nat) (exact : Bool)
    (h : exact = true ∨ a ≠ .center ∨ n < 16777216) :
    (fillCounts a b n exact).1 + (fillCounts a b n exact).2 = n := by
  cases a with
  | default => cases b <;> simp [fillCounts]
  | left => simp [fillCounts]
  | right => simp [fillCounts]
  | center =>
    cases exact with
    | true => simp only [fillCounts, if_true]; omega
    | false =>
      have hn : n < 16777216 := by
        rcases h with h | h | h
        · cases h
        · exact absurd rfl h
        · exact h
      rw [center_floor_ceil b hn]
      simp only; omega

/-- number of grapheme clusters of a string, relative to the oracle -/
def cnt (g : Bytes → Nat) (s : Bytes) : Nat := (graphemes g s).length

/-- **a padded field is at least as wide as requested** — provided the cluster count is additive over
the pieces that are concatenated (no cluster spans a joint), the fill is at least one cluster, and the
number of missing clusters is below 2^24 when the field is centred. -/
theorem pad_width (g : Bytes → Nat) (isNum : Bool) (rendered : Bytes) (o : Opts) (w : Nat)
    (hw : o.minWidth = some w)
    (hc : o.align ≠ .center ∨ w - cnt g rendered < 16777216)
    (hfill : 1 ≤ cnt g (o.fill.getD [32]))
    (hadd : ∀ l r, cnt g (rep_ l (o.fill.getD [32]) ++ rendered ++ rep_ r (o.fill.getD [32]))
                    = l * cnt g (o.fill.getD [32]) + cnt g rendered + r * cnt g (o.fill.getD [32])) :
    w ≤ cnt g (pad g isNum rendered (some o)) := by
  simp only [pad, hw, Option.getD_some]
  have hlen : (graphemes g rendered).length = cnt g rendered := rfl
  rw [hlen]
  split
  · rename_i hlt
    have hs := fillCounts_sum o.align isNum (w - cnt g rendered) false (.inr hc)
    cases hfc : fillCounts o.align isNum (w - cnt g rendered) with
    | mk l r =>
      rw [hfc] at hs
      simp only at hs ⊢
      rw [hadd l r]
      have h1 : l ≤ l * cnt g (o.fill.getD [32]) := Nat.le_mul_of_pos_right _ hfill
      have h2 : r ≤ r * cnt g (o.fill.getD [32]) := Nat.le_mul_of_pos_right _ hfill
      omega
  · omega

theorem pad_shape (g : Bytes → Nat) (isNum : Bool) (rendered : Bytes) (o : Opts) (w : Nat)
    (hw : o.minWidth = some w) (hlt : cnt g rendered < w) :
    pad g isNum rendered (some o) =
      rep_ (fillCounts o.align isNum (w - cnt g rendered)).1 (o.fill.getD [32]) ++ rendered ++
      rep_ (fillCounts o.align isNum (w - cnt g rendered)).2 (o.fill.getD [32]) := by
  simp only [pad, hw, Option.getD_some]
  have hlen : (graphemes g rendered).length = cnt g rendered := rfl
  rw [hlen, if_pos hlt]

theorem pad_wide (g : Bytes → Nat) (isNum : Bool) (rendered : Bytes) (o : Opts)
    (h : o.minWidth.getD 0 ≤ cnt g rendered) : pad g isNum rendered (some o) = rendered := by
  simp only [pad]
  have hlen : (graphemes g rendered).length = cnt g rendered := rfl
  rw [hlen, if_neg (by omega)]

/-- a number padded by the `0` flag (zeroes directly in front of its digits) is the fill followed by the text -/
theorem pad_zero_form (g : Bytes → Nat) (r : Bytes) (mw : Option Nat) (c : Bool) :
    ∃ k, pad g true r (some { minWidth := mw, fill := some [48] }) c = List.replicate k 48 ++ r := by
  simp only [pad, Option.getD_some]
  split
  · refine ⟨mw.getD 0 - (graphemes g r).length, ?_⟩
    simp [fillCounts, rep_]
  · exact ⟨0, rfl⟩

/-! ### parse -/

def okOpts : Except PErr Opts → Option Opts
  | .ok o => some o
  | .error _ => none

def errOf : Except PErr Opts → Option PErr
  | .ok _ => none
  | .error e => some e

/-- a grid of option values whose text form is defined: an explicit fill needs an alignment (or is the
`0` flag in front of a width) -/
def gridOpts : List Opts :=
  ([none, some [42], some [48], some [0xC3, 0xA9]] : List (Option Bytes)).flatMap fun f =>
  ([.default, .left, .center, .right] : List Align).flatMap fun a =>
  ([none, some 0, some 5, some 12] : List (Option Nat)).flatMap fun w =>
  ([none, some 0, some 2] : List (Option Nat)).flatMap fun p =>
  ([none, some .debug, some .hexLower, some .expUpper] : List (Option Rep)).filterMap fun r =>
    if f.isSome ∧ a = .default ∧ ¬(f = some [48] ∧ w.isSome) then none
    else some { align := a, minWidth := w, precision := p, fill := f, rep := r }

/-! ### the formatted text is well-formed UTF-8 -/

theorem digitChar_ascii {d : Nat} (upper : Bool) (h : d < 36) : digitChar d upper < 0x80 := by
  simp only [digitChar]
  split
  · omega
  · split <;> omega

theorem natDigits_ascii {base : Nat} (upper : Bool) (hb : 2 ≤ base ∧ base ≤ 36) (fuel n : Nat) :
    ∀ b ∈ natDigits base upper fuel n, b < 0x80 :=
  natDigits_forall (by omega) upper (fun _ hd => digitChar_ascii upper (by omega)) fuel n

theorem showDec_ascii (n : Nat) : ∀ b ∈ showDec n, b < 0x80 := natDigits_ascii false (by omega) _ _

theorem showInt_ascii (n : Int) : ∀ b ∈ showInt n, b < 0x80 := by
  intro b hb
  simp only [showInt] at hb
  split at hb
  · rcases List.mem_cons.mp hb with rfl | hb
    · omega
    · exact showDec_ascii _ b hb
  · exact showDec_ascii _ b hb

theorem showRadix_ascii {base : Nat} (upper : Bool) (hb : 2 ≤ base ∧ base ≤ 36) (n : Int) :
    ∀ b ∈ showRadix base upper n, b < 0x80 := natDigits_ascii upper hb _ _

theorem showExp_ascii (upper : Bool) (n : Int) : ∀ b ∈ showExp upper n, b < 0x80 := by
  intro b hb
  simp only [showExp] at hb
  cases hsz : stripZeros 20 n.natAbs 0 with
  | mk m tz =>
    rw [hsz] at hb
    simp only [List.mem_append] at hb
    have hds := showDec_ascii m
    rcases hb with ((hb | hb) | hb) | hb
    · split at hb
      · simp only [List.mem_singleton] at hb; omega
      · cases hb
    · cases hd : showDec m with
      | nil => rw [hd] at hb; cases hb
      | cons d r =>
        rw [hd] at hb hds
        cases r with
        | nil =>
          simp only [List.mem_singleton] at hb; subst hb
          exact hds b (by simp)
        | cons d2 r2 =>
          simp only [List.mem_cons] at hb
          rcases hb with rfl | rfl | rfl | hb
          · exact hds _ (by simp)
          · omega
          · exact hds _ (by simp)
          · exact hds b (by simp [hb])
    · simp only [List.mem_singleton] at hb
      split at hb <;> omega
    · exact showDec_ascii _ b hb

theorem render_int_ascii (g : Bytes → Nat) (n : Int) (o : Option Opts) : ∀ b ∈ render g (.int n) o, b < 0x80 := by
  simp only [render]
  split
  · exact showInt_ascii _
  · exact showRadix_ascii _ (by omega) _
  · exact showRadix_ascii _ (by omega) _
  · exact showRadix_ascii _ (by omega) _
  · exact showRadix_ascii _ (by omega) _
  · exact showExp_ascii _ _
  · exact showExp_ascii _ _
  · split
    · split
      · -- the integer value of the float, then `.000…` for a precision
        intro b hb
        rcases List.mem_append.mp hb with hb | hb
        · exact showInt_ascii _ b hb
        · split at hb
          · cases hb
          · rcases List.mem_cons.mp hb with rfl | hb
            · decide
            · rw [(List.mem_replicate.mp hb).2]; decide
      · exact showInt_ascii _
    · exact showInt_ascii _

open KotoVerif.Str in
/-- the rendered value (precision and representation applied) is well-formed UTF-8 -/
theorem render_valid (g : Bytes → Nat) (hp : Progress g) (hb : CutsAtBoundaries g) (v : FVal) (o : Option Opts)
    (hv : ∀ s, v = .str s → validUtf8 s = true) : validUtf8 (render g v o) = true := by
  have trunc : ∀ (text : Bytes) (p : Nat), validUtf8 text = true →
      validUtf8 ((graphemes g text).take p).flatten = true := by
    intro text p ht
    apply valid_flatten
    intro x hx
    exact segs_valid hp hb text.length text (Nat.le_refl _) ht x (List.mem_of_mem_take hx)
  have fin : ∀ (text : Bytes), validUtf8 text = true →
      validUtf8 (match o.bind (·.precision) with
        | some p => ((graphemes g text).take p).flatten
        | none => text) = true := by
    intro text ht
    split
    · exact trunc text _ ht
    · exact ht
  cases v with
  | int n => exact ascii_all_valid (render_int_ascii g n o)
  | str s =>
    have hs := hv s rfl
    simp only [render]
    apply fin
    split
    · simp only [debug]
      exact valid_append (valid_append (by decide) hs) (by decide)
    · exact hs
  | bool b =>
    simp only [render]
    apply fin
    cases b <;> (split <;> decide)
  | null =>
    simp only [render]
    apply fin
    split <;> decide

theorem pad_valid (g : Bytes → Nat) (isNum : Bool) {rendered : Bytes} (o : Opts) (exact : Bool)
    (hr : validUtf8 rendered = true) (hf : validUtf8 (o.fill.getD [32]) = true) :
    validUtf8 (pad g isNum rendered (some o) exact) = true := by
  simp only [pad]
  split
  · exact valid_append (valid_append (valid_replicate _ hf) hr) (valid_replicate _ hf)
  · exact hr

open KotoVerif.Str in
/-- **what `run_string_push` appends for a value of `FVal` is well-formed UTF-8** -/
theorem applyFmt_valid (g : Bytes → Nat) (hp : Progress g) (hb : CutsAtBoundaries g) (v : FVal) (o : Opts)
    (exact : Bool) (hv : ∀ s, v = .str s → validUtf8 s = true) (hf : validUtf8 (o.fill.getD [32]) = true) :
    validUtf8 (applyFmt g v (some o) exact) = true :=
  pad_valid g (isNumber v) o exact (render_valid g hp hb v (some o) hv) hf

end KotoVerif.FmtSpec
