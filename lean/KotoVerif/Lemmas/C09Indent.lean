/-
C09 (indent): the indent reported with a token is the leading-whitespace count of the line on which
the token starts, as long as that line was begun by the start of input or by a `NewLine` token
(F-C09-2: the indent is only recomputed after a `NewLine` token).
-/
import KotoVerif.Lemmas.C09Run

namespace KotoVerif.Lexer
open KotoVerif.Gen

/-- number of leading whitespace characters (spaces / tabs — the lexer's `is_whitespace`) of the
line that starts at byte offset `ls` of `src` -/
def lineIndent (src : List Ch) (ls : Nat) : Nat :=
  match dropBytes ls src with
  | some line => countWhile isWhitespace line
  | none => 0

end KotoVerif.Lexer

namespace KotoVerif.C09
open KotoVerif.Lexer

/-- the line of the point after `pre` was begun by the start of input or by a `NewLine` token (and
not by a line break inside a multi-line string / comment / format-options token) -/
def LineBegunByNewLineToken (src pre : List Ch) : Prop :=
  lineStartByte pre = 0 ∨ ∃ l' ∈ lexAll src, l'.tok = .newLine ∧ l'.endByte = lineStartByte pre

end KotoVerif.C09

namespace KotoVerif.Lexer
open KotoVerif.Gen

/-- the indent is (or is about to be) that of the current line -/
def IndGood (src pre : List Ch) (s : St) : Prop :=
  (Fresh s ∧ lineStartByte pre = byteLen pre) ∨
  (s.prevTok ≠ none ∧ s.prevTok ≠ some .newLine ∧ s.indent = lineIndent src (lineStartByte pre))

theorem Step.newline_ends {src pre t post : List Ch} {s s' : St} {l : Lexed}
    (hst : Step src pre t post s l s') (hnl : l.tok = .newLine) :
    l.startByte < l.endByte ∧ lineStartByte (pre ++ t) = byteLen (pre ++ t) := by
  obtain ⟨_, ⟨a, e, rfl, he⟩, _⟩ := hst.newline hnl
  have := e.len_pos
  refine ⟨?_, by rw [← List.append_assoc]; exact lineStartByte_of_ends_nl _ e he⟩
  rw [hst.startByte, hst.endByte, byteLen_append, byteLen_cons]
  omega

theorem Step.indent_of_good {src pre t post : List Ch} {s s' : St} {l : Lexed}
    (hst : Step src pre t post s l s') :
    IndGood src pre s → l.indent = lineIndent src (lineStartByte pre) := by
  rw [hst.indent]
  rintro (⟨hf, hls⟩ | ⟨g1, g2, g3⟩)
  · rw [hst.indent_set hf, hls, lineIndent, hst.before.src_eq, dropBytes_append]
  · rw [hst.indent_keep g1 g2, g3]

theorem Step.indGood {src pre t post : List Ch} {s s' : St} {l : Lexed} (ht : TableOk src)
    (hst : Step src pre t post s l s') (hmem : l ∈ lexAll src)
    (h : C09.LineBegunByNewLineToken src pre → IndGood src pre s) :
    C09.LineBegunByNewLineToken src (pre ++ t) → IndGood src (pre ++ t) s' := by
  intro hb
  by_cases hnl : l.tok = .newLine
  · exact Or.inl ⟨(hst.newline hnl).2.2, (hst.newline_ends hnl).2⟩
  have hprev : s'.prevTok ≠ none ∧ s'.prevTok ≠ some .newLine := by
    rw [hst.prevTok]; exact ⟨by simp, by simpa using hnl⟩
  by_cases hn : nlCount t = 0
  · -- the token stays on the line
    have hls := lineStartByte_append_noNL pre t hn
    unfold C09.LineBegunByNewLineToken at hb
    rw [hls] at hb
    exact Or.inr ⟨hprev.1, hprev.2, by rw [hls, ← hst.indent]; exact hst.indent_of_good (h hb)⟩
  · -- a line break inside a token other than `NewLine`: the new line starts strictly inside this
    -- token, where no `NewLine` token can end
    exfalso
    have h1 := lineStartByte_append_nl pre t hn
    have h2 := lineStartByte_le (pre ++ t)
    have e1 := hst.startByte
    have e2 := hst.endByte
    rw [← byteLen_append] at e2
    rcases hb with hz | ⟨l', hl', hn', he'⟩
    · omega
    · have hl'e : l'.tok ≠ .error := by rw [hn']; simp
      rcases lexAll_apart ht hl' hmem hl'e hst.tok_ne with rfl | h3 | h3
      · exact hnl hn'
      · omega
      · have := lexAll_forall ht (Q := fun l => l.tok = .newLine → l.startByte < l.endByte)
          (fun _ _ _ _ _ _ hst' hnl' => (hst'.newline_ends hnl').1) l' hl' hl'e hn'
        omega

end KotoVerif.Lexer
