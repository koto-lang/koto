/-
C05 `compile_wf`: the flat instruction streams of the compiler core (`Flat`) and of the statement
layer (`LFlat`, with `JumpBack`) as bytecode: the instructions of the core are plain, and a byte offset
is the byte size of the instructions it skips: the successors of an encoded instruction are the pcs of
the instructions `LFlat.fwd` / `LFlat.bwd` places away (`encL_head`), so in a stream whose jumps are in
range every offset lands on the pc of its target (`tgt_rest`, `progInstrs_ok`).
-/
import KotoVerif.Lemmas.C05Program
import KotoVerif.Lemmas.C05CompileWF
import KotoVerif.Model.CompileLoop

namespace KotoVerif.Compile
open KotoVerif.Gen KotoVerif.Bytecode

theorem sizeOf_append (cidx : Int → Nat) (a b : List Flat) :
    sizeOf cidx (a ++ b) = sizeOf cidx a + sizeOf cidx b := by
  simp [sizeOf]

theorem unOpcode_regs (op : UnOp) :
    Plain (unOpcode op) ∧ layout (unOpcode op) = [.reg, .reg] := by
  cases op <;> decide

theorem binOpcode_regs (op : BinOp) :
    Plain (binOpcode op) ∧ layout (binOpcode op) = [.reg, .reg, .reg] := by
  cases op <;> decide

theorem compoundOpcode_regs (op : BinOp) :
    Plain (compoundOpcode op) ∧ layout (compoundOpcode op) = [.reg, .reg] := by
  cases op <;> decide

theorem setIntInstr_cases (cidx : Int → Nat) (r : Nat) (n : Int) :
    setIntInstr cidx r n = ⟨.Set0, [r]⟩ ∨ setIntInstr cidx r n = ⟨.Set1, [r]⟩
    ∨ (setIntInstr cidx r n = ⟨.SetNumberU8, [r, n.toNat]⟩ ∧ n.toNat < 256)
    ∨ (setIntInstr cidx r n = ⟨.SetNumberNegU8, [r, (-n).toNat]⟩ ∧ (-n).toNat < 256)
    ∨ setIntInstr cidx r n = ⟨.LoadInt, [r, cidx n]⟩ := by
  unfold setIntInstr
  split
  · exact .inl rfl
  · split
    · exact .inr (.inl rfl)
    · split
      · exact .inr (.inr (.inl ⟨rfl, by omega⟩))
      · split
        · exact .inr (.inr (.inr (.inl ⟨rfl, by omega⟩)))
        · exact .inr (.inr (.inr (.inr rfl)))

theorem encInstr_plain (cidx : Int → Nat) (x : Instr) : Plain (encInstr cidx x).op := by
  cases x with
  | setNull r => exact (by decide : Plain .SetNull)
  | setBool r b => cases b <;> first | exact (by decide : Plain .SetFalse) | exact (by decide : Plain .SetTrue)
  | setInt r n =>
    rcases setIntInstr_cases cidx r n with h | h | ⟨h, _⟩ | ⟨h, _⟩ | h <;> rw [encInstr, h]
    · exact (by decide : Plain .Set0)
    · exact (by decide : Plain .Set1)
    · exact (by decide : Plain .SetNumberU8)
    · exact (by decide : Plain .SetNumberNegU8)
    · exact (by decide : Plain .LoadInt)
  | copy d s => exact (by decide : Plain .Copy)
  | unop op d s => exact (unOpcode_regs op).1
  | binop op d a b => exact (binOpcode_regs op).1
  | compound op l r => exact (compoundOpcode_regs op).1

theorem encInstr_ok (cidx : Int → Nat) (consts : List CKind) (rc : Nat) (x : Instr)
    (hrc : rc ≤ 255) (hr : ∀ r ∈ instrRegs x, r < rc)
    (hc : ∀ n, cidx n < 4294967296 ∧ consts[cidx n]? = some .int) :
    InstrOk consts rc (encInstr cidx x) := by
  have hrc' : rc ≤ 256 := by omega
  cases x with
  | setNull r => exact instrOk_regs (op := .SetNull) (by decide) rfl hr hrc'
  | setBool r b =>
    cases b
    · exact instrOk_regs (op := .SetFalse) (by decide) rfl hr hrc'
    · exact instrOk_regs (op := .SetTrue) (by decide) rfl hr hrc'
  | setInt r n =>
    have hr' : r < rc := hr r (by simp [instrRegs])
    rw [encInstr]
    rcases setIntInstr_cases cidx r n with h | h | ⟨h, hn⟩ | ⟨h, hn⟩ | h <;> rw [h]
    · exact instrOk_regs (op := .Set0) (by decide) rfl hr hrc'
    · exact instrOk_regs (op := .Set1) (by decide) rfl hr hrc'
    · exact instrOk_of (op := .SetNumberU8) (fs := [.reg, .imm]) (by decide) rfl
        (by simp [fieldsOk, fieldOk, hn]; omega) (by simpa [regOperands] using hr') (by simp [constOperands])
    · exact instrOk_of (op := .SetNumberNegU8) (fs := [.reg, .imm]) (by decide) rfl
        (by simp [fieldsOk, fieldOk, hn]; omega) (by simpa [regOperands] using hr') (by simp [constOperands])
    · exact instrOk_of (op := .LoadInt) (fs := [.reg, .const .int]) (by decide) rfl
        (by simp [fieldsOk, fieldOk, (hc n).1]; omega) (by simpa [regOperands] using hr')
        (by simp [constOperands, (hc n).2])
  | copy d s => exact instrOk_regs (op := .Copy) (by decide) rfl hr hrc'
  | unop op d s => exact instrOk_regs (unOpcode_regs op).1.1 (unOpcode_regs op).2 hr hrc'
  | binop op d a b => exact instrOk_regs (binOpcode_regs op).1.1 (binOpcode_regs op).2 hr hrc'
  | compound op l r => exact instrOk_regs (compoundOpcode_regs op).1.1 (compoundOpcode_regs op).2 hr hrc'

theorem encInstr_facts (cidx : Int → Nat) (consts : List CKind) (rc : Nat) (x : Instr)
    (hrc : rc ≤ 255) (hr : ∀ r ∈ instrRegs x, r < rc)
    (hc : ∀ n, cidx n < 4294967296 ∧ consts[cidx n]? = some .int) :
    EncFacts consts rc (encInstr cidx x) :=
  (encInstr_ok cidx consts rc x hrc hr hc).encFacts (encInstr_plain cidx x)

/-! ### bytes of the statement layer's flat stream (`LFlat`: forward jumps and `JumpBack`) -/

def lflatSize (cidx : Int → Nat) : LFlat → Nat
  | .op i => esize (encInstr cidx i)
  | .jumpIfFalse _ _ => 4
  | .jumpIfTrue _ _ => 4
  | .jump _ => 3
  | .jumpBack _ => 3

def sizeOfL (cidx : Int → Nat) (fs : List LFlat) : Nat := (fs.map (lflatSize cidx)).sum

/-- `encL done rest`: the instructions of `rest`, where `done` are the instructions before it, most
recent first. A forward skip of `k` instructions becomes the byte size of the next `k` instructions;
`jumpBack k` (`pc := pc + 1 - k`, the offset is subtracted from the ip *after* the instruction)
becomes the byte size of the `k - 1` instructions before it plus its own 3 bytes
(`push_jump_back_op`: `bytes.len() + 3 - target_ip`). -/
def encL (cidx : Int → Nat) : List LFlat → List LFlat → List Bytecode.Instr
  | _, [] => []
  | done, .op i :: rest => encInstr cidx i :: encL cidx (.op i :: done) rest
  | done, .jumpIfFalse r k :: rest =>
    ⟨.JumpIfFalse, [r, sizeOfL cidx (rest.take k)]⟩ :: encL cidx (.jumpIfFalse r k :: done) rest
  | done, .jumpIfTrue r k :: rest =>
    ⟨.JumpIfTrue, [r, sizeOfL cidx (rest.take k)]⟩ :: encL cidx (.jumpIfTrue r k :: done) rest
  | done, .jump k :: rest => ⟨.Jump, [sizeOfL cidx (rest.take k)]⟩ :: encL cidx (.jump k :: done) rest
  | done, .jumpBack k :: rest =>
    ⟨.JumpBack, [sizeOfL cidx (done.take (k - 1)) + 3]⟩ :: encL cidx (.jumpBack k :: done) rest

/-- a main block: `NewFrame`, the statements and the final expression, `Return` -/
def encodeProg (cidx : Int → Nat) (registersUsed : Nat) (fs : List LFlat) (result : Reg) : List Nat :=
  (⟨.NewFrame, [registersUsed]⟩ :: (encL cidx [] fs ++ [⟨.Return, [result]⟩])).flatMap encode

def LFlat.skip : LFlat → Nat
  | .jumpIfFalse _ s => s
  | .jumpIfTrue _ s => s
  | .jump s => s
  | _ => 0

/-- `jumpBack k` with `pre` instructions before it: `1 ≤ k ≤ pre + 1` -/
def LFlat.backOk (pre : Nat) : LFlat → Prop
  | .jumpBack k => 1 ≤ k ∧ k ≤ pre + 1
  | _ => True

/-- every jump of the block lands in the block, in the `pre` instructions before it or in the `post`
instructions after it (the position after those included) -/
def Rng (post : Nat) : Nat → List LFlat → Prop
  | _, [] => True
  | pre, f :: rest => f.skip ≤ rest.length + post ∧ f.backOk pre ∧ Rng post (pre + 1) rest

def lflatRegs : LFlat → List Reg
  | .op i => instrRegs i
  | .jumpIfFalse r _ => [r]
  | .jumpIfTrue r _ => [r]
  | .jump _ => []
  | .jumpBack _ => []

/-! ### control flow of a flat stream, counted in instructions -/

/-- forward successors of an instruction, as numbers of instructions to skip (`0`: the next one) -/
def LFlat.fwd : LFlat → List Nat
  | .op _ => [0]
  | .jumpIfFalse _ k => [0, k]
  | .jumpIfTrue _ k => [0, k]
  | .jump k => [k]
  | .jumpBack _ => []

/-- backward successors, as numbers of instructions to go back from this one (`0`: itself) -/
def LFlat.bwd : LFlat → List Nat
  | .jumpBack k => [k - 1]
  | _ => []

/-- control does not fall through -/
def LFlat.term : LFlat → Bool
  | .jump _ => true
  | .jumpBack _ => true
  | _ => false

theorem LFlat.fwd_le {f : LFlat} {n : Nat} (h : f.skip ≤ n) : ∀ k ∈ f.fwd, k ≤ n := by
  intro k hk
  cases f <;> simp only [LFlat.fwd, LFlat.skip, List.mem_cons, List.not_mem_nil, or_false] at h hk <;> omega

theorem LFlat.bwd_le {f : LFlat} {pre : Nat} (hf : f.backOk pre) : ∀ m ∈ f.bwd, m ≤ pre := by
  cases f with
  | jumpBack k => exact fun m hm => by have := hf.2; rw [List.mem_singleton.1 hm]; omega
  | _ => exact nofun

theorem LFlat.backOk.mono {f : LFlat} {pre pre' : Nat} (h : pre ≤ pre') (hf : f.backOk pre) : f.backOk pre' := by
  cases f with
  | jumpBack k => exact ⟨hf.1, Nat.le_trans hf.2 (Nat.succ_le_succ h)⟩
  | _ => trivial

theorem Rng.mono {post post' : Nat} (hp : post ≤ post') {A : List LFlat} :
    ∀ {pre pre' : Nat}, pre ≤ pre' → Rng post pre A → Rng post' pre' A := by
  induction A with
  | nil => exact fun _ _ => trivial
  | cons f rest ih => exact fun h hA => ⟨by have := hA.1; omega, hA.2.1.mono h, ih (Nat.succ_le_succ h) hA.2.2⟩

/-- the lengths are arguments, so that a caller hands over what it knows about them -/
theorem Rng.cons {f : LFlat} {B : List LFlat} {post pre n : Nat} (hn : B.length = n) (hs : f.skip ≤ n + post)
    (hb : f.backOk pre) (hB : Rng post (pre + 1) B) : Rng post pre (f :: B) := by
  subst hn; exact ⟨hs, hb, hB⟩

theorem Rng.append {A B : List LFlat} {post pre m n : Nat} (hm : A.length = m) (hn : B.length = n)
    (hA : Rng (n + post) pre A) (hB : Rng post (pre + m) B) : Rng post pre (A ++ B) := by
  subst hm hn
  induction A generalizing pre with
  | nil => exact hB
  | cons f rest ih =>
    rw [List.length_cons, ← Nat.add_assoc, Nat.add_right_comm] at hB
    have h1 : f.skip ≤ (rest ++ B).length + post := by have := hA.1; rw [List.length_append]; omega
    exact ⟨h1, hA.2.1, ih hB hA.2.2⟩

theorem sizeOfL_append (cidx : Int → Nat) (a b : List LFlat) :
    sizeOfL cidx (a ++ b) = sizeOfL cidx a + sizeOfL cidx b := by simp [sizeOfL]

theorem sizeOfL_take_le (cidx : Int → Nat) (l : List LFlat) (k : Nat) : sizeOfL cidx (l.take k) ≤ sizeOfL cidx l := by
  have := sizeOfL_append cidx (l.take k) (l.drop k)
  rw [List.take_append_drop] at this
  omega

theorem sizeOfL_cons (cidx : Int → Nat) (f : LFlat) (l : List LFlat) :
    sizeOfL cidx (f :: l) = lflatSize cidx f + sizeOfL cidx l := by simp [sizeOfL]
theorem sizeOfL_nil (cidx : Int → Nat) : sizeOfL cidx [] = 0 := rfl

theorem lflatSize_pos (cidx : Int → Nat) (f : LFlat) : 0 < lflatSize cidx f := by
  cases f with
  | op x => exact esize_pos _
  | _ => exact Nat.succ_pos _

theorem sizeOfL_take_pos (cidx : Int → Nat) {l : List LFlat} {k : Nat} (hk : 0 < k) (hl : k ≤ l.length) :
    0 < sizeOfL cidx (l.take k) := by
  obtain ⟨k', rfl⟩ := Nat.exists_eq_succ_of_ne_zero (Nat.ne_of_gt hk)
  cases l with
  | nil => exact absurd hl (by simp)
  | cons g l' =>
    rw [List.take_succ_cons, sizeOfL_cons]
    exact Nat.add_pos_left (lflatSize_pos cidx g) _

theorem encL_append (cidx : Int → Nat) (A B : List LFlat) {p : Nat} (hA : Rng 0 p A) :
    ∀ done, encL cidx done (A ++ B) = encL cidx done A ++ encL cidx (A.reverse ++ done) B := by
  induction A generalizing p with
  | nil => intro done; simp [encL]
  | cons f rest ih =>
    intro done
    have ih' := ih hA.2.2
    have htake : ∀ k, k ≤ rest.length → (rest ++ B).take k = rest.take k :=
      fun k hk => List.take_append_of_le_length hk
    cases f with
    | op i => simp [encL, ih']
    | jumpIfFalse r k => simp [encL, ih', htake k (by simpa [LFlat.skip] using hA.1)]
    | jumpIfTrue r k => simp [encL, ih', htake k (by simpa [LFlat.skip] using hA.1)]
    | jump k => simp [encL, ih', htake k (by simpa [LFlat.skip] using hA.1)]
    | jumpBack k => simp [encL, ih']

theorem esizes_encL (cidx : Int → Nat) (fs : List LFlat) : ∀ done, esizes (encL cidx done fs) = sizeOfL cidx fs := by
  induction fs with
  | nil => intro; rfl
  | cons f rest ih =>
    intro done
    cases f <;>
      simp only [encL, esizes, sizeOfL, List.map_cons, List.sum_cons, lflatSize, esize_jif, esize_jit, esize_jump, esize_jb] at * <;>
      rw [ih]

/-! ### the core's streams inside the statement layer -/

theorem sizeOfL_ofFlat (cidx : Int → Nat) (fs : List Flat) :
    sizeOfL cidx (fs.map LFlat.ofFlat) = sizeOf cidx fs := by
  rw [sizeOfL, sizeOf, List.map_map]
  exact congrArg List.sum (List.map_congr_left fun g _ => by cases g <;> rfl)

theorem encL_ofFlat (cidx : Int → Nat) (fs : List Flat) :
    ∀ done, encL cidx done (fs.map LFlat.ofFlat) = encFlat cidx fs := by
  induction fs with
  | nil => intro; rfl
  | cons f rest ih =>
    intro done
    have hsz : ∀ k, sizeOfL cidx ((rest.map LFlat.ofFlat).take k) = sizeOf cidx (rest.take k) := fun k => by
      rw [← List.map_take]; exact sizeOfL_ofFlat cidx _
    cases f with
    | op i => simp [LFlat.ofFlat, encL, encFlat, ih]
    | _ => simp [LFlat.ofFlat, encL, encFlat, ih, hsz]

theorem Rng.ofFlat {fs : List Flat} (h : jumpsOk fs = true) (post : Nat) :
    ∀ pre, Rng post pre (fs.map LFlat.ofFlat) := by
  induction fs with
  | nil => exact fun _ => trivial
  | cons f rest ih =>
    intro pre
    simp only [jumpsOk, Bool.and_eq_true, decide_eq_true_eq] at h
    refine ⟨?_, ?_, ih h.2 _⟩
    · have := h.1
      cases f <;> simp only [LFlat.ofFlat, LFlat.skip, Flat.skip, List.length_map] at * <;> omega
    · cases f <;> trivial

theorem esizes_encFlat (cidx : Int → Nat) (fs : List Flat) : esizes (encFlat cidx fs) = sizeOf cidx fs := by
  rw [← encL_ofFlat cidx fs [], esizes_encL, sizeOfL_ofFlat]

theorem encFlat_append (cidx : Int → Nat) (a b : List Flat) (ha : jumpsOk a = true) :
    encFlat cidx (a ++ b) = encFlat cidx a ++ encFlat cidx b := by
  rw [← encL_ofFlat cidx (a ++ b) [], List.map_append, encL_append cidx _ _ (Rng.ofFlat ha 0 0), encL_ofFlat, encL_ofFlat]

theorem encL_ok (cidx : Int → Nat) (consts : List CKind) (rc : Nat) (hrc : rc ≤ 255)
    (hc : ∀ n, cidx n < 4294967296 ∧ consts[cidx n]? = some .int) (fs : List LFlat) :
    ∀ done, (∀ f ∈ fs, ∀ r ∈ lflatRegs f, r < rc) → sizeOfL cidx done + sizeOfL cidx fs ≤ 65535 →
      ∀ i ∈ encL cidx done fs, InstrOk consts rc i := by
  induction fs with
  | nil => intro done _ _ i hi; simp [encL] at hi
  | cons f rest ih =>
    intro done hr hsz i hi
    have hcons : sizeOfL cidx (f :: rest) = lflatSize cidx f + sizeOfL cidx rest := sizeOfL_cons cidx f rest
    have ih' := ih (f :: done) (fun g hg => hr g (by simp [hg])) (by rw [sizeOfL_cons]; omega)
    have hoff : ∀ k, sizeOfL cidx (rest.take k) < 65536 := by
      intro k; have := sizeOfL_take_le cidx rest k; omega
    cases f with
    | op x =>
      simp only [encL, List.mem_cons] at hi
      rcases hi with rfl | hi
      · exact encInstr_ok cidx consts rc x hrc (fun r hr' => hr (.op x) (by simp) r (by simpa [lflatRegs] using hr')) hc
      · exact ih' i hi
    | jumpIfFalse r k =>
      simp only [encL, List.mem_cons] at hi
      rcases hi with rfl | hi
      · exact instrOk_jif consts rc r _ hrc (hr (.jumpIfFalse r k) (by simp) r (by simp [lflatRegs])) (hoff k)
      · exact ih' i hi
    | jumpIfTrue r k =>
      simp only [encL, List.mem_cons] at hi
      rcases hi with rfl | hi
      · exact instrOk_jit consts rc r _ hrc (hr (.jumpIfTrue r k) (by simp) r (by simp [lflatRegs])) (hoff k)
      · exact ih' i hi
    | jump k =>
      simp only [encL, List.mem_cons] at hi
      rcases hi with rfl | hi
      · exact instrOk_jump consts rc _ (hoff k)
      · exact ih' i hi
    | jumpBack k =>
      simp only [encL, List.mem_cons] at hi
      rcases hi with rfl | hi
      · have := sizeOfL_take_le cidx done (k - 1)
        have h3 : lflatSize cidx (.jumpBack k) = 3 := rfl
        exact instrOk_jb consts rc _ (by omega)
      · exact ih' i hi

theorem ofFlat_regs (fs : List Flat) (n : Nat) (h : ∀ f ∈ fs, ∀ r ∈ flatRegs f, r < n) :
    ∀ f ∈ fs.map LFlat.ofFlat, ∀ r ∈ lflatRegs f, r < n := by
  intro f hf r hr
  obtain ⟨g, hg, rfl⟩ := List.mem_map.mp hf
  have : lflatRegs (LFlat.ofFlat g) = flatRegs g := by cases g <;> rfl
  rw [this] at hr
  exact h g hg r hr

theorem encL_cons (cidx : Int → Nat) (done : List LFlat) (f : LFlat) (rest : List LFlat) :
    ∃ i, encL cidx done (f :: rest) = i :: encL cidx (f :: done) rest ∧ esize i = lflatSize cidx f := by
  cases f with
  | op x => exact ⟨_, rfl, rfl⟩
  | jumpIfFalse r k => exact ⟨_, rfl, esize_jif _ _⟩
  | jumpIfTrue r k => exact ⟨_, rfl, esize_jit _ _⟩
  | jump k => exact ⟨_, rfl, esize_jump _⟩
  | jumpBack k => exact ⟨_, rfl, esize_jb _⟩

/-- **the one place where byte offsets are computed**: laid out at `pc`, the head of
`encL done (f :: rest)` has as successors the pcs of the instructions `f.fwd` places ahead and `f.bwd`
places back (`pc` is at least the byte size of `done`, so a backward offset does not leave the chunk). -/
theorem encL_head (cidx : Int → Nat) (done : List LFlat) (f : LFlat) (rest : List LFlat) (pc : Nat)
    (d : Option Depth) (hpc : sizeOfL cidx done ≤ pc) :
    ∃ i, encL cidx done (f :: rest) = i :: encL cidx (f :: done) rest ∧ esize i = lflatSize cidx f
      ∧ isTerminal i.op = f.term
      ∧ succPcs ⟨pc, esize i, i, d⟩
          = some (f.fwd.map (fun k => pc + esize i + sizeOfL cidx (rest.take k))
              ++ f.bwd.map (fun m => pc - sizeOfL cidx (done.take m))) := by
  cases f with
  | op x =>
    obtain ⟨hs, ht⟩ := succPcs_of_plain ⟨pc, esize (encInstr cidx x), encInstr cidx x, d⟩ (encInstr_plain cidx x)
    exact ⟨_, rfl, rfl, ht, hs⟩
  | jumpIfFalse r k => exact ⟨_, rfl, rfl, rfl, rfl⟩
  | jumpIfTrue r k => exact ⟨_, rfl, rfl, rfl, rfl⟩
  | jump k => exact ⟨_, rfl, rfl, rfl, rfl⟩
  | jumpBack k =>
    have := sizeOfL_take_le cidx done (k - 1)
    refine ⟨_, rfl, rfl, rfl, ?_⟩
    rw [esize_jb, succ_jumpBack pc 3 _ d (by omega)]
    simp only [LFlat.fwd, LFlat.bwd, List.map_nil, List.map_cons, List.nil_append]
    rw [Nat.add_sub_add_right]

/-- the instruction `k` places further on (or the `Return` that follows the stream) sits at the pc
given by the byte sizes of the `k` instructions in between -/
theorem pcAt (cidx : Int → Nat) (d : Option Depth) (ret : Bytecode.Instr) (X : List LFlat) :
    ∀ (done : List LFlat) (pc k : Nat), k ≤ X.length →
      ∃ b ∈ lay d pc (encL cidx done X ++ [ret]), b.pc = pc + sizeOfL cidx (X.take k) := by
  induction X with
  | nil =>
    intro done pc k hk
    have : k = 0 := by simpa using hk
    subst this
    exact ⟨⟨pc, esize ret, ret, d⟩, by simp [encL, lay], by simp [sizeOfL]⟩
  | cons f rest ih =>
    intro done pc k hk
    obtain ⟨i, hi, hsz⟩ := encL_cons cidx done f rest
    rw [hi]
    cases k with
    | zero => exact ⟨⟨pc, esize i, i, d⟩, by simp [lay], by simp [sizeOfL]⟩
    | succ k' =>
      obtain ⟨b, hb, hbp⟩ := ih (f :: done) (pc + esize i) k' (by simpa using hk)
      refine ⟨b, by simp [lay, hb], ?_⟩
      rw [hbp, List.take_succ_cons, sizeOfL_cons, hsz]
      omega

/-- the instructions already passed, seen from the current position: the `m`-th last one starts
`sizeOfL (done.take m)` bytes before `pc` -/
def Hseen (cidx : Int → Nat) (done : List LFlat) (seen : List Ann) (pc : Nat) : Prop :=
  ∀ m, 1 ≤ m → m ≤ done.length → ∃ b ∈ seen, b.pc + sizeOfL cidx (done.take m) = pc

/-- **targets from in-range jumps**: in a flat stream whose forward skips and backward distances stay
inside the stream, every successor of every encoded instruction is the pc of an instruction of the
listing (a later one, or one already passed for `JumpBack`) — whatever the structure of the stream. -/
theorem tgt_rest (cidx : Int → Nat) (r : Nat) : ∀ (rest done : List LFlat) (seen : List Ann) (pc : Nat),
    Rng 0 done.length rest → Hseen cidx done seen pc → sizeOfL cidx done ≤ pc →
    TgtOkS seen (lay (some Z) pc (encL cidx done rest ++ [⟨.Return, [r]⟩])) := by
  intro rest
  induction rest with
  | nil => exact fun _ _ _ _ _ _ => ⟨⟨[], rfl, nofun⟩, trivial⟩
  | cons f rest ih =>
    intro done seen pc hrng hseen hpc
    obtain ⟨hj, hbk, hrng'⟩ := hrng
    obtain ⟨i, hi, hsz, -, hs⟩ := encL_head cidx done f rest pc (some Z) hpc
    have hpos := esize_pos i
    have hseen' : Hseen cidx (f :: done) (⟨pc, esize i, i, some Z⟩ :: seen) (pc + esize i) := by
      intro m hm1 hm2
      rcases Nat.lt_or_ge 1 m with hm | hm
      · obtain ⟨b, hbm, hbp⟩ := hseen (m - 1) (by omega) (by simp at hm2; omega)
        refine ⟨b, List.mem_cons_of_mem _ hbm, ?_⟩
        rw [show m = (m - 1) + 1 by omega, List.take_succ_cons, sizeOfL_cons, hsz]
        omega
      · rw [show m = 1 by omega]
        exact ⟨_, List.mem_cons_self, by simp [sizeOfL_cons, sizeOfL_nil, hsz]⟩
    rw [hi]
    refine ⟨⟨_, hs, fun p hp => ?_⟩, ih (f :: done) _ _ hrng' hseen' (by rw [sizeOfL_cons, hsz]; omega)⟩
    rcases List.mem_append.1 hp with hp | hp
    · -- a forward successor: the instruction `k` places ahead
      obtain ⟨k, hk, rfl⟩ := List.mem_map.1 hp
      exact .inl ⟨Nat.lt_of_lt_of_le (Nat.lt_add_of_pos_right hpos) (Nat.le_add_right _ _),
        pcAt cidx (some Z) ⟨.Return, [r]⟩ rest (f :: done) (pc + esize i) k (LFlat.fwd_le hj k hk)⟩
    · -- a backward successor: the instruction itself (`m = 0`) or the `m`-th last one
      obtain ⟨m, hm, rfl⟩ := List.mem_map.1 hp
      refine .inr ⟨Nat.sub_le _ _, ?_⟩
      rcases Nat.eq_zero_or_pos m with rfl | hm0
      · exact ⟨_, List.mem_cons_self, rfl⟩
      · obtain ⟨b, hbm, hbp⟩ := hseen m hm0 (LFlat.bwd_le hbk m hm)
        exact ⟨b, List.mem_cons_of_mem _ hbm, by omega⟩

def progInstrs (cidx : Int → Nat) (ru : Nat) (flat : List LFlat) (r : Reg) : List Bytecode.Instr :=
  ⟨.NewFrame, [ru]⟩ :: (encL cidx [] flat ++ [⟨.Return, [r]⟩])

theorem encodeProg_eq (cidx : Int → Nat) (ru : Nat) (flat : List LFlat) (r : Reg) :
    encodeProg cidx ru flat r = (progInstrs cidx ru flat r).flatMap encode := rfl

/-- **the encoded main block, instruction by instruction**: what `cert_of_program` asks (`InstrOk`,
`TgtOkS`), for any stream with jumps in range, registers below `rc ≤ 255` and a byte size that fits the
u16 offsets — whatever the structure of the stream. -/
theorem progInstrs_ok (cidx : Int → Nat) (consts : List CKind) (rc r : Nat) (fs : List LFlat)
    (hrc : rc ≤ 255) (hr : r < rc) (hrng : Rng 0 0 fs)
    (hregs : ∀ f ∈ fs, ∀ q ∈ lflatRegs f, q < rc) (hsz : sizeOfL cidx fs ≤ 65535)
    (hc : ∀ n, cidx n < 4294967296 ∧ consts[cidx n]? = some .int) :
    (∀ i ∈ encL cidx [] fs ++ [⟨.Return, [r]⟩], InstrOk consts rc i)
    ∧ TgtOkS [] (lay (some Z) 0 (progInstrs cidx rc fs r)) := by
  refine ⟨fun i hi => ?_, ⟨_, succ_newFrame rc (some Z), fun p hp => ?_⟩, ?_⟩
  · rcases List.mem_append.1 hi with hi | hi
    · exact encL_ok cidx consts rc hrc hc fs [] hregs (by rw [sizeOfL_nil]; omega) i hi
    · rw [List.mem_singleton.1 hi]; exact instrOk_return consts rc r hrc hr
  · obtain ⟨b, hb, hbp⟩ := pcAt cidx (some Z) ⟨.Return, [r]⟩ fs [] 2 0 (Nat.zero_le _)
    rw [List.mem_singleton.1 hp]
    exact .inl ⟨Nat.zero_lt_two, b, hb, hbp⟩
  · exact tgt_rest cidx r fs [] _ 2 hrng (fun m hm1 hm2 => absurd hm2 (by simp; omega)) (Nat.zero_le _)

end KotoVerif.Compile
