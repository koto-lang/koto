/-
C13: composition. A whole pipeline refines its denotation (`den`), by structural induction over the
pipeline from the lemmas about sources and adaptors.
-/
import KotoVerif.Lemmas.C13Peek

namespace KotoVerif.Iter

/-- pipelines covered by the refinement theorem: no endless parts (`cycle`, `repeat` without count;
these have the separate statement `cycle_take`) -/
def Pipe.regular : Pipe → Bool
  | .src (.repInf _) => false
  | .src _ => true
  | .cycle _ => false
  | .each _ p | .keep _ p | .take _ p | .takeWhile _ p | .skip _ p | .step _ p | .enumerate p
  | .chunks _ p | .windows _ p | .flatten p | .intersperse _ p | .intersperseWith p | .reversed p
  | .peekable p | .pairFirst p | .pairSecond p => p.regular
  | .chain p q | .zip p q => p.regular && q.regular

/-- the loop bound of every `keep` / `flatten` exceeds the length of its input sequence -/
def Pipe.fits (fuel : Nat) : Pipe → Prop
  | .src _ => True
  | .keep _ p | .flatten p => p.fits fuel ∧ ((den p).getD []).length < fuel
  | .each _ p | .take _ p | .takeWhile _ p | .skip _ p | .step _ p | .enumerate p
  | .chunks _ p | .windows _ p | .intersperse _ p | .intersperseWith p | .reversed p
  | .peekable p | .pairFirst p | .pairSecond p | .cycle p => p.fits fuel
  | .chain p q | .zip p q => p.fits fuel ∧ q.fits fuel

theorem den_take (n : Nat) (p : Pipe) (h : p.regular = true) :
    den (.take n p) = (den p).map (List.take n) := by
  cases p with
  | src s =>
    cases s with
    | repInf v => exact Bool.noConfusion h
    | _ => rfl
  | cycle q => exact Bool.noConfusion h
  | _ => rfl

theorem build_bidir (fuel : Nat) (p : Pipe) : (build fuel p).c.bidir = p.bidir := by
  induction p with
  | src s => cases s <;> rfl
  | each f p ih => exact ih
  | skip n p ih => exact ih
  | peekable p ih => exact ih
  | _ => rfl

theorem orElse_eq_none {a b : Option Err} (h : (a <|> b) = none) : a = none ∧ b = none := by
  cases a with
  | some e => exact nomatch h
  | none => exact ⟨rfl, h⟩

theorem pos_of_guard {n : Nat} {e : Err} (h : (if n = 0 then some e else none) = none) : n ≥ 1 := by
  cases n with
  | zero => exact nomatch h
  | succ n => exact Nat.succ_le_succ (Nat.zero_le n)

theorem src_den (s : Src) {xs : List Val} (hreg : (Pipe.src s).regular = true) (hden : s.elems = some xs) :
    Den (Pipe.src s).bidir s.it.c s.it.s xs := by
  cases s with
  | repInf v => exact Bool.noConfusion hreg
  | seq ys => cases hden; exact (seq_deq _).toDen
  | str cl => cases hden; exact (str_deq _).toDen
  | objb k ys => cases hden; exact (metab_deq k _).toDen
  | hostBytes ys => cases hden; exact (hostBytes_deq _).toDen
  | fwd ys => cases hden; exact (fwdCo_fwd _ 0).toDen
  | gen k ys => cases hden; exact (gen_fwd k _ 0 false).toDen
  | obj k ys => cases hden; exact (meta_fwd k _ 0).toDen
  | rep v n => cases hden; exact (rep_fwd v n).toDen
  | range a b incl =>
    cases hden
    exact (upto_eq_map a _ ▸ range_deq ⟨a, b, incl⟩ :).toDen

theorem build_den (fuel : Nat) (p : Pipe) (xs : List Val) (hreg : p.regular = true) (herr : p.err = none)
    (hden : den p = some xs) (hfit : p.fits fuel) : Den p.bidir (build fuel p).c (build fuel p).s xs := by
  induction p generalizing xs with
  | src s => exact src_den s hreg hden
  | cycle p _ => exact Bool.noConfusion hreg
  | each f p ih =>
    obtain ⟨ys, hd, rfl⟩ := Option.map_eq_some_iff.mp hden
    exact each_den f (ih ys hreg herr hd hfit)
  | skip n p ih =>
    obtain ⟨ys, hd, rfl⟩ := Option.map_eq_some_iff.mp hden
    exact skip_den n (ih ys hreg herr hd hfit)
  | peekable p ih =>
    exact peekDen_fresh _ xs ▸ peekable_den (build_bidir fuel p) (ih xs hreg herr hden hfit)
  | reversed p ih =>
    obtain ⟨ys, hd, rfl⟩ := Option.map_eq_some_iff.mp hden
    have ⟨herr', hb⟩ := orElse_eq_none herr
    cases hbi : p.bidir with
    | false => rw [hbi] at hb; exact nomatch hb
    | true => exact (reversed_deq (hbi ▸ ih ys hreg herr' hd hfit :).deq).toDen
  | keep q p ih =>
    obtain ⟨ys, hd, rfl⟩ := Option.map_eq_some_iff.mp hden
    exact (keep_fwd fuel q (ih ys hreg herr hd hfit.1).fwd (hd ▸ hfit.2 :)).toDen
  | flatten p ih =>
    obtain ⟨ys, hd, rfl⟩ := Option.map_eq_some_iff.mp hden
    exact (flatten_fwd fuel (ih ys hreg herr hd hfit.1).fwd (hd ▸ hfit.2 :)).toDen
  | take n p ih =>
    obtain ⟨ys, hd, rfl⟩ := Option.map_eq_some_iff.mp ((den_take n p hreg).symm.trans hden)
    exact (take_fwd n (ih ys hreg herr hd hfit).fwd).toDen
  | takeWhile q p ih =>
    obtain ⟨ys, hd, rfl⟩ := Option.map_eq_some_iff.mp hden
    exact (takeWhile_fwd q (ih ys hreg herr hd hfit).fwd).toDen
  | step n p ih =>
    obtain ⟨ys, hd, rfl⟩ := Option.map_eq_some_iff.mp hden
    exact (step_fwd n (ih ys hreg (orElse_eq_none herr).1 hd hfit).fwd).toDen
  | enumerate p ih =>
    obtain ⟨ys, hd, rfl⟩ := Option.map_eq_some_iff.mp hden
    exact (enumerate_fwd 0 (ih ys hreg herr hd hfit).fwd).toDen
  | chunks n p ih =>
    obtain ⟨ys, hd, rfl⟩ := Option.map_eq_some_iff.mp hden
    have ⟨herr', hn⟩ := orElse_eq_none herr
    exact (chunks_fwd n (pos_of_guard hn) (ih ys hreg herr' hd hfit).fwd).toDen
  | windows n p ih =>
    obtain ⟨ys, hd, rfl⟩ := Option.map_eq_some_iff.mp hden
    have ⟨herr', hn⟩ := orElse_eq_none herr
    exact (windows_fwd n (pos_of_guard hn) (ih ys hreg herr' hd hfit).fwd).toDen
  | intersperse v p ih =>
    obtain ⟨ys, hd, rfl⟩ := Option.map_eq_some_iff.mp hden
    exact (intersperse_fwd v false (ih ys hreg herr hd hfit).fwd).toDen
  | intersperseWith p ih =>
    obtain ⟨ys, hd, rfl⟩ := Option.map_eq_some_iff.mp hden
    exact (intersperse_fwd sepVal true (ih ys hreg herr hd hfit).fwd).toDen
  | pairFirst p ih =>
    obtain ⟨ys, hd, rfl⟩ := Option.map_eq_some_iff.mp hden
    exact (pair_fwd true (ih ys hreg herr hd hfit).fwd).toDen
  | pairSecond p ih =>
    obtain ⟨ys, hd, rfl⟩ := Option.map_eq_some_iff.mp hden
    exact (pair_fwd false (ih ys hreg herr hd hfit).fwd).toDen
  | chain p q ihp ihq =>
    obtain ⟨as, hdp, h2⟩ := Option.bind_eq_some_iff.mp hden
    obtain ⟨bs, hdq, h3⟩ := Option.bind_eq_some_iff.mp h2
    cases h3
    have hreg' := Bool.and_eq_true_iff.mp hreg
    have herr' := orElse_eq_none herr
    exact (chain_fwd (ihp as hreg'.1 herr'.1 hdp hfit.1).fwd (ihq bs hreg'.2 herr'.2 hdq hfit.2).fwd).toDen
  | zip p q ihp ihq =>
    obtain ⟨as, hdp, h2⟩ := Option.bind_eq_some_iff.mp hden
    obtain ⟨bs, hdq, h3⟩ := Option.bind_eq_some_iff.mp h2
    cases h3
    have hreg' := Bool.and_eq_true_iff.mp hreg
    have herr' := orElse_eq_none herr
    exact (zip_fwd (ihp as hreg'.1 herr'.1 hdp hfit.1).fwd (ihq bs hreg'.2 herr'.2 hdq hfit.2).fwd).toDen

/-! ### the hypotheses of the refinement theorems, and pipelines built from pipelines that meet them -/

/-- `p` is a well-formed pipeline without endless parts that denotes `xs`, and the loop bound `fuel`
covers its `keep`s and `flatten`s -/
structure Denotes (fuel : Nat) (p : Pipe) (xs : List Val) : Prop where
  regular : p.regular = true
  err : p.err = none
  den : den p = some xs
  fits : p.fits fuel

namespace Denotes
variable {fuel : Nat} {p q : Pipe} {xs ys : List Val}

theorem build_den (h : Denotes fuel p xs) : Den p.bidir (build fuel p).c (build fuel p).s xs :=
  Iter.build_den fuel p xs h.regular h.err h.den h.fits

theorem outs_eq (hp : Denotes fuel p xs) (hq : Denotes fuel q xs) (n : Nat) :
    outs (build fuel p).c n (build fuel p).s = outs (build fuel q).c n (build fuel q).s :=
  (hp.build_den.fwd n).trans (hq.build_den.fwd n).symm

theorem outsD_eq (hp : Denotes fuel p xs) (hq : Denotes fuel q xs) (bp : p.bidir = true)
    (bq : q.bidir = true) (ds : List Bool) :
    outsD (build fuel p).c ds (build fuel p).s = outsD (build fuel q).c ds (build fuel q).s :=
  ((bp ▸ hp.build_den :).deq ds).trans ((bq ▸ hq.build_den :).deq ds).symm

theorem each (f : Fn) (h : Denotes fuel p xs) : Denotes fuel (.each f p) (xs.map f.app) :=
  ⟨h.regular, h.err, congrArg (Option.map _) h.den, h.fits⟩

theorem skip (n : Nat) (h : Denotes fuel p xs) : Denotes fuel (.skip n p) (xs.drop n) :=
  ⟨h.regular, h.err, congrArg (Option.map _) h.den, h.fits⟩

theorem take (n : Nat) (h : Denotes fuel p xs) : Denotes fuel (.take n p) (xs.take n) :=
  ⟨h.regular, h.err, (den_take n p h.regular).trans (congrArg (Option.map _) h.den), h.fits⟩

theorem keep (r : Pred) (h : Denotes fuel p xs) (hl : xs.length < fuel) :
    Denotes fuel (.keep r p) (xs.filter r.app) :=
  ⟨h.regular, h.err, congrArg (Option.map _) h.den, h.fits, by rw [h.den]; exact hl⟩

theorem reversed (h : Denotes fuel p xs) (hb : p.bidir = true) : Denotes fuel (.reversed p) xs.reverse :=
  ⟨h.regular, by rw [Pipe.err, h.err, hb]; rfl, congrArg (Option.map _) h.den, h.fits⟩

theorem chain (hp : Denotes fuel p xs) (hq : Denotes fuel q ys) : Denotes fuel (.chain p q) (xs ++ ys) :=
  ⟨Bool.and_eq_true_iff.mpr ⟨hp.regular, hq.regular⟩, by rw [Pipe.err, hp.err, hq.err]; rfl,
    by rw [Iter.den, hp.den, hq.den]; rfl, hp.fits, hq.fits⟩

end Denotes

end KotoVerif.Iter
