/-
Helper lemmas for C15: the code-level (`KStr`, offsets + `with_bounds(..).unwrap()`) operations compute
the byte-level definitions on well-formed strings, in every storage form. Core Lean only.
-/
import KotoVerif.Lemmas.C15Closed

namespace KotoVerif.Str
open KotoVerif.Utf8

/-! ### re-slicing at the joints of a decomposition of the bytes -/

/-- the bytes are `x`, `y`, `z`: re-slicing at the two joints returns `y`. With `x` the text an iterator has
already read, `x.length` is its position and `y` the piece it yields next. -/
theorem KStr.withBounds_append {s : KStr} (hw : s.WF) {x y z : Bytes} (h : s.bytes = x ++ (y ++ z))
    (hx : validUtf8 x = true) (hy : validUtf8 y = true) :
    (s.withBounds x.length (x.length + y.length)).map KStr.bytes = some y := by
  have hv := hw.bytes_valid
  rw [h] at hv
  have hbx : isBoundary s.bytes x.length = true := by
    rw [h]; exact boundary_after_valid_prefix hv hx
  have hby : isBoundary s.bytes (x.length + y.length) = true := by
    rw [h, ← List.append_assoc, ← List.length_append]
    exact boundary_after_valid_prefix (by rw [List.append_assoc]; exact hv) (valid_append hx hy)
  rw [KStr.withBounds_ok hw (Nat.le_add_right _ _) hbx hby, h, List.drop_left, Nat.add_sub_cancel_left, List.take_left]

theorem KStr.withBounds_prefix {s : KStr} (hw : s.WF) {y z : Bytes} (h : s.bytes = y ++ z)
    (hy : validUtf8 y = true) : (s.withBounds 0 y.length).map KStr.bytes = some y := by
  have := KStr.withBounds_append (x := []) hw h valid_nil hy
  rwa [List.length_nil, Nat.zero_add] at this

theorem KStr.withBounds_suffix {s : KStr} (hw : s.WF) {x y : Bytes} (h : s.bytes = x ++ y)
    (hx : validUtf8 x = true) : (s.withBounds (s.len - y.length) s.len).map KStr.bytes = some y := by
  have hl := KStr.bytes_length hw
  rw [h, List.length_append] at hl
  have hy : validUtf8 y = true := valid_of_append_left (h ▸ hw.bytes_valid) hx
  have := KStr.withBounds_append (z := []) hw (by rw [List.append_nil]; exact h) hx hy
  rwa [← hl, Nat.add_sub_cancel]

/-- an iterator's position is the length `pre.length` of the well-formed text it has read -/
theorem KStr.WF.cursor {s : KStr} (hw : s.WF) {pre rest : Bytes} (hs : s.bytes = pre ++ rest)
    (hpre : validUtf8 pre = true) :
    s.len = pre.length + rest.length ∧ s.bytes.drop pre.length = rest ∧ validUtf8 rest = true :=
  ⟨by rw [← KStr.bytes_length hw, hs, List.length_append], by rw [hs, List.drop_left],
    valid_of_append_left (hs ▸ hw.bytes_valid) hpre⟩

theorem KStr.withBounds_rest {s : KStr} (hw : s.WF) {pre rest : Bytes} (hs : s.bytes = pre ++ rest)
    (hpre : validUtf8 pre = true) : (s.withBounds pre.length s.len).map KStr.bytes = some rest := by
  obtain ⟨hlen, _, hrv⟩ := hw.cursor hs hpre
  rw [hlen]
  exact KStr.withBounds_append hw (z := []) (by rw [List.append_nil]; exact hs) hpre hrv

/-- one turn of an iterator: the piece re-sliced (`with_bounds(..).unwrap()`), then the pieces of the rest -/
theorem emit_cons {o : Option KStr} {y : Bytes} {k : Option (List KStr)} {ys : List Bytes}
    (h1 : o.map KStr.bytes = some y) (h2 : k.map (List.map KStr.bytes) = some ys) :
    (match o with
      | none => none
      | some t => k.map (t :: ·)).map (List.map KStr.bytes) = some (y :: ys) := by
  obtain ⟨t, rfl, rfl⟩ := Option.map_eq_some_iff.mp h1
  obtain ⟨ts, rfl, rfl⟩ := Option.map_eq_some_iff.mp h2
  rfl

/-! ### trim / strip -/

theorem trimStartOp_refines (U : UFacts) {s : KStr} (hw : s.WF) :
    trimStartOp U s none = .str (trimStartB U s.bytes) := by
  obtain ⟨ws, _, hs, _, _⟩ := trimStartB_spec U s.bytes
  have hv := trimStartB_valid U hw.bytes_valid
  exact Res.unwrap_of_map (KStr.withBounds_suffix hw hs (valid_of_append_right (hs ▸ hw.bytes_valid) hv))

theorem trimEndOp_refines (U : UFacts) {s : KStr} (hw : s.WF) :
    trimEndOp U s none = .str (trimEndB U s.bytes) := by
  obtain ⟨ws, _, hs, _⟩ := trimEndB_spec U s.bytes
  exact Res.unwrap_of_map (KStr.withBounds_prefix hw hs (trimEndB_valid U hw.bytes_valid))

theorem trimOp_refines (U : UFacts) {s : KStr} (hw : s.WF) :
    trimOp U s none = .str (trimB U s.bytes) := by
  obtain ⟨ws, _, hs, _, _⟩ := trimStartB_spec U s.bytes
  obtain ⟨ws2, _, hs2, _⟩ := trimEndB_spec U (trimStartB U s.bytes)
  have hv := trimStartB_valid U hw.bytes_valid
  have hx := valid_of_append_right (hs ▸ hw.bytes_valid) hv
  have hl := KStr.bytes_length hw
  rw [hs, List.length_append] at hl
  have h3 : s.bytes = flat ws ++ (trimB U s.bytes ++ flat ws2) := hs.trans (congrArg _ hs2)
  have := KStr.withBounds_append hw h3 hx (trimEndB_valid U hv)
  rw [← Nat.add_sub_cancel (n := (flat ws).length) (m := (trimStartB U s.bytes).length), hl] at this
  exact Res.unwrap_of_map this

theorem stripPrefixOp_refines {s : KStr} (hw : s.WF) {pat : Bytes} (hp : validUtf8 pat = true) :
    stripPrefixOp s pat =
      if pat.isPrefixOf s.bytes then .str (s.bytes.drop pat.length) else .null := by
  simp only [stripPrefixOp]
  split
  · rename_i hpre
    have := KStr.withBounds_suffix hw (prefix_split hpre) hp
    rw [List.length_drop, KStr.bytes_length hw] at this
    exact Res.unwrap_of_map this
  · rfl

/-! ### lines -/

theorem linesLoop_done (s : KStr) (fuel start : Nat) (h : s.len ≤ start) : linesLoop s fuel start = some [] := by
  cases fuel with
  | zero => rfl
  | succ f => simp only [linesLoop]; rw [if_neg (by omega)]

/-- `lines` at the code level, from any position: the iterator stands behind a well-formed `pre` and yields
the lines of the bytes `rest` behind it -/
theorem linesLoop_at {s : KStr} (hw : s.WF) : ∀ (fuel : Nat) (pre rest : Bytes), s.bytes = pre ++ rest →
    validUtf8 pre = true → rest.length < fuel →
    (linesLoop s fuel pre.length).map (List.map KStr.bytes) = some (linesB rest [])
  | 0, _, _, _, _, h => by omega
  | fuel + 1, pre, rest, hs, hpre, hfuel => by
    obtain ⟨hlen, hdrop, hrv⟩ := hw.cursor hs hpre
    simp only [linesLoop, hdrop]
    by_cases hr0 : rest = []
    · subst hr0; rw [if_neg (by simp at hlen; omega)]; rfl
    have hpos : 0 < rest.length := List.length_pos_iff.mpr hr0
    rw [if_pos (by omega)]
    rcases split_first_lf rest with hno | ⟨line, post, rfl, hline⟩
    · -- no line feed: the rest is the last line
      simp only [findByte_eq_none hno, linesB_no_lf rest hno, List.isEmpty_eq_false_iff.mpr hr0, Bool.false_eq_true,
        if_false]
      exact emit_cons (KStr.withBounds_rest hw hs hpre) (by rw [linesLoop_done s fuel _ (Nat.le_add_right _ _)]; rfl)
    · -- a line (with its carriage return `cr`, if any), the line feed, and the text behind it
      obtain ⟨hlv, hpv⟩ := valid_append_noncont hrv (by decide : isCont 10 = false)
      obtain ⟨cr, hcr⟩ := stripCR_append line
      simp only [findByte_append post hline, linesB_unfold line post hline, lines_cut]
      refine emit_cons (KStr.withBounds_append hw (z := cr ++ 10 :: post) ?_ hpre (stripCR_valid hlv)) ?_
      · rw [hs, ← List.append_assoc (stripCR line), ← hcr]
      · have hle : (stripCR line).length ≤ line.length := List.IsPrefix.length_le ⟨cr, hcr.symm⟩
        have := linesLoop_at hw fuel (pre ++ line ++ [10]) post (by rw [hs]; simp)
          (valid_append (valid_append hpre hlv) (by decide)) (by simp at hfuel; omega)
        rw [List.length_append, List.length_append, List.length_singleton] at this
        rw [← this]; congr 2; omega

theorem linesLoop_refines {s : KStr} (hw : s.WF) :
    (linesLoop s (s.len + 1) 0).map (List.map KStr.bytes) = some (linesB s.bytes []) :=
  linesLoop_at hw (s.len + 1) [] s.bytes rfl valid_nil (by rw [KStr.bytes_length hw]; exact Nat.lt_succ_self _)

/-! ### chars -/

/-- `StringSlice::split` at a character boundary of a well-formed string -/
theorem splitAt_spec {s : KStr} (hw : s.WF) {g : Nat} (hgb : isBoundary s.bytes g = true) :
    ∃ p r, s.splitAt g = some (p, r) ∧ p.bytes = s.bytes.take g ∧ r.bytes = s.bytes.drop g ∧ p.WF ∧ r.WF := by
  have hgl : g ≤ s.len := KStr.bytes_length hw ▸ isBoundary_le_length hgb
  have hhi := hw.hiLe
  have hbuf : isBoundary s.buf (s.lo + g) = true := by
    rw [← KStr.boundary_iff hw hgl]; exact hgb
  have h1 : s.lo ≤ s.lo + g := Nat.le_add_right _ _
  have h2 : s.lo + g ≤ s.hi := by have := hw.le; simp only [KStr.len] at hgl; omega
  have h3 : s.lo + g ≤ s.buf.length := Nat.le_trans h2 hhi
  have take_eq : (s.buf.drop s.lo).take (s.lo + g - s.lo) = ((s.buf.drop s.lo).take (s.hi - s.lo)).take g := by
    rw [List.take_take, Nat.add_sub_cancel_left, Nat.min_eq_left (by omega)]
  have drop_eq : (s.buf.drop (s.lo + g)).take (s.hi - (s.lo + g)) = ((s.buf.drop s.lo).take (s.hi - s.lo)).drop g := by
    rw [List.drop_take, List.drop_drop, Nat.sub_add_eq]
  cases hform : s.form with
  | full | fullV =>
    obtain ⟨h0, hl⟩ := hw.whole (by simp [hform])
    rw [h0, Nat.zero_add] at hbuf h3
    have hsb := KStr.bytes_eq_buf ⟨h0, hl⟩
    simp only [KStr.splitAt, hform, hbuf]
    refine ⟨_, _, rfl, ?_, ?_, KStr.ofSlice_wf hw.valid (Nat.zero_le _) h3 (isBoundary_zero _) hbuf,
      KStr.ofSlice_wf hw.valid h3 (Nat.le_refl _) hbuf (isBoundary_length _)⟩
    · rw [KStr.ofSlice_bytes, hsb, List.drop_zero, Nat.sub_zero]
    · rw [KStr.ofSlice_bytes, hsb]; exact List.take_of_length_le (by simp)
  | slice =>
    have h16 := hw.slice16 hform
    simp only [KStr.splitAt, hform, if_pos (⟨hbuf, Nat.le_trans h2 h16⟩ : _ ∧ s.lo + g ≤ u16max)]
    exact ⟨_, _, rfl, take_eq, drop_eq,
      KStr.wf_of_bounds hw.valid h1 h3 hw.blo hbuf (.inl ⟨rfl, Nat.le_trans h2 h16⟩),
      KStr.wf_of_bounds hw.valid h2 hhi hbuf hw.bhi (.inl ⟨rfl, h16⟩)⟩
  | large =>
    simp only [KStr.splitAt, hform, if_pos hbuf]
    exact ⟨_, _, rfl, take_eq, drop_eq,
      KStr.wf_of_bounds hw.valid h1 h3 hw.blo hbuf (.inr rfl),
      KStr.wf_of_bounds hw.valid h2 hhi hbuf hw.bhi (.inr rfl)⟩

theorem popFront_spec (U : UFacts) {s : KStr} (hw : s.WF) (hne : s.bytes ≠ [])
    (hgb : isBoundary s.bytes (U.gFirst s.bytes) = true) :
    ∃ p r, popFront U s = some (some (p, r)) ∧ p.bytes = s.bytes.take (U.gFirst s.bytes) ∧
      r.bytes = s.bytes.drop (U.gFirst s.bytes) ∧ r.WF := by
  have hemp : s.bytes.isEmpty = false := List.isEmpty_eq_false_iff.mpr hne
  obtain ⟨p, r, hsp, hpb, hrb, _, hrw⟩ := splitAt_spec hw hgb
  cases hform : s.form with
  | large => exact ⟨KStr.ofSlice p.buf p.lo p.hi, r, by simp [popFront, hemp, hform, hsp], hpb, hrb, hrw⟩
  | _ => exact ⟨p, r, by simp [popFront, hemp, hform, hsp], hpb, hrb, hrw⟩

theorem popBack_spec (U : UFacts) {s : KStr} (hw : s.WF) (hne : s.bytes ≠ [])
    (hgb : isBoundary s.bytes (s.len - U.gLast s.bytes) = true) :
    ∃ r p, popBack U s = some (some (r, p)) ∧ r.bytes = s.bytes.take (s.len - U.gLast s.bytes) ∧
      p.bytes = s.bytes.drop (s.len - U.gLast s.bytes) ∧ r.WF := by
  have hemp : s.bytes.isEmpty = false := List.isEmpty_eq_false_iff.mpr hne
  obtain ⟨r, p, hsp, hrb, hpb, hrw, _⟩ := splitAt_spec hw hgb
  cases hform : s.form with
  | large => exact ⟨r, KStr.ofSlice p.buf p.lo p.hi, by simp [popBack, hemp, hform, hsp], hrb, hpb, hrw⟩
  | _ => exact ⟨r, p, by simp [popBack, hemp, hform, hsp], hrb, hpb, hrw⟩

/-- **`chars()` at the code level computes the grapheme segmentation** (every `unwrap()` in `pop_front`
succeeds), for every oracle that cuts at character boundaries -/
theorem charsLoop_refines (U : UFacts) (hb : CutsAtBoundaries U.gFirst) :
    ∀ (fuel : Nat) (s : KStr), s.WF →
      (charsLoop U fuel s).map (List.map KStr.bytes) = some (segs U.gFirst fuel s.bytes)
  | 0, _, _ => rfl
  | fuel + 1, s, hw => by
    cases hbs : s.bytes with
    | nil =>
      have : popFront U s = none := by simp [popFront, hbs]
      simp only [charsLoop, this, segs]; rfl
    | cons c r =>
      have hne : s.bytes ≠ [] := by rw [hbs]; simp
      obtain ⟨p, rest, hpop, hpb, hrb, hrw⟩ := popFront_spec U hw hne (hb s.bytes hne)
      obtain ⟨ts, hrec, ih⟩ := Option.map_eq_some_iff.mp (charsLoop_refines U hb fuel rest hrw)
      simp only [charsLoop, hpop, hrec, Option.map_some, List.map_cons, hpb, ih, hrb, segs, hbs]

/-- **`chars().reversed()` at the code level computes the reversed segmentation** (every `unwrap()` in
`pop_back` succeeds), for every oracle `gLast` that cuts at character boundaries -/
theorem rcharsLoop_refines (U : UFacts)
    (hb : ∀ s : Bytes, s ≠ [] → isBoundary s (s.length - U.gLast s) = true) :
    ∀ (fuel : Nat) (s : KStr), s.WF →
      (rcharsLoop U fuel s).map (List.map KStr.bytes) = some (rsegs U.gLast fuel s.bytes)
  | 0, _, _ => rfl
  | fuel + 1, s, hw => by
    have hlen := KStr.bytes_length hw
    by_cases hemp : s.bytes.isEmpty = true
    · have : popBack U s = none := by simp [popBack, hemp]
      simp only [rcharsLoop, this, rsegs, hemp, if_true]; rfl
    · have hne : s.bytes ≠ [] := fun h => hemp (List.isEmpty_iff.mpr h)
      obtain ⟨r, p, hpop, hrb, hpb, hrw⟩ := popBack_spec U hw hne (hlen ▸ hb s.bytes hne)
      obtain ⟨ts, hrec, ih⟩ := Option.map_eq_some_iff.mp (rcharsLoop_refines U hb fuel r hrw)
      simp only [rcharsLoop, hpop, hrec, rsegs, hemp, Bool.false_eq_true, if_false, Option.map_some,
        List.map_cons, ih, hpb, hrb, hlen]

end KotoVerif.Str
