/-
C01 layer 5: static side conditions of compiler correctness and the semantic lemmas about them.

* `writes x e`     — `e` may assign the local `x`
* `outLocal e`     — the local whose *own register* the compiler returns for `e` under
                     `ResultRegister::Any` (no copy is made: the value is read later, by the consumer)
* `safe E fx e`    — the two conditions under which the result-register protocol is sound:
    - *no late read*: when an operand's result is a local's own register, the following operand
      must not assign that local (F-C01-2 is exactly a program violating this);
    - *fixed safe*: when an expression is compiled into a local's register (`x = e`), `e` must not
      read `x` after a partial result has been written there — `and`/`or` write their left operand
      into the result register before evaluating the right one (F-C01-1 is exactly a program
      violating this). `E` is the list of locals whose register currently holds a partial result,
      `fx` the local (if any) that owns the fixed result register.
-/
import KotoVerif.Lemmas.C01Frame
import KotoVerif.Lemmas.C01CompileInv

namespace KotoVerif.Compile
open KotoVerif.C01

def writes (x : VarId) : Expr → Bool
  | .null | .bool _ | .int _ | .var _ => false
  | .un _ a => writes x a
  | .bin _ a b | .cmp _ a b | .and a b | .or a b | .seq a b | .ifThen a b => writes x a || writes x b
  | .assign y e | .compound _ y e => y == x || writes x e
  | .ite c t e => writes x c || writes x t || writes x e
  | .chain3 _ _ a b c => writes x a || writes x b || writes x c

def outLocal : Expr → Option VarId
  | .var x => some x
  | .assign x _ => some x
  | .seq _ b => outLocal b
  | _ => none

def addOpt (fx : Option VarId) (E : List VarId) : List VarId :=
  match fx with
  | some x => x :: E
  | none => E

/-- no late read between operand `a` (compiled first, with `Any`) and operand `b` -/
def lateOk (E : List VarId) (a b : Expr) : Bool :=
  match outLocal a with
  | some y => !E.contains y && !writes y b
  | none => true

def safe (E : List VarId) (fx : Option VarId) : Expr → Bool
  | .null | .bool _ | .int _ => true
  | .var y => !E.contains y
  | .un _ a => safe E none a
  | .bin _ a b | .cmp _ a b => safe E none a && safe E none b && lateOk E a b
  | .chain3 _ _ a b c =>
    -- the first comparison's result is written to the comparison register (= the fixed result
    -- register, if any) before `c` is evaluated; `b`'s register is read again after `c`
    safe E none a && safe E none b && lateOk E a b && safe (addOpt fx E) none c && lateOk (addOpt fx E) b c
  | .and a b | .or a b => safe E fx a && safe (addOpt fx E) fx b
  | .assign y e => safe E (some y) e
  | .compound _ y e => safe E none e && !E.contains y && !writes y e
  | .seq a b => safe E none a && safe E fx b
  | .ite c t e => safe E none c && safe E fx t && safe E fx e
  | .ifThen c t => safe E none c && safe E fx t

variable {S : Sem}

@[simp] theorem Env.set_same (ρ : Env S) (x : VarId) (v : S.V) : (ρ.set x v) x = some v := by
  simp [Env.set]

theorem Env.set_other (ρ : Env S) {x y : VarId} (v : S.V) (h : y ≠ x) : (ρ.set x v) y = ρ y := by
  simp [Env.set, h]

@[simp] theorem Regs.set_same (σ : Regs S) (r : Reg) (v : S.V) : (σ.set r v) r = v := by
  simp [Regs.set]

theorem Regs.set_other (σ : Regs S) {r q : Reg} (v : S.V) (h : q ≠ r) : (σ.set r v) q = σ q := by
  simp [Regs.set, h]

theorem eval_not_writes (x : VarId) : ∀ (e : Expr) (ρ ρ' : Env S) (v : S.V),
    writes x e = false → eval S e ρ = some (v, ρ') → ρ' x = ρ x := by
  intro e
  induction e with
  | null | bool _ | int _ => intro ρ ρ' v _ h; simp [eval] at h; rw [h.2]
  | var y =>
    intro ρ ρ' v _ h
    simp only [eval, Option.map_eq_some_iff] at h
    obtain ⟨_, _, h⟩ := h; cases h; rfl
  | un op a ih =>
    intro ρ ρ' v hw h
    simp only [writes] at hw
    rw [ceval_un] at h
    obtain ⟨va, ρ1, ha, h⟩ := obind_some h
    simp only [Option.map_eq_some_iff] at h
    obtain ⟨_, _, h⟩ := h; cases h
    exact ih ρ ρ' va hw ha
  | bin op a b iha ihb | cmp op a b iha ihb =>
    intro ρ ρ' v hw h
    simp only [writes, Bool.or_eq_false_iff] at hw
    simp only [ceval_bin, ceval_cmp] at h
    obtain ⟨va, ρ1, ha, h⟩ := obind_some h
    obtain ⟨vb, ρ2, hb, h⟩ := obind_some h
    simp only [Option.map_eq_some_iff] at h
    obtain ⟨_, _, h⟩ := h; cases h
    rw [ihb ρ1 ρ' vb hw.2 hb, iha ρ ρ1 va hw.1 ha]
  | and a b iha ihb =>
    intro ρ ρ' v hw h
    simp only [writes, Bool.or_eq_false_iff] at hw
    rw [ceval_and] at h
    obtain ⟨va, ρ1, ha, h⟩ := obind_some h
    split at h
    · rw [ihb ρ1 ρ' v hw.2 h, iha ρ ρ1 va hw.1 ha]
    · cases h; exact iha ρ ρ' v hw.1 ha
  | or a b iha ihb =>
    intro ρ ρ' v hw h
    simp only [writes, Bool.or_eq_false_iff] at hw
    rw [ceval_or] at h
    obtain ⟨va, ρ1, ha, h⟩ := obind_some h
    split at h
    · cases h; exact iha ρ ρ' v hw.1 ha
    · rw [ihb ρ1 ρ' v hw.2 h, iha ρ ρ1 va hw.1 ha]
  | assign y e ih =>
    intro ρ ρ' v hw h
    simp only [writes, Bool.or_eq_false_iff, beq_eq_false_iff_ne] at hw
    rw [ceval_assign] at h
    obtain ⟨ve, ρ1, he, h⟩ := obind_some h
    cases h
    rw [Env.set_other _ _ (Ne.symm hw.1), ih ρ ρ1 v hw.2 he]
  | compound op y e ih =>
    intro ρ ρ' v hw h
    simp only [writes, Bool.or_eq_false_iff, beq_eq_false_iff_ne] at hw
    rw [ceval_compound] at h
    split at h
    · obtain ⟨ve, ρ1, he, h⟩ := obind_some h
      simp only [Option.map_eq_some_iff] at h
      obtain ⟨_, _, h⟩ := h; cases h
      rw [Env.set_other _ _ (Ne.symm hw.1), ih ρ ρ1 ve hw.2 he]
    · cases h
  | seq a b iha ihb =>
    intro ρ ρ' v hw h
    simp only [writes, Bool.or_eq_false_iff] at hw
    rw [ceval_seq] at h
    obtain ⟨va, ρ1, ha, h⟩ := obind_some h
    rw [ihb ρ1 ρ' v hw.2 h, iha ρ ρ1 va hw.1 ha]
  | ite c t e ihc iht ihe =>
    intro ρ ρ' v hw h
    simp only [writes, Bool.or_eq_false_iff] at hw
    rw [ceval_ite] at h
    obtain ⟨vc, ρ1, hc, h⟩ := obind_some h
    split at h
    · rw [iht ρ1 ρ' v hw.1.2 h, ihc ρ ρ1 vc hw.1.1 hc]
    · rw [ihe ρ1 ρ' v hw.2 h, ihc ρ ρ1 vc hw.1.1 hc]
  | ifThen c t ihc iht =>
    intro ρ ρ' v hw h
    simp only [writes, Bool.or_eq_false_iff] at hw
    rw [ceval_ifThen] at h
    obtain ⟨vc, ρ1, hc, h⟩ := obind_some h
    split at h
    · rw [iht ρ1 ρ' v hw.2 h, ihc ρ ρ1 vc hw.1 hc]
    · cases h; exact ihc ρ ρ' vc hw.1 hc
  | chain3 op1 op2 a b c iha ihb ihc =>
    intro ρ ρ' v hw h
    simp only [writes, Bool.or_eq_false_iff] at hw
    rw [ceval_chain3] at h
    obtain ⟨va, ρ1, ha, h⟩ := obind_some h
    obtain ⟨vb, ρ2, hb, h⟩ := obind_some h
    split at h
    · split at h
      · obtain ⟨vc, ρ3, hc, h⟩ := obind_some h
        simp only [Option.map_eq_some_iff] at h
        obtain ⟨_, _, h⟩ := h; cases h
        rw [ihc ρ2 ρ' vc hw.2 hc, ihb ρ1 ρ2 vb hw.1.2 hb, iha ρ ρ1 va hw.1.1 ha]
      · cases h
        rw [ihb ρ1 ρ' vb hw.1.2 hb, iha ρ ρ1 va hw.1.1 ha]
    · cases h

theorem outLocal_eval : ∀ (e : Expr) (y : VarId) (ρ ρ' : Env S) (v : S.V),
    outLocal e = some y → eval S e ρ = some (v, ρ') → ρ' y = some v := by
  intro e
  induction e with
  | var x =>
    intro y ρ ρ' v ho h
    simp only [outLocal, Option.some.injEq] at ho; subst ho
    simp only [eval, Option.map_eq_some_iff] at h
    obtain ⟨w, hw, h⟩ := h; cases h; exact hw
  | assign x e _ =>
    intro y ρ ρ' v ho h
    simp only [outLocal, Option.some.injEq] at ho; subst ho
    rw [ceval_assign] at h
    obtain ⟨ve, ρ1, _, h⟩ := obind_some h
    cases h
    exact Env.set_same ρ1 x v
  | seq a b _ ihb =>
    intro y ρ ρ' v ho h
    rw [ceval_seq] at h
    obtain ⟨va, ρ1, _, h⟩ := obind_some h
    exact ihb y ρ1 ρ' v ho h
  | _ => intro y ρ ρ' v ho; simp [outLocal] at ho

end KotoVerif.Compile
