/-
C01 layer 5, inversion of `Model/Compile`: the expression compiler `compile` as a derivation system
`Compiled`, one rule per equation of `compile`, with the binds of that equation, in order, as premises, so
that facts about `compile` are rule inductions; likewise `CompiledS` (with `CompiledCond`, `CompiledHdr`) for
the statement compiler `Model/CompileLoop.compileS`. Also the reference evaluator `Compile.eval` in bind form
(`obind`, `ceval_*`, inverted by `obind_some`) and the length of the flattened loop code (`sizeL_flatAux`).
-/
import KotoVerif.Model.CompileLoop

namespace KotoVerif.Compile

def Sat {α : Type} (o : Option α) (P : α → Prop) : Prop := ∀ a, o = some a → P a

theorem Sat.pure {α : Type} {a : α} {P : α → Prop} (h : P a) : Sat (some a) P :=
  fun _ e => Option.some.inj e ▸ h

theorem Sat.bind {α β : Type} {o : Option α} {f : α → Option β} {P : β → Prop}
    (h : ∀ a, o = some a → Sat (f a) P) : Sat (o.bind f) P := by
  intro b hb
  obtain ⟨a, ha, hb⟩ := Option.bind_eq_some_iff.1 hb
  exact h a ha b hb

theorem Sat.none {α : Type} {P : α → Prop} : Sat (Option.none : Option α) P := nofun

inductive Compiled : Expr → Mode → Frame → Code → Out → Frame → Prop
  | null {m F res F1} (ha : assignResult m F = some (res, F1)) :
      Compiled .null m F (instrIf res.reg .setNull) res F1
  | bool {b m F res F1} (ha : assignResult m F = some (res, F1)) :
      Compiled (.bool b) m F (instrIf res.reg (.setBool · b)) res F1
  | int {n m F res F1} (ha : assignResult m F = some (res, F1)) :
      Compiled (.int n) m F (instrIf res.reg (.setInt · n)) res F1
  | varNone {x F rx} (hg : F.getAssigned x = some rx) :
      Compiled (.var x) .none F .nil ⟨Option.none, false⟩ F
  | varAny {x F rx} (hg : F.getAssigned x = some rx) :
      Compiled (.var x) .any F .nil ⟨some rx, false⟩ F
  | varFixed {x r F rx} (hg : F.getAssigned x = some rx) :
      Compiled (.var x) (.fixed r) F (.instr (.copy r rx)) ⟨some r, false⟩ F
  | un {op e m F res F1 c o F2 vr F3} (ha : assignResult m F = some (res, F1))
      (hc : Compiled e .any F1 c o F2) (hvr : o.reg = some vr) (hp : popIf o.temp F2 = some F3) :
      Compiled (.un op e) m F (.seq c (instrIf res.reg fun r => .unop op r vr)) res F3
  | binReg {op a b m F res F1 r ca oa F2 ra cb ob F3 rb F4 F5} (ha : assignResult m F = some (res, F1))
      (hr : res.reg = some r) (hca : Compiled a .any F1 ca oa F2) (hra : oa.reg = some ra)
      (hcb : Compiled b .any F2 cb ob F3) (hrb : ob.reg = some rb)
      (hpa : popIf oa.temp F3 = some F4) (hpb : popIf ob.temp F4 = some F5) :
      Compiled (.bin op a b) m F (.seq ca (.seq cb (.instr (.binop op r ra rb)))) res F5
  | binNone {op a b m F res F1 ca oa F2 cb ob F3} (ha : assignResult m F = some (res, F1))
      (hr : res.reg = Option.none) (hca : Compiled a .none F1 ca oa F2)
      (hcb : Compiled b .none F2 cb ob F3) :
      Compiled (.bin op a b) m F (.seq ca cb) res F3
  | cmp {op a b m F res F1 creg F1' ca oa F2 ra cb ob F3 rb} (ha : assignResult m F = some (res, F1))
      (hrt : resultOrTemp res F1 = some (creg, F1')) (hca : Compiled a .any F1' ca oa F2)
      (hra : oa.reg = some ra) (hcb : Compiled b .any F2 cb ob F3) (hrb : ob.reg = some rb) :
      Compiled (.cmp op a b) m F (.seq ca (.seq cb (instrIf res.reg fun r => .binop op r ra rb))) res
        { F3 with tc := F1.tc }
  | chain3 {op1 op2 a b c m F res F1 creg F1' ca oa F2 ra cb ob F3 rb cc oc F4 rc}
      (ha : assignResult m F = some (res, F1)) (hrt : resultOrTemp res F1 = some (creg, F1'))
      (hca : Compiled a .any F1' ca oa F2) (hra : oa.reg = some ra)
      (hcb : Compiled b .any F2 cb ob F3) (hrb : ob.reg = some rb)
      (hcc : Compiled c .any F3 cc oc F4) (hrc : oc.reg = some rc) :
      Compiled (.chain3 op1 op2 a b c) m F
        (.seq ca (.seq cb (.seq (.instr (.binop op1 creg ra rb))
          (.jumpIfFalse creg (.seq cc (instrIf res.reg fun r => .binop op2 r rb rc))))))
        res { F4 with tc := F1.tc }
  | and {a b m F res F1 reg F2 ca oa F3 cb ob F4 F5} (ha : assignResult m F = some (res, F1))
      (hrt : resultOrTemp res F1 = some (reg, F2)) (hca : Compiled a (.fixed reg) F2 ca oa F3)
      (hcb : Compiled b (.fixed reg) F3 cb ob F4) (hp : popIf res.reg.isNone F4 = some F5) :
      Compiled (.and a b) m F (.seq ca (.jumpIfFalse reg cb)) res F5
  | or {a b m F res F1 reg F2 ca oa F3 cb ob F4 F5} (ha : assignResult m F = some (res, F1))
      (hrt : resultOrTemp res F1 = some (reg, F2)) (hca : Compiled a (.fixed reg) F2 ca oa F3)
      (hcb : Compiled b (.fixed reg) F3 cb ob F4) (hp : popIf res.reg.isNone F4 = some F5) :
      Compiled (.or a b) m F (.seq ca (.jumpIfTrue reg cb)) res F5
  | assign {x e m F rx F1 c o F2 vr F3} (hres : F.reserve x = some (rx, F1))
      (hc : Compiled e (.fixed rx) F1 c o F2) (hvr : o.reg = some vr) (hcm : commitIf o vr F2 = some F3) :
      Compiled (.assign x e) m F (assignOut m c o vr).1 (assignOut m c o vr).2 F3
  | compound {op x e m F res F1 cr orr F2 rr rl F5} (ha : assignResult m F = some (res, F1))
      (hc : Compiled e .any F1 cr orr F2) (hrr : orr.reg = some rr) (hrl : F2.getAssigned x = some rl)
      (hp : popIf orr.temp F2 = some F5) :
      Compiled (.compound op x e) m F
        (.seq cr (.seq (.instr (.compound op rl rr)) (instrIf res.reg fun r => .copy r rl))) res F5
  | seq {a b m F ca oa F1 cb o F2} (hca : Compiled a .none F ca oa F1) (hcb : Compiled b m F1 cb o F2) :
      Compiled (.seq a b) m F (.seq ca cb) o F2
  | ite {c t e m F res F1 cc oc F2 rc F3 ct ot F4 ce oe F5} (ha : assignResult m F = some (res, F1))
      (hcc : Compiled c .any F1 cc oc F2) (hrc : oc.reg = some rc) (hp : popIf oc.temp F2 = some F3)
      (hct : Compiled t (branchMode res.reg) F3 ct ot F4) (hce : Compiled e (branchMode res.reg) F4 ce oe F5) :
      Compiled (.ite c t e) m F (.seq cc (.ifElse rc ct true ce)) res F5
  | ifThen {c t m F res F1 cc oc F2 rc F3 ct ot F4} (ha : assignResult m F = some (res, F1))
      (hcc : Compiled c .any F1 cc oc F2) (hrc : oc.reg = some rc) (hp : popIf oc.temp F2 = some F3)
      (hct : Compiled t (branchMode res.reg) F3 ct ot F4) :
      Compiled (.ifThen c t) m F (.seq cc (.ifElse rc ct res.reg.isSome (instrIf res.reg .setNull))) res F4

/-- every result of `compile` has a derivation: one `.bind` per bind of the equation hands over the
premise, `.pure` applies the rule -/
theorem Compiled.sat : ∀ (e : Expr) (m : Mode) (F : Frame),
    Sat (compile e m F) fun r => Compiled e m F r.1 r.2.1 r.2.2 := by
  intro e
  induction e with
  | null | bool _ | int _ =>
    intro m F
    rw [compile]
    exact .bind fun ⟨res, F1⟩ ha => .pure (by constructor; exact ha)
  | var x =>
    intro m F
    rw [compile]
    split
    · cases m <;> exact .pure (by constructor; assumption)
    · exact .none
  | un op e ih =>
    intro m F
    rw [compile]
    exact .bind fun ⟨res, F1⟩ ha => .bind fun ⟨c, o, F2⟩ hc => .bind fun vr hvr => .bind fun F3 hp =>
      .pure (.un ha (ih _ _ _ hc) hvr hp)
  | bin op a b iha ihb =>
    intro m F
    rw [compile]
    refine .bind fun ⟨res, F1⟩ ha => ?_
    dsimp only
    split
    · exact .bind fun ⟨ca, oa, F2⟩ hca => .bind fun ra hra => .bind fun ⟨cb, ob, F3⟩ hcb => .bind fun rb hrb =>
        .bind fun F4 hpa => .bind fun F5 hpb => .pure (.binReg ha ‹_› (iha _ _ _ hca) hra (ihb _ _ _ hcb) hrb hpa hpb)
    · exact .bind fun ⟨ca, oa, F2⟩ hca => .bind fun ⟨cb, ob, F3⟩ hcb =>
        .pure (.binNone ha ‹_› (iha _ _ _ hca) (ihb _ _ _ hcb))
  | cmp op a b iha ihb =>
    intro m F
    rw [compile]
    exact .bind fun ⟨res, F1⟩ ha => .bind fun ⟨creg, F1'⟩ hrt => .bind fun ⟨ca, oa, F2⟩ hca => .bind fun ra hra =>
      .bind fun ⟨cb, ob, F3⟩ hcb => .bind fun rb hrb => .pure (.cmp ha hrt (iha _ _ _ hca) hra (ihb _ _ _ hcb) hrb)
  | chain3 op1 op2 a b c iha ihb ihc =>
    intro m F
    rw [compile]
    exact .bind fun ⟨res, F1⟩ ha => .bind fun ⟨creg, F1'⟩ hrt => .bind fun ⟨ca, oa, F2⟩ hca => .bind fun ra hra =>
      .bind fun ⟨cb, ob, F3⟩ hcb => .bind fun rb hrb => .bind fun ⟨cc, oc, F4⟩ hcc => .bind fun rc hrc =>
      .pure (.chain3 ha hrt (iha _ _ _ hca) hra (ihb _ _ _ hcb) hrb (ihc _ _ _ hcc) hrc)
  | and a b iha ihb =>
    intro m F
    rw [compile]
    exact .bind fun ⟨res, F1⟩ ha => .bind fun ⟨reg, F2⟩ hrt => .bind fun ⟨ca, oa, F3⟩ hca =>
      .bind fun ⟨cb, ob, F4⟩ hcb => .bind fun F5 hp => .pure (.and ha hrt (iha _ _ _ hca) (ihb _ _ _ hcb) hp)
  | or a b iha ihb =>
    intro m F
    rw [compile]
    exact .bind fun ⟨res, F1⟩ ha => .bind fun ⟨reg, F2⟩ hrt => .bind fun ⟨ca, oa, F3⟩ hca =>
      .bind fun ⟨cb, ob, F4⟩ hcb => .bind fun F5 hp => .pure (.or ha hrt (iha _ _ _ hca) (ihb _ _ _ hcb) hp)
  | assign x e ih =>
    intro m F
    rw [compile]
    exact .bind fun ⟨rx, F1⟩ hres => .bind fun ⟨c, o, F2⟩ hc => .bind fun vr hvr => .bind fun F3 hcm =>
      .pure (.assign hres (ih _ _ _ hc) hvr hcm)
  | compound op x e ih =>
    intro m F
    rw [compile]
    exact .bind fun ⟨res, F1⟩ ha => .bind fun ⟨cr, orr, F2⟩ hc => .bind fun rr hrr => .bind fun rl hrl =>
      .bind fun F5 hp => .pure (.compound ha (ih _ _ _ hc) hrr hrl hp)
  | seq a b iha ihb =>
    intro m F
    rw [compile]
    exact .bind fun ⟨ca, oa, F1⟩ hca => .bind fun ⟨cb, o, F2⟩ hcb => .pure (.seq (iha _ _ _ hca) (ihb _ _ _ hcb))
  | ite c t e ihc iht ihe =>
    intro m F
    rw [compile]
    exact .bind fun ⟨res, F1⟩ ha => .bind fun ⟨cc, oc, F2⟩ hcc => .bind fun rc hrc => .bind fun F3 hp =>
      .bind fun ⟨ct, ot, F4⟩ hct => .bind fun ⟨ce, oe, F5⟩ hce =>
      .pure (.ite ha (ihc _ _ _ hcc) hrc hp (iht _ _ _ hct) (ihe _ _ _ hce))
  | ifThen c t ihc iht =>
    intro m F
    rw [compile]
    exact .bind fun ⟨res, F1⟩ ha => .bind fun ⟨cc, oc, F2⟩ hcc => .bind fun rc hrc => .bind fun F3 hp =>
      .bind fun ⟨ct, ot, F4⟩ hct => .pure (.ifThen ha (ihc _ _ _ hcc) hrc hp (iht _ _ _ hct))

theorem Compiled.of_compile {e : Expr} {m : Mode} {F : Frame} {code : Code} {out : Out} {F' : Frame}
    (h : compile e m F = some (code, out, F')) : Compiled e m F code out F' :=
  Compiled.sat e m F _ h

theorem Compiled.to_compile {e : Expr} {m : Mode} {F : Frame} {code : Code} {out : Out} {F' : Frame}
    (h : Compiled e m F code out F') : compile e m F = some (code, out, F') := by
  induction h <;> rw [compile] <;> simp only [*, Option.bind_some, bind, pure]

inductive CompiledCond : Expr → Frame → Code → Reg → Frame → Prop
  | mk {c F cc oc F1 rc F2} (hc : Compiled c .any F cc oc F1) (hrc : oc.reg = some rc)
      (hp : popIf oc.temp F1 = some F2) : CompiledCond c F cc rc F2

inductive CompiledHdr : Option (Expr × Bool) → Frame → Option (Code × Reg × Bool) → Frame → Prop
  | noCond {F} : CompiledHdr Option.none F Option.none F
  | cond {c neg F cc rc F1} (hc : CompiledCond c F cc rc F1) :
      CompiledHdr (some (c, neg)) F (some (cc, rc, neg)) F1

inductive CompiledS : Stmt → Bool → Frame → LCode → Frame → Prop
  | expr {e il F c o F1} (hc : Compiled e .none F c o F1) : CompiledS (.expr e) il F (.base c) F1
  | seq {a b il F ca F1 cb F2} (ha : CompiledS a il F ca F1) (hb : CompiledS b il F1 cb F2) :
      CompiledS (.seq a b) il F (.seq ca cb) F2
  | ite {c t e il F cc rc F1 ct F2 ce F3} (hc : CompiledCond c F cc rc F1) (ht : CompiledS t il F1 ct F2)
      (he : CompiledS e il F2 ce F3) :
      CompiledS (.ite c t e) il F (.seq (.base cc) (.ifElse rc ct true ce)) F3
  | ifThen {c t il F cc rc F1 ct F2} (hc : CompiledCond c F cc rc F1) (ht : CompiledS t il F1 ct F2) :
      CompiledS (.ifThen c t) il F (.seq (.base cc) (.ifElse rc ct false (.base .nil))) F2
  | loop {cond b il F hdr F1 cb F2} (hh : CompiledHdr cond F hdr F1) (hb : CompiledS b true F1 cb F2) :
      CompiledS (.loop cond b) il F (.loop hdr cb) F2
  | brk {F} : CompiledS .brk true F .brk F
  | cont {F} : CompiledS .cont true F .cont F

theorem CompiledCond.sat (c : Expr) (F : Frame) :
    Sat (compileCond c F) fun r => CompiledCond c F r.1 r.2.1 r.2.2 :=
  .bind fun ⟨_, _, _⟩ hc => .bind fun _ hrc => .bind fun _ hp => .pure (.mk (.of_compile hc) hrc hp)

theorem CompiledCond.of_compile {c : Expr} {F F2 : Frame} {cc : Code} {rc : Reg}
    (h : compileCond c F = some (cc, rc, F2)) : CompiledCond c F cc rc F2 :=
  CompiledCond.sat c F _ h

theorem CompiledCond.to_compile {c : Expr} {F F2 : Frame} {cc : Code} {rc : Reg}
    (h : CompiledCond c F cc rc F2) : compileCond c F = some (cc, rc, F2) := by
  obtain ⟨hc, hrc, hp⟩ := h
  simp only [compileCond, hc.to_compile, hrc, hp, Option.bind_some, bind, pure]

theorem CompiledHdr.sat (cond : Option (Expr × Bool)) (F : Frame) :
    Sat (compileHdr cond F) fun r => CompiledHdr cond F r.1 r.2 := by
  cases cond with
  | none => exact .pure .noCond
  | some p => exact .bind fun ⟨_, _, _⟩ hc => .pure (.cond (CompiledCond.sat _ _ _ hc))

theorem CompiledHdr.of_compile {cond : Option (Expr × Bool)} {F F1 : Frame} {hdr : Option (Code × Reg × Bool)}
    (h : compileHdr cond F = some (hdr, F1)) : CompiledHdr cond F hdr F1 :=
  CompiledHdr.sat cond F _ h

theorem CompiledHdr.to_compile {cond : Option (Expr × Bool)} {F F1 : Frame} {hdr : Option (Code × Reg × Bool)}
    (h : CompiledHdr cond F hdr F1) : compileHdr cond F = some (hdr, F1) := by
  cases h with
  | noCond => rfl
  | cond hc => simp only [compileHdr, hc.to_compile, Option.bind_some, bind, pure]

theorem CompiledS.sat : ∀ (s : Stmt) (il : Bool) (F : Frame),
    Sat (compileS s il F) fun r => CompiledS s il F r.1 r.2 := by
  intro s
  induction s with
  | expr e =>
    intro il F
    rw [compileS]
    exact .bind fun ⟨c, o, F1⟩ hc => .pure (.expr (.of_compile hc))
  | seq a b iha ihb =>
    intro il F
    rw [compileS]
    exact .bind fun ⟨ca, F1⟩ ha => .bind fun ⟨cb, F2⟩ hb => .pure (.seq (iha _ _ _ ha) (ihb _ _ _ hb))
  | ite c t e iht ihe =>
    intro il F
    rw [compileS]
    exact .bind fun ⟨cc, rc, F1⟩ hc => .bind fun ⟨ct, F2⟩ ht => .bind fun ⟨ce, F3⟩ he =>
      .pure (.ite (CompiledCond.sat _ _ _ hc) (iht _ _ _ ht) (ihe _ _ _ he))
  | ifThen c t iht =>
    intro il F
    rw [compileS]
    exact .bind fun ⟨cc, rc, F1⟩ hc => .bind fun ⟨ct, F2⟩ ht =>
      .pure (.ifThen (CompiledCond.sat _ _ _ hc) (iht _ _ _ ht))
  | loop cond b ihb =>
    intro il F
    rw [compileS]
    exact .bind fun ⟨hdr, F1⟩ hh => .bind fun ⟨cb, F2⟩ hb => .pure (.loop (CompiledHdr.sat _ _ _ hh) (ihb _ _ _ hb))
  | brk =>
    intro il F
    rw [compileS]
    cases il
    · exact .none
    · exact .pure .brk
  | cont =>
    intro il F
    rw [compileS]
    cases il
    · exact .none
    · exact .pure .cont

theorem CompiledS.of_compile {s : Stmt} {il : Bool} {F : Frame} {code : LCode} {F' : Frame}
    (h : compileS s il F = some (code, F')) : CompiledS s il F code F' :=
  CompiledS.sat s il F _ h

theorem CompiledS.to_compile {s : Stmt} {il : Bool} {F : Frame} {code : LCode} {F' : Frame}
    (h : CompiledS s il F code F') : compileS s il F = some (code, F') := by
  induction h with
  | expr hc => simp only [compileS, hc.to_compile, Option.bind_some, bind, pure]
  | seq _ _ iha ihb => simp only [compileS, iha, ihb, Option.bind_some, bind, pure]
  | ite hc _ _ iht ihe => simp only [compileS, hc.to_compile, iht, ihe, Option.bind_some, bind, pure]
  | ifThen hc _ iht => simp only [compileS, hc.to_compile, iht, Option.bind_some, bind, pure]
  | loop hh _ ihb => simp only [compileS, hh.to_compile, ihb, Option.bind_some, bind, pure]
  | brk => rfl
  | cont => rfl

theorem flatHdr_length (cond : Option (Code × Reg × Bool)) (bl : Nat) :
    (flatHdr cond bl).length = hdrLen cond := by
  cases cond with
  | none => rfl
  | some p => obtain ⟨cc, r, neg⟩ := p; simp [flatHdr, hdrLen]

theorem sizeL_flatAux : ∀ (c : LCode) (pre post : Nat), (flatAux c pre post).length = sizeL c := by
  intro c
  induction c with
  | base c => intro pre post; simp [flatAux, sizeL]
  | seq a b iha ihb => intro pre post; simp [flatAux, sizeL, iha, ihb]
  | ifElse r t wj e iht ihe =>
    intro pre post
    cases wj <;> simp [flatAux, sizeL, iht, ihe] <;> omega
  | loop cond body ih => intro pre post; simp [flatAux, sizeL, ih, flatHdr_length]; omega
  | brk => intro pre post; rfl
  | cont => intro pre post; rfl

end KotoVerif.Compile

namespace KotoVerif.C01
open KotoVerif

section
variable {S : Compile.Sem}

def obind (r : Option (S.V × Compile.Env S)) (k : S.V → Compile.Env S → Option (S.V × Compile.Env S)) :
    Option (S.V × Compile.Env S) :=
  match r with
  | some (v, ρ1) => k v ρ1
  | none => none

theorem obind_some {r : Option (S.V × Compile.Env S)} {k : S.V → Compile.Env S → Option (S.V × Compile.Env S)}
    {p : S.V × Compile.Env S} (h : obind r k = some p) : ∃ v1 ρ1, r = some (v1, ρ1) ∧ k v1 ρ1 = some p := by
  cases r with
  | none => simp [obind] at h
  | some q => obtain ⟨v1, ρ1⟩ := q; exact ⟨v1, ρ1, rfl, h⟩

theorem ceval_un (op : Compile.UnOp) (a : Compile.Expr) (ρ : Compile.Env S) :
    Compile.eval S (.un op a) ρ
      = obind (Compile.eval S a ρ) fun v ρ1 => (S.unop op v).map (fun r => (r, ρ1)) := rfl

theorem ceval_bin (op : Compile.BinOp) (a b : Compile.Expr) (ρ : Compile.Env S) :
    Compile.eval S (.bin op a b) ρ
      = obind (Compile.eval S a ρ) fun va ρ1 => obind (Compile.eval S b ρ1) fun vb ρ2 =>
          (S.binop op va vb).map (fun r => (r, ρ2)) := rfl

theorem ceval_cmp (op : Compile.BinOp) (a b : Compile.Expr) (ρ : Compile.Env S) :
    Compile.eval S (.cmp op a b) ρ
      = obind (Compile.eval S a ρ) fun va ρ1 => obind (Compile.eval S b ρ1) fun vb ρ2 =>
          (S.binop op va vb).map (fun r => (r, ρ2)) := rfl

theorem ceval_chain3 (op1 op2 : Compile.BinOp) (a b c : Compile.Expr) (ρ : Compile.Env S) :
    Compile.eval S (.chain3 op1 op2 a b c) ρ
      = obind (Compile.eval S a ρ) fun va ρ1 => obind (Compile.eval S b ρ1) fun vb ρ2 =>
          match S.binop op1 va vb with
          | some r1 =>
            if S.truthy r1 then
              obind (Compile.eval S c ρ2) fun vc ρ3 => (S.binop op2 vb vc).map (fun r => (r, ρ3))
            else some (r1, ρ2)
          | none => none := rfl

theorem ceval_and (a b : Compile.Expr) (ρ : Compile.Env S) :
    Compile.eval S (.and a b) ρ
      = obind (Compile.eval S a ρ) fun va ρ1 => if S.truthy va then Compile.eval S b ρ1 else some (va, ρ1) := rfl

theorem ceval_or (a b : Compile.Expr) (ρ : Compile.Env S) :
    Compile.eval S (.or a b) ρ
      = obind (Compile.eval S a ρ) fun va ρ1 => if S.truthy va then some (va, ρ1) else Compile.eval S b ρ1 := rfl

theorem ceval_assign (x : Nat) (e : Compile.Expr) (ρ : Compile.Env S) :
    Compile.eval S (.assign x e) ρ
      = obind (Compile.eval S e ρ) fun v ρ1 => some (v, Compile.Env.set ρ1 x v) := rfl

theorem ceval_compound (op : Compile.BinOp) (x : Nat) (e : Compile.Expr) (ρ : Compile.Env S) :
    Compile.eval S (.compound op x e) ρ
      = match ρ x with
        | some vx => obind (Compile.eval S e ρ) fun vr ρ1 =>
            (S.compoundop op vx vr).map (fun r => (r, Compile.Env.set ρ1 x r))
        | none => none := rfl

theorem ceval_seq (a b : Compile.Expr) (ρ : Compile.Env S) :
    Compile.eval S (.seq a b) ρ = obind (Compile.eval S a ρ) fun _ ρ1 => Compile.eval S b ρ1 := rfl

theorem ceval_ite (c t e : Compile.Expr) (ρ : Compile.Env S) :
    Compile.eval S (.ite c t e) ρ
      = obind (Compile.eval S c ρ) fun vc ρ1 =>
          if S.truthy vc then Compile.eval S t ρ1 else Compile.eval S e ρ1 := rfl

theorem ceval_ifThen (c t : Compile.Expr) (ρ : Compile.Env S) :
    Compile.eval S (.ifThen c t) ρ
      = obind (Compile.eval S c ρ) fun vc ρ1 =>
          if S.truthy vc then Compile.eval S t ρ1 else some (S.null, ρ1) := rfl

end

end KotoVerif.C01
