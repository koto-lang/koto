/-
Helper lemmas for C05: soundness of the per-unit check `checkAnns` w.r.t. the abstract VM.
-/
import KotoVerif.Model.AbsVM

namespace KotoVerif.Bytecode
open KotoVerif.Gen

/-! ### sorted listings: lookups are unique -/

theorem pcsFrom_ge (lo : Nat) (l : List Ann) (h : pcsFrom lo l = true) : ∀ a ∈ l, lo ≤ a.pc := by
  induction l generalizing lo with
  | nil => intro a ha; simp at ha
  | cons x xs ih =>
    simp [pcsFrom] at h
    intro a ha
    simp at ha
    rcases ha with rfl | ha
    · exact h.1
    · have := ih _ h.2 a ha; omega

theorem findPc_some (l : List Ann) (p : Nat) (b : Ann) (h : findPc l p = some b) : b ∈ l ∧ b.pc = p := by
  unfold findPc at h
  exact ⟨List.mem_of_find?_eq_some h, by simpa using List.find?_some h⟩

theorem findPc_of_exists (l : List Ann) (p : Nat) (h : ∃ b ∈ l, b.pc = p) :
    ∃ b', findPc l p = some b' ∧ b' ∈ l := by
  obtain ⟨b, hb, hp⟩ := h
  have : (l.find? (fun x => x.pc == p)).isSome = true := by
    rw [List.find?_isSome]
    exact ⟨b, hb, by simp [hp]⟩
  obtain ⟨b', hb'⟩ := Option.isSome_iff_exists.mp this
  exact ⟨b', hb', List.mem_of_find?_eq_some hb'⟩

theorem findPc_of_mem (lo : Nat) (l : List Ann) (h : pcsFrom lo l = true) (b : Ann) (hb : b ∈ l) :
    findPc l b.pc = some b := by
  induction l generalizing lo with
  | nil => simp at hb
  | cons x xs ih =>
    simp [pcsFrom] at h
    simp at hb
    rcases hb with rfl | hb
    · simp [findPc]
    · have hge := pcsFrom_ge _ _ h.2 b hb
      have hne : (x.pc == b.pc) = false := by simp; omega
      simp only [findPc, List.find?_cons, hne]
      exact ih _ h.2 hb

theorem lookupFrom_global (lo : Nat) (l seen rest : List Ann) (a : Ann)
    (hs : pcsFrom lo l = true) (hl : l = seen.reverse ++ a :: rest) (p : Nat) (b : Ann)
    (h : lookupFrom seen rest a p = some b) : findPc l p = some b := by
  unfold lookupFrom at h
  have hm : b ∈ l ∧ b.pc = p := by
    split at h
    · obtain ⟨hm, hp⟩ := findPc_some _ _ _ h
      exact ⟨by rw [hl]; simp [hm], hp⟩
    · obtain ⟨hm, hp⟩ := findPc_some _ _ _ h
      refine ⟨?_, hp⟩
      rw [hl]
      simp at hm ⊢
      rcases hm with rfl | hm
      · simp
      · exact .inl hm
  rw [← hm.2]
  exact findPc_of_mem lo l hs b hm.1

/-! ### what the local check says -/

structure LocalFacts (rc : Nat) (consts : List CKind) (l : List Ann) (a : Ann) : Prop where
  regs : ∀ r ∈ regAccesses a.ins, r < rc
  consts : ∀ kc ∈ constOperands a.ins.fields a.ins.args, consts[kc.2]? = some kc.1
  succs : ∃ ps, succPcs a = some ps ∧ ∀ p ∈ ps, ∃ b, findPc l p = some b
  flow : ∀ d, a.d = some d → ∃ d' ps, applyEff a.ins.op d = some d' ∧ succPcs a = some ps
    ∧ ∀ p ∈ ps, ∃ b, findPc l p = some b ∧ b.d = some d'

/-- read through any lookup function that `findPc l` extends (`checkFrom` looks up in the two parts of
the listing) -/
theorem localFacts_of_localOk (rc : Nat) (consts : List CKind) (l : List Ann) (look : Nat → Option Ann) (a : Ann)
    (hm : ∀ p b, look p = some b → findPc l p = some b)
    (h : localOk rc consts look a = true) : LocalFacts rc consts l a := by
  simp only [localOk, localChecks, List.all_cons, List.all_nil, Bool.and_true, Bool.and_eq_true] at h
  obtain ⟨h1, h2, h3, h4⟩ := h
  refine ⟨?_, ?_, ?_, ?_⟩
  · simpa [regsOk] using h1
  · intro kc hkc
    have := (List.all_eq_true.mp h2) kc hkc
    simpa using this
  · cases hs : succPcs a with
    | none => simp [hs] at h3
    | some ps =>
      simp only [hs, List.all_eq_true] at h3
      refine ⟨ps, rfl, fun p hp => ?_⟩
      obtain ⟨b, hb⟩ := Option.isSome_iff_exists.mp (h3 p hp)
      exact ⟨b, hm p b hb⟩
  · intro d hd
    simp only [hd] at h4
    cases he : applyEff a.ins.op d with
    | none => simp [he] at h4
    | some d' =>
      cases hs : succPcs a with
      | none => simp [he, hs] at h4
      | some ps =>
        simp only [he, hs, List.all_eq_true] at h4
        refine ⟨d', ps, rfl, rfl, fun p hp => ?_⟩
        have := h4 p hp
        cases hb : look p with
        | none => simp [hb] at this
        | some b => simp [hb] at this; exact ⟨b, hm p b hb, this⟩

theorem checkFrom_all (rc : Nat) (consts : List CKind) (lo : Nat) (l : List Ann)
    (hs : pcsFrom lo l = true) :
    ∀ seen rest, l = seen.reverse ++ rest → checkFrom rc consts seen rest = true →
      ∀ a ∈ rest, LocalFacts rc consts l a := by
  intro seen rest
  induction rest generalizing seen with
  | nil => intro _ _ a ha; simp at ha
  | cons x xs ih =>
    intro hl hc a ha
    simp only [checkFrom, Bool.and_eq_true] at hc
    simp at ha
    rcases ha with rfl | ha
    · exact localFacts_of_localOk rc consts l _ a (fun p b hb => lookupFrom_global lo l seen xs a hs hl p b hb) hc.1
    · exact ih (x :: seen) (by rw [hl]; simp) hc.2 a ha

/-- Everything `checkAnns` establishes for a unit's listing. -/
structure UnitFacts (consts : List CKind) (base need : Nat) (l : List Ann) : Prop where
  entry : ∃ a0, findPc l base = some a0 ∧ a0.ins.op = .NewFrame ∧ a0.d = some ⟨0, 0, 0⟩
    ∧ need ≤ argAt a0.ins 0
      ∧ ∀ a ∈ l, LocalFacts (argAt a0.ins 0) consts l a
  sorted : pcsFrom base l = true
  oneFrame : ∀ a ∈ l, a.ins.op = .NewFrame → a.pc = base
  brackets : linOk 0 0 l = true

theorem unitFacts_of_checkAnns (consts : List CKind) (base need : Nat) (l : List Ann)
    (h : checkAnns consts base need l = true) : UnitFacts consts base need l := by
  cases l with
  | nil => simp [checkAnns] at h
  | cons a0 rest =>
    simp only [checkAnns, Bool.and_eq_true, decide_eq_true_eq] at h
    obtain ⟨⟨⟨⟨⟨⟨⟨hpc, hop⟩, hneed⟩, hd⟩, hnf⟩, hsorted⟩, hcheck⟩, hlin⟩ := h
    refine ⟨⟨a0, ?_, hop, by simpa using hd, hneed, ?_⟩, hsorted, ?_, hlin⟩
    · simp [findPc, hpc]
    · exact checkFrom_all _ consts base _ hsorted [] (a0 :: rest) (by simp) hcheck
    · intro a ha hnew
      simp at ha
      rcases ha with rfl | ha
      · exact hpc
      · have := (List.all_eq_true.mp hnf) a ha
        simp [hnew] at this

/-- in the static depths that `linLex` computes, a reachable instruction has its inferred depths -/
theorem lookup_of_linLex (lo : Nat) (l : List Ann) (s t : Nat) (run : List (Nat × Nat)) (lex : List (Nat × Nat))
    (hs : pcsFrom lo l = true) (h : linLex s t run l = some lex) (b : Ann) (hb : b ∈ l) (d : Depth)
    (hd : b.d = some d) :
    ((l.zip lex).find? (fun x => x.1.pc == b.pc)).map (·.2) = some (d.seq, d.str) := by
  induction l generalizing lo s t run lex with
  | nil => simp at hb
  | cons a rest ih =>
    simp only [pcsFrom, Bool.and_eq_true, decide_eq_true_eq] at hs
    cases hc : depthIs a s t with
    | false => simp [linLex, hc] at h
    | true =>
      cases hl : linStep a.ins.op s t with
      | none => simp [linLex, hc, hl] at h
      | some st =>
        obtain ⟨s', t'⟩ := st
        simp only [linLex, hc, hl, Option.map_eq_some_iff] at h
        obtain ⟨lex', hlex', rfl⟩ := h
        simp at hb
        rcases hb with rfl | hb
        · simp only [depthIs, hd, Bool.and_eq_true, decide_eq_true_eq] at hc
          simp [List.zip_cons_cons, hc.1, hc.2]
        · have hge := pcsFrom_ge _ _ hs.2 b hb
          have hne : (a.pc == b.pc) = false := by
            simp; omega
          simp only [List.zip_cons_cons, List.find?_cons, hne]
          split at hlex'
          · obtain ⟨st, _, hst⟩ := List.exists_of_findSome?_eq_some hlex'
            exact ih _ _ _ _ _ hs.2 hst hb
          · exact ih _ _ _ _ _ hs.2 hlex' hb

theorem bracketAt_of_linOk (lo : Nat) (l : List Ann) (s t : Nat) (hs : pcsFrom lo l = true)
    (h : linOk s t l = true) (b : Ann) (hb : b ∈ l) (d : Depth) (hd : b.d = some d) :
    bracketAt s t l b.pc = some (d.seq, d.str) := by
  simp only [linOk, Option.isSome_iff_exists] at h
  obtain ⟨lex, hlex⟩ := h
  simp only [bracketAt, hlex]
  exact lookup_of_linLex lo l s t [] lex hs hlex b hb d hd

/-! ### the invariant of the abstract VM -/

/-- every handler on the catch stack points at an instruction whose inferred depth is the one
recorded when its `TryStart` ran, with the try depth of its position on the stack -/
def CatchesOk (l : List Ann) : List (Nat × Nat × Nat) → Prop
  | [] => True
  | h :: rest => (∃ b, findPc l h.1 = some b ∧ b.d = some ⟨h.2.1, h.2.2, rest.length + 1⟩)
      ∧ CatchesOk l rest

/-- the configuration sits on an instruction of the listing whose inferred depth is the actual one -/
def Good (l : List Ann) (c : Cfg) : Prop :=
  (∃ a, findPc l c.pc = some a ∧ a.d = some ⟨c.seq, c.str, c.catches.length⟩) ∧ CatchesOk l c.catches

theorem catchIp_mem (a : Ann) (ps : List Nat) (hop : a.ins.op = .TryStart) (h : succPcs a = some ps) :
    catchIp a ∈ ps := by
  simp only [succPcs, hop] at h
  simp at h
  subst h
  unfold catchIp
  cases fwdOffsets a.ins.fields a.ins.args with
  | nil => simp
  | cons o os => simp

theorem CatchesOk_tail (l : List Ann) (cs : List (Nat × Nat × Nat)) (h : CatchesOk l cs) :
    CatchesOk l cs.tail := by
  cases cs with
  | nil => exact h
  | cons x xs => exact h.2

/-- The verifier's depth transformer and the VM's effect agree. -/
theorem effect_agree (l : List Ann) (a : Ann) (c : Cfg) (d' : Depth) (ps : List Nat)
    (he : applyEff a.ins.op ⟨c.seq, c.str, c.catches.length⟩ = some d')
    (hs : succPcs a = some ps)
    (hflow : ∀ p ∈ ps, ∃ b, findPc l p = some b ∧ b.d = some d')
    (hc : CatchesOk l c.catches) :
    ∃ c', vmEffect a c = some c' ∧ d' = ⟨c'.seq, c'.str, c'.catches.length⟩ ∧ CatchesOk l c'.catches := by
  -- the alternatives of `applyEff`, in its order: `h_9` is `TryStart`, `h_10` `TryEnd`, `h_11` any other opcode
  unfold vmEffect
  unfold applyEff at he
  split at he
  case h_11 =>
    cases he
    split <;> first | contradiction | exact ⟨_, rfl, rfl, hc⟩
  all_goals (rename_i hop; simp only [hop] at he ⊢)
  case h_1 | h_6 => cases he; exact ⟨_, rfl, rfl, hc⟩
  case h_9 => cases he; exact ⟨_, rfl, rfl, hflow _ (catchIp_mem a ps hop hs), hc⟩
  case h_10 =>
    split at he
    · cases he
    · cases he; exact ⟨_, rfl, by simp, CatchesOk_tail l _ hc⟩
  all_goals
    split at he
    · cases he
    · rename_i hne
      cases he
      exact ⟨_, if_neg hne, rfl, hc⟩

theorem good_entry (consts : List CKind) (base need : Nat) (l : List Ann)
    (h : UnitFacts consts base need l) : Good l ⟨base, 0, 0, []⟩ := by
  obtain ⟨a0, hf, _, hd, _, _⟩ := h.entry
  exact ⟨⟨a0, hf, hd⟩, trivial⟩

theorem good_step (consts : List CKind) (base need : Nat) (l : List Ann)
    (h : UnitFacts consts base need l) (c c' : Cfg) (hg : Good l c) (hst : Step l c c') : Good l c' := by
  obtain ⟨a0, _, _, _, _, hall⟩ := h.entry
  obtain ⟨⟨a, hfa, hda⟩, hcs⟩ := hg
  cases hst with
  | exec c1 a' ps p hf hv hs hp =>
    rw [hfa] at hf
    cases hf
    have hmem := (findPc_some _ _ _ hfa).1
    obtain ⟨d', ps', he, hs', hflow⟩ := (hall a hmem).flow _ hda
    rw [hs] at hs'
    cases hs'
    obtain ⟨c2, hv2, hd', hc2⟩ := effect_agree l a c d' ps he hs hflow hcs
    rw [hv] at hv2
    cases hv2
    obtain ⟨b, hb, hbd⟩ := hflow p hp
    exact ⟨⟨b, hb, by rw [hbd, hd']⟩, hc2⟩
  | unwind a' hd rest hf hcat =>
    rw [hcat] at hcs
    have hcs' := hcs
    obtain ⟨⟨b, hb, hbd⟩, _⟩ := hcs
    refine ⟨⟨b, hb, ?_⟩, ?_⟩
    · simp only [hcat, List.length_cons]; exact hbd
    · simp only [hcat]; exact hcs'

theorem good_reach (consts : List CKind) (base need : Nat) (l : List Ann)
    (h : UnitFacts consts base need l) (c : Cfg) (hr : Reach l ⟨base, 0, 0, []⟩ c) : Good l c := by
  induction hr with
  | refl => exact good_entry consts base need l h
  | step c1 c2 _ hst ih => exact good_step consts base need l h c1 c2 ih hst

theorem good_no_fault (consts : List CKind) (base need : Nat) (l : List Ann)
    (h : UnitFacts consts base need l) (c : Cfg) (hg : Good l c) : ¬ Fault l c := by
  obtain ⟨a0, _, _, _, _, hall⟩ := h.entry
  obtain ⟨⟨a, hfa, hda⟩, hcs⟩ := hg
  have hmem := (findPc_some _ _ _ hfa).1
  obtain ⟨d', ps, he, hs, hflow⟩ := (hall a hmem).flow _ hda
  obtain ⟨c2, hv2, _, _⟩ := effect_agree l a c d' ps he hs hflow hcs
  unfold Fault
  rw [hfa]
  simp only [hv2, hs]
  intro hf
  rcases hf with hf | hf
  · simp at hf
  · simp at hf

/-! ### from the chunk to its units -/

theorem wfUnit_units (consts : List CKind) (fuel base need : Nat) (bs : List Nat)
    (h : wfUnit consts fuel base need bs = true) :
    ∀ u ∈ unitsOf fuel base need bs, checkAnns consts u.1 u.2.1 u.2.2 = true := by
  induction fuel generalizing base need bs with
  | zero => simp [wfUnit] at h
  | succ fuel ih =>
    intro u hu
    simp only [wfUnit] at h
    simp only [unitsOf] at hu
    cases hl : unitListing base bs with
    | none => simp [hl] at h
    | some r =>
      obtain ⟨anns, subs⟩ := r
      simp only [hl, Bool.and_eq_true, List.all_eq_true] at h
      simp only [hl, List.mem_cons, List.mem_flatMap] at hu
      rcases hu with rfl | ⟨s, hs, hu⟩
      · exact h.1
      · exact ih s.base s.need s.bytes (h.2 s hs) u hu

theorem wfChunk_units (bytes : List Nat) (consts : List CKind) (h : wfChunk bytes consts = true) :
    ∀ u ∈ chunkUnits bytes, UnitFacts consts u.1 u.2.1 u.2.2 := by
  intro u hu
  unfold wfChunk at h
  unfold chunkUnits at hu
  by_cases he : bytes.isEmpty = true
  · simp [he] at hu
  · simp only [he, Bool.false_or] at h
    simp only [he] at hu
    exact unitFacts_of_checkAnns _ _ _ _ (wfUnit_units consts _ 0 0 bytes h u hu)

end KotoVerif.Bytecode
