/-
C09 (columns): exact columns as an invariant of the reachable states.

After the prefix `pre` the state's column is `colAt pre` provided every token between the start of
the current line and the cursor is `tokClean`: a token that is not (wide identifier start / tab in
whitespace) makes columns inexact for the rest of its line only, since it contains no line break
and any later line break resets the column whatever it was.
-/
import KotoVerif.Lemmas.C09Run

namespace KotoVerif.Lexer
open KotoVerif.Gen

def lexedClean (src : List Ch) (l : Lexed) : Bool :=
  match textOf src l.startByte l.endByte with
  | some t => tokClean l.tok t
  | none => true

theorem lexedClean_empty (src : List Ch) (l : Lexed) (h : l.startByte = l.endByte) :
    lexedClean src l = true := by
  unfold lexedClean textOf
  rw [h, Nat.sub_self]
  cases dropBytes l.endByte src with
  | none => rfl
  | some r => simp [prefixAt_zero, tokClean_nil]

theorem lexedClean_error (src : List Ch) (l : Lexed) (h : l.tok = .error) :
    lexedClean src l = true := by
  unfold lexedClean
  cases textOf src l.startByte l.endByte with
  | none => rfl
  | some t => simp [h, tokClean]

theorem Step.lexedClean {src pre t post : List Ch} {s s' : St} {l : Lexed}
    (hst : Step src pre t post s l s') : lexedClean src l = tokClean l.tok t := by
  simp [Lexer.lexedClean, hst.text]

end KotoVerif.Lexer

namespace KotoVerif.C09
open KotoVerif.Lexer

/-- `col` is the display column of byte offset `n` of `src` — unless a token that is not clean lies
between the start of `n`'s line and `n` (the explicit, line-local exclusion) -/
def ColExactUnlessSkewed (src : List Ch) (n col : Nat) : Prop :=
  ∀ pre, prefixAt n src = some pre →
    (∀ l' ∈ lexAll src, l'.endByte ≤ n → lineStartByte pre ≤ l'.startByte → lexedClean src l' = true) →
    col = colAt pre

end KotoVerif.C09

namespace KotoVerif.Lexer
open KotoVerif.Gen KotoVerif.C09

theorem Step.colExact {src pre t post : List Ch} {s s' : St} {l : Lexed} (hw : WidthOk src)
    (hst : Step src pre t post s l s') (hmem : l ∈ lexAll src)
    (h : ColExactUnlessSkewed src (byteLen pre) s.span.stop.col) :
    ColExactUnlessSkewed src (byteLen (pre ++ t)) s'.span.stop.col := by
  intro pre0 hp hall
  cases prefixAt_unique hst.after.src_eq rfl hp
  have h := h pre (hst.before.cur ▸ hst.before.prefixAt)
  have hwt : WidthOk t := (hst.before.src_eq ▸ hw).of_append_right.of_append_left
  rw [byteLen_append] at hall
  rw [colAt_append]
  by_cases hn : nlCount t = 0
  · -- same line: the earlier tokens of the line are clean, and so is this one
    rw [lineStartByte_append_noNL _ _ hn] at hall
    have hc : tokClean l.tok t = true := by
      rw [← hst.lexedClean]
      exact hall l hmem (Nat.le_of_eq hst.endByte) (hst.startByte ▸ lineStartByte_le pre)
    rcases hst.pos.col hwt with ⟨_, hq⟩ | ⟨hd, _⟩
    · rw [hq, h (fun l' hl' hle => hall l' hl' (Nat.le_trans hle (Nat.le_add_right _ _)))]
    · rw [hc] at hd; cases hd
  · -- a token with a line break is clean, and the column before it no longer matters
    rcases hst.pos.col hwt with ⟨_, hq⟩ | ⟨_, hnl, _⟩
    · rw [hq]; exact colFrom_nl t _ _ hn
    · exact absurd hnl hn

/-- the hypothesis is `C09.NarrowOk src`, which is defined in `Props/C09Cols.lean` -/
theorem lexedClean_of_narrow (src : List Ch) (ht : TableOk src) (hw : WidthOk src)
    (hnarrow : ∀ c ∈ src, (c.idStart = true ∨ c.cp = cpTab) → c.width = 1) :
    ∀ l ∈ lexAll src, lexedClean src l = true := by
  intro l hl
  by_cases he : l.tok = .error
  · exact lexedClean_error src l he
  refine lexAll_forall ht (Q := fun l => lexedClean src l = true) ?_ l hl he
  intro pre t post s l s' hst
  rw [hst.lexedClean]
  rcases hst.pos.col (hst.before.src_eq ▸ hw).of_append_right.of_append_left with
    ⟨hc, _⟩ | ⟨_, _, c, hc, hc2, hc3⟩
  · exact hc
  · exact absurd (hnarrow c (by rw [hst.before.src_eq]; simp [hc]) hc2) hc3

end KotoVerif.Lexer
