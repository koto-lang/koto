/-
C04 — lemmas about the guide-level evaluator `Try.run`: what the state operations and the sequencing
operators do, the unfolding equations of `try`, the catch chain, sequences and `for`, and three facts about
every run (`run_grows`, `noEmit_run`, `run_fuel_mono`). Each of the three is first shown to pass through one
unfolding `runStep P f` from the evaluator `f` it calls — one lemma per operator (`*_rel`, `*_fin`), one line
per construct — and then holds of `run` by induction on the fuel through `run_succ`.
-/
import KotoVerif.Lemmas.C04Step

namespace KotoVerif.Try

/-! ## the primitive state operations -/

@[simp] theorem setLocal_out (σ : St) (x : Nat) (v : Val) : (setLocal σ x v).out = σ.out := rfl
@[simp] theorem setLocal_heap (σ : St) (x : Nat) (v : Val) : (setLocal σ x v).heap = σ.heap := rfl
@[simp] theorem alloc_out (σ : St) (vs : List Val) : (alloc σ vs).1.out = σ.out := rfl
@[simp] theorem emitEv_out (σ : St) (e : Ev) : (emitEv σ e).out = σ.out ++ [e] := rfl
@[simp] theorem emitEv_heap (σ : St) (e : Ev) : (emitEv σ e).heap = σ.heap := rfl

theorem getLocal_setLocal (σ : St) (x y : Nat) (v : Val) :
    getLocal (setLocal σ x v) y = if y = x then v else getLocal σ y := by
  simp only [getLocal, setLocal, List.getD_eq_getElem?_getD, List.getElem?_set, List.getElem?_append,
    List.getElem?_replicate, List.length_append, List.length_replicate]
  by_cases hyx : y = x
  · subst hyx
    rw [if_pos rfl, if_pos rfl, if_pos (by omega)]
    rfl
  · rw [if_neg (Ne.symm hyx), if_neg hyx]
    split
    · rfl
    · rw [List.getElem?_eq_none (by omega)]
      split <;> rfl

theorem alloc_heap_length (σ : St) (vs : List Val) : (alloc σ vs).1.heap.length = σ.heap.length + 1 :=
  List.length_append

theorem bindKeys_out_heap (fs : List (Nat × Int)) (ks : List Nat) : ∀ (σ : St) (x : Nat),
    (bindKeys σ x fs ks).out = σ.out ∧ (bindKeys σ x fs ks).heap = σ.heap := by
  induction ks with
  | nil => intro σ x; exact ⟨rfl, rfl⟩
  | cons k ks ih => intro σ x; exact ih _ _

theorem bindCatch_out_heap (σ : St) (ty : Option Ty) (x : Nat) (v : Val) :
    (bindCatch σ ty x v).out = σ.out ∧ (bindCatch σ ty x v).heap = σ.heap := by
  unfold bindCatch
  split
  · exact bindKeys_out_heap _ _ _ _
  · exact ⟨rfl, rfl⟩

@[simp] theorem bindCatch_out (σ : St) (ty : Option Ty) (x : Nat) (v : Val) :
    (bindCatch σ ty x v).out = σ.out := (bindCatch_out_heap σ ty x v).1

@[simp] theorem bindCatch_heap (σ : St) (ty : Option Ty) (x : Nat) (v : Val) :
    (bindCatch σ ty x v).heap = σ.heap := (bindCatch_out_heap σ ty x v).2

theorem bindCatch_plain (σ : St) (ty : Option Ty) (x : Nat) (v : Val)
    (h : ∀ ks, ty ≠ some (.keys ks)) : bindCatch σ ty x v = setLocal σ x v := by
  unfold bindCatch
  split
  · rename_i ks fs
    exact absurd rfl (h ks)
  · rfl

/-! ## the sequencing operators -/

theorem callResult_out (l : List Val) (r : Res) : (callResult l r).2.out = r.2.out := by
  obtain ⟨s, σ⟩ := r
  cases s <;> rfl

theorem callResult_heap (l : List Val) (r : Res) : (callResult l r).2.heap = r.2.heap := by
  obtain ⟨s, σ⟩ := r
  cases s <;> rfl

theorem callResult_not_oof {l : List Val} {r : Res} (h : (callResult l r).1 ≠ .oof) : r.1 ≠ .oof := by
  obtain ⟨s, σ⟩ := r
  cases s <;> first | exact h | exact nofun

theorem finish_snd (p : Sig) (r : Res) : (finish p r).2 = r.2 := by
  obtain ⟨s, σ⟩ := r
  cases s <;> cases p <;> rfl

theorem finish_not_oof {p : Sig} {r : Res} (h : (finish p r).1 ≠ .oof) : r.1 ≠ .oof := by
  obtain ⟨s, σ⟩ := r
  cases s <;> first | exact h | exact nofun

theorem thenFinally_not_oof {r : Res} {f : St → Res} (h : (thenFinally r f).1 ≠ .oof) : r.1 ≠ .oof := by
  obtain ⟨s, σ⟩ := r
  cases s <;> first | exact h | exact nofun

theorem thenFinally_eq {r : Res} (f : St → Res) (h : r.1 ≠ .oof) :
    thenFinally r f = finish r.1 (f r.2) := by
  obtain ⟨s, σ⟩ := r
  cases s <;> first | rfl | exact absurd rfl h

/-! A transitive relation between the state before and the state after passes through every
sequencing operator: the result state is the state so far, or what the continuation made of it. -/

section
variable {R : St → St → Prop} [Trans R R R] {σ : St} {r : Res} (hr : R σ r.2)
include hr

theorem bindOk_rel {k : Val → St → Res} (hk : ∀ v σ1, R σ1 (k v σ1).2) : R σ (bindOk r k).2 := by
  unfold bindOk
  split
  · exact Trans.trans hr (hk _ _)
  · exact hr

theorem bindVals_rel {k : List Val → St → Res} (hk : ∀ vs σ1, R σ1 (k vs σ1).2) : R σ (bindVals r k).2 := by
  unfold bindVals
  split
  · exact Trans.trans hr (hk _ _)
  · exact hr

theorem loopCtl_rel {k : St → Res} (hk : ∀ σ1, R σ1 (k σ1).2) : R σ (loopCtl r k).2 := by
  unfold loopCtl
  split
  · exact Trans.trans hr (hk _)
  · exact Trans.trans hr (hk _)
  · exact hr
  · exact hr

theorem catchWith_rel {k : Val → St → Res} (hk : ∀ v σ1, R σ1 (k v σ1).2) : R σ (catchWith r k).2 := by
  unfold catchWith
  split
  · exact Trans.trans hr (hk _ _)
  · exact hr

theorem thenFinally_rel {k : St → Res} (hk : ∀ σ1, R σ1 (k σ1).2) : R σ (thenFinally r k).2 := by
  unfold thenFinally
  split
  · exact hr
  · rw [finish_snd]
    exact Trans.trans hr (hk _)

/-! … and through the frame boundaries, which only replace the locals. -/

variable (hl : ∀ (σ : St) (l : List Val), R σ { σ with locals := l })
include hl

theorem callResult_rel {l : List Val} : R σ (callResult l r).2 := by
  obtain ⟨s, σ1⟩ := r
  cases s <;> exact Trans.trans hr (hl σ1 l)

theorem genExit_rel {l : List Val} : R σ (genExit l r).2 := by
  obtain ⟨s, σ1⟩ := r
  cases s <;> exact Trans.trans hr (hl σ1 l)

theorem genSeg_rel {l : List Val} {k : Val → St → Res} (hk : ∀ v σ1, R σ1 (k v σ1).2) :
    R σ (genSeg l r k).2 := by
  unfold genSeg
  split
  · exact Trans.trans hr (hk _ _)
  · exact genExit_rel hr hl

end

/-! ## one step of `run` on `try`, the catch chain and `for` -/

section
variable (cfg : Cfg) (P : Prog) (n : Nat) (σ : St)

theorem run_try_none (b : E) (cs : List Catch) :
    run cfg P (n + 1) (.ev (.try_ b cs none)) σ =
      catchWith (run cfg P n (.ev b) σ) (fun v σ1 => run cfg P n (.catches cs v) σ1) := rfl

/-- **finally runs exactly once, on every exit path** (decomposition form): whatever the outcome of the
try without the `finally` block — normal, caught error, error escaping a catch block, `return`, `break`,
`continue` — the block is evaluated once from the state reached (`thenFinally` skips it only when the fuel
has run out). -/
theorem run_try_some (b f : E) (cs : List Catch) :
    run cfg P (n + 1) (.ev (.try_ b cs (some f))) σ =
      thenFinally (run cfg P (n + 1) (.ev (.try_ b cs none)) σ) (fun σ1 => run cfg P n (.ev f) σ1) := rfl

theorem run_seq_cons (e : E) (rest : List E) (last : Val) :
    run cfg P (n + 1) (.seq (e :: rest) last) σ =
      bindOk (run cfg P n (.ev e) σ) fun v σ' => run cfg P n (.seq rest v) σ' := run_succ ..

theorem run_catches_nil (v : Val) : run cfg P (n + 1) (.catches [] v) σ = (.err v, σ) := rfl

theorem run_catches_cons (ty : Option Ty) (x : Nat) (body : E) (rest : List Catch) (v : Val) :
    run cfg P (n + 1) (.catches ((ty, x, body) :: rest) v) σ =
      if accepts ty v then run cfg P n (.ev body) (bindCatch σ ty x v)
      else run cfg P n (.catches rest v) σ := rfl

theorem run_loopL_cons (x : Nat) (it : Val) (rest : List Val) (body : E) :
    run cfg P (n + 1) (.loopL x (it :: rest) body) σ =
      loopCtl (run cfg P n (.ev body) (setLocal σ x it)) fun σ' => run cfg P n (.loopL x rest body) σ' :=
  run_succ ..

theorem run_catches_skip (pre rest : List Catch) (v : Val) (hpre : ∀ c ∈ pre, accepts c.1 v = false) :
    run cfg P (n + pre.length) (.catches (pre ++ rest) v) σ = run cfg P n (.catches rest v) σ := by
  induction pre with
  | nil => rfl
  | cons c pre ih =>
    obtain ⟨ty, x, body⟩ := c
    have hc : accepts ty v = false := hpre _ List.mem_cons_self
    rw [List.cons_append, List.length_cons, ← Nat.add_assoc, run_catches_cons, hc]
    exact ih fun c h => hpre c (List.mem_cons_of_mem _ h)

end

/-! ## the observable state only grows -/

def Grows (σ σ' : St) : Prop := σ.out <+: σ'.out ∧ σ.heap.length ≤ σ'.heap.length

theorem Grows.refl (σ : St) : Grows σ σ := ⟨List.prefix_refl _, Nat.le_refl _⟩

theorem Grows.trans {a b c : St} (h1 : Grows a b) (h2 : Grows b c) : Grows a c :=
  ⟨h1.1.trans h2.1, Nat.le_trans h1.2 h2.2⟩

instance : Trans Grows Grows Grows := ⟨Grows.trans⟩

theorem Grows.of_eq {σ σ' : St} (ho : σ'.out = σ.out) (hh : σ'.heap.length = σ.heap.length) : Grows σ σ' :=
  ⟨ho ▸ List.prefix_refl _, hh ▸ Nat.le_refl _⟩

theorem Grows.locals (σ : St) (l : List Val) : Grows σ { σ with locals := l } := .of_eq rfl rfl

theorem Grows.bindCatch (σ : St) (ty : Option Ty) (x : Nat) (v : Val) : Grows σ (bindCatch σ ty x v) :=
  .of_eq (bindCatch_out ..) (congrArg _ (bindCatch_heap ..))

theorem Grows.emitEv (σ : St) (e : Ev) : Grows σ (emitEv σ e) := ⟨List.prefix_append _ _, Nat.le_refl _⟩

theorem Grows.alloc (σ : St) (vs : List Val) : Grows σ (alloc σ vs).1 :=
  ⟨List.prefix_refl _, alloc_heap_length σ vs ▸ Nat.le_succ _⟩

theorem Grows.heapSet (σ : St) (i : Nat) (xs : List Val) : Grows σ { σ with heap := σ.heap.set i xs } :=
  .of_eq rfl List.length_set

/-- Every branch chains sub-runs and primitives, and each primitive appends to the trace, adds a heap cell,
or touches neither. -/
theorem runStep_grows (P : Prog) {f : Task → St → Res} (hf : ∀ t σ, Grows σ (f t σ).2) (t : Task) (σ : St) :
    Grows σ (runStep P f t σ).2 := by
  have hf' : ∀ t {σ σ0}, Grows σ σ0 → Grows σ (f t σ0).2 := fun t _ _ h => h.trans (hf t _)
  cases t with
  | ev e =>
    cases e with
    | lit v | var x | gvar k | mkObj c | fault k | brk | cont => exact .refl _
    | assign x e => exact bindOk_rel (hf _ _) fun _ _ => .of_eq rfl rfl
    | throw e | brkV e | ret e => exact bindOk_rel (hf _ _) fun _ _ => .refl _
    | emit tag arg =>
      cases arg with
      | none => exact .emitEv _ _
      | some e => exact bindOk_rel (hf _ _) fun _ _ => bindVals_rel (hf _ _) fun _ _ => .emitEv _ _
    | emitI tag es => exact bindVals_rel (hf _ _) fun _ _ => bindVals_rel (hf _ _) fun _ _ => .emitEv _ _
    | mkList es => exact bindVals_rel (hf _ _) fun _ _ => .alloc _ _
    | index l i =>
      refine bindVals_rel (hf _ _) fun vs σ1 => ?_
      split
      · split <;> exact .refl _
      · exact .refl _
    | push l e =>
      refine bindVals_rel (hf _ _) fun vs σ1 => ?_
      split
      · exact .heapSet _ _ _
      · exact .refl _
    | setIdx l i e =>
      refine bindVals_rel (hf _ _) fun vs σ1 => ?_
      split
      · split
        · exact .heapSet _ _ _
        · exact .refl _
      · exact .refl _
    | bin op a b =>
      refine bindVals_rel (hf _ _) fun vs σ1 => ?_
      split
      · cases op <;> exact .refl _
      · cases op with
        | add => dsimp only; split; exact hf _ _; exact .refl _
        | lt => dsimp only; split; exact hf _ _; exact .refl _
        | ge =>
          dsimp only
          split
          · refine bindOk_rel (hf _ _) fun v σ2 => ?_
            split <;> exact .refl _
          · exact .refl _
      · exact .refl _
      · exact .refl _
    | call g args => exact bindVals_rel (hf _ _) fun _ _ => hf _ _
    | native k g l | forList x l body =>
      refine bindOk_rel (hf _ _) fun v σ1 => ?_
      cases v with
      | list r => exact hf _ _
      | _ => exact .refl _
    | seq es => exact hf _ _
    | ite c t e =>
      refine bindOk_rel (hf _ _) fun v σ1 => ?_
      split <;> exact hf _ _
    | forGen x g args body =>
      refine bindVals_rel (hf _ _) fun vs σ1 => ?_
      split
      · split
        · exact .refl _
        · split
          · exact .refl _
          · split
            · exact .refl _
            · exact hf _ _
      · exact .refl _
    | try_ b cs fin =>
      cases fin with
      | none => exact catchWith_rel (hf _ _) fun _ _ => hf _ _
      | some fin => exact thenFinally_rel (catchWith_rel (hf _ _) fun _ _ => hf _ _) fun _ => hf _ _
  | evs es acc =>
    cases es with
    | nil => exact .refl _
    | cons e rest => exact bindOk_rel (hf _ _) fun _ _ => hf _ _
  | seq es last =>
    cases es with
    | nil => exact .refl _
    | cons e rest => exact bindOk_rel (hf _ _) fun _ _ => hf _ _
  | catches cs v =>
    cases cs with
    | nil => exact .refl _
    | cons c rest =>
      dsimp only [runStep]
      split
      · exact hf' _ (.bindCatch ..)
      · exact hf _ _
  | callF g args =>
    obtain ⟨d, -, h⟩ | ⟨k, h⟩ := runStep_callF P g args σ
    · exact h f ▸ callResult_rel (hf' _ (.locals ..)) Grows.locals
    · exact h f ▸ .refl _
  | nat k g r items accL accV =>
    cases items with
    | nil =>
      cases k with
      | each | keep => exact .alloc _ _
      | fold => exact .refl _
      | sort =>
        dsimp only [runStep]
        split
        · exact .heapSet _ _ _
        · exact .refl _
    | cons it rest =>
      refine bindOk_rel (hf _ _) fun v σ1 => ?_
      cases k with
      | keep =>
        cases v with
        | bool b => exact hf _ _
        | _ => exact .refl _
      | _ => exact hf _ _
  | loopL x items body =>
    cases items with
    | nil => exact .refl _
    | cons it rest =>
      refine loopCtl_rel (hf' _ ?_) fun _ => hf _ _
      exact .of_eq rfl rfl
  | disp todo acc =>
    cases todo with
    | nil => exact .refl _
    | cons v rest =>
      cases v with
      | obj c =>
        dsimp only [runStep]
        split
        · refine bindOk_rel (hf _ _) fun v σ1 => ?_
          split
          · exact hf _ _
          · exact .refl _
        · exact hf _ _
      | _ => exact hf _ _
  | loopG x gl segs tail body =>
    cases segs with
    | nil => exact genExit_rel (hf' _ (.locals ..)) Grows.locals
    | cons s rest =>
      refine genSeg_rel (hf' _ (.locals ..)) Grows.locals fun _ _ => loopCtl_rel (hf' _ ?_) fun _ => hf _ _
      exact .of_eq rfl rfl

variable (cfg : Cfg) (P : Prog)

theorem run_grows : ∀ (n : Nat) (t : Task) (σ : St), Grows σ (run cfg P n t σ).2
  | 0, _, _ => .refl _
  | n + 1, t, σ => run_succ cfg P n t σ ▸ runStep_grows P (run_grows n) t σ

/-! ## markers a task cannot emit -/

def countTag (m : Nat) (out : List Ev) : Nat := out.countP (fun e => e.tag == m)

@[simp] theorem countTag_append (m : Nat) (a b : List Ev) :
    countTag m (a ++ b) = countTag m a + countTag m b := by
  simp [countTag, List.countP_append]

theorem countTag_single_ne (m t : Nat) (a : Option Shown) (h : t ≠ m) : countTag m [⟨t, a⟩] = 0 := by
  simp [countTag, h]

inductive NoEmit (m : Nat) : E → Prop where
  | lit v : NoEmit m (.lit v)
  | var x : NoEmit m (.var x)
  | gvar k : NoEmit m (.gvar k)
  | assign x e : NoEmit m e → NoEmit m (.assign x e)
  | emitNone t : t ≠ m → NoEmit m (.emit t none)
  | emitSome t e : t ≠ m → NoEmit m e → NoEmit m (.emit t (some e))
  | emitI t es : t ≠ m → (∀ e ∈ es, NoEmit m e) → NoEmit m (.emitI t es)
  | mkList es : (∀ e ∈ es, NoEmit m e) → NoEmit m (.mkList es)
  | mkObj c : NoEmit m (.mkObj c)
  | index l i : NoEmit m l → NoEmit m i → NoEmit m (.index l i)
  | push l e : NoEmit m l → NoEmit m e → NoEmit m (.push l e)
  | setIdx l i e : NoEmit m l → NoEmit m i → NoEmit m e → NoEmit m (.setIdx l i e)
  | bin op a b : NoEmit m a → NoEmit m b → NoEmit m (.bin op a b)
  | call f args : (∀ e ∈ args, NoEmit m e) → NoEmit m (.call f args)
  | native k f l : NoEmit m l → NoEmit m (.native k f l)
  | throw e : NoEmit m e → NoEmit m (.throw e)
  | fault k : NoEmit m (.fault k)
  | seq es : (∀ e ∈ es, NoEmit m e) → NoEmit m (.seq es)
  | ite c t e : NoEmit m c → NoEmit m t → NoEmit m e → NoEmit m (.ite c t e)
  | forList x l b : NoEmit m l → NoEmit m b → NoEmit m (.forList x l b)
  | forGen x g args b : (∀ e ∈ args, NoEmit m e) → NoEmit m b → NoEmit m (.forGen x g args b)
  | brk : NoEmit m .brk
  | brkV e : NoEmit m e → NoEmit m (.brkV e)
  | cont : NoEmit m .cont
  | ret e : NoEmit m e → NoEmit m (.ret e)
  | try_ b cs fin : NoEmit m b → (∀ c ∈ cs, NoEmit m c.2.2) → (∀ f, fin = some f → NoEmit m f) →
      NoEmit m (.try_ b cs fin)

def DefNoEmit (m : Nat) (d : Def) : Prop :=
  NoEmit m d.body ∧ (∀ s ∈ d.segs, NoEmit m s.1 ∧ NoEmit m s.2) ∧ NoEmit m d.tail

def ProgNoEmit (m : Nat) (P : Prog) : Prop := ∀ d ∈ P.defs, DefNoEmit m d

@[reducible] def TaskNoEmit (m : Nat) : Task → Prop
  | .ev e => NoEmit m e
  | .evs es _ => ∀ e ∈ es, NoEmit m e
  | .seq es _ => ∀ e ∈ es, NoEmit m e
  | .catches cs _ => ∀ c ∈ cs, NoEmit m c.2.2
  | .callF _ _ => True
  | .nat .. => True
  | .disp .. => True
  | .loopL _ _ body => NoEmit m body
  | .loopG _ _ segs tail body => (∀ s ∈ segs, NoEmit m s.1 ∧ NoEmit m s.2) ∧ NoEmit m tail ∧ NoEmit m body

def SameCount (m : Nat) (σ σ' : St) : Prop := countTag m σ'.out = countTag m σ.out

theorem SameCount.trans {m : Nat} {a b c : St} (h1 : SameCount m a b) (h2 : SameCount m b c) :
    SameCount m a c := Eq.trans h2 h1

instance {m : Nat} : Trans (SameCount m) (SameCount m) (SameCount m) := ⟨SameCount.trans⟩

theorem SameCount.of_eq {m : Nat} {σ σ' : St} (h : σ'.out = σ.out) : SameCount m σ σ' := congrArg _ h

theorem SameCount.refl {m : Nat} (σ : St) : SameCount m σ σ := rfl

theorem SameCount.locals {m : Nat} (σ : St) (l : List Val) : SameCount m σ { σ with locals := l } := rfl

theorem SameCount.emitEv {m t : Nat} (σ : St) (a : Option Shown) (h : t ≠ m) : SameCount m σ (emitEv σ ⟨t, a⟩) := by
  rw [SameCount, emitEv_out, countTag_append, countTag_single_ne m t a h, Nat.add_zero]

theorem runStep_noEmit (P : Prog) (m : Nat) (hP : ProgNoEmit m P) {f : Task → St → Res}
    (hf : ∀ t σ, TaskNoEmit m t → SameCount m σ (f t σ).2) (t : Task) (σ : St) (ht : TaskNoEmit m t) :
    SameCount m σ (runStep P f t σ).2 := by
  have hf' : ∀ t {σ σ0}, SameCount m σ σ0 → TaskNoEmit m t → SameCount m σ (f t σ0).2 :=
    fun t _ _ h ht => h.trans (hf t _ ht)
  have pair : ∀ {a b : E}, NoEmit m a → NoEmit m b → ∀ e ∈ [a, b], NoEmit m e :=
    fun ha hb => List.forall_mem_cons.2 ⟨ha, List.forall_mem_singleton.2 hb⟩
  cases t with
  | ev e =>
    cases ht with
    | lit | var | gvar | mkObj | fault | brk | cont => exact .refl _
    | assign _ _ he => exact bindOk_rel (hf _ _ he) fun _ _ => .of_eq rfl
    | throw _ he | brkV _ he | ret _ he => exact bindOk_rel (hf _ _ he) fun _ _ => .refl _
    | emitNone _ h => exact .emitEv _ _ h
    | emitSome _ _ h he =>
      exact bindOk_rel (hf _ _ he) fun _ _ => bindVals_rel (hf _ _ trivial) fun _ _ => .emitEv _ _ h
    | emitI _ _ h hes =>
      exact bindVals_rel (hf _ _ hes) fun _ _ => bindVals_rel (hf _ _ trivial) fun _ _ => .emitEv _ _ h
    | mkList _ hes => exact bindVals_rel (hf _ _ hes) fun _ _ => .of_eq rfl
    | index _ _ hl hi =>
      refine bindVals_rel (hf _ _ (pair hl hi)) fun vs σ1 => ?_
      split
      · split <;> exact .refl _
      · exact .refl _
    | push _ _ hl he =>
      refine bindVals_rel (hf _ _ (pair hl he)) fun vs σ1 => ?_
      split <;> exact .refl _
    | setIdx _ _ _ hl hi he =>
      refine bindVals_rel (hf _ _ (List.forall_mem_cons.2 ⟨hl, pair hi he⟩)) fun vs σ1 => ?_
      split
      · split <;> exact .refl _
      · exact .refl _
    | bin op _ _ ha hb =>
      refine bindVals_rel (hf _ _ (pair ha hb)) fun vs σ1 => ?_
      split
      · cases op <;> exact .refl _
      · cases op with
        | add => dsimp only; split; exact hf _ _ trivial; exact .refl _
        | lt => dsimp only; split; exact hf _ _ trivial; exact .refl _
        | ge =>
          dsimp only
          split
          · refine bindOk_rel (hf _ _ trivial) fun v σ2 => ?_
            split <;> exact .refl _
          · exact .refl _
      · exact .refl _
      · exact .refl _
    | call _ _ hargs => exact bindVals_rel (hf _ _ hargs) fun _ _ => hf _ _ trivial
    | native _ _ _ hl =>
      refine bindOk_rel (hf _ _ hl) fun v σ1 => ?_
      cases v with
      | list r => exact hf _ _ trivial
      | _ => exact .refl _
    | seq _ hes => exact hf _ _ hes
    | ite _ _ _ hc ht he =>
      refine bindOk_rel (hf _ _ hc) fun v σ1 => ?_
      split
      · exact hf _ _ ht
      · exact hf _ _ he
    | forList _ _ _ hl hb =>
      refine bindOk_rel (hf _ _ hl) fun v σ1 => ?_
      cases v with
      | list r => exact hf _ _ hb
      | _ => exact .refl _
    | forGen _ _ _ _ hargs hb =>
      refine bindVals_rel (hf _ _ hargs) fun vs σ1 => ?_
      split
      · rename_i d hd
        have hd := hP d (List.mem_of_getElem? hd)
        split
        · exact .refl _
        · split
          · exact .refl _
          · split
            · exact .refl _
            · exact hf _ _ ⟨hd.2.1, hd.2.2, hb⟩
      · exact .refl _
    | try_ _ _ fin hb hcs hfin =>
      cases fin with
      | none => exact catchWith_rel (hf _ _ hb) fun _ _ => hf _ _ hcs
      | some fin =>
        exact thenFinally_rel (catchWith_rel (hf _ _ hb) fun _ _ => hf _ _ hcs) fun _ => hf _ _ (hfin _ rfl)
  | evs es acc =>
    cases es with
    | nil => exact .refl _
    | cons e rest =>
      exact bindOk_rel (hf _ _ (ht e List.mem_cons_self)) fun _ _ =>
        hf _ _ fun e h => ht e (List.mem_cons_of_mem _ h)
  | seq es last =>
    cases es with
    | nil => exact .refl _
    | cons e rest =>
      exact bindOk_rel (hf _ _ (ht e List.mem_cons_self)) fun _ _ =>
        hf _ _ fun e h => ht e (List.mem_cons_of_mem _ h)
  | catches cs v =>
    cases cs with
    | nil => exact .refl _
    | cons c rest =>
      dsimp only [runStep]
      split
      · exact hf' _ (.of_eq (bindCatch_out ..)) (ht c List.mem_cons_self)
      · exact hf _ _ fun c h => ht c (List.mem_cons_of_mem _ h)
  | callF g args =>
    obtain ⟨d, hd, h⟩ | ⟨k, h⟩ := runStep_callF P g args σ
    · exact h f ▸ callResult_rel (hf' _ (.locals ..) (hP d (List.mem_of_getElem? hd)).1) SameCount.locals
    · exact h f ▸ .refl _
  | nat k g r items accL accV =>
    cases items with
    | nil =>
      cases k with
      | each | keep | fold => exact .refl _
      | sort =>
        dsimp only [runStep]
        split <;> exact .refl _
    | cons it rest =>
      refine bindOk_rel (hf _ _ trivial) fun v σ1 => ?_
      cases k with
      | keep =>
        cases v with
        | bool b => exact hf _ _ trivial
        | _ => exact .refl _
      | _ => exact hf _ _ trivial
  | loopL x items body =>
    cases items with
    | nil => exact .refl _
    | cons it rest =>
      refine loopCtl_rel (hf' (.ev body) ?_ ht) fun _ => hf (.loopL x rest body) _ ht
      exact .of_eq rfl
  | disp todo acc =>
    cases todo with
    | nil => exact .refl _
    | cons v rest =>
      cases v with
      | obj c =>
        dsimp only [runStep]
        split
        · refine bindOk_rel (hf _ _ trivial) fun v σ1 => ?_
          split
          · exact hf _ _ trivial
          · exact .refl _
        · exact hf _ _ trivial
      | _ => exact hf _ _ trivial
  | loopG x gl segs tail body =>
    obtain ⟨hsegs, htail, hbody⟩ := ht
    cases segs with
    | nil => exact genExit_rel (hf' _ (.locals ..) htail) SameCount.locals
    | cons s rest =>
      have hs := hsegs s List.mem_cons_self
      refine genSeg_rel (hf' _ (.locals ..) (pair hs.1 hs.2)) SameCount.locals fun _ _ =>
        loopCtl_rel (hf' _ ?_ hbody) fun _ => hf _ _ ⟨fun s h => hsegs s (List.mem_cons_of_mem _ h), htail, hbody⟩
      exact .of_eq rfl

theorem noEmit_run (m : Nat) (hP : ProgNoEmit m P) : ∀ (n : Nat) (t : Task) (σ : St),
    TaskNoEmit m t → countTag m (run cfg P n t σ).2.out = countTag m σ.out
  | 0, _, _, _ => rfl
  | n + 1, t, σ, ht => run_succ cfg P n t σ ▸ runStep_noEmit P m hP (noEmit_run m hP n) t σ ht

/-! ## fuel is only a termination device -/

def Res.Fin (r r' : Res) : Prop := r.1 ≠ .oof → r' = r

theorem Res.Fin.refl (r : Res) : Res.Fin r r := fun _ => rfl

section
variable {r r' : Res} (hr : Res.Fin r r')
include hr

theorem bindOk_fin {k k' : Val → St → Res} (hk : ∀ v σ, Res.Fin (k v σ) (k' v σ)) :
    Res.Fin (bindOk r k) (bindOk r' k') := by
  intro hne
  obtain ⟨s, σ⟩ := r
  cases s with
  | oof => exact absurd rfl hne
  | ok v => rw [hr nofun]; exact hk v σ hne
  | _ => rw [hr nofun]; rfl

theorem bindVals_fin {k k' : List Val → St → Res} (hk : ∀ vs σ, Res.Fin (k vs σ) (k' vs σ)) :
    Res.Fin (bindVals r k) (bindVals r' k') := by
  intro hne
  obtain ⟨s, σ⟩ := r
  cases s with
  | oof => exact absurd rfl hne
  | vals vs => rw [hr nofun]; exact hk vs σ hne
  | _ => rw [hr nofun]; rfl

theorem loopCtl_fin {k k' : St → Res} (hk : ∀ σ, Res.Fin (k σ) (k' σ)) :
    Res.Fin (loopCtl r k) (loopCtl r' k') := by
  intro hne
  obtain ⟨s, σ⟩ := r
  cases s with
  | oof => exact absurd rfl hne
  | ok v => rw [hr nofun]; exact hk σ hne
  | cont => rw [hr nofun]; exact hk σ hne
  | _ => rw [hr nofun]; rfl

theorem genExit_fin {l : List Val} : Res.Fin (genExit l r) (genExit l r') := by
  intro hne
  obtain ⟨s, σ⟩ := r
  cases s with
  | oof => exact absurd rfl hne
  | _ => rw [hr nofun]

theorem genSeg_fin {l : List Val} {k k' : Val → St → Res} (hk : ∀ v σ, Res.Fin (k v σ) (k' v σ)) :
    Res.Fin (genSeg l r k) (genSeg l r' k') := by
  intro hne
  obtain ⟨s, σ⟩ := r
  cases s with
  | oof => exact absurd rfl hne
  | ok v => rw [hr nofun]; exact hk v σ hne
  | _ => rw [hr nofun]; rfl

theorem callResult_fin {l : List Val} : Res.Fin (callResult l r) (callResult l r') :=
  fun hne => by rw [hr (callResult_not_oof hne)]

theorem catchWith_fin {k k' : Val → St → Res} (hk : ∀ v σ, Res.Fin (k v σ) (k' v σ)) :
    Res.Fin (catchWith r k) (catchWith r' k') := by
  intro hne
  obtain ⟨s, σ⟩ := r
  cases s with
  | oof => exact absurd rfl hne
  | err v => rw [hr nofun]; exact hk v σ hne
  | _ => rw [hr nofun]; rfl

theorem thenFinally_fin {k k' : St → Res} (hk : ∀ σ, Res.Fin (k σ) (k' σ)) :
    Res.Fin (thenFinally r k) (thenFinally r' k') := by
  intro hne
  have h := thenFinally_not_oof hne
  rw [hr h, thenFinally_eq k h] at *
  rw [thenFinally_eq k' h, hk _ (finish_not_oof hne)]

end

/-- Every operator passes `oof` on, and every branch of `runStep` is built from the operators. -/
theorem runStep_fin (P : Prog) {f g : Task → St → Res} (h : ∀ t σ, Res.Fin (f t σ) (g t σ)) (t : Task) (σ : St) :
    Res.Fin (runStep P f t σ) (runStep P g t σ) := by
  cases t with
  | ev e =>
    cases e with
    | lit v | var x | gvar k | mkObj c | fault k | brk | cont => exact .refl _
    | assign x e | throw e | brkV e | ret e => exact bindOk_fin (h _ _) fun _ _ => .refl _
    | emit tag arg =>
      cases arg with
      | none => exact .refl _
      | some e => exact bindOk_fin (h _ _) fun _ _ => bindVals_fin (h _ _) fun _ _ => .refl _
    | emitI tag es => exact bindVals_fin (h _ _) fun _ _ => bindVals_fin (h _ _) fun _ _ => .refl _
    | mkList es | index l i | push l e | setIdx l i e => exact bindVals_fin (h _ _) fun _ _ => .refl _
    | bin op a b =>
      refine bindVals_fin (h _ _) fun vs σ1 => ?_
      split
      · exact .refl _
      · cases op with
        | add => dsimp only; split; exact h _ _; exact .refl _
        | lt => dsimp only; split; exact h _ _; exact .refl _
        | ge => dsimp only; split; exact bindOk_fin (h _ _) fun _ _ => .refl _; exact .refl _
      · exact .refl _
      · exact .refl _
    | call g args => exact bindVals_fin (h _ _) fun _ _ => h _ _
    | native k g l | forList x l body =>
      refine bindOk_fin (h _ _) fun v σ1 => ?_
      cases v with
      | list r => exact h _ _
      | _ => exact .refl _
    | seq es => exact h _ _
    | ite c t e =>
      refine bindOk_fin (h _ _) fun v σ1 => ?_
      split <;> exact h _ _
    | forGen x g args body =>
      refine bindVals_fin (h _ _) fun vs σ1 => ?_
      split
      · split
        · exact .refl _
        · split
          · exact .refl _
          · split
            · exact .refl _
            · exact h _ _
      · exact .refl _
    | try_ b cs fin =>
      cases fin with
      | none => exact catchWith_fin (h _ _) fun _ _ => h _ _
      | some fin => exact thenFinally_fin (catchWith_fin (h _ _) fun _ _ => h _ _) fun _ => h _ _
  | evs es acc =>
    cases es with
    | nil => exact .refl _
    | cons e rest => exact bindOk_fin (h _ _) fun _ _ => h _ _
  | seq es last =>
    cases es with
    | nil => exact .refl _
    | cons e rest => exact bindOk_fin (h _ _) fun _ _ => h _ _
  | catches cs v =>
    cases cs with
    | nil => exact .refl _
    | cons c rest =>
      dsimp only [runStep]
      split <;> exact h _ _
  | callF g' args =>
    obtain ⟨d, -, hd⟩ | ⟨k, hk⟩ := runStep_callF P g' args σ
    · exact hd f ▸ hd g ▸ callResult_fin (h _ _)
    · exact hk f ▸ hk g ▸ .refl _
  | nat k g r items accL accV =>
    cases items with
    | nil => exact .refl _
    | cons it rest =>
      refine bindOk_fin (h _ _) fun v σ1 => ?_
      cases k with
      | keep =>
        cases v with
        | bool b => exact h _ _
        | _ => exact .refl _
      | _ => exact h _ _
  | loopL x items body =>
    cases items with
    | nil => exact .refl _
    | cons it rest => exact loopCtl_fin (h _ _) fun _ => h _ _
  | disp todo acc =>
    cases todo with
    | nil => exact .refl _
    | cons v rest =>
      cases v with
      | obj c =>
        dsimp only [runStep]
        split
        · refine bindOk_fin (h _ _) fun v σ1 => ?_
          split
          · exact h _ _
          · exact .refl _
        · exact h _ _
      | _ => exact h _ _
  | loopG x gl segs tail body =>
    cases segs with
    | nil => exact genExit_fin (h _ _)
    | cons s rest => exact genSeg_fin (h _ _) fun _ _ => loopCtl_fin (h _ _) fun _ => h _ _

theorem run_fin : ∀ {n m : Nat}, n ≤ m → ∀ t σ, Res.Fin (run cfg P n t σ) (run cfg P m t σ)
  | 0, _, _, _, _ => fun h => absurd rfl h
  | _ + 1, 0, hm, _, _ => absurd hm (Nat.not_succ_le_zero _)
  | n + 1, m + 1, hm, t, σ => by
    rw [run_succ, run_succ]
    exact runStep_fin P (run_fin (Nat.le_of_succ_le_succ hm)) t σ

theorem run_fuel_mono (n : Nat) (t : Task) (σ : St) :
    ∀ m, n ≤ m → (run cfg P n t σ).1 ≠ .oof → run cfg P m t σ = run cfg P n t σ :=
  fun _ hm => run_fin cfg P hm t σ

end KotoVerif.Try
