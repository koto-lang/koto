/-
Lemmas for C07 over `Model/Repl.lean`: what `Repl::on_line` does, one equation per arm, and the fact
behind the history-independence statements: buffer and indent after a session depend on the buffer
before it only (the indent is recomputed from the new buffer at every line, never read).
-/
import KotoVerif.Model.Repl

namespace KotoVerif.Repl

/-- a non-blank line typed into an open entry is pushed; nothing runs -/
theorem onLine_push (s : State) (l : Line) (hne : s.lines ≠ []) (hb : l.blank = false) :
    onLine s l = ⟨s.lines ++ [l.indent],
      if l.pushIndents then l.indent + INDENT_SIZE else l.indent, s.runs⟩ := by
  have hl : s.lines.isEmpty = false := by cases h : s.lines <;> simp_all
  simp [onLine, nextLines, indentOf, runsInput, hl, hb]

/-- an evaluated line clears the buffer, unless it is the indentation error at the main prompt that
starts a continued entry; it is one run iff its input compiles -/
theorem onLine_reset (s : State) (l : Line) (heval : (s.lines.isEmpty || l.blank) = true)
    (hv : l.verdict ≠ .indentErr ∨ s.lines ≠ []) :
    onLine s l =
      ⟨[], 0, s.runs + if l.verdict = .runOk ∨ l.verdict = .runErr then 1 else 0⟩ := by
  have hne : l.verdict = .indentErr → s.lines ≠ [] := fun h => hv.elim (absurd h) id
  cases hver : l.verdict <;> simp [onLine, nextLines, indentOf, runsInput, heval, hver, hne]

theorem session_cons (l : Line) (ls : List Line) (s : State) :
    session (l :: ls) s = session ls (onLine s l) := rfl

theorem onLine_congr (a b : State) (l : Line) (h : a.lines = b.lines) :
    (onLine a l).lines = (onLine b l).lines ∧ (onLine a l).indent = (onLine b l).indent ∧
    (onLine a l).runs + b.runs = (onLine b l).runs + a.runs :=
  ⟨by simp only [onLine, h], by simp only [onLine, h], by simp only [onLine, h]; omega⟩

/-- Two states with the same buffer show the same buffer after every session, the same indent as
soon as one line has been typed, and their run counters advance by the same amount. -/
theorem session_congr (ls : List Line) : ∀ a b : State, a.lines = b.lines →
    (session ls a).lines = (session ls b).lines ∧
    (a.indent = b.indent ∨ ls ≠ [] → (session ls a).indent = (session ls b).indent) ∧
    (session ls a).runs + b.runs = (session ls b).runs + a.runs := by
  induction ls with
  | nil => intro a b h; exact ⟨h, fun hi => hi.elim id (absurd rfl), Nat.add_comm ..⟩
  | cons x xs ih =>
    intro a b h
    obtain ⟨h1, h2, h3⟩ := onLine_congr a b x h
    obtain ⟨k1, k2, k3⟩ := ih _ _ h1
    exact ⟨k1, fun _ => k2 (.inl h2), by simp only [session_cons]; omega⟩

end KotoVerif.Repl
