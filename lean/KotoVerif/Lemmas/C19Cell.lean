/-
C19 — helper lemmas for Part 1 of `Model/Cell.lean` (one cell, single-threaded scripts): the rc and
the arc build side by side, for one request, one action and a whole script.  `arcView` stands in the
namespace of `Props/C19Ext`, whose statements use it.
-/
import KotoVerif.Model.Cell

namespace KotoVerif.C19Ext
open KotoVerif.Cell

variable {σ ρ : Type}

/-- read an rc event with arc eyes: where `RefCell` panics, `RwLock` parks -/
def arcView : Ev ρ → Ev ρ
  | .lock .panic => .lock .block
  | e => e

end KotoVerif.C19Ext

namespace KotoVerif.C19
open KotoVerif.Cell KotoVerif.C19Ext

variable {σ ρ : Type}

/-- one request in both builds: same lock state; same outcome (never `panic` under arc), or
`panic` where arc says `block` -/
theorem lockStep_rc_arc (s : LockSt) (r : Req) :
    (lockStep .rc s r).2 = (lockStep .arc s r).2 ∧
    (((lockStep .rc s r).1 = (lockStep .arc s r).1 ∧ (lockStep .arc s r).1 ≠ .panic) ∨
      ((lockStep .rc s r).1 = .panic ∧ (lockStep .arc s r).1 = .block)) := by
  cases r <;> simp only [lockStep] <;> split <;> simp [conflict]

theorem act_rc_arc (c : CellSt σ) (a : Act σ ρ) :
    (act .rc c a).2 = (act .arc c a).2 ∧ arcView (act .rc c a).1 = (act .arc c a).1 ∧
    (act .rc c a).1.stops = (act .arc c a).1.stops := by
  cases a with
  | req r =>
    obtain ⟨hs, ⟨ho, hp⟩ | ⟨h1, h2⟩⟩ := lockStep_rc_arc c.lock r
    · simp only [act, hs, ho, true_and, and_true]
      cases h : (lockStep .arc c.lock r).1 <;> first | rfl | exact absurd h hp
    · simp [act, hs, h1, h2, arcView, Ev.stops]
  | read f => simp only [act]; split <;> simp [arcView]
  | write f => simp only [act]; split <;> simp [arcView]

/-- Every script, re-entrant or not: the two builds leave the cell in the same state and produce
the same events up to renaming the final `panic` to `block`. -/
theorem run_rc_arc (c : CellSt σ) (script : List (Act σ ρ)) :
    (run .rc c script).2 = (run .arc c script).2 ∧
    (run .rc c script).1.map arcView = (run .arc c script).1 := by
  induction script generalizing c with
  | nil => simp [run]
  | cons a rest ih =>
    obtain ⟨h1, h2, h3⟩ := act_rc_arc c a
    by_cases hs : (act .rc c a).1.stops = true
    · have hs' : (act .arc c a).1.stops = true := h3 ▸ hs
      simp only [run, hs, hs', if_true]
      simp [h1, h2]
    · have hs' : ¬ (act .arc c a).1.stops = true := h3 ▸ hs
      simp only [run, hs, hs']
      rw [← h1]
      simp [h2, ih]

/-- a blocking request that `nonReentrant` admits is granted -/
theorem lockStep_arc_admitted (s : LockSt) (r : Req)
    (h : (match r with
      | .borrow => canRead s
      | .borrowMut => canWrite s
      | _ => true) = true) : (Ev.lock (lockStep .arc s r).1 : Ev ρ).stops = false := by
  cases r <;> simp only [lockStep] <;> first | (rw [if_pos h]; rfl) | (split <;> rfl)

/-- Under arc a non-re-entrant script runs to its end: no event stops it. -/
theorem run_arc_nonReentrant (c : CellSt σ) (script : List (Act σ ρ))
    (h : nonReentrant c.lock script = true) : ∀ e ∈ (run .arc c script).1, e.stops = false := by
  induction script generalizing c with
  | nil => nofun
  | cons a rest ih =>
    have ⟨hns, hnr⟩ : (act (ρ := ρ) .arc c a).1.stops = false ∧
        nonReentrant (act (ρ := ρ) .arc c a).2.lock rest = true := by
      cases a with
      | req r =>
        simp only [nonReentrant, Bool.and_eq_true] at h
        exact ⟨lockStep_arc_admitted c.lock r h.1, h.2⟩
      | read f => simp only [act]; split <;> exact ⟨rfl, h⟩
      | write f => simp only [act]; split <;> exact ⟨rfl, h⟩
    simp only [run, hns, Bool.false_eq_true, if_false, List.mem_cons, forall_eq_or_imp]
    exact ⟨trivial, ih _ hnr⟩

theorem arcView_stops {e : Ev ρ} (h : (arcView e).stops = false) :
    arcView e = e ∧ e ≠ .lock .panic ∧ e ≠ .lock .block := by
  refine ⟨?_, fun he => ?_, fun he => ?_⟩
  · cases e with
    | lock o => cases o <;> first | rfl | cases h
    | val r => rfl
    | fault => rfl
  · subst he; cases h
  · subst he; cases h

end KotoVerif.C19
