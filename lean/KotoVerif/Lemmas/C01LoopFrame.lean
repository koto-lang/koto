/-
C01 layer 5, loop layer: frame facts needed because a loop body is compiled *once* but executed
many times. `Compiled.replay` (`compile_stable` in function form): compiling the same expression again in
a frame that already contains every local the first compilation introduced and has no pending reservation
(`Hosts`) is the same derivation — the *same code*, the *same output register* — and of the frame only the
temporary count and high-water mark move (`Frame.at`); `CompiledS.replay`, `CompiledS.again` are the same
for statements. So the code emitted for a loop body in the frame at loop entry is the code the compiler
would emit for it in the frame at the end of the body — the frame every later iteration runs in.
Also here: the static side condition `safeS` of the statement theorems.
-/
import KotoVerif.Lemmas.C01FrameFacts
import KotoVerif.Model.CompileLoop

namespace KotoVerif.Compile

theorem compile_resLe (e : Expr) (m : Mode) (F : Frame) (code : Code) (out : Out) (F' : Frame)
    (h : compile e m F = some (code, out, F')) (_hw : WF F) : ResLe F F' :=
  (Compiled.of_compile h).bal.res

theorem getAssigned_mono {F G : Frame} {x : VarId} {r : Reg} (h : F.getAssigned x = some r)
    (hle : FrameLe F G) (hw : WF G) : G.getAssigned x = some r :=
  has_getAssigned hw (hle.has _ _ (getAssigned_has h))

theorem reserve_named {G : Frame} {x : VarId} {rx : Reg} (hn : Named G rx x) (hw : WF G) :
    G.reserve x = some (rx, G) := by
  unfold Frame.reserve
  cases hg : G.getAssignedOrReserved x with
  | some r0 =>
    have := hw.uniq r0 rx x (getAOR_named hg) hn
    subst this
    rfl
  | none => exact absurd hn (getAOR_none hg rx)

theorem commit_has {G : Frame} {x : VarId} {rx : Reg} (h : Has G rx x) : G.commit rx = some G := by
  unfold Frame.commit
  unfold Has at h
  simp [h]

/-- `G` with `n` live temporaries and `t` as the high-water mark: the frame a replay in `G` is in
when the original compilation is in a frame with `tc = n` -/
abbrev Frame.at (G : Frame) (n t : Nat) : Frame := { G with tc := n, tmax := t }

/-- what a replay needs of the frame `G` it runs in, relative to a frame `F'` of the original compilation -/
structure Hosts (G F' : Frame) : Prop where
  wf : WF G
  noRes : NoRes G
  le : FrameLe F' G

theorem Hosts.at {G F' : Frame} (h : Hosts G F') (n t : Nat) : Hosts (G.at n t) F' :=
  ⟨h.wf.of_locals_eq rfl rfl, h.noRes.of_resLe (.of_locals_eq rfl), h.le.trans (FrameLe.of_locals_eq rfl rfl)⟩

theorem Hosts.mono {G F F' : Frame} (h : Hosts G F') (hle : FrameLe F F') : Hosts G F :=
  ⟨h.wf, h.noRes, hle.trans h.le⟩

theorem pushReg_at {F F1 G : Frame} {r : Reg} (h : F.pushReg = some (r, F1)) (htb : G.tb = F.tb)
    (htc : G.tc = F.tc) : ∃ t, G.pushReg = some (r, G.at F1.tc t) := by
  unfold Frame.pushReg at h ⊢
  simp only at h ⊢
  split at h
  · cases h
  · rename_i hlt
    cases h
    exact ⟨max G.tmax (G.tc + 1), by simp only [Frame.at, htb, htc, if_neg hlt]⟩

theorem assignResult_at {m : Mode} {F F1 G : Frame} {res : Out} (h : assignResult m F = some (res, F1))
    (htb : G.tb = F.tb) (htc : G.tc = F.tc) : ∃ t, assignResult m G = some (res, G.at F1.tc t) := by
  unfold assignResult at h ⊢
  cases m with
  | fixed r => cases h; exact ⟨G.tmax, by rw [← htc]⟩
  | none => cases h; exact ⟨G.tmax, by rw [← htc]⟩
  | any =>
    simp only [Option.map_eq_some_iff, Prod.exists] at h
    obtain ⟨r, F2, hp, h⟩ := h
    cases h
    obtain ⟨t, g⟩ := pushReg_at hp htb htc
    exact ⟨t, by rw [g]; rfl⟩

theorem popIf_at {b : Bool} {F F1 G : Frame} (h : popIf b F = some F1) (htc : G.tc = F.tc) :
    popIf b G = some (G.at F1.tc G.tmax) := by
  unfold popIf at h ⊢
  cases b with
  | false => cases h; rw [← htc]; rfl
  | true =>
    simp only [if_true] at h ⊢
    unfold Frame.popReg at h ⊢
    split at h
    · cases h
    · cases h; rw [htc, if_neg ‹_›]

theorem resultOrTemp_at {res : Out} {F F1 G : Frame} {reg : Reg} (h : resultOrTemp res F = some (reg, F1))
    (htb : G.tb = F.tb) (htc : G.tc = F.tc) : ∃ t, resultOrTemp res G = some (reg, G.at F1.tc t) := by
  unfold resultOrTemp at h ⊢
  cases hr : res.reg with
  | some r => simp only [hr] at h ⊢; cases h; exact ⟨G.tmax, by rw [← htc]⟩
  | none => simp only [hr] at h ⊢; exact pushReg_at h htb htc

/-- replay: compiling the same expression in a frame `G` that hosts the final frame `F'` (with the
live temporaries of `F`) is the same derivation, step for step, and moves only `G`'s temporary
count (to `F'.tc`) and high-water mark. `G` hosts the frame after each sub-compilation because the
rest of the rule only extends it (`Ext.le`). -/
theorem Compiled.replay {e m F code out F'} (h : Compiled e m F code out F') :
    ∀ G, Hosts G F' → G.tc = F.tc → ∃ t, Compiled e m G code out (G.at F'.tc t) := by
  induction h with
  | null ha | bool ha | int ha =>
    intro G hG htc
    obtain ⟨t, ga⟩ := assignResult_at ha (by rw [hG.le.tb, (assignResult_ext ha).le.tb]) htc
    exact ⟨t, by constructor; exact ga⟩
  | varNone hg => exact fun G hG htc => ⟨G.tmax, htc ▸ .varNone (getAssigned_mono hg hG.le hG.wf)⟩
  | varAny hg => exact fun G hG htc => ⟨G.tmax, htc ▸ .varAny (getAssigned_mono hg hG.le hG.wf)⟩
  | varFixed hg => exact fun G hG htc => ⟨G.tmax, htc ▸ .varFixed (getAssigned_mono hg hG.le hG.wf)⟩
  | un ha hc hvr hp ih =>
    intro G hG htc
    have hG2 := hG.mono (popIf_ext hp).le
    obtain ⟨t1, ga⟩ := assignResult_at ha (by rw [hG2.le.tb, hc.ext.le.tb, (assignResult_ext ha).le.tb]) htc
    obtain ⟨t2, gc⟩ := ih _ (hG2.at _ t1) rfl
    exact ⟨t2, .un ga gc hvr (popIf_at hp rfl)⟩
  | binReg ha hr hca hra hcb hrb hpa hpb iha ihb =>
    intro G hG htc
    have hG3 := hG.mono ((popIf_ext hpa).le.trans (popIf_ext hpb).le)
    have hG2 := hG3.mono hcb.ext.le
    obtain ⟨t1, ga⟩ := assignResult_at ha (by rw [hG2.le.tb, hca.ext.le.tb, (assignResult_ext ha).le.tb]) htc
    obtain ⟨t2, gca⟩ := iha _ (hG2.at _ t1) rfl
    obtain ⟨t3, gcb⟩ := ihb _ (hG3.at _ t2) rfl
    exact ⟨t3, .binReg ga hr gca hra gcb hrb (popIf_at hpa rfl) (popIf_at hpb rfl)⟩
  | binNone ha hr hca hcb iha ihb =>
    intro G hG htc
    have hG2 := hG.mono hcb.ext.le
    obtain ⟨t1, ga⟩ := assignResult_at ha (by rw [hG2.le.tb, hca.ext.le.tb, (assignResult_ext ha).le.tb]) htc
    obtain ⟨t2, gca⟩ := iha _ (hG2.at _ t1) rfl
    obtain ⟨t3, gcb⟩ := ihb _ (hG.at _ t2) rfl
    exact ⟨t3, .binNone ga hr gca gcb⟩
  | @cmp _ _ _ _ F _ F1 _ _ _ _ _ _ _ _ F3 _ ha hrt hca hra hcb hrb iha ihb =>
    intro G hG htc
    have h2 := (assignResult_ext ha).le.tb
    have hG3 : Hosts G F3 := hG.mono (FrameLe.of_locals_eq rfl rfl)
    have hG2 := hG3.mono hcb.ext.le
    have htb : G.tb = F.tb := by rw [hG2.le.tb, hca.ext.le.tb, (resultOrTemp_ext hrt).1.le.tb, h2]
    obtain ⟨u1, ga⟩ := assignResult_at ha htb htc
    obtain ⟨u1', grt⟩ := resultOrTemp_at hrt (G := G.at F1.tc u1) (by rw [h2]; exact htb) rfl
    obtain ⟨u2, gca⟩ := iha _ (hG2.at _ u1') rfl
    obtain ⟨u3, gcb⟩ := ihb _ (hG3.at _ u2) rfl
    exact ⟨u3, .cmp ga grt gca hra gcb hrb⟩
  | @assign x _ _ _ rx _ _ o _ _ _ hres hc hvr hcm ih =>
    intro G hG htc
    obtain ⟨_, r4, r1⟩ := reserve_ext hres
    have so : o = ⟨some rx, false⟩ := hc.bal.shape
    subst so
    cases hvr
    obtain ⟨c, c4⟩ := commitIf_ext hcm
    have hG2 := hG.mono c.le
    have hnG : Named G rx x := hG2.le.named _ _ (hc.ext.le.named _ _ r1)
    obtain ⟨t, gc⟩ := ih G hG2 (by rw [htc, r4])
    exact ⟨t, c4 ▸ .assign (reserve_named hnG hG.wf) gc rfl
      (commit_has (G := G.at _ t) (hG.noRes.has hnG))⟩
  | seq hca hcb iha ihb =>
    intro G hG htc
    obtain ⟨t1, gca⟩ := iha G (hG.mono hcb.ext.le) htc
    obtain ⟨t2, gcb⟩ := ihb _ (hG.at _ t1) rfl
    exact ⟨t2, .seq gca gcb⟩
  | @chain3 _ _ _ _ _ _ F _ F1 _ _ _ _ _ _ _ _ _ _ _ _ F4 _ ha hrt hca hra hcb hrb hcc hrc iha ihb ihc =>
    intro G hG htc
    have h2 := (assignResult_ext ha).le.tb
    have hG4 : Hosts G F4 := hG.mono (FrameLe.of_locals_eq rfl rfl)
    have hG3 := hG4.mono hcc.ext.le
    have hG2 := hG3.mono hcb.ext.le
    have htb : G.tb = F.tb := by rw [hG2.le.tb, hca.ext.le.tb, (resultOrTemp_ext hrt).1.le.tb, h2]
    obtain ⟨u1, ga⟩ := assignResult_at ha htb htc
    obtain ⟨u1', grt⟩ := resultOrTemp_at hrt (G := G.at F1.tc u1) (by rw [h2]; exact htb) rfl
    obtain ⟨u2, gca⟩ := iha _ (hG2.at _ u1') rfl
    obtain ⟨u3, gcb⟩ := ihb _ (hG3.at _ u2) rfl
    obtain ⟨u4, gcc⟩ := ihc _ (hG4.at _ u3) rfl
    exact ⟨u4, .chain3 ga grt gca hra gcb hrb gcc hrc⟩
  | @and _ _ _ F _ F1 _ _ _ _ _ _ _ _ _ ha hrt hca hcb hp iha ihb
  | @or _ _ _ F _ F1 _ _ _ _ _ _ _ _ _ ha hrt hca hcb hp iha ihb =>
    intro G hG htc
    have h2 := (assignResult_ext ha).le.tb
    have hG4 := hG.mono (popIf_ext hp).le
    have hG3 := hG4.mono hcb.ext.le
    have htb : G.tb = F.tb := by rw [hG3.le.tb, hca.ext.le.tb, (resultOrTemp_ext hrt).1.le.tb, h2]
    obtain ⟨u1, ga⟩ := assignResult_at ha htb htc
    obtain ⟨u2, grt⟩ := resultOrTemp_at hrt (G := G.at F1.tc u1) (by rw [h2]; exact htb) rfl
    obtain ⟨u3, gca⟩ := iha _ (hG3.at _ u2) rfl
    obtain ⟨u4, gcb⟩ := ihb _ (hG4.at _ u3) rfl
    exact ⟨u4, by constructor <;> first | assumption | exact popIf_at hp rfl⟩
  | compound ha hc hrr hrl hp ih =>
    intro G hG htc
    have hG2 := hG.mono (popIf_ext hp).le
    obtain ⟨t1, ga⟩ := assignResult_at ha (by rw [hG2.le.tb, hc.ext.le.tb, (assignResult_ext ha).le.tb]) htc
    obtain ⟨t2, gc⟩ := ih _ (hG2.at _ t1) rfl
    exact ⟨t2, .compound ga gc hrr (getAssigned_mono hrl (hG2.at _ t2).le (hG2.at _ t2).wf) (popIf_at hp rfl)⟩
  | ite ha hcc hrc hp hct hce ihc iht ihe =>
    intro G hG htc
    have hG4 := hG.mono hce.ext.le
    have hG2 := (hG4.mono hct.ext.le).mono (popIf_ext hp).le
    obtain ⟨t1, ga⟩ := assignResult_at ha (by rw [hG2.le.tb, hcc.ext.le.tb, (assignResult_ext ha).le.tb]) htc
    obtain ⟨t2, gcc⟩ := ihc _ (hG2.at _ t1) rfl
    obtain ⟨t4, gct⟩ := iht _ (hG4.at _ t2) rfl
    obtain ⟨t5, gce⟩ := ihe _ (hG.at _ t4) rfl
    exact ⟨t5, .ite ga gcc hrc (popIf_at hp rfl) gct gce⟩
  | ifThen ha hcc hrc hp hct ihc iht =>
    intro G hG htc
    have hG2 := (hG.mono hct.ext.le).mono (popIf_ext hp).le
    obtain ⟨t1, ga⟩ := assignResult_at ha (by rw [hG2.le.tb, hcc.ext.le.tb, (assignResult_ext ha).le.tb]) htc
    obtain ⟨t2, gcc⟩ := ihc _ (hG2.at _ t1) rfl
    obtain ⟨t4, gct⟩ := iht _ (hG.at _ t2) rfl
    exact ⟨t4, .ifThen ga gcc hrc (popIf_at hp rfl) gct⟩

def SameLoc (G G1 : Frame) : Prop := G1.locals = G.locals ∧ G1.tb = G.tb

theorem compile_stable (e : Expr) (m : Mode) (F : Frame) (code : Code) (out : Out) (F' : Frame)
    (h : compile e m F = some (code, out, F')) (_hw : WF F) (G : Frame) (hwG : WF G) (hnG : NoRes G)
    (hle : FrameLe F' G) (htc : G.tc = F.tc) :
    ∃ G', compile e m G = some (code, out, G') ∧ SameLoc G G' ∧ G'.tc = F'.tc := by
  obtain ⟨t, h1⟩ := (Compiled.of_compile h).replay G ⟨hwG, hnG, hle⟩ htc
  exact ⟨_, h1.to_compile, ⟨rfl, rfl⟩, rfl⟩

/-- `temporaries_used_in_frame` only grows -/
def TmLe (F F' : Frame) : Prop := F.tmax ≤ F'.tmax

theorem compile_tmax (e : Expr) (m : Mode) (F : Frame) (code : Code) (out : Out) (F' : Frame)
    (h : compile e m F = some (code, out, F')) : TmLe F F' :=
  (Compiled.of_compile h).ext.tmax

/-- the core's static side conditions (`safe`: no late read, no read of an assignment target after
a partial write) for every expression of the statement, each in statement / condition position -/
def safeS : Stmt → Bool
  | .expr e => safe [] none e
  | .seq a b => safeS a && safeS b
  | .ite c t e => safe [] none c && safeS t && safeS e
  | .ifThen c t => safe [] none c && safeS t
  | .loop (some (c, _)) b => safe [] none c && safeS b
  | .loop none b => safeS b
  | .brk | .cont => true

/-- frame facts of one `compileS` / `compileCond` call: statement position hands every temporary back
and leaves no reservation pending -/
structure SF (F F' : Frame) : Prop where
  le : FrameLe F F'
  tc : F'.tc = F.tc
  wf : WF F'
  res : ResLe F F'

theorem SF.trans {A B C : Frame} (h1 : SF A B) (h2 : SF B C) : SF A C :=
  ⟨h1.le.trans h2.le, by rw [h2.tc, h1.tc], h2.wf, h1.res.trans h2.res⟩

theorem SF.noRes {F F' : Frame} (h : SF F F') (hn : NoRes F) : NoRes F' := hn.of_resLe h.res

theorem SF.of_ext {F F' : Frame} (he : Ext F F') (hb : BalS F F') (hw : WF F) : SF F F' :=
  ⟨he.le, hb.1, he.wf hw, hb.2⟩

theorem CompiledCond.frame {c : Expr} {F F1 : Frame} {cc : Code} {rc : Reg}
    (h : CompiledCond c F cc rc F1) (hw : WF F) : SF F F1 := .of_ext h.ext h.bal hw

theorem CompiledHdr.frame {cond : Option (Expr × Bool)} {F F1 : Frame} {hdr : Option (Code × Reg × Bool)}
    (h : CompiledHdr cond F hdr F1) (hw : WF F) : SF F F1 := .of_ext h.ext h.bal hw

theorem CompiledS.frame {s : Stmt} {il : Bool} {F F' : Frame} {code : LCode}
    (h : CompiledS s il F code F') (hw : WF F) : SF F F' := .of_ext h.ext h.bal hw

theorem CompiledCond.replay {c : Expr} {F F1 : Frame} {cc : Code} {rc : Reg}
    (h : CompiledCond c F cc rc F1) (G : Frame) (hG : Hosts G F1) (htc : G.tc = F.tc) :
    ∃ t, CompiledCond c G cc rc (G.at F1.tc t) := by
  obtain ⟨hc, hrc, hp⟩ := h
  obtain ⟨t, gc⟩ := hc.replay G (hG.mono (popIf_ext hp).le) htc
  exact ⟨t, .mk gc hrc (popIf_at hp rfl)⟩

theorem CompiledHdr.replay {cond : Option (Expr × Bool)} {F F1 : Frame} {hdr : Option (Code × Reg × Bool)}
    (h : CompiledHdr cond F hdr F1) (G : Frame) (hG : Hosts G F1) (htc : G.tc = F.tc) :
    ∃ t, CompiledHdr cond G hdr (G.at F1.tc t) := by
  cases h with
  | noCond => exact ⟨G.tmax, htc ▸ .noCond⟩
  | cond hc =>
    obtain ⟨t, gc⟩ := hc.replay G hG htc
    exact ⟨t, .cond gc⟩

theorem CompiledS.replay {s : Stmt} {il : Bool} {F F' : Frame} {code : LCode}
    (h : CompiledS s il F code F') :
    ∀ G, Hosts G F' → G.tc = F.tc → ∃ t, CompiledS s il G code (G.at F'.tc t) := by
  induction h with
  | expr hc =>
    intro G hG htc
    obtain ⟨t, gc⟩ := hc.replay G hG htc
    exact ⟨t, .expr gc⟩
  | seq ha hb iha ihb =>
    intro G hG htc
    obtain ⟨t1, ga⟩ := iha G (hG.mono hb.ext.le) htc
    obtain ⟨t2, gb⟩ := ihb _ (hG.at _ t1) rfl
    exact ⟨t2, .seq ga gb⟩
  | ite hc ht he iht ihe =>
    intro G hG htc
    have hG2 := hG.mono he.ext.le
    obtain ⟨t1, gc⟩ := hc.replay G (hG2.mono ht.ext.le) htc
    obtain ⟨t2, gt⟩ := iht _ (hG2.at _ t1) rfl
    obtain ⟨t3, ge⟩ := ihe _ (hG.at _ t2) rfl
    exact ⟨t3, .ite gc gt ge⟩
  | ifThen hc ht iht =>
    intro G hG htc
    obtain ⟨t1, gc⟩ := hc.replay G (hG.mono ht.ext.le) htc
    obtain ⟨t2, gt⟩ := iht _ (hG.at _ t1) rfl
    exact ⟨t2, .ifThen gc gt⟩
  | loop hh hb ihb =>
    intro G hG htc
    obtain ⟨t1, gh⟩ := hh.replay G (hG.mono hb.ext.le) htc
    obtain ⟨t2, gb⟩ := ihb _ (hG.at _ t1) rfl
    exact ⟨t2, .loop gh gb⟩
  | brk => exact fun G _ htc => ⟨G.tmax, htc ▸ .brk⟩
  | cont => exact fun G _ htc => ⟨G.tmax, htc ▸ .cont⟩

/-- a statement (a loop body), recompiled in the frame it ends in: the same code, and the frame
stays as it is but for the high-water mark of temporaries -/
theorem CompiledS.again {s : Stmt} {il : Bool} {F F' : Frame} {code : LCode}
    (h : CompiledS s il F code F') (hw : WF F) (hn : NoRes F) :
    ∃ t, CompiledS s il F' code (F'.at F'.tc t) :=
  h.replay F' ⟨h.ext.wf hw, hn.of_resLe h.bal.2, FrameLe.refl _⟩ h.bal.1

end KotoVerif.Compile

namespace KotoVerif.C01
open KotoVerif.Compile

theorem mainFrame_noRes (lc : Nat) : NoRes (mainFrame lc) := by
  intro k x hk
  cases k with
  | zero => cases hk
  | succ k => cases hk

end KotoVerif.C01
