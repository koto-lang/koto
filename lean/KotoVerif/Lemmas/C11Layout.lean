/-
C11 — lemmas about the render model `Model/Layout.lean` (`FormatItem::render` / `render_group`): measured
length against emitted width on the single-line path; rendered text fed back as items renders to itself
(`reify` — the layout side of idempotence); a group broken only because it is too long renders as if its
breaks were forced (`tooLong_as_force`, on `okItems`), so the builder's second-pass upgrade
`MaybeIndent → IndentedBreak` (`upgrade`, state relation `Rel`) does not change the rendering.
-/
import KotoVerif.Model.Layout

namespace KotoVerif.C11.LayoutLemmas
open KotoVerif.Layout

theorem forceBreak_of_flat (i : Item) (h : flatOneLine i = true) : forceBreak i = false := by
  cases i with
  | lineBreak => cases h
  | brk b => simpa [flatOneLine, forceBreak] using h
  | _ => rfl

theorem lineLengthItems_cons (i : Item) (rest : Items) (h : forceBreak i = false) :
    lineLengthItems (.cons i rest) = lineLength i + lineLengthItems rest := by
  cases i with
  | brk b =>
    have hb : b.forces = false := h
    simp [lineLengthItems, lineLength, hb]
  | lineBreak => cases h
  | error => simp [lineLengthItems, lineLength]
  | _ => rfl

theorem lineLengthItems_cons_le (i : Item) (rest : Items) :
    lineLengthItems (.cons i rest) ≤ lineLength i + lineLengthItems rest := by
  cases i with
  | brk b =>
    simp only [lineLengthItems, lineLength]
    split <;> omega
  | _ => simp [lineLengthItems, lineLength]

mutual
theorem measure_item : ∀ (i : Item), flatOneLine i = true →
    lineLength i + returnSpaces i = flatWidth i + optWidth i
  | .char _, _ => rfl
  | .optChar w, _ => Nat.add_comm w 0
  | .str _ _, _ => rfl
  | .lineBreak, h | .error, h => by cases h
  | .brk b, h => by cases b <;> first | rfl | cases h
  | .group is, h => measure_items is h
theorem measure_items : ∀ (is : Items), flatOneLineItems is = true →
    lineLengthItems is + returnSpacesItems is = flatWidthItems is + optWidthItems is
  | .nil, _ => rfl
  | .cons i rest, h => by
      simp only [flatOneLineItems, Bool.and_eq_true] at h
      have hi := measure_item i h.1
      have hr := measure_items rest h.2
      rw [lineLengthItems_cons i rest (forceBreak_of_flat i h.1)]
      simp only [returnSpacesItems, flatWidthItems, optWidthItems]
      omega
end

theorem anyForce_false : ∀ (is : Items), flatOneLineItems is = true → anyItem forceBreak is = false
  | .nil, _ => rfl
  | .cons i rest, h => by
      simp only [flatOneLineItems, Bool.and_eq_true] at h
      simp [anyItem, forceBreak_of_flat i h.1, anyForce_false rest h.2]

theorem notBlock_of_flat (i : Item) (h : flatOneLine i = true) : isIndentedBlock i = false := by
  cases hb : isIndentedBlock i with
  | false => rfl
  | true =>
    -- an indented block starts with the forcing break `StartBlock`
    unfold isIndentedBlock at hb
    split at hb
    · cases h
    · cases hb

theorem lastBlock_false : ∀ (is : Items), flatOneLineItems is = true → lastIs isIndentedBlock is = false
  | .nil, _ => rfl
  | .cons i .nil, h => by
      simp only [flatOneLineItems, Bool.and_eq_true] at h
      exact notBlock_of_flat i h.1
  | .cons i (.cons j rest), h => by
      simp only [flatOneLineItems, Bool.and_eq_true] at h
      exact lastBlock_false (.cons j rest) (by simp [flatOneLineItems, h.2.1, h.2.2])

theorem broken_eq_tooLong (lineLen col : Nat) (is : Items) (h : flatOneLineItems is = true) :
    broken lineLen col is = tooLong lineLen col is := by
  simp [broken, anyForce_false is h, lastBlock_false is h]

theorem fits_of_not_broken (lineLen col : Nat) (is : Items) (hb : broken lineLen col is = false) :
    lineLengthItems is ≤ lineLen - col := by
  simp [broken, tooLong] at hb
  exact hb.1.1

theorem broken_mono (lineLen lineLen' col col' : Nat) (is : Items)
    (hb : broken lineLen col is = false) (hl : lineLen ≤ lineLen') (hc : col' ≤ col) :
    broken lineLen' col' is = false := by
  simp [broken, tooLong] at hb ⊢
  obtain ⟨⟨h1, h2⟩, h3⟩ := hb
  exact ⟨⟨by omega, h2⟩, h3⟩

theorem fits_cons (i : Item) (rest : Items) (room : Nat) (h : flatOneLine i = true)
    (hle : lineLengthItems (.cons i rest) ≤ room) :
    lineLength i ≤ room ∧ lineLengthItems rest ≤ room := by
  rw [lineLengthItems_cons i rest (forceBreak_of_flat i h)] at hle
  omega

mutual
theorem nested_item (lineLen col : Nat) : ∀ (i : Item), flatOneLine i = true →
    lineLength i ≤ lineLen - col → nestedFlat lineLen col i = true
  | .group js, h, hle => by
      have hb : broken lineLen col js = false := by
        rw [broken_eq_tooLong lineLen col js h]
        exact decide_eq_false (Nat.not_lt.mpr hle)
      simp [nestedFlat, hb, nested_items lineLen col js h hle]
  | .char _, _, _ | .optChar _, _, _ | .str _ _, _, _ | .lineBreak, _, _ | .brk _, _, _
  | .error, _, _ => rfl
theorem nested_items (lineLen col : Nat) : ∀ (is : Items), flatOneLineItems is = true →
    lineLengthItems is ≤ lineLen - col → nestedFlatItems lineLen col is = true
  | .nil, _, _ => rfl
  | .cons i rest, h, hle => by
      simp only [flatOneLineItems, Bool.and_eq_true] at h
      have hi := fits_cons i rest _ h.1 hle
      simp [nestedFlatItems, nested_item lineLen col i h.1 hi.1, nested_items lineLen col rest h.2 hi.2]
end

/-! ## the output buffer: `emit` and `append` never leave it empty -/

theorem append_single (a w : Nat) : Out.append [a] [w] = [a + w] := rfl

theorem emit_newline (out : Out) (l : Nat) : (Out.newline out).append [l] = l :: out := by
  simp [Out.newline, Out.append, Out.emit]

theorem emit_length (w : Nat) (o : Out) (h : o ≠ []) : (o.emit w).length = o.length := by
  cases o with
  | nil => exact absurd rfl h
  | cons c r => simp [Out.emit]

theorem emit_ne_nil (w : Nat) (o : Out) : o.emit w ≠ [] := by
  cases o <;> simp [Out.emit]

theorem append_ne_nil (o t : Out) (ho : o ≠ []) : o.append t ≠ [] := by
  unfold Out.append
  cases hr : t.reverse with
  | nil => simpa using ho
  | cons first more =>
    cases o with
    | nil => exact absurd rfl ho
    | cons c r => simp [Out.emit]

theorem stepBrk_out_ne_nil (o : Opt) (ind : Bool) (b : Brk) (st : St) (h : st.out ≠ []) :
    (stepBrk o ind b st).out ≠ [] := by
  cases b <;> simp [stepBrk, Out.newline, h]

theorem stepItem_out_ne_nil (o : Opt) (tl f ind : Bool) (st : St) (gc : Nat) (ci : Bool) (t : Out)
    (h : st.out ≠ []) : (stepItem o tl f ind st gc ci t).out ≠ [] := by
  simp only [stepItem]
  apply append_ne_nil
  -- by the action in front of the item: all but `nothing` end in an `emit`
  split
  · exact emit_ne_nil _ _
  · exact emit_ne_nil _ _
  · exact emit_ne_nil _ _
  · exact emit_ne_nil _ _
  · split
    · exact emit_ne_nil _ _
    · exact h

/-! ## the render functions on the single-line path -/

mutual
theorem render_item_flat (o : Opt) (col : Nat) : ∀ (i : Item), flatOneLine i = true →
    lineLength i ≤ o.lineLen - col → renderItem o i false false col = some [flatWidth i]
  | .char w, _, _ | .optChar w, _, _ => by simp [renderItem, flatWidth]
  | .str w more, h, _ => by
      have : more = [] := by simpa [flatOneLine] using h
      subst this
      simp [renderItem, flatWidth]
  | .lineBreak, h, _ | .error, h, _ => by cases h
  | .brk b, _, _ => by simp [renderItem, flatWidth]
  | .group is, h, hle => by
      have h1 : tooLong o.lineLen col is = false := decide_eq_false (Nat.not_lt.mpr hle)
      have := flat_items o col is h hle 0
      simp only [renderItem, h1, anyForce_false is h, lastBlock_false is h, Bool.or_self,
        Bool.false_eq_true, if_false, flatWidth]
      simpa using this
theorem flat_items (o : Opt) (col : Nat) : ∀ (is : Items), flatOneLineItems is = true →
    lineLengthItems is ≤ o.lineLen - col →
    ∀ a, flatItems o is col [a] = some [a + flatWidthItems is]
  | .nil, _, _, a => by simp [flatItems, flatWidthItems]
  | .cons i rest, h, hle, a => by
      simp only [flatOneLineItems, Bool.and_eq_true] at h
      have hi := fits_cons i rest _ h.1 hle
      have hr := render_item_flat o col i h.1 hi.1
      have hrest := flat_items o col rest h.2 hi.2 (a + flatWidth i)
      simp only [flatItems, hr, append_single, hrest, flatWidthItems, Nat.add_assoc]
end

/-! ## the loop body of the break branch, by the kind of item in front -/

theorem step_lineBreak (o : Opt) (tl f ind : Bool) (st : St) (rest : Items) :
    loopItems o tl f ind (.cons .lineBreak rest) st
      = loopItems o tl f ind rest { st with out := st.out.newline, pending := .none } := by
  simp [loopItems]

theorem loopItems_item (o : Opt) (tl f ind : Bool) (i : Item) (rest : Items) (st : St)
    (hb : ∀ b, i ≠ .brk b) (hl : i ≠ .lineBreak) :
    loopItems o tl f ind (.cons i rest) st =
      if isIndentedBlock i then
        (renderItem o i false false st.column).bind fun t =>
          loopItems o tl f ind rest { st with out := st.out.append t, pending := .none }
      else
        (renderItem o i (preAdjust o tl f ind st).2 (tl || (preAdjust o tl f ind st).2)
            (preAdjust o tl f ind st).1).bind fun t =>
          loopItems o tl f ind rest
            (stepItem o tl f ind st (preAdjust o tl f ind st).1 (preAdjust o tl f ind st).2 t) := by
  cases i with
  | brk b => exact absurd rfl (hb b)
  | lineBreak => exact absurd rfl hl
  | _ =>
    simp only [loopItems]
    split <;> (generalize renderItem o _ _ _ _ = x; cases x <;> rfl)

/-! ## rendered text is a fixed point of the render functions -/

/-- the further lines of a text as items: a line break and the line, verbatim -/
def tailItems : List Nat → Items
  | [] => .nil
  | l :: ls => .cons .lineBreak (.cons (.str l []) (tailItems ls))

/-- rendered lines (first line first), re-read as items: every line is one piece of text -/
def reify : List Nat → Items
  | [] => .nil
  | l :: ls => .cons (.str l []) (tailItems ls)

theorem action_none (tl f ind acc : Bool) : Brk.action .none tl f ind acc = .nothing := by
  cases tl <;> cases f <;> cases ind <;> cases acc <;> rfl

theorem step_text (o : Opt) (tl f ind : Bool) (st : St) (hp : st.pending = .none) (l : Nat)
    (rest : Items) :
    loopItems o tl f ind (.cons (.str l []) rest) st
      = loopItems o tl f ind rest
          { column := st.column, groupColumn := st.groupColumn, pending := .none,
            lineWidth := st.lineWidth + l, childIndented := st.childIndented, firstItem := false,
            out := st.out.append [l] } := by
  have hnl : ∀ acc, Brk.needsLinebreak .none tl f acc = false := by intro acc; rfl
  simp only [loopItems, isIndentedBlock, Bool.false_eq_true, if_false, preAdjust, hp, hnl,
    Bool.false_and, renderItem, List.reverse_cons, List.reverse_nil, List.nil_append]
  have hr : ∀ fw, resolvePending o ind st fw = .none := by intro fw; simp [resolvePending, hp]
  simp [stepItem, hp, hr, action_none, Out.firstW, Out.multi]

theorem loopItems_tailItems (o : Opt) (tl f ind : Bool) : ∀ (ls : List Nat) (st : St),
    ∃ st', loopItems o tl f ind (tailItems ls) st = some st' ∧ st'.out = ls.reverse ++ st.out
  | [], st => ⟨st, by simp [tailItems, loopItems], by simp⟩
  | l :: ls, st => by
      have e1 : tailItems (l :: ls) = .cons .lineBreak (.cons (.str l []) (tailItems ls)) := rfl
      rw [e1, step_lineBreak, step_text o tl f ind _ rfl l (tailItems ls)]
      obtain ⟨st', h1, h2⟩ := loopItems_tailItems o tl f ind ls
        { column := st.column, groupColumn := st.groupColumn, pending := .none,
          lineWidth := st.lineWidth + l, childIndented := st.childIndented, firstItem := false,
          out := (Out.newline st.out).append [l] }
      refine ⟨st', h1, ?_⟩
      rw [h2, emit_newline]
      simp

theorem render_reify (o : Opt) (ind : Bool) (col : Nat) (l : Nat) (ls : List Nat) :
    renderGroupLines o (reify (l :: ls)) ind col = some (l :: ls) := by
  have e1 : reify (l :: ls) = .cons (.str l []) (tailItems ls) := rfl
  rw [e1]
  simp only [renderGroupLines, renderItem]
  by_cases hc : (tooLong o.lineLen col (.cons (.str l []) (tailItems ls))
      || anyItem forceBreak (.cons (.str l []) (tailItems ls))
      || lastIs isIndentedBlock (.cons (.str l []) (tailItems ls))) = true
  · -- break branch
    rw [if_pos hc, step_text o _ _ ind _ rfl l (tailItems ls)]
    obtain ⟨st', h1, h2⟩ := loopItems_tailItems o (tooLong o.lineLen col (.cons (.str l []) (tailItems ls)))
      (anyItem forceBreak (.cons (.str l []) (tailItems ls))) ind ls
      { column := col, groupColumn := col, pending := .none, lineWidth := col + l,
        childIndented := false, firstItem := false, out := Out.append [0] [l] }
    rw [h1]
    simp [h2, append_single]
  · -- single-line branch: only possible without further lines
    rw [if_neg hc]
    cases ls with
    | nil => simp [tailItems, flatItems, renderItem, append_single]
    | cons l2 ls2 =>
      exfalso
      apply hc
      simp [tailItems, anyItem, forceBreak]

/-! ## a group that is broken because it is too long renders as if its breaks were forced -/

/-- breaks whose behaviour in a broken group does not depend on WHY the group is broken -/
def okBrk (b : Brk) : Bool := b != .spaceOrIndent && b != .spaceOrReturn

/-- direct items: no `SpaceOrIndent` / `SpaceOrReturn` break and no `OptionalChar` -/
def okItems : Items → Bool
  | .nil => true
  | .cons (.brk b) rest => okBrk b && okItems rest
  | .cons (.optChar _) _ => false
  | .cons _ rest => okItems rest

theorem nl_eq (b : Brk) (h : okBrk b = true) (tl acc : Bool) :
    b.needsLinebreak true false true = b.needsLinebreak tl true acc := by
  cases b with
  | spaceOrIndent | spaceOrReturn => cases h
  | _ => rfl

theorem ni_eq (b : Brk) (h : okBrk b = true) (tl ind : Bool) :
    b.needsIndent true false ind = b.needsIndent tl true ind := by
  cases b with
  | spaceOrIndent => cases h
  | maybeIndent => exact (Bool.or_true tl).symm
  | _ => rfl

theorem nr_eq (b : Brk) (tl ind : Bool) : b.needsReturn true false ind = b.needsReturn tl true ind := by
  cases b with
  | maybeReturn => exact (Bool.or_true tl).symm
  | _ => rfl

theorem act_eq (b : Brk) (h : okBrk b = true) (hs : b ≠ .spaceOrIndentIfNecessary) (tl ind acc : Bool) :
    b.action true false ind true = b.action tl true ind acc := by
  have hsp : ∀ t, b.needsSpace t = false := by
    intro t
    cases b with
    | spaceOrIndent | spaceOrReturn => cases h
    | spaceOrIndentIfNecessary => exact absurd rfl hs
    | _ => rfl
  simp only [Brk.action, nl_eq b h tl acc, ni_eq b h tl ind, nr_eq b tl ind, hsp]

theorem preAdjust_eq (o : Opt) (tl : Bool) (st : St) (h : okBrk st.pending = true) :
    preAdjust o true false false st = preAdjust o tl true false st := by
  simp only [preAdjust, Bool.and_false, Bool.not_false]
  rw [nl_eq st.pending h tl true, ni_eq st.pending h tl false]

theorem resolve_ok (o : Opt) (st : St) (fw : Nat) (h : okBrk st.pending = true) :
    okBrk (resolvePending o false st fw) = true ∧ resolvePending o false st fw ≠ .spaceOrIndentIfNecessary := by
  unfold resolvePending
  split
  · split <;> exact ⟨rfl, by decide⟩
  · split <;> exact ⟨rfl, by decide⟩
  · rename_i h1 _
    exact ⟨h, fun e => h1 e⟩

theorem stepItem_eq (o : Opt) (tl : Bool) (st : St) (gc : Nat) (ci : Bool) (t : Out)
    (h : okBrk st.pending = true) :
    stepItem o true false false st gc ci t = stepItem o tl true false st gc ci t := by
  obtain ⟨h1, h2⟩ := resolve_ok o st t.firstW h
  have hk := act_eq (resolvePending o false st t.firstW) h1 h2 tl false (!(st.firstItem && false))
  simp only [Bool.and_false, Bool.not_false] at hk
  simp only [stepItem, Bool.and_false, Bool.not_false, hk]

theorem render_ro (o : Opt) (i : Item) (a r1 r2 : Bool) (c : Nat) (h : ∀ w, i ≠ .optChar w) :
    renderItem o i a r1 c = renderItem o i a r2 c := by
  cases i with
  | optChar w => exact absurd rfl (h w)
  | _ => simp [renderItem]

theorem okBrk_stepBrk (o : Opt) (b : Brk) (st : St) (h : okBrk b = true) :
    okBrk (stepBrk o false b st).pending = true := by
  cases b with
  | startBlock | indentedBreak => rfl
  | _ => exact h

/-- `tooLong_as_force` for one more item in front, given it for the rest of the list. -/
theorem tooLong_as_force_item (o : Opt) (tl : Bool) (i : Item) (rest : Items) (st : St)
    (hb : ∀ b, i ≠ .brk b) (hl : i ≠ .lineBreak) (ho : ∀ w, i ≠ .optChar w)
    (ih : ∀ st : St, okBrk st.pending = true →
      loopItems o true false false rest st = loopItems o tl true false rest st)
    (hp : okBrk st.pending = true) :
    loopItems o true false false (.cons i rest) st = loopItems o tl true false (.cons i rest) st := by
  rw [loopItems_item _ _ _ _ _ _ _ hb hl, loopItems_item _ _ _ _ _ _ _ hb hl, preAdjust_eq o tl st hp,
    render_ro o i _ (true || _) (tl || _) _ ho]
  split
  · exact congrArg _ (funext fun t => ih _ rfl)
  · refine congrArg _ (funext fun t => ?_)
    rw [stepItem_eq o tl st _ _ t hp]
    exact ih _ rfl

/-- The flags are (too_long, force_break, indented): too long and not forced = forced, too long or
not, in a group that is not itself indented. -/
theorem tooLong_as_force (o : Opt) (tl : Bool) : ∀ (is : Items) (st : St), okItems is = true →
    okBrk st.pending = true →
    loopItems o true false false is st = loopItems o tl true false is st
  | .nil, st, _, _ => rfl
  | .cons i rest, st, h, hp => by
    cases i with
    | brk b =>
      simp only [okItems, Bool.and_eq_true] at h
      simp only [loopItems]
      exact tooLong_as_force o tl rest _ h.2 (okBrk_stepBrk o b st h.1)
    | lineBreak =>
      simp only [loopItems]
      exact tooLong_as_force o tl rest _ h rfl
    | optChar w => cases h
    | _ =>
      exact tooLong_as_force_item o tl _ rest st (by simp) (by simp) (by simp)
        (fun st => tooLong_as_force o tl rest st h) hp

/-! ## the builder's second-pass upgrade `MaybeIndent → IndentedBreak` does not change the rendering -/

/-- What the builder does on the second pass where the first pass broke the line: `maybe_force_indent`
/ `indented_break` push `IndentedBreak` where the first pass had `MaybeIndent`. -/
def upgrade : Items → Items
  | .nil => .nil
  | .cons (.brk .maybeIndent) rest => .cons (.brk .indentedBreak) (upgrade rest)
  | .cons i rest => .cons i (upgrade rest)

def Rel (st st' : St) : Prop :=
  st' = st ∨ (st.pending = .maybeIndent ∧ st' = { st with pending := .indentedBreak })

theorem rel_fields (st st' : St) (h : Rel st st') : st'.column = st.column ∧ st'.out = st.out := by
  rcases h with rfl | ⟨_, rfl⟩
  · exact ⟨rfl, rfl⟩
  · exact ⟨rfl, rfl⟩

/-- in a forced group that is not indented, a pending `MaybeIndent` acts like an `IndentedBreak` -/
theorem action_maybeIndent_forced (tl acc : Bool) :
    Brk.action .maybeIndent tl true false acc = Brk.action .indentedBreak tl true false acc := by
  simp [Brk.action, Brk.needsLinebreak, Brk.needsIndent]

theorem rel_preAdjust (o : Opt) (tl : Bool) (st st' : St) (h : Rel st st') :
    preAdjust o tl true false st' = preAdjust o tl true false st := by
  rcases h with rfl | ⟨hp, rfl⟩
  · rfl
  · simp [preAdjust, hp, Brk.needsLinebreak, Brk.needsIndent]

theorem rel_stepItem (o : Opt) (tl : Bool) (st st' : St) (gc : Nat) (ci : Bool) (t : Out)
    (h : Rel st st') : stepItem o tl true false st' gc ci t = stepItem o tl true false st gc ci t := by
  rcases h with rfl | ⟨hp, rfl⟩
  · rfl
  · simp [stepItem, resolvePending, hp, action_maybeIndent_forced]

theorem stepBrk_pending (o : Opt) (ind : Bool) (b p : Brk) (st : St) :
    stepBrk o ind b { st with pending := p } = stepBrk o ind b st := by
  cases b <;> rfl

theorem rel_stepBrk (o : Opt) (b : Brk) (st st' : St) (h : Rel st st') :
    stepBrk o false b st' = stepBrk o false b st := by
  rcases h with rfl | ⟨_, rfl⟩
  · rfl
  · exact stepBrk_pending o false b _ st

theorem rel_block (st st' : St) (h : Rel st st') (t : Out) :
    ({ st' with out := st'.out.append t, pending := Brk.none } : St)
      = { st with out := st.out.append t, pending := Brk.none } := by
  rcases h with rfl | ⟨_, rfl⟩ <;> rfl

theorem rel_maybeIndent (o : Opt) (st st' : St) (h : Rel st st') :
    Rel (stepBrk o false .maybeIndent st) (stepBrk o false .indentedBreak st') := by
  rw [rel_stepBrk o _ st st' h]
  exact Or.inr ⟨rfl, rfl⟩

/-- `loop_upgrade` for one more item (the same on both sides) in front. -/
theorem loop_upgrade_item (o : Opt) (tl : Bool) (i : Item) (rest rest' : Items) (st st' : St)
    (hb : ∀ b, i ≠ .brk b) (hl : i ≠ .lineBreak) (h : Rel st st')
    (ih : ∀ st : St, (loopItems o tl true false rest' st).map (·.out)
      = (loopItems o tl true false rest st).map (·.out)) :
    (loopItems o tl true false (.cons i rest') st').map (·.out)
      = (loopItems o tl true false (.cons i rest) st).map (·.out) := by
  rw [loopItems_item _ _ _ _ _ _ _ hb hl, loopItems_item _ _ _ _ _ _ _ hb hl, rel_preAdjust o tl st st' h]
  split
  · simp only [rel_block st st' h]
    rw [(rel_fields st st' h).1]
    cases renderItem o i false false st.column with
    | none => rfl
    | some t => exact ih _
  · cases renderItem o i (preAdjust o tl true false st).2 (tl || (preAdjust o tl true false st).2)
        (preAdjust o tl true false st).1 with
    | none => rfl
    | some t =>
      simp only [Option.bind_some, rel_stepItem o tl st st' _ _ t h]
      exact ih _

theorem loop_upgrade (o : Opt) (tl : Bool) : ∀ (is : Items) (st st' : St), Rel st st' →
    (loopItems o tl true false (upgrade is) st').map (·.out)
      = (loopItems o tl true false is st).map (·.out)
  | .nil, st, st', h => by
      simp [upgrade, loopItems, (rel_fields st st' h).2]
  | .cons i rest, st, st', h => by
    cases i with
    | brk b =>
      by_cases hb : b = .maybeIndent
      · subst hb
        simp only [upgrade, loopItems]
        exact loop_upgrade o tl rest _ _ (rel_maybeIndent o st st' h)
      · have e : upgrade (.cons (.brk b) rest) = .cons (.brk b) (upgrade rest) := by
          cases b <;> first | rfl | (exact absurd rfl hb)
        rw [e]
        simp only [loopItems, rel_stepBrk o b st st' h]
        exact loop_upgrade o tl rest _ _ (Or.inl rfl)
    | lineBreak =>
      simp only [upgrade, loopItems]
      rcases h with h | ⟨_, h⟩ <;> subst h <;> exact loop_upgrade o tl rest _ _ (Or.inl rfl)
    | _ =>
      exact loop_upgrade_item o tl _ rest _ st st' (by simp) (by simp) h
        (fun st => loop_upgrade o tl rest st st (Or.inl rfl))

theorem upgrade_noop : ∀ (is : Items), anyItem forceBreak (upgrade is) = false → upgrade is = is
  | .nil, _ => rfl
  | .cons i rest, h => by
    cases i with
    | brk b =>
      cases b with
      | maybeIndent => cases h
      | _ => exact congrArg _ (upgrade_noop rest (Bool.or_eq_false_iff.mp h).2)
    | lineBreak => cases h
    | _ => exact congrArg _ (upgrade_noop rest (Bool.or_eq_false_iff.mp h).2)

theorem render_upgrade (o : Opt) (is : Items) (ro : Bool) (col : Nat) (hok : okItems is = true)
    (htl : tooLong o.lineLen col is = true) (hf : anyItem forceBreak is = false) :
    renderItem o (.group (upgrade is)) false ro col = renderItem o (.group is) false ro col := by
  by_cases hf' : anyItem forceBreak (upgrade is) = false
  · rw [upgrade_noop is hf']
  · have hf'' : anyItem forceBreak (upgrade is) = true := by simpa using hf'
    simp only [renderItem, htl, hf, hf'', Bool.true_or, Bool.or_true, if_true]
    rw [tooLong_as_force o (tooLong o.lineLen col (upgrade is)) is _ hok (by simp [okBrk])]
    exact loop_upgrade o _ is _ _ (Or.inl rfl)

end KotoVerif.C11.LayoutLemmas
