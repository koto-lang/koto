/-
C03 — error-freedom of pattern code on `plain` values once `sizeNullJumps` (7886e40) and
`accessFalls` (1750a1b) are in; whole `or` alternatives: against the declarative definition (`mAlt_sound`),
error-free (`mAlt_noerr`), writing only their own variables (`frame_alt`); the step from one alternative of
an arm to the next (`mAlts_step`) and `Within` for the result of an arm's alternatives (`WithinA`).
-/
import KotoVerif.Lemmas.C03

namespace KotoVerif
namespace Match

variable {C : Cfg}

/-- the two repairs that remove the runtime errors of pattern code on plain data -/
def Safe (C : Cfg) : Prop := C.sizeNullJumps = true ∧ C.accessFalls = true

def R.NoErr : R → Prop
  | .err _ => False
  | _ => True

theorem R.NoErr.ne {r : R} (h : r.NoErr) (e : Err) : r ≠ .err e := by
  rintro rfl; exact h

theorem R.NoErr.andThen {r : R} {k : Env → R} (h : r.NoErr) (hk : ∀ ρ, (k ρ).NoErr) : (r.andThen k).NoErr := by
  cases r <;> first | exact hk _ | exact h

theorem noErr_fin (la il : Bool) (ρ : Env) : (fin la il ρ).NoErr := by
  unfold fin; split <;> trivial

theorem tryAccess_noerr (hC : C.accessFalls = true) (v : Val) (key : List Nat) (e : Err) :
    tryAccess C v key ≠ .error e := by
  cases v <;> simp [tryAccess, hC]

theorem mEntsSeq_noerr (hC : C.accessFalls = true) : ∀ (es : List Ent) (s : Src) (ρ : Env), (mEntsSeq C es s ρ).NoErr
  | [], _, _ => trivial
  | en :: es, s, ρ => by
    simp only [mEntsSeq]
    split
    · exact absurd ‹_› (tryAccess_noerr hC _ _ _)
    · trivial
    · split
      · trivial
      · exact mEntsSeq_noerr hC es s _

theorem collect_noerr (hC : C.accessFalls = true) : ∀ (es : List Ent) (v : Val) (e : Err),
    collectEnts C es v ≠ .error e
  | [], _, _ => by simp [collectEnts]
  | en :: es, v, e => by
    have ih := collect_noerr hC es v
    simp only [collectEnts]
    split
    · exact absurd ‹_› (tryAccess_noerr hC _ _ _)
    · simp
    · split
      · simp
      · split <;> simp_all

theorem mEnts_noerr (hC : C.accessFalls = true) (es : List Ent) (s : Src) (ρ : Env) : (mEnts C es s ρ).NoErr := by
  unfold mEnts
  split
  · split <;> first | exact absurd ‹_› (collect_noerr hC _ _ _) | trivial
  · exact mEntsSeq_noerr hC es s ρ

def NoErr (F : FloatOps) (C : Cfg) (p : Pat) : Prop :=
  ∀ (la il : Bool) (a : Acc) (ρ : Env) (v : Val), Reads a v → plain v = true → (mPat F C la p il a ρ).NoErr

def NoErrL (F : FloatOps) (C : Cfg) (ps : List Pat) : Prop :=
  ∀ (la : Bool) (c : Val) (i : Int) (lf : Bool) (ρ : Env) (ys : List Val), ys.length = ps.length →
    Elems c i ys → plainL ys = true → (mPats F C la ps (.tmp c) i lf ρ).NoErr

theorem noErrL_cons (F : FloatOps) (p : Pat) (ps : List Pat) (hp : NoErr F C p) (hps : NoErrL F C ps) :
    NoErrL F C (p :: ps) := by
  intro la c i lf ρ ys hlen hel hpl
  cases ys with
  | nil => simp at hlen
  | cons y ys =>
    simp only [plainL, Bool.and_eq_true] at hpl
    rw [mPats_cons]
    exact (hp la _ _ ρ y hel.head hpl.1).andThen fun ρ1 =>
      hps la c (i + 1) lf ρ1 ys (by simpa using hlen) hel.tail hpl.2

theorem noErr_seq (F : FloatOps) (hS : Safe C) (pre : List Pat) (rest : Option (Option Name)) (post : List Pat)
    (hw : wf (.seq pre rest post) = true) (h1 : NoErrL F C pre) (h2 : NoErrL F C post) :
    NoErr F C (.seq pre rest post) := by
  intro la il a ρ v hr hp
  -- no size: the test jumps, whatever the shape
  have hsz : view v = none → ∀ n b r, (sized (sizeCheck C v n b) ρ r).NoErr := by
    intro hv n b r; rw [sizeCheck, view_none_size hv hp]; simp [hS.1, sized, R.NoErr]
  rcases wf_seq_shape hw with ⟨rfl, rfl, hpre⟩ | ⟨rfl, r, rfl⟩ | ⟨rfl, hpost, r, rfl⟩
  · rw [mPat_exact F la il pre a ρ (.tmp v) hpre (hr.container ρ), Src.rd]
    cases hv : view v with
    | none => exact hsz hv ..
    | some w =>
      obtain ⟨xs, sl⟩ := w
      rw [sizeCheck_view hv]
      by_cases hl : xs.length = pre.length
      · simp only [Bool.false_eq_true, if_false, hl, beq_self_eq_true, sized]
        exact h1 la v 0 _ ρ xs hl (view_elems hv) (view_plain hv hp)
      · have hb : (xs.length == pre.length) = false := by simpa using hl
        simp only [Bool.false_eq_true, if_false, hb, sized]
        trivial
  · rw [mPat_trailing F la il pre r a ρ (.tmp v) (hr.container ρ), Src.rd]
    cases hv : view v with
    | none => exact hsz hv ..
    | some w =>
      obtain ⟨xs, sl⟩ := w
      rw [sizeCheck_view hv]
      simp only [if_true, Nat.add_sub_cancel]
      by_cases hl : pre.length ≤ xs.length
      · simp only [decide_eq_true hl, sized]
        refine (h1 la v 0 false ρ (xs.take pre.length) (by simp; omega) ((view_elems hv).take _)
          (plainL_take _ _ (view_plain hv hp))).andThen fun ρ1 => ?_
        cases r with
        | none => exact noErr_fin ..
        | some x => simp only [Src.rd, view_sliceFrom hv _ _ (sidx_nat _ _) hl]; exact noErr_fin ..
      · simp only [decide_eq_false hl, sized]
        trivial
  · rw [mPat_leading F la il post r a ρ (.tmp v) hpost (hr.container ρ), Src.rd]
    cases hv : view v with
    | none => exact hsz hv ..
    | some w =>
      obtain ⟨xs, sl⟩ := w
      rw [sizeCheck_view hv]
      simp only [if_true, Nat.add_sub_cancel_left]
      by_cases hl : post.length ≤ xs.length
      · have key := fun ρ1 : Env => h2 la v (-(post.length : Int)) (if C.nestedLast then il else true) ρ1
          (xs.drop (xs.length - post.length)) (by simp; omega) (view_elems_drop hv hl)
          (plainL_drop _ _ (view_plain hv hp))
        simp only [decide_eq_true hl, sized]
        cases r with
        | none => exact key ρ
        | some x =>
          simp only [view_sliceTo hv _ _ (sidx_neg _ _ (List.length_pos_iff.2 hpost) hl) (Nat.sub_le _ _), Except.map]
          exact key _
      · simp only [decide_eq_false hl, sized]
        trivial

mutual
theorem noErr_pat (F : FloatOps) (hS : Safe C) : ∀ (p : Pat), wf p = true → NoErr F C p
  | .lit l, _ => by
    intro la il a ρ v hr _
    simp only [mPat, hr.fetch]
    split
    · exact noErr_fin ..
    · split <;> trivial
  | .id x ty, _ => by
    intro la il a ρ v hr _
    simp only [mPat, hr.fetch]
    split
    · trivial
    · exact noErr_fin ..
  | .wild ty, _ => by
    intro la il a ρ v hr _
    cases ty with
    | none => simp only [mPat]; exact noErr_fin ..
    | some t =>
      simp only [mPat, hr.fetch]
      split
      · exact noErr_fin ..
      · trivial
  | .map es ty, _ => by
    intro la il a ρ v hr _
    simp only [mPat, hr.container]
    split
    · trivial
    · have := mEnts_noerr (C := C) hS.2 es (.tmp v) ρ
      split
      · exact noErr_fin ..
      · exact this
  | .seq pre rest post, hw =>
    noErr_seq F hS pre rest post hw
      (noErr_pats F hS pre (by simp only [wf, Bool.and_eq_true] at hw; exact hw.1.2))
      (noErr_pats F hS post (by simp only [wf, Bool.and_eq_true] at hw; exact hw.2))
theorem noErr_pats (F : FloatOps) (hS : Safe C) : ∀ (ps : List Pat), wfL ps = true → NoErrL F C ps
  | [], _ => fun _ _ _ _ _ _ _ _ _ => by rw [mPats_nil]; trivial
  | p :: ps, h =>
    noErrL_cons F p ps
      (noErr_pat F hS p (by simp only [wfL, Bool.and_eq_true] at h; exact h.1))
      (noErr_pats F hS ps (by simp only [wfL, Bool.and_eq_true] at h; exact h.2))
end

/-- an alternative — the last of its arm, or any one in the code since /repo 075f64d — against its
declarative reading: the last one signals success by falling through, every other one by the jump to
`match_end` -/
theorem mAlt_sound (F : FloatOps) (la : Bool) (a : Alt) (v : Val) (ρ : Env) (hk : (la || C.nestedLast) = true)
    (hw : WfAlt a v) (hv : plain v = true) : Outcome (!la) (DeclAlt F a v) ρ (mAlt F C la a (.tmp v) ρ) := by
  cases a with
  | one p =>
    have h := mPat_sound (C := C) F p la true hw (by simp [okAt, hk]) (.direct (.tmp v)) ρ v (.inl rfl) hv
    rw [Bool.and_true] at h
    exact h
  | many ps =>
    obtain ⟨hwl, hne, vs, rfl, hlen⟩ := hw
    have h := mPats_sound (C := C) F ps la true hwl (by simp [okAtL, hk]) (.tuple vs) 0 ρ vs hlen (view_elems rfl)
      (by simpa [plain] using hv)
    simp only [List.isEmpty_eq_false_iff.2 hne, Bool.not_false, Bool.and_true] at h
    exact h.congr fun β => by simp [DeclAlt]

theorem mAlt_noerr (F : FloatOps) (hS : Safe C) (la : Bool) (a : Alt) (v : Val) (ρ : Env)
    (hw : WfAlt a v) (hv : plain v = true) : (mAlt F C la a (.tmp v) ρ).NoErr := by
  cases a with
  | one p => exact noErr_pat F hS p hw la true (.direct (.tmp v)) ρ v (.inl rfl) hv
  | many ps =>
    obtain ⟨hwl, _, vs, rfl, hlen⟩ := hw
    exact noErr_pats F hS ps hwl la (.tuple vs) 0 true ρ vs hlen (view_elems rfl) (by simpa [plain] using hv)

theorem frame_alt (F : FloatOps) (C : Cfg) (la : Bool) (a : Alt) (s : Src) (ρ : Env) :
    Within (altVars a) ρ (mAlt F C la a s ρ) := by
  cases a with
  | one p => exact frame_pat F p la true (.direct s) ρ
  | many ps => exact frame_pats F ps la s 0 true ρ

/-- `mAlts` one alternative at a time: `a` is compiled as the last one exactly when none follows, and
only there does falling through end the arm's patterns. -/
theorem mAlts_step (F : FloatOps) (C : Cfg) (a : Alt) (rest : List Alt) (s : Src) (ρ : Env) :
    mAlts F C (a :: rest) s ρ =
      match mAlt F C rest.isEmpty a s ρ with
      | .done ρ' => .matched ρ'
      | .ok ρ' => if rest.isEmpty then .matched ρ' else mAlts F C rest s ρ'
      | .fail ρ' => mAlts F C rest s ρ'
      | .err e => .err e := by
  cases rest with
  | nil => rw [mAlts, List.isEmpty_nil]; cases mAlt F C true a s ρ <;> rfl
  | cons b bs => rw [mAlts, List.isEmpty_cons]; cases mAlt F C false a s ρ <;> rfl

def WithinA (xs : List Name) (ρ : Env) : AR → Prop
  | .matched ρ' => Agree xs ρ ρ'
  | .unmatched ρ' => Agree xs ρ ρ'
  | .err _ => True

theorem WithinA.mono {xs ys : List Name} {ρ : Env} {r : AR} (h : WithinA xs ρ r)
    (hs : ∀ x, x ∈ xs → x ∈ ys) : WithinA ys ρ r := by
  cases r <;> first | exact Agree.mono h hs | trivial

theorem WithinA.trans {xs : List Name} {ρ ρ₁ : Env} {r : AR} (h1 : Agree xs ρ ρ₁) (h2 : WithinA xs ρ₁ r) :
    WithinA xs ρ r := by
  cases r <;> first | exact Agree.trans h1 h2 | trivial

end Match
end KotoVerif
