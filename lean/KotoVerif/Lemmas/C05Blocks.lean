/-
C05 `compile_wf`: every jump `flattenL` emits — `break` and `continue` included — stays inside the
stream (`flatAux_range`). Coverage (control enters every instruction by fall-through or by a forward
jump: what `annotate` needs) is counted in instructions (`CovI`, `CovB`): it composes over blocks, holds
for the code of the compiler core (`cov_code`) and for `Simple` loop code (`cov_lcode`) by the equations
of `flatten` / `flatAux`, and carries over to the byte listing (`covU_of_covI`), so `wfChunk` accepts the
encoded main block.
-/
import KotoVerif.Lemmas.C05Stream

namespace KotoVerif.Compile
open KotoVerif.Gen KotoVerif.Bytecode

/-! ### every jump of the statement layer's stream is in range -/

/-- **every jump of `flatAux` is in range**: a forward skip reaches at most the `post` instructions
after the code (`break` goes exactly there), a backward distance at most the `pre` instructions before
it (`continue`) — for *all* loop code, with `break` / `continue` / endless loops. -/
theorem flatAux_range : ∀ (c : LCode) (pre post : Nat), Rng post pre (flatAux c pre post) := by
  intro c
  induction c with
  | base c => exact fun pre post => Rng.ofFlat (flatten_jumpsOk c) post pre
  | seq a b iha ihb =>
    exact fun pre post => Rng.append (sizeL_flatAux a _ _) (sizeL_flatAux b _ _) (iha _ _) (ihb _ _)
  | ifElse r t w e iht ihe =>
    intro pre post
    cases w with
    | true =>
      have hE : Rng post (pre + 1 + sizeL t) (.jump (sizeL e) :: flatAux e (pre + 1 + sizeL t + 1) post) :=
        Rng.cons (sizeL_flatAux e _ _) (Nat.le_add_right _ _) trivial (ihe _ _)
      exact Rng.cons (n := sizeL t + (sizeL e + 1)) (by simp [sizeL_flatAux]) (by simp only [LFlat.skip]; omega) trivial
        (Rng.append (sizeL_flatAux t _ _) (n := sizeL e + 1) (by simp [sizeL_flatAux])
          ((iht _ _).mono (by omega) (Nat.le_refl _)) hE)
    | false =>
      exact Rng.cons (n := sizeL t + sizeL e) (by simp [sizeL_flatAux]) (by simp only [LFlat.skip]; omega) trivial
        (Rng.append (sizeL_flatAux t _ _) (sizeL_flatAux e _ _) (iht _ _) (ihe _ _))
  | loop cond body ih =>
    intro pre post
    -- the body is flattened for its own loop (`pre = hdrLen cond`, `post = 1`), whatever encloses the loop
    have hback : ∀ p k, 1 ≤ k → k ≤ p + 1 → Rng post p [LFlat.jumpBack k] :=
      fun p k h1 h2 => ⟨Nat.zero_le _, ⟨h1, h2⟩, trivial⟩
    cases cond with
    | none =>
      simp only [flatAux, flatHdr, hdrLen, List.nil_append, Nat.zero_add]
      exact Rng.append (sizeL_flatAux body _ _) (n := 1) rfl ((ih 0 1).mono (Nat.le_add_right _ _) (Nat.zero_le _))
        (hback _ _ (by omega) (by omega))
    | some hd =>
      obtain ⟨cc, r, neg⟩ := hd
      simp only [flatAux, flatHdr, hdrLen, List.append_assoc, List.cons_append, List.nil_append]
      refine Rng.append (List.length_map _) (n := sizeL body + 2) (by simp [sizeL_flatAux])
        (Rng.ofFlat (flatten_jumpsOk cc) _ _) ?_
      refine Rng.cons (n := sizeL body + 1) (by simp [sizeL_flatAux]) (by cases neg <;> simp [LFlat.skip])
        (by cases neg <;> trivial) ?_
      exact Rng.append (sizeL_flatAux body _ _) (n := 1) rfl ((ih _ 1).mono (Nat.le_add_right _ _) (by omega))
        (hback _ _ (by omega) (by omega))
  | brk => exact fun pre post => ⟨Nat.le_add_left _ _, trivial, trivial⟩
  | cont => exact fun pre post => ⟨Nat.zero_le _, ⟨Nat.le_add_left _ _, Nat.le_refl _⟩, trivial⟩

theorem flattenL_range (c : LCode) : Rng 0 0 (flattenL c) := flatAux_range c 0 0

theorem flattenL_length (c : LCode) : (flattenL c).length = sizeL c := sizeL_flatAux c 0 0

/-! ### coverage, counted in instructions -/

/-- the forward edges `annotate` records for the instruction `f` at index `i` -/
def LFlat.tgts (i : Nat) (f : LFlat) : List Nat :=
  (f.fwd.filter fun k => decide (0 < k) || f.term).map (i + 1 + ·)

/-- every instruction is entered by fall-through (`c`) or is the target of a forward edge of an
earlier instruction (`L`) -/
def CovI : Bool → List Nat → Nat → List LFlat → Prop
  | _, _, _, [] => True
  | c, L, i, f :: rest => (c = true ∨ i ∈ L) ∧ CovI (!f.term) (f.tgts i ++ L) (i + 1) rest

/-- the `(fall-through, labels)` state of `CovI` after a block -/
def covAfterI : Bool → List Nat → Nat → List LFlat → Bool × List Nat
  | c, L, _, [] => (c, L)
  | _, L, i, f :: rest => covAfterI (!f.term) (f.tgts i ++ L) (i + 1) rest

theorem covAfterI_append (A B : List LFlat) : ∀ c L i,
    covAfterI c L i (A ++ B) = covAfterI (covAfterI c L i A).1 (covAfterI c L i A).2 (i + A.length) B := by
  induction A with
  | nil => intros; rfl
  | cons f rest ih =>
    intro c L i
    simp only [List.cons_append, covAfterI, ih, List.length_cons]
    rw [Nat.add_assoc, Nat.add_comm 1]

theorem covAfterI_mono (A : List LFlat) : ∀ c L i p, p ∈ L → p ∈ (covAfterI c L i A).2 := by
  induction A with
  | nil => intro c L i p h; exact h
  | cons f rest ih => intro c L i p h; exact ih _ _ _ p (List.mem_append_right _ h)

theorem CovI_append (A B : List LFlat) : ∀ c L i, CovI c L i A →
    CovI (covAfterI c L i A).1 (covAfterI c L i A).2 (i + A.length) B → CovI c L i (A ++ B) := by
  induction A with
  | nil => intro c L i _ h; exact h
  | cons f rest ih =>
    intro c L i hA hB
    refine ⟨hA.1, ih _ _ _ hA.2 ?_⟩
    rwa [List.length_cons, ← Nat.add_assoc, Nat.add_right_comm] at hB

/-- the block `A` is covered wherever it stands, provided its start is entered, and then the
instruction after it is entered as well -/
def CovB (A : List LFlat) : Prop :=
  ∀ i c L, (c = true ∨ i ∈ L) → CovI c L i A ∧
    ((covAfterI c L i A).1 = true ∨ i + A.length ∈ (covAfterI c L i A).2)

theorem CovB.nil : CovB [] := fun _ _ _ h => ⟨trivial, h⟩

theorem CovB.append {A B : List LFlat} (hA : CovB A) (hB : CovB B) : CovB (A ++ B) := by
  intro i c L h
  obtain ⟨ca, ea⟩ := hA i c L h
  obtain ⟨cb, eb⟩ := hB _ _ _ ea
  refine ⟨CovI_append _ _ _ _ _ ca cb, ?_⟩
  rw [covAfterI_append, List.length_append, ← Nat.add_assoc]
  exact eb

theorem CovB.cons {f : LFlat} {B : List LFlat} (hf : f.term = false) (hB : CovB B) : CovB (f :: B) := by
  intro i c L h
  obtain ⟨cb, eb⟩ := hB (i + 1) true (f.tgts i ++ L) (.inl rfl)
  refine ⟨⟨h, by rw [hf]; exact cb⟩, ?_⟩
  rw [covAfterI, hf, List.length_cons, ← Nat.add_assoc, Nat.add_right_comm]
  exact eb

theorem CovB.ifElse {r : Reg} {T E : List LFlat} (hT : CovB T) (hE : CovB E) :
    CovB (.jumpIfFalse r (T.length + 1) :: (T ++ .jump E.length :: E)) := by
  intro i c L h
  obtain ⟨ct, et⟩ := hT (i + 1) true ((LFlat.jumpIfFalse r (T.length + 1)).tgts i ++ L) (.inl rfl)
  have hm : i + 1 + T.length + 1 ∈ (LFlat.jump E.length).tgts (i + 1 + T.length)
      ++ (covAfterI true ((LFlat.jumpIfFalse r (T.length + 1)).tgts i ++ L) (i + 1) T).2 :=
    List.mem_append_right _ (covAfterI_mono _ _ _ _ _ (List.mem_append_left _ (by simp [LFlat.tgts, LFlat.fwd, LFlat.term]; omega)))
  obtain ⟨ce, ee⟩ := hE (i + 1 + T.length + 1) false _ (.inr hm)
  refine ⟨⟨h, CovI_append _ _ _ _ _ ct ⟨et, ce⟩⟩, ?_⟩
  rw [covAfterI, covAfterI_append, covAfterI]
  simp only [List.length_cons, List.length_append]
  rw [show i + (T.length + (E.length + 1) + 1) = i + 1 + T.length + 1 + E.length by omega]
  exact ee

/-- `C; JumpIf* → exit; B; JumpBack`: the exit is entered from the conditional jump -/
theorem CovB.loop {a j : LFlat} {C B : List LFlat} (ha : a.term = false)
    (he : ∀ i, i + 1 + B.length + 1 ∈ a.tgts i) (hC : CovB C) (hB : CovB B) : CovB (C ++ a :: (B ++ [j])) := by
  refine CovB.append hC fun i c L h => ?_
  obtain ⟨cb, eb⟩ := hB (i + 1) true (a.tgts i ++ L) (.inl rfl)
  refine ⟨⟨h, by rw [ha]; exact CovI_append _ _ _ _ _ cb ⟨eb, trivial⟩⟩, .inr ?_⟩
  rw [covAfterI, ha, covAfterI_append]
  simp only [List.length_cons, List.length_append, List.length_nil]
  rw [show i + (B.length + (0 + 1) + 1) = i + 1 + B.length + 1 by omega]
  exact covAfterI_mono _ _ _ _ _ (covAfterI_mono _ _ _ _ _ (List.mem_append_left _ (he i)))

theorem cov_code : ∀ c : Code, CovB ((flatten c).map LFlat.ofFlat) := by
  intro c
  induction c with
  | nil => exact CovB.nil
  | instr x => exact CovB.cons (f := .op x) rfl CovB.nil
  | seq a b iha ihb => rw [flatten, List.map_append]; exact iha.append ihb
  | jumpIfFalse r body ih => exact CovB.cons (f := .jumpIfFalse r _) rfl ih
  | jumpIfTrue r body ih => exact CovB.cons (f := .jumpIfTrue r _) rfl ih
  | ifElse r t w e iht ihe =>
    cases w with
    | false =>
      rw [flatten_ifElse_false, List.map_cons, List.map_append, ← List.cons_append]
      exact (CovB.cons (f := .jumpIfFalse r _) rfl iht).append ihe
    | true =>
      have := CovB.ifElse (r := r) iht ihe
      rw [List.length_map, List.length_map] at this
      rw [flatten_ifElse_true, List.map_cons, List.map_append, List.map_cons]
      exact this

/-! ### the structured fragment without `break` / `continue` / endless `loop` -/

/-- loop code in which every loop has a condition and there is no `break` / `continue`: control reaches
every instruction (`cov_lcode`) -/
def Simple : LCode → Prop
  | .base _ => True
  | .seq a b => Simple a ∧ Simple b
  | .ifElse _ t _ e => Simple t ∧ Simple e
  | .loop (some _) body => Simple body
  | .loop none _ => False
  | .brk => False
  | .cont => False

theorem cov_lcode : ∀ c : LCode, Simple c → ∀ pre post, CovB (flatAux c pre post) := by
  intro c
  induction c with
  | base c => exact fun _ _ _ => cov_code c
  | seq a b iha ihb => exact fun hs _ _ => (iha hs.1 _ _).append (ihb hs.2 _ _)
  | ifElse r t w e iht ihe =>
    intro hs pre post
    cases w with
    | false =>
      exact (CovB.cons (f := .jumpIfFalse r _) rfl (iht hs.1 _ _)).append (ihe hs.2 _ _)
    | true =>
      have := CovB.ifElse (r := r) (iht hs.1 (pre + 1) (1 + sizeL e + post)) (ihe hs.2 (pre + 1 + sizeL t + 1) post)
      rw [sizeL_flatAux, sizeL_flatAux] at this
      exact this
  | loop cond body ih =>
    intro hs pre post
    cases cond with
    | none => exact absurd hs (by simp [Simple])
    | some hd =>
      obtain ⟨cc, r, neg⟩ := hd
      simp only [flatAux, flatHdr, List.append_assoc, List.cons_append, List.nil_append]
      refine CovB.loop ?_ (fun i => ?_) (cov_code cc) (ih hs _ _)
      · cases neg <;> rfl
      · rw [sizeL_flatAux]
        cases neg <;> simp [LFlat.tgts, LFlat.fwd, LFlat.term] <;> omega
  | brk => intro hs; exact absurd hs (by simp [Simple])
  | cont => intro hs; exact absurd hs (by simp [Simple])

/-! ### from instructions to bytes -/

def JMP (pc off : Nat) : Ann := ⟨pc, 3, ⟨.Jump, [off]⟩, some Z⟩

/-- the target of an encoded `Jump` is a forward edge for `annotate`, also when the offset is `0` -/
theorem fwd_jmp (pc off : Nat) : pc + 3 + off ∈ fwdTgts (JMP pc off) := by
  simp [fwdTgts, succsOf, JMP, succ_jump, Ann.next, isTerminal]
  omega

/-- coverage counted in instructions is coverage of the byte listing: the label `j ≥ i` stands for the
pc of the instruction `j - i` places ahead -/
theorem covU_of_covI (cidx : Int → Nat) (ret : Bytecode.Instr) (d : Option Depth) :
    ∀ (rest done : List LFlat) (pc i p : Nat) (c : Bool) (L Lb : List Nat),
      Rng 0 p rest → sizeOfL cidx done ≤ pc →
      (∀ j ∈ L, i ≤ j → pc + sizeOfL cidx (rest.take (j - i)) ∈ Lb) →
      CovI c L i rest → ((covAfterI c L i rest).1 = true ∨ i + rest.length ∈ (covAfterI c L i rest).2) →
      CovU c Lb (lay d pc (encL cidx done rest ++ [ret])) := by
  intro rest
  induction rest with
  | nil =>
    intro done pc i p c L Lb _ _ hR _ hex
    exact ⟨hex.imp id fun h => by simpa [sizeOfL_nil] using hR i h (Nat.le_refl _), trivial⟩
  | cons f rest ih =>
    intro done pc i p c L Lb hj hpc hR hcov hex
    obtain ⟨a, ha, hsz, hterm, hs⟩ := encL_head cidx done f rest pc d hpc
    rw [ha]
    refine ⟨hcov.1.imp id fun h => by simpa [sizeOfL_nil] using hR i h (Nat.le_refl _), ?_⟩
    rw [show isTerminal (Ann.mk pc (esize a) a d).ins.op = f.term from hterm]
    refine ih (f :: done) (pc + esize a) (i + 1) (p + 1) _ _ _ hj.2.2 (by rw [sizeOfL_cons, hsz]; omega) ?_ hcov.2
      (by rwa [List.length_cons, ← Nat.add_assoc, Nat.add_right_comm] at hex)
    intro j hjm hij
    rcases List.mem_append.1 hjm with hjt | hjL
    · -- a forward edge of `f` itself
      obtain ⟨k, hk, rfl⟩ := List.mem_map.1 hjt
      obtain ⟨hkf, hkc⟩ := List.mem_filter.1 hk
      rw [Nat.add_sub_cancel_left]
      refine List.mem_append_left _ (List.mem_filter.2 ⟨?_, ?_⟩)
      · simp only [succsOf, hs, Option.getD_some]
        exact List.mem_append_left _ (List.mem_map.2 ⟨k, hkf, rfl⟩)
      · -- `annotate` records it: it lies beyond the next instruction (a skip of `k > 0` instructions has
        -- positive byte size), or `f` does not fall through
        simp only [Ann.next, hterm]
        rcases Bool.or_eq_true_iff.1 hkc with h0 | ht
        · have := sizeOfL_take_pos cidx (of_decide_eq_true h0) (LFlat.fwd_le hj.1 k hkf)
          simp; omega
        · simp [ht]; omega
    · have := hR j hjL (by omega)
      rw [show j - i = (j - (i + 1)) + 1 by omega, List.take_succ_cons, sizeOfL_cons, ← hsz, ← Nat.add_assoc] at this
      exact List.mem_append_right _ this

/-- **byte level**: `NewFrame rc; fs; Return r` is accepted by the verifier for every stream whose jumps
stay inside it and that control covers -/
theorem wfChunk_encodeProg (cidx : Int → Nat) (consts : List CKind) (rc r : Nat) (fs : List LFlat)
    (hrc : rc ≤ 255) (hr : r < rc) (hrng : Rng 0 0 fs) (hcov : CovB fs)
    (hregs : ∀ f ∈ fs, ∀ q ∈ lflatRegs f, q < rc) (hsz : sizeOfL cidx fs ≤ 65535)
    (hc : ∀ n, cidx n < 4294967296 ∧ consts[cidx n]? = some .int) :
    wfChunk (encodeProg cidx rc fs r) consts = true := by
  obtain ⟨hbody, htgt⟩ := progInstrs_ok cidx consts rc r fs hrc hr hrng hregs hsz hc
  obtain ⟨ci, ex⟩ := hcov 0 true [] (.inl rfl)
  exact wfChunk_of_program rc _ consts (by omega) hbody
    ⟨.inl rfl, covU_of_covI cidx _ none fs [] 2 0 0 true [] _ hrng (Nat.zero_le _) nofun ci ex⟩ htgt

/-- **compile_wf, byte level, for a structured code block**: `NewFrame rc; code; Return r` encoded with
`Model/Encode.lean` is accepted by the verifier whenever the block's registers and `r` are below
`rc ≤ 255`, its byte size fits the u16 jump offsets, and the integer constants are in the pool. -/
theorem wfChunk_encodeMain (cidx : Int → Nat) (consts : List CKind) (rc r : Nat) (code : Code)
    (hrc : rc ≤ 255) (hr : r < rc) (hregs : ∀ f ∈ flatten code, ∀ q ∈ flatRegs f, q < rc)
    (hsz : sizeOf cidx (flatten code) ≤ 65535)
    (hc : ∀ n, cidx n < 4294967296 ∧ consts[cidx n]? = some .int) :
    wfChunk (encodeMain cidx rc (flatten code) r) consts = true := by
  have := wfChunk_encodeProg cidx consts rc r _ hrc hr (Rng.ofFlat (flatten_jumpsOk code) 0 0) (cov_code code) (ofFlat_regs _ _ hregs)
    (by rw [sizeOfL_ofFlat]; exact hsz) hc
  rwa [encodeProg, encL_ofFlat] at this

end KotoVerif.Compile
