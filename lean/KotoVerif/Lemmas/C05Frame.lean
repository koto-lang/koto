/-
Helper lemmas for C05: the invariant `Inv` of the register allocator model `Model/Frame.lean`, one
specification per operation under it, and their lift to operation lists (`step_spec`, `run_spec`).
-/
import KotoVerif.Model.Frame

namespace KotoVerif.Frame

/-- `tb + n - 1, …, tb + 1, tb`: the temporaries in the order of `register_stack`, top first. -/
def tempsDesc (tb : Nat) : Nat → List Nat
  | 0 => []
  | n + 1 => (tb + n) :: tempsDesc tb n

theorem tempsDesc_eq (tb n : Nat) : tempsDesc tb n = (List.range' tb n).reverse := by
  induction n with
  | zero => rfl
  | succ n ih => rw [tempsDesc, ih, List.range'_concat, List.reverse_append, Nat.one_mul]; rfl

theorem tempsDesc_length (tb n : Nat) : (tempsDesc tb n).length = n := by
  rw [tempsDesc_eq, List.length_reverse, List.length_range']

theorem tempsDesc_get (tb n k : Nat) (h : k < n) : (tempsDesc tb n)[k]? = some (tb + n - 1 - k) := by
  rw [tempsDesc_eq, List.reverse_range', List.getElem?_map, List.getElem?_range h]; rfl

structure Inv (s : Frame) : Prop where
  /-- the live temporaries are exactly `tb … tb+tc-1`, most recent on top -/
  stack : s.stack = tempsDesc s.tb s.tc
  /-- no temporary beyond register 254 -/
  bound : s.tb + s.tc ≤ 255
  /-- the high-water mark covers the live temporaries and fits a `u8` -/
  used_ge : s.tc ≤ s.used
  used_le : s.tb + s.used ≤ 255
  /-- local registers lie below the temporaries -/
  locals : s.locals.length ≤ s.tb

/-- What every operation preserves, whether it succeeds or fails. -/
structure Weak (s s' : Frame) : Prop where
  tb : s'.tb = s.tb
  used : s.used ≤ s'.used
  fits : s'.tb + s'.used ≤ 255

theorem Weak.refl {s : Frame} (h : Inv s) : Weak s s := ⟨rfl, Nat.le_refl _, h.used_le⟩

theorem Weak.trans {a b c : Frame} (h1 : Weak a b) (h2 : Weak b c) : Weak a c :=
  ⟨h2.tb.trans h1.tb, Nat.le_trans h1.used h2.used, h2.fits⟩

theorem push_spec (s : Frame) (h : Inv s) :
    (s.tb + s.tc = 255 ∧ s.pushRegister = .err s .stackOverflow)
    ∨ (s.tb + s.tc < 255 ∧ ∃ s', s.pushRegister = .ok s' (s.tb + s.tc) ∧ Inv s' ∧ Weak s s'
        ∧ s'.tc = s.tc + 1 ∧ s'.locals = s.locals) := by
  have hb := h.bound
  by_cases he : s.tb + s.tc = 255
  · left
    refine ⟨he, ?_⟩
    simp [Frame.pushRegister, u8Max, he]
  · right
    have heq : s.pushRegister =
        .ok { s with tc := s.tc + 1, used := max s.used (s.tc + 1), stack := (s.tb + s.tc) :: s.stack }
          (s.tb + s.tc) := by
      have h1 : ¬ (s.tb + s.tc > 255) := by omega
      simp [Frame.pushRegister, u8Max, h1, he]
    refine ⟨by omega, _, heq, ?_, ?_, rfl, rfl⟩
    · exact ⟨by simp [tempsDesc, h.stack], by simp; omega, by simp; omega,
        by have := h.used_le; simp; omega, h.locals⟩
    · exact ⟨rfl, by simp; omega, by have := h.used_le; simp; omega⟩

theorem pop_spec (s : Frame) (h : Inv s) :
    (s.tc = 0 ∧ s.popRegister = .err s .emptyRegisterStack)
    ∨ (0 < s.tc ∧ ∃ s', s.popRegister = .ok s' (s.tb + s.tc - 1) ∧ Inv s' ∧ Weak s s'
        ∧ s'.tc = s.tc - 1 ∧ s'.used = s.used ∧ s'.locals = s.locals) := by
  have hs := h.stack
  cases htc : s.tc with
  | zero =>
    left
    rw [htc] at hs
    simp [Frame.popRegister, hs, tempsDesc]
  | succ n =>
    right
    rw [htc] at hs
    have heq : s.popRegister = .ok { s with stack := tempsDesc s.tb n, tc := n } (s.tb + (n + 1) - 1) := by
      simp only [Frame.popRegister, hs, tempsDesc]
      rw [if_pos (by omega), if_neg (by omega)]
      simp [htc]
    refine ⟨by omega, _, heq, ?_, ?_, by simp, rfl, rfl⟩
    · have hb := h.bound; have hu := h.used_ge; have hl := h.used_le
      exact ⟨by simp, by simp; omega, by simp; omega, by simpa using hl, h.locals⟩
    · exact ⟨rfl, Nat.le_refl _, h.used_le⟩

theorem peek_spec (s : Frame) (h : Inv s) (n : Nat) :
    (n < s.tc ∧ s.peekRegister n = .ok s (s.tb + s.tc - 1 - n))
    ∨ (s.tc ≤ n ∧ s.peekRegister n = .panic) := by
  have hl : s.stack.length = s.tc := by rw [h.stack, tempsDesc_length]
  by_cases hn : n < s.tc
  · left
    refine ⟨hn, ?_⟩
    simp only [Frame.peekRegister, hl]
    rw [if_neg (by omega), h.stack, tempsDesc_get _ _ _ hn]
  · right
    refine ⟨by omega, ?_⟩
    simp only [Frame.peekRegister, hl]
    rw [if_pos (by omega)]

/-- `truncate_register_stack` pops while more than `count` temporaries are left; with enough fuel
(the stack length) exactly `min size count` remain. -/
theorem truncate_spec (fuel : Nat) (s : Frame) (h : Inv s) (count : Nat) :
    ∃ s', Frame.truncateFuel fuel s count = .ok s' () ∧ Inv s' ∧ Weak s s' ∧ s'.locals = s.locals
      ∧ (s.tc ≤ fuel + count → s'.tc = min s.tc count) := by
  induction fuel generalizing s with
  | zero => exact ⟨s, rfl, h, Weak.refl h, rfl, fun hf => by omega⟩
  | succ fuel ih =>
    have hl : s.stack.length = s.tc := by rw [h.stack, tempsDesc_length]
    simp only [Frame.truncateFuel]
    by_cases hc : s.stack.length > count
    · rw [if_pos hc]
      rcases pop_spec s h with ⟨h0, _⟩ | ⟨_, s1, hp, hi, hw, htc, _, hloc⟩
      · omega
      · rw [hp]
        obtain ⟨s2, h2, hi2, hw2, hloc2, htc2⟩ := ih s1 hi
        exact ⟨s2, h2, hi2, hw.trans hw2, hloc2.trans hloc, fun hf => by have := htc2 (by omega); omega⟩
    · rw [if_neg hc]
      exact ⟨s, rfl, h, Weak.refl h, rfl, fun _ => by omega⟩

/-- `truncate_register_stack(count)` run with its own fuel, the stack length -/
theorem truncate_run (s : Frame) (h : Inv s) (count : Nat) :
    ∃ s', s.truncate count = .ok s' () ∧ Inv s' ∧ Weak s s' ∧ s'.locals = s.locals
      ∧ s'.tc = min s.tc count := by
  obtain ⟨s', he, hi, hw, hl, htc⟩ := truncate_spec s.stack.length s h count
  exact ⟨s', he, hi, hw, hl, htc (by rw [h.stack, tempsDesc_length]; omega)⟩

/-! ### the temporaries do not touch the names (`locals`, `exported`) -/

theorem pushRegister_names {s s' : Frame} {r : Nat} (h : s.pushRegister = .ok s' r) :
    s'.locals = s.locals ∧ s'.exported = s.exported := by
  simp only [Frame.pushRegister] at h
  split at h
  · cases h
  · split at h
    · cases h
    · cases h; exact ⟨rfl, rfl⟩

theorem popRegister_names {s s' : Frame} {r : Nat} (h : s.popRegister = .ok s' r) :
    s'.locals = s.locals ∧ s'.exported = s.exported := by
  unfold Frame.popRegister at h
  split at h
  · cases h
  · split at h
    · split at h
      · cases h
      · cases h; exact ⟨rfl, rfl⟩
    · cases h; exact ⟨rfl, rfl⟩

theorem truncateFuel_names (count : Nat) : ∀ (fuel : Nat) {s s' : Frame},
    Frame.truncateFuel fuel s count = .ok s' () → s'.locals = s.locals ∧ s'.exported = s.exported := by
  intro fuel
  induction fuel with
  | zero => intro s s' h; cases h; exact ⟨rfl, rfl⟩
  | succ n ih =>
    intro s s' h
    rw [Frame.truncateFuel] at h
    split at h
    · split at h
      · rename_i hp
        have h1 := popRegister_names hp
        have h2 := ih h
        exact ⟨h2.1.trans h1.1, h2.2.trans h1.2⟩
      · cases h
      · cases h
    · cases h; exact ⟨rfl, rfl⟩

theorem capturesFor_congr {s s' : Frame} (h : s'.locals = s.locals ∧ s'.exported = s.exported)
    (acc : List Nat) : s'.capturesFor acc = s.capturesFor acc := by
  unfold Frame.capturesFor
  rw [h.1, h.2]

theorem filter_sublist_filter {α : Type} (l : List α) (p q : α → Bool) (h : ∀ a, p a = true → q a = true) :
    (l.filter p).Sublist (l.filter q) := by
  have : l.filter p = (l.filter q).filter p := by
    rw [List.filter_filter]
    exact List.filter_congr fun a _ => by cases hp : p a <;> simp [h a, hp]
  rw [this]
  exact List.filter_sublist

theorem lookupLocal_bound (id : Nat) (ls : List Local) (i r : Nat)
    (h : lookupLocal id ls i = .assigned r ∨ lookupLocal id ls i = .reserved r) :
    ∃ j, j < ls.length ∧ r = asU8 (i + j) := by
  fun_induction lookupLocal id ls i with
  | case1 => rcases h with h | h <;> cases h
  | case2 | case4 => rcases h with h | h <;> cases h; exact ⟨0, Nat.zero_lt_succ _, rfl⟩
  | case3 _ _ _ _ ih | case5 _ _ _ _ _ ih | case6 _ _ ih =>
    obtain ⟨j, hj, hr⟩ := ih h
    exact ⟨j + 1, Nat.succ_lt_succ hj, by rw [hr, Nat.add_assoc, Nat.add_comm 1]⟩

theorem lookupLocal_unassigned_iff (id : Nat) (ls : List Local) (i : Nat) :
    lookupLocal id ls i = .unassigned ↔
      ls.any (fun l => match l with
        | .assigned a => a == id
        | .reserved a _ => a == id
        | .allocated => false) = false := by
  fun_induction lookupLocal id ls i with
  | case1 | case2 | case4 => simp
  | case3 _ _ _ ha ih | case5 _ _ _ _ ha ih => simp [ih, ha]
  | case6 _ _ ih => simp [ih]

/-- If `get_local_assigned_or_reserved_register` says `Assigned(r)`, then
`get_local_assigned_register` returns the same register. -/
theorem lookup_assigned_agrees (id : Nat) (ls : List Local) (i r : Nat)
    (h : lookupLocal id ls i = .assigned r) :
    (findIdx (fun l => l == .assigned id) ls i).map asU8 = some r := by
  fun_induction lookupLocal id ls i with
  | case1 | case4 => cases h
  | case2 => cases h; simp [findIdx]
  | case3 _ _ _ ha ih => simpa [findIdx, ha] using ih h
  | case5 _ _ _ _ _ ih | case6 _ _ ih => simpa [findIdx] using ih h

theorem lookup_lt_tb (s : Frame) (h : Inv s) (id r : Nat)
    (hl : s.getAssignedOrReserved id = .assigned r ∨ s.getAssignedOrReserved id = .reserved r) :
    r < s.tb := by
  obtain ⟨j, hj, hr⟩ := lookupLocal_bound id s.locals 0 r hl
  have := h.locals; have := h.bound
  simp [asU8] at hr
  omega

structure SameShape (s s' : Frame) : Prop where
  stack : s'.stack = s.stack
  tb : s'.tb = s.tb
  tc : s'.tc = s.tc
  used : s'.used = s.used
  len : s'.locals.length = s.locals.length

theorem SameShape.inv {s s' : Frame} (h : Inv s) (e : SameShape s s') : Inv s' :=
  ⟨by rw [e.stack, e.tb, e.tc]; exact h.stack, by rw [e.tb, e.tc]; exact h.bound,
   by rw [e.tc, e.used]; exact h.used_ge, by rw [e.tb, e.used]; exact h.used_le,
   by rw [e.len, e.tb]; exact h.locals⟩

theorem SameShape.weak {s s' : Frame} (h : Inv s) (e : SameShape s s') : Weak s s' :=
  ⟨e.tb, by rw [e.used]; exact Nat.le_refl _, by rw [e.tb, e.used]; exact h.used_le⟩

theorem pushLocal_spec (s : Frame) (h : Inv s) (l : Local) :
    (s.locals.length < s.tb ∧ ∃ s', s.pushLocal l = .ok s' s.locals.length ∧ Inv s' ∧ Weak s s'
        ∧ s'.tc = s.tc)
    ∨ (s.tb ≤ s.locals.length ∧ ∃ s', s.pushLocal l = .err s' .localRegisterOverflow ∧ Weak s s') := by
  have hb := h.bound
  by_cases hlt : s.locals.length < s.tb
  · left
    have hu : asU8 s.locals.length = s.locals.length := by simp only [asU8]; omega
    have heq : s.pushLocal l = .ok { s with locals := s.locals ++ [l] } s.locals.length := by
      simp only [Frame.pushLocal]
      rw [if_pos hlt, hu]
    refine ⟨hlt, _, heq, ?_, ?_, rfl⟩
    · exact ⟨h.stack, h.bound, h.used_ge, h.used_le, by simp; omega⟩
    · exact ⟨rfl, Nat.le_refl _, h.used_le⟩
  · right
    have heq : s.pushLocal l = .err { s with locals := s.locals ++ [l] } .localRegisterOverflow := by
      simp only [Frame.pushLocal]
      rw [if_neg hlt]
    exact ⟨by omega, _, heq, ⟨rfl, Nat.le_refl _, h.used_le⟩⟩

theorem commitLocal_spec (s : Frame) (r : Nat) :
    (∃ s' ops, s.commitLocal r = .ok s' ops ∧ SameShape s s')
    ∨ s.commitLocal r = .err s (.unreservedRegister r) := by
  unfold Frame.commitLocal
  split
  · exact .inl ⟨s, [], rfl, ⟨rfl, rfl, rfl, rfl, rfl⟩⟩
  · exact .inl ⟨_, _, rfl, ⟨rfl, rfl, rfl, rfl, by simp⟩⟩
  · exact .inr rfl

theorem deferOp_spec (s : Frame) (r : Nat) (bytes : List Nat) :
    (∃ s', s.deferOp r bytes = .ok s' () ∧ SameShape s s')
    ∨ s.deferOp r bytes = .err s (.unreservedRegister r) := by
  unfold Frame.deferOp
  split
  · exact .inl ⟨_, rfl, ⟨rfl, rfl, rfl, rfl, by simp⟩⟩
  · exact .inr rfl

theorem reserve_spec (s : Frame) (h : Inv s) (id : Nat) :
    (∃ s' r, s.reserveLocal id = .ok s' r ∧ Inv s' ∧ Weak s s' ∧ r < s'.tb)
    ∨ (∃ s', s.reserveLocal id = .err s' .localRegisterOverflow ∧ Weak s s'
        ∧ s.tb ≤ s.locals.length) := by
  unfold Frame.reserveLocal
  cases hl : s.getAssignedOrReserved id with
  | assigned r => exact .inl ⟨s, r, rfl, h, Weak.refl h, lookup_lt_tb s h id r (.inl hl)⟩
  | reserved r => exact .inl ⟨s, r, rfl, h, Weak.refl h, lookup_lt_tb s h id r (.inr hl)⟩
  | unassigned =>
    rcases pushLocal_spec s h (.reserved id []) with ⟨hlt, s', he, hi, hw, _⟩ | ⟨hge, s', he, hw⟩
    · exact .inl ⟨s', _, he, hi, hw, by rw [hw.tb]; exact hlt⟩
    · exact .inr ⟨s', he, hw, hge⟩

theorem assign_spec (s : Frame) (h : Inv s) (id : Nat) :
    (∃ s' r, s.assignLocal id = .ok s' r ∧ Inv s' ∧ Weak s s' ∧ r < s'.tb)
    ∨ (∃ s' e, s.assignLocal id = .err s' e ∧ Weak s s') := by
  unfold Frame.assignLocal
  cases hl : s.getAssignedOrReserved id with
  | assigned r => exact .inl ⟨s, r, rfl, h, Weak.refl h, lookup_lt_tb s h id r (.inl hl)⟩
  | reserved r =>
    have hr := lookup_lt_tb s h id r (.inr hl)
    rcases commitLocal_spec s r with ⟨s', ops, he, hs⟩ | he
    · simp only [he]
      by_cases ho : ops.isEmpty = true
      · rw [if_pos ho]
        exact .inl ⟨s', r, rfl, hs.inv h, hs.weak h, by rw [hs.tb]; exact hr⟩
      · rw [if_neg ho]
        exact .inr ⟨s', _, rfl, hs.weak h⟩
    · simp only [he]
      exact .inr ⟨s, _, rfl, Weak.refl h⟩
  | unassigned =>
    rcases pushLocal_spec s h (.assigned id) with ⟨hlt, s', he, hi, hw, _⟩ | ⟨hge, s', he, hw⟩
    · exact .inl ⟨s', _, he, hi, hw, by rw [hw.tb]; exact hlt⟩
    · exact .inr ⟨s', _, he, hw⟩

theorem addExported_locals (s : Frame) (id : Nat) : (s.addExported id).locals = s.locals := by
  unfold Frame.addExported; split <;> rfl

theorem mem_addExported (s : Frame) (id y : Nat) :
    y ∈ (s.addExported id).exported ↔ y = id ∨ y ∈ s.exported := by
  unfold Frame.addExported
  split
  · rename_i hc
    have hm : id ∈ s.exported := by simpa using hc
    exact ⟨.inr, fun h => h.elim (· ▸ hm) fun h => h⟩
  · exact List.mem_cons

theorem addExported_inv (s : Frame) (h : Inv s) (id : Nat) :
    Inv (s.addExported id) ∧ Weak s (s.addExported id) := by
  unfold Frame.addExported
  split
  · exact ⟨h, Weak.refl h⟩
  · exact ⟨⟨h.stack, h.bound, h.used_ge, h.used_le, h.locals⟩, ⟨rfl, Nat.le_refl _, h.used_le⟩⟩

/-- What one operation on a state satisfying the invariant can produce. -/
def StepOk (s : Frame) (op : FOp) : Option Frame × Obs → Prop
  | (some s', .reg r) => Inv s' ∧ Weak s s' ∧ r < s'.tb + s'.used
  | (some s', .unit) => Inv s' ∧ Weak s s'
  | (some s', .ops _) => Inv s' ∧ Weak s s'
  | (some s', .error _) => Weak s s'
  | (some _, .panic) => False
  | (none, o) => o = .panic ∧ ∃ n, op = .peek n ∧ s.tc ≤ n

theorem step_spec (s : Frame) (h : Inv s) (op : FOp) : StepOk s op (s.step op) := by
  cases op with
  | push =>
    rcases push_spec s h with ⟨_, he⟩ | ⟨_, s', he, hi, hw, htc, _⟩
    · simp only [Frame.step, he, liftReg, StepOk]; exact Weak.refl h
    · simp only [Frame.step, he, liftReg, StepOk]
      have := hi.used_ge
      exact ⟨hi, hw, by rw [hw.tb]; omega⟩
  | pop =>
    rcases pop_spec s h with ⟨_, he⟩ | ⟨hpos, s', he, hi, hw, htc, hu, _⟩
    · simp only [Frame.step, he, liftReg, StepOk]; exact Weak.refl h
    · simp only [Frame.step, he, liftReg, StepOk]
      have := h.used_ge
      exact ⟨hi, hw, by rw [hw.tb, hu]; omega⟩
  | peek n =>
    rcases peek_spec s h n with ⟨hn, he⟩ | ⟨hn, he⟩
    · simp only [Frame.step, he, liftReg, StepOk]
      have := h.used_ge
      exact ⟨h, Weak.refl h, by omega⟩
    · simpa [Frame.step, he, liftReg, StepOk] using hn
  | truncate c =>
    obtain ⟨s', he, hi, hw, _, _⟩ := truncate_run s h c
    simp only [Frame.step, he, liftUnit, StepOk]
    exact ⟨hi, hw⟩
  | assign id =>
    rcases assign_spec s h id with ⟨s', r, he, hi, hw, hr⟩ | ⟨s', e, he, hw⟩
    · simp only [Frame.step, he, liftReg, StepOk]; exact ⟨hi, hw, by omega⟩
    · simp only [Frame.step, he, liftReg, StepOk]; exact hw
  | reserve id =>
    rcases reserve_spec s h id with ⟨s', r, he, hi, hw, hr⟩ | ⟨s', he, hw, _⟩
    · simp only [Frame.step, he, liftReg, StepOk]; exact ⟨hi, hw, by omega⟩
    · simp only [Frame.step, he, liftReg, StepOk]; exact hw
  | commit r =>
    rcases commitLocal_spec s r with ⟨s', ops, he, hs⟩ | he
    · simp only [Frame.step, he, StepOk]; exact ⟨hs.inv h, hs.weak h⟩
    · simp only [Frame.step, he, StepOk]; exact Weak.refl h
  | defer r bytes =>
    rcases deferOp_spec s r bytes with ⟨s', he, hs⟩ | he
    · simp only [Frame.step, he, liftUnit, StepOk]; exact ⟨hs.inv h, hs.weak h⟩
    · simp only [Frame.step, he, liftUnit, StepOk]; exact Weak.refl h
  | export_ id =>
    simp only [Frame.step, StepOk]
    exact addExported_inv s h id

theorem step_none_panic (s : Frame) (op : FOp) (o : Obs) (h : s.step op = (none, o)) : o = .panic := by
  have hr : ∀ x : Out Nat, liftReg x = (none, o) → o = .panic := by
    intro x hx; cases x <;> cases hx; rfl
  have hu : ∀ x : Out Unit, liftUnit x = (none, o) → o = .panic := by
    intro x hx; cases x <;> cases hx; rfl
  cases op with
  | push | pop | peek _ | assign _ | reserve _ => exact hr _ h
  | truncate _ | defer _ _ => exact hu _ h
  | commit r =>
    rw [Frame.step] at h
    split at h <;> cases h
    rfl
  | export_ _ => cases h

/-- An observation that ends the history. -/
def Obs.isFailure : Obs → Bool
  | .error _ | .panic => true
  | _ => false

theorem StepOk.cont {s s' : Frame} {op : FOp} {o : Obs} (hs : StepOk s op (some s', o))
    (ho : o.isFailure = false) : Inv s' ∧ Weak s s' ∧ ∀ r, o = .reg r → r < s'.tb + s'.used := by
  cases o with
  | reg r0 => exact ⟨hs.1, hs.2.1, fun r hr => by cases hr; exact hs.2.2⟩
  | unit | ops _ => exact ⟨hs.1, hs.2, fun r hr => nomatch hr⟩
  | error _ | panic => cases ho

theorem run_spec (s : Frame) (h : Inv s) (ops : List FOp) :
    Weak s (s.run ops).1
    ∧ (∀ r, Obs.reg r ∈ (s.run ops).2 → r < (s.run ops).1.tb + (s.run ops).1.used)
    ∧ ((∀ o ∈ (s.run ops).2, o.isFailure = false) → Inv (s.run ops).1) := by
  induction ops generalizing s with
  | nil => exact ⟨Weak.refl h, fun r hr => (nomatch (hr : Obs.reg r ∈ [])), fun _ => h⟩
  | cons op ops ih =>
    have hs := step_spec s h op
    rw [Frame.run]
    split
    · -- an error ends the history
      rename_i s' e hres
      rw [hres] at hs
      exact ⟨hs, fun r hr => by simp at hr, fun hf => by simpa [Obs.isFailure] using hf _ (List.mem_singleton_self _)⟩
    · rename_i s' o hne hres
      rw [hres] at hs
      by_cases ho : o.isFailure = true
      · cases o with
        | error e => exact absurd rfl (hne e)
        | panic => exact hs.elim
        | _ => cases ho
      · obtain ⟨hi, hw, hr0⟩ := hs.cont (by simpa using ho)
        have ih' := ih s' hi
        rcases hrun : s'.run ops with ⟨s2, os⟩
        rw [hrun] at ih'
        obtain ⟨w2, r2, i2⟩ := ih'
        show Weak s s2 ∧ (∀ r, Obs.reg r ∈ o :: os → r < s2.tb + s2.used) ∧ ((∀ o' ∈ o :: os, _) → Inv s2)
        refine ⟨hw.trans w2, fun r hr => ?_, fun hf => i2 fun o' ho' => hf o' (List.mem_cons_of_mem _ ho')⟩
        rcases List.mem_cons.1 hr with hr | hr
        · have := hr0 r hr.symm
          have h1 : s2.tb = s'.tb := w2.tb
          have h2 : s'.used ≤ s2.used := w2.used
          omega
        · exact r2 r hr
    · -- a panic loses the state
      rename_i o hres
      rw [hres] at hs
      obtain ⟨rfl, _⟩ := hs
      exact ⟨Weak.refl h, fun r hr => by simp at hr, fun hf => by simpa [Obs.isFailure] using hf _ (List.mem_singleton_self _)⟩

theorem initialLocals_length (args : List Arg) (caps : List Nat) :
    (initialLocals args caps).length = 1 + args.length + caps.length := by
  induction args with
  | nil => simp [initialLocals]; omega
  | cons a as ih =>
    have : (initialLocals (a :: as) caps).length = (initialLocals as caps).length + 1 := by
      cases a <;> simp [initialLocals] <;> omega
    rw [this, ih]; simp; omega

/-- `Frame::new` when the exact sum fits a `u8`: no addition overflows and the base is the sum -/
theorem new_of_fits (lc : Nat) (args : List Arg) (caps : List Nat) (h : baseSum lc args caps ≤ 255) :
    Frame.new lc args caps = .ok { locals := initialLocals args caps, tb := baseSum lc args caps } () := by
  unfold baseSum at h
  have hc : asU8 caps.length = caps.length := Nat.mod_eq_of_lt (by omega)
  have hp : asU8 (placeholders args) = placeholders args := Nat.mod_eq_of_lt (by omega)
  unfold Frame.new
  simp only [hc, hp, u8Max]
  rw [if_neg (by omega), if_neg (by omega), if_neg (by omega)]
  rfl

/-- `Frame::new` establishes the invariant when the named arguments are counted in `local_count`
(the parser's `local_count` includes every named argument) and the lists fit a `u8`. -/
theorem new_inv (lc : Nat) (args : List Arg) (caps : List Nat) (s : Frame)
    (h : Frame.new lc args caps = .ok s ())
    (hargs : args.length ≤ lc + placeholders args) (hc : caps.length < 256) (ha : args.length < 256) :
    Inv s ∧ s.tb = baseSum lc args caps ∧ s.tc = 0 ∧ s.used = 0 := by
  have hp : placeholders args ≤ args.length := List.length_filter_le _ _
  have hfit : baseSum lc args caps ≤ 255 := by
    -- the lists fit a `u8`, so no count is truncated: otherwise one of the three checked additions overflows
    unfold Frame.new at h
    simp only [asU8, Nat.mod_eq_of_lt hc, Nat.mod_eq_of_lt (Nat.lt_of_le_of_lt hp ha), u8Max] at h
    unfold baseSum
    split at h
    · cases h
    · split at h
      · cases h
      · split at h
        · cases h
        · omega
  rw [new_of_fits lc args caps hfit] at h
  cases h
  have hl := initialLocals_length args caps
  unfold baseSum at hfit ⊢
  exact ⟨⟨rfl, hfit, Nat.le_refl _, hfit, by simp only [hl]; omega⟩, rfl, rfl, rfl⟩

end KotoVerif.Frame
