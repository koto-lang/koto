/-
Lemmas for C18, the cache machine: the state invariant `Inv`, the step relation `Rel`, and the proof
that `run_import` is `Sound` (preserves `Inv` and relates its input and output state by `Rel`) for every
runner that is.
-/
import KotoVerif.Model.Modules

namespace KotoVerif.C18L
open KotoVerif.Modules

def doneB (c : Path → Option Entry) (p : Path) : Bool :=
  match c p with
  | some (.done _) => true
  | _ => false

def inProgB (c : Path → Option Entry) (p : Path) : Bool :=
  match c p with
  | some .inProgress => true
  | _ => false

/-- events a script can print; the others are emitted by `run_import` only -/
def Event.obs : Event → Bool
  | .print _ => true
  | .show _ _ => true
  | .caught _ _ => true
  | _ => false

/-- invariant of reachable runtimes:
* a cached module's chunk is in the loader's cache (so `loaded_from_cache` holds for it);
* `done p` was reported exactly once iff `p` is cached;
* every start of `p` has ended (successfully or not) unless `p` is in progress right now. -/
structure Inv (s : St) : Prop where
  loaded : ∀ p e, s.cache p = some (.done e) → s.loader p = true
  cntDone : ∀ p, s.out.count (.done p) = if doneB s.cache p then 1 else 0
  cntEnter : ∀ p, s.out.count (.enter p)
      = s.out.count (.done p) + s.out.count (.failed p) + (if inProgB s.cache p then 1 else 0)

/-- what any piece of execution may do to the runtime -/
structure Rel (s s' : St) : Prop where
  out : ∃ t, s'.out = s.out ++ t ∧ ∀ p, doneB s.cache p = true → Event.enter p ∉ t
  loader : ∀ p, s.loader p = true → s'.loader p = true
  done : ∀ p e, s.cache p = some (.done e) → s'.cache p = some (.done e)
  prog : ∀ p, s.cache p = some .inProgress → s'.cache p = some .inProgress
  clean : ∀ p, s.cache p = none → s'.cache p ≠ some .inProgress

def Sound (s s' : St) : Prop := Inv s → Inv s' ∧ Rel s s'

def RecSound (rec : Runner) : Prop :=
  ∀ self dir body s r s', rec self dir body s = some (r, s') → Sound s s'

theorem doneB_of_eq {c : Path → Option Entry} {p : Path} {e : Exports} (h : c p = some (.done e)) :
    doneB c p = true := by simp [doneB, h]

theorem doneB_true {c : Path → Option Entry} {p : Path} (h : doneB c p = true) :
    ∃ e, c p = some (.done e) := by
  unfold doneB at h
  split at h
  · exact ⟨_, by assumption⟩
  · simp at h

theorem Rel.refl (s : St) : Rel s s :=
  ⟨⟨[], by simp⟩, fun _ h => h, fun _ _ h => h, fun _ h => h, fun _ h => by simp [h]⟩

theorem Rel.trans {a b c : St} (h1 : Rel a b) (h2 : Rel b c) : Rel a c := by
  obtain ⟨t1, e1, n1⟩ := h1.out
  obtain ⟨t2, e2, n2⟩ := h2.out
  refine ⟨⟨t1 ++ t2, by rw [e2, e1, List.append_assoc], ?_⟩, ?_, ?_, ?_, ?_⟩
  · intro p hp
    obtain ⟨e, he⟩ := doneB_true hp
    have hb : doneB b.cache p = true := doneB_of_eq (h1.done p e he)
    simp only [List.mem_append, not_or]
    exact ⟨n1 p hp, n2 p hb⟩
  · exact fun p h => h2.loader p (h1.loader p h)
  · exact fun p e h => h2.done p e (h1.done p e h)
  · exact fun p h => h2.prog p (h1.prog p h)
  · intro p h
    cases hb : b.cache p with
    | none => exact h2.clean p hb
    | some en =>
      cases en with
      | inProgress => exact absurd hb (h1.clean p h)
      | done e => rw [h2.done p e hb]; simp

theorem Rel.done_stable {s s' : St} (h : Rel s s') {p : Path} {e : Exports} (hd : s.cache p = some (.done e)) :
    s'.cache p = some (.done e) ∧ ∃ t, s'.out = s.out ++ t ∧ Event.enter p ∉ t :=
  h.out.elim fun t ht => ⟨h.done p e hd, t, ht.1, ht.2 p (doneB_of_eq hd)⟩

theorem Rel.inProgB_eq {s s' : St} (h : Rel s s') (p : Path) : inProgB s'.cache p = inProgB s.cache p := by
  cases hc : s.cache p with
  | none =>
    have hcl := h.clean p hc
    cases hc' : s'.cache p with
    | none => simp [inProgB, hc', hc]
    | some en =>
      cases en with
      | inProgress => exact absurd hc' hcl
      | done e => simp [inProgB, hc', hc]
  | some en =>
    cases en with
    | inProgress => simp [inProgB, hc, h.prog p hc]
    | done e => simp [inProgB, hc, h.done p e hc]

theorem Sound.refl (s : St) : Sound s s := fun h => ⟨h, Rel.refl s⟩

theorem Sound.trans {a b c : St} (h1 : Sound a b) (h2 : Sound b c) : Sound a c := fun h =>
  let ⟨ib, r1⟩ := h1 h
  let ⟨ic, r2⟩ := h2 ib
  ⟨ic, r1.trans r2⟩

theorem inv_init : Inv init := by
  refine ⟨?_, ?_, ?_⟩
  · intro p e h; simp [init] at h
  · intro p; simp [init, doneB]
  · intro p; simp [init, inProgB]

/-! ### steps that leave the module cache alone -/

theorem count_append_obs (e : Event) (he : Event.obs e = false) (l t : List Event)
    (ht : ∀ x ∈ t, Event.obs x = true) : (l ++ t).count e = l.count e := by
  rw [List.count_append]
  have : t.count e = 0 := by
    rw [List.count_eq_zero]
    intro hmem
    have := ht e hmem
    rw [he] at this
    cases this
  omega

theorem sound_local {s s' : St} (hl : ∀ p, s.loader p = true → s'.loader p = true) (hc : s'.cache = s.cache)
    (t : List Event) (ho : s'.out = s.out ++ t) (ht : ∀ x ∈ t, Event.obs x = true) : Sound s s' := by
  intro inv
  refine ⟨⟨?_, ?_, ?_⟩, ⟨⟨t, ho, ?_⟩, hl, ?_, ?_, ?_⟩⟩
  · intro p e h; rw [hc] at h; exact hl p (inv.loaded p e h)
  · intro p; rw [ho, hc, count_append_obs _ rfl _ _ ht]; exact inv.cntDone p
  · intro p
    rw [ho, hc, count_append_obs _ rfl _ _ ht, count_append_obs _ rfl _ _ ht, count_append_obs _ rfl _ _ ht]
    exact inv.cntEnter p
  · intro p _ hmem; have := ht _ hmem; cases this
  · intro p e h; rw [hc]; exact h
  · intro p h; rw [hc]; exact h
  · intro p h; rw [hc, h]; simp

theorem sound_exports (s : St) (e : Exports) : Sound s { s with exports := e } :=
  sound_local (fun _ h => h) rfl [] (by simp) (by simp)

theorem sound_emit_obs (e : Event) (he : Event.obs e = true) (s : St) : Sound s (emit e s) :=
  sound_local (fun _ h => h) rfl [e] rfl (by simp [he])

theorem compileModule_spec {fs : FS} {p : Path} {s s1 : St} {b : Bool}
    (h : compileModule fs p s = some (b, s1)) :
    s1.cache = s.cache ∧ s1.exports = s.exports ∧ s1.out = s.out ∧ s1.loader p = true
      ∧ (∀ q, s.loader q = true → s1.loader q = true) ∧ (b = false → s.loader p = false)
      ∧ (b = true → s1 = s) := by
  unfold compileModule at h
  split at h
  · next hl =>
    cases h
    exact ⟨rfl, rfl, rfl, hl, fun _ h => h, by simp, fun _ => rfl⟩
  · next hl =>
    split at h
    · cases h
      refine ⟨rfl, rfl, rfl, by simp [upd], ?_, fun _ => by simpa using hl, by simp⟩
      intro q hq
      by_cases hqp : q = p
      · simp [upd, hqp]
      · simp [upd, hqp, hq]
    · cases h

theorem compileModule_loaded {fs : FS} {p : Path} {s : St} (hl : s.loader p = true) :
    compileModule fs p s = some (true, s) := by simp [compileModule, hl]

theorem sound_compileModule {fs : FS} {p : Path} {s s1 : St} {b : Bool}
    (h : compileModule fs p s = some (b, s1)) : Sound s s1 :=
  let ⟨hc, _, ho, _, hl, _, _⟩ := compileModule_spec h
  sound_local hl hc [] (by simp [ho]) (by simp)

/-! ### one cache entry moves, and `run_import` reports it -/

theorem upd_same {α : Type} (f : Path → α) (p : Path) (a : α) : upd f p a p = a := by simp [upd]

theorem upd_other {α : Type} (f : Path → α) (p q : Path) (a : α) (h : q ≠ p) : upd f p a q = f q := by
  simp [upd, h]

theorem doneB_upd_other (c : Path → Option Entry) (p q : Path) (x : Option Entry) (h : q ≠ p) :
    doneB (upd c p x) q = doneB c q := by simp [doneB, upd, h]

theorem inProgB_upd_other (c : Path → Option Entry) (p q : Path) (x : Option Entry) (h : q ≠ p) :
    inProgB (upd c p x) q = inProgB c q := by simp [inProgB, upd, h]

theorem count_snoc_other {p q : Path} {ev : Event} (hqp : q ≠ p)
    (hev : ev = .enter p ∨ ev = .done p ∨ ev = .failed p) (l : List Event) :
    (l ++ [ev]).count (.enter q) = l.count (.enter q) ∧ (l ++ [ev]).count (.done q) = l.count (.done q)
      ∧ (l ++ [ev]).count (.failed q) = l.count (.failed q) := by
  have hpq : p ≠ q := fun h => hqp h.symm
  rcases hev with rfl | rfl | rfl <;> simp [List.count_append, hpq]

/-- The three moves of `run_import` — start `p` (no entry → placeholder, `enter p`), complete it
(placeholder → exports, `done p`), fail (placeholder → no entry, `failed p`) — change the entry of `p`
and append an event about `p`. The invariant survives when the two counts of `p` still match. -/
theorem Inv.move {s : St} (inv : Inv s) {p : Path} {x : Option Entry} {ev : Event} (ex : Exports)
    (hev : ev = .enter p ∨ ev = .done p ∨ ev = .failed p)
    (hl : ∀ e, x = some (.done e) → s.loader p = true)
    (hd : (s.out ++ [ev]).count (.done p) = if doneB (upd s.cache p x) p then 1 else 0)
    (he : (s.out ++ [ev]).count (.enter p) = (s.out ++ [ev]).count (.done p)
      + (s.out ++ [ev]).count (.failed p) + if inProgB (upd s.cache p x) p then 1 else 0) :
    Inv (emit ev { s with cache := upd s.cache p x, exports := ex }) := by
  refine ⟨fun q e hq => ?_, fun q => ?_, fun q => ?_⟩
  · change upd s.cache p x q = some (.done e) at hq
    by_cases hqp : q = p
    · subst hqp; rw [upd_same] at hq; exact hl e hq
    · rw [upd_other _ _ _ _ hqp] at hq; exact inv.loaded q e hq
  · by_cases hqp : q = p
    · subst hqp; exact hd
    · show (s.out ++ [ev]).count (.done q) = if doneB (upd s.cache p x) q then 1 else 0
      rw [(count_snoc_other hqp hev _).2.1, doneB_upd_other _ _ _ _ hqp]; exact inv.cntDone q
  · by_cases hqp : q = p
    · subst hqp; exact he
    · obtain ⟨h1, h2, h3⟩ := count_snoc_other hqp hev s.out
      show (s.out ++ [ev]).count (.enter q) = (s.out ++ [ev]).count (.done q)
        + (s.out ++ [ev]).count (.failed q) + if inProgB (upd s.cache p x) q then 1 else 0
      rw [h1, h2, h3, inProgB_upd_other _ _ _ _ hqp]; exact inv.cntEnter q

theorem inv_enter {s : St} {p : Path} (inv : Inv s) (hnone : s.cache p = none) :
    Inv (emit (Event.enter p) { s with cache := upd s.cache p (some Entry.inProgress), exports := {} }) := by
  have hd := inv.cntDone p
  have he := inv.cntEnter p
  simp only [doneB, inProgB, hnone] at hd he
  refine inv.move _ (Or.inl rfl) (fun e h => by cases h) ?_ ?_
  · simp [List.count_append, doneB, upd, hd]
  · simp [List.count_append, inProgB, upd, he]

/-- the end of a module's execution, seen from the importer: whatever replaces the placeholder of `p`
(the exports map, or nothing) and whichever event reports it -/
theorem rel_leave {s s3 : St} {p : Path} {x : Option Entry} {ev : Event} (hnone : s.cache p = none)
    (rel : Rel (emit (Event.enter p) { s with cache := upd s.cache p (some Entry.inProgress), exports := {} }) s3)
    (hx : x ≠ some .inProgress) (hev : ∀ q, ev ≠ .enter q) :
    Rel s (emit ev { s3 with cache := upd s3.cache p x, exports := s.exports }) := by
  obtain ⟨t, ht, hnt⟩ := rel.out
  have hne : ∀ {q o}, s.cache q = some o → q ≠ p := by
    intro q o hq hqp; rw [hqp, hnone] at hq; cases hq
  refine ⟨⟨Event.enter p :: t ++ [ev], ?_, ?_⟩, rel.loader, ?_, ?_, ?_⟩
  · show s3.out ++ [ev] = _
    rw [ht]; show s.out ++ [Event.enter p] ++ t ++ [ev] = _; simp
  · intro q hq hmem
    obtain ⟨e, he⟩ := doneB_true hq
    have hqp := hne he
    simp only [List.cons_append, List.mem_cons, List.mem_append, List.not_mem_nil, or_false] at hmem
    rcases hmem with hh | hh | hh
    · injection hh with hh; exact hqp hh
    · exact hnt q (by show doneB (upd s.cache p _) q = true; rw [doneB_upd_other _ _ _ _ hqp]; exact hq) hh
    · exact hev q hh.symm
  · intro q e hq
    show upd s3.cache p x q = _
    rw [upd_other _ _ _ _ (hne hq)]
    exact rel.done q e (by show upd s.cache p _ q = _; rw [upd_other _ _ _ _ (hne hq)]; exact hq)
  · intro q hq
    show upd s3.cache p x q = _
    rw [upd_other _ _ _ _ (hne hq)]
    exact rel.prog q (by show upd s.cache p _ q = _; rw [upd_other _ _ _ _ (hne hq)]; exact hq)
  · intro q hq
    show upd s3.cache p x q ≠ _
    by_cases hqp : q = p
    · subst hqp; rw [upd_same]; exact hx
    · rw [upd_other _ _ _ _ hqp]
      exact rel.clean q (by show upd s.cache p _ q = _; rw [upd_other _ _ _ _ hqp]; exact hq)

theorem loadModule_some {fs : FS} {rec : Runner} {p : Path} {s s' : St} {r : Except Err V}
    (h : loadModule fs rec p s = some (r, s')) :
    ∃ r3 s3, rec (some p) p.folder (bodyOf fs p)
        (emit (.enter p) { s with cache := upd s.cache p (some .inProgress), exports := {} }) = some (r3, s3) ∧
      ((r3 = none ∧ r = .ok (.mref p) ∧
          s' = emit (.done p) { s3 with cache := upd s3.cache p (some (.done s3.exports)), exports := s.exports }) ∨
       (∃ e, r3 = some e ∧ r = .error e ∧
          s' = emit (.failed p) { s3 with cache := upd s3.cache p none, exports := s.exports })) := by
  unfold loadModule at h
  dsimp only at h
  split at h
  · cases h
  · next s3 hr => cases h; exact ⟨_, s3, hr, Or.inl ⟨rfl, rfl, rfl⟩⟩
  · next e s3 hr => cases h; exact ⟨_, s3, hr, Or.inr ⟨e, rfl, rfl, rfl⟩⟩

theorem loadModule_exports {fs : FS} {rec : Runner} {p : Path} {s s' : St} {r : Except Err V}
    (h : loadModule fs rec p s = some (r, s')) : s'.exports = s.exports := by
  obtain ⟨_, _, _, ⟨_, _, rfl⟩ | ⟨_, _, _, rfl⟩⟩ := loadModule_some h <;> rfl

/-- the heart of C18: executing a module that is neither cached nor in progress -/
theorem sound_loadModule {fs : FS} {rec : Runner} (hrec : RecSound rec) {p : Path} {s s' : St}
    {r : Except Err V} (hnone : s.cache p = none) (hload : s.loader p = true)
    (h : loadModule fs rec p s = some (r, s')) : Sound s s' := by
  intro inv
  obtain ⟨r3, s3, hr, hcase⟩ := loadModule_some h
  obtain ⟨inv3, rel3⟩ := hrec _ _ _ _ _ _ hr (inv_enter inv hnone)
  have hp3 : s3.cache p = some Entry.inProgress := rel3.prog p (upd_same _ _ _)
  have hd := inv3.cntDone p
  have he := inv3.cntEnter p
  simp [doneB, inProgB, hp3] at hd he
  rcases hcase with ⟨_, _, rfl⟩ | ⟨e, _, _, rfl⟩
  · refine ⟨inv3.move _ (Or.inr (Or.inl rfl)) (fun _ _ => rel3.loader p hload) ?_ ?_,
      rel_leave hnone rel3 (by simp) (by simp)⟩
    · simp [List.count_append, doneB, upd, hd]
    · simp [List.count_append, inProgB, upd, hd, he]; omega
  · refine ⟨inv3.move _ (Or.inr (Or.inr rfl)) (fun e h => by cases h) ?_ ?_,
      rel_leave hnone rel3 (by simp) (by simp)⟩
    · simp [List.count_append, doneB, upd, hd]
    · simp [List.count_append, inProgB, upd, hd, he]

/-- the part of `run_import` that does not execute anything: either the result, or the module that
has to be executed -/
def importPlan (cfg : Cfg) (fs : FS) (fr : Frame) (name : Ref) (s : St) :
    Sum (Except Err V × St) (Path × St) :=
  match importHit cfg fr s name with
  | some v => .inl (.ok v, s)
  | none =>
    match findModule cfg fs fr.dir name with
    | none => .inl (.error .notFound, s)
    | some p =>
      match compileModule fs p s with
      | none => .inl (.error .compile, s)
      | some (fromCache, s1) =>
        match s1.cache p, fromCache with
        | some .inProgress, _ => .inl (.error .recursive, s1)
        | some (.done _), true => .inl (.ok (.mref p), s1)
        | _, _ => .inr (p, s1)

theorem runImport_plan (cfg : Cfg) (fs : FS) (rec : Runner) (fr : Frame) (name : Ref) (s : St) :
    runImport cfg fs rec fr name s =
      (match importPlan cfg fs fr name s with
       | .inl r => some r
       | .inr (p, s1) => loadModule fs rec p s1) := by
  unfold runImport importPlan
  cases importHit cfg fr s name with
  | some v => rfl
  | none =>
    dsimp only
    cases findModule cfg fs fr.dir name with
    | none => rfl
    | some p =>
      dsimp only
      cases compileModule fs p s with
      | none => rfl
      | some bs =>
        obtain ⟨b, s1⟩ := bs
        dsimp only
        cases s1.cache p with
        | none => rfl
        | some en =>
          cases en with
          | inProgress => rfl
          | done e => cases b <;> rfl

theorem importPlan_spec (cfg : Cfg) (fs : FS) (fr : Frame) (name : Ref) (s : St) :
    match importPlan cfg fs fr name s with
    | .inl (_, s') => s' = s ∨ ∃ p b, compileModule fs p s = some (b, s')
    | .inr (p, s1) => ∃ b, findModule cfg fs fr.dir name = some p ∧ compileModule fs p s = some (b, s1)
        ∧ s1.cache p ≠ some .inProgress ∧ (∀ e, s1.cache p = some (.done e) → b = false) := by
  unfold importPlan
  cases importHit cfg fr s name with
  | some v => exact Or.inl rfl
  | none =>
    dsimp only
    cases hfm : findModule cfg fs fr.dir name with
    | none => exact Or.inl rfl
    | some p =>
      dsimp only
      cases hcm : compileModule fs p s with
      | none => exact Or.inl rfl
      | some bs =>
        obtain ⟨b, s1⟩ := bs
        dsimp only
        cases hcp : s1.cache p with
        | none => exact ⟨b, rfl, hcm, by simp [hcp], by simp [hcp]⟩
        | some en =>
          cases en with
          | inProgress => exact Or.inr ⟨p, b, hcm⟩
          | done e =>
            cases b with
            | true => exact Or.inr ⟨p, true, hcm⟩
            | false => exact ⟨false, rfl, hcm, by simp [hcp], fun _ _ => rfl⟩

theorem importPlan_inl {cfg : Cfg} {fs : FS} {fr : Frame} {name : Ref} {s s' : St} {r : Except Err V}
    (h : importPlan cfg fs fr name s = .inl (r, s')) : Sound s s' ∧ s'.exports = s.exports := by
  have := importPlan_spec cfg fs fr name s
  rw [h] at this
  rcases this with rfl | ⟨p, b, hcm⟩
  · exact ⟨Sound.refl _, rfl⟩
  · exact ⟨sound_compileModule hcm, (compileModule_spec hcm).2.1⟩

/-- in a reachable runtime the module to be executed has no cache entry at all: a `done` entry would have
its chunk loaded (`Inv.loaded`), and `run_import` would have served it from the cache -/
theorem importPlan_inr {cfg : Cfg} {fs : FS} {fr : Frame} {name : Ref} {s s1 : St} {p : Path}
    (inv : Inv s) (h : importPlan cfg fs fr name s = .inr (p, s1)) :
    findModule cfg fs fr.dir name = some p ∧ (Inv s1 ∧ Rel s s1) ∧ s1.exports = s.exports
      ∧ s1.cache p = none ∧ s1.loader p = true := by
  have := importPlan_spec cfg fs fr name s
  rw [h] at this
  obtain ⟨b, hfm, hcm, hnp, hnd⟩ := this
  obtain ⟨hc, hex, _, hl1, _, hfalse, _⟩ := compileModule_spec hcm
  refine ⟨hfm, sound_compileModule hcm inv, hex, ?_, hl1⟩
  cases hcp : s1.cache p with
  | none => rfl
  | some en =>
    cases en with
    | inProgress => exact absurd hcp hnp
    | done e =>
      have := inv.loaded p e (by rw [← hc]; exact hcp)
      rw [hfalse (hnd e hcp)] at this; cases this

theorem sound_runImport {cfg : Cfg} {fs : FS} {rec : Runner} (hrec : RecSound rec) {fr : Frame}
    {name : Ref} {s s' : St} {r : Except Err V}
    (h : runImport cfg fs rec fr name s = some (r, s')) : Sound s s' := by
  rw [runImport_plan] at h
  split at h
  · next hpl => cases h; exact (importPlan_inl hpl).1
  · next p s1 hpl =>
    intro inv
    obtain ⟨_, ⟨inv1, rel1⟩, _, hnone, hl1⟩ := importPlan_inr inv hpl
    obtain ⟨inv', rel'⟩ := sound_loadModule hrec hnone hl1 h inv1
    exact ⟨inv', rel1.trans rel'⟩

theorem runImport_exports {cfg : Cfg} {fs : FS} {rec : Runner} {fr : Frame} {name : Ref} {s s' : St}
    {r : Except Err V} (h : runImport cfg fs rec fr name s = some (r, s')) : s'.exports = s.exports := by
  rw [runImport_plan] at h
  have hspec := importPlan_spec cfg fs fr name s
  split at h
  · next hpl => cases h; exact (importPlan_inl hpl).2
  · next p s1 hpl =>
    rw [hpl] at hspec
    obtain ⟨b, _, hcm, _⟩ := hspec
    rw [loadModule_exports h, (compileModule_spec hcm).2.1]

end KotoVerif.C18L
