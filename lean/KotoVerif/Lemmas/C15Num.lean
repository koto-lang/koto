/-
Helper lemmas for C15: rendering an integer and parsing it back (`'{n}'.to_number() = n`).
Core Lean only.
-/
import KotoVerif.Model.Str
import KotoVerif.Model.FmtSpec

namespace KotoVerif.FmtSpec

theorem natDigits_ne_nil (base : Nat) (upper : Bool) (fuel n : Nat) : natDigits base upper (fuel + 1) n ≠ [] := by
  simp only [natDigits]
  split <;> simp

theorem natDigits_forall {base : Nat} (hb : 0 < base) (upper : Bool) {P : Nat → Prop}
    (hP : ∀ d < base, P (digitChar d upper)) : ∀ (fuel n : Nat), ∀ b ∈ natDigits base upper fuel n, P b
  | 0, _, b, h => nomatch h
  | fuel + 1, n, b, h => by
    simp only [natDigits] at h
    split at h
    · rw [List.mem_singleton.mp h]; exact hP n ‹_›
    · rcases List.mem_append.mp h with h | h
      · exact natDigits_forall hb upper hP fuel _ b h
      · rw [List.mem_singleton.mp h]; exact hP _ (Nat.mod_lt n hb)

theorem showDec_ne_nil (n : Nat) : showDec n ≠ [] := natDigits_ne_nil 10 false 69 n

theorem showDec_digits (n : Nat) : ∀ b ∈ showDec n, 48 ≤ b ∧ b ≤ 57 :=
  natDigits_forall (by decide) false (fun d hd => by rw [digitChar, if_pos hd]; omega) 70 n

end KotoVerif.FmtSpec

namespace KotoVerif.Str
open KotoVerif.Utf8 KotoVerif.FmtSpec

theorem digitVal_digitChar {base d : Nat} (hb : base ≤ 36) (hd : d < base) :
    digitVal base (digitChar d false) = some d := by
  simp only [digitChar, digitVal]
  by_cases h10 : d < 10
  · simp only [h10, if_true]
    have h1 : 48 ≤ 48 + d ∧ 48 + d ≤ 57 := by omega
    simp [h1, hd]
  · simp only [h10, if_false, Bool.false_eq_true]
    have h1 : ¬(48 ≤ 87 + d ∧ 87 + d ≤ 57) := by omega
    have h2 : 97 ≤ 87 + d ∧ 87 + d ≤ 122 := by omega
    have h3 : 87 + d - 97 + 10 = d := by omega
    simp [h1, h2, h3, hd]

theorem digitsVal_append (base : Nat) : ∀ (xs : Bytes) (d acc : Nat),
    digitsVal base (xs ++ [d]) acc = (digitsVal base xs acc).bind (fun a => (digitVal base d).map (fun v => a * base + v))
  | [], d, acc => by
    simp only [List.nil_append, digitsVal]
    cases digitVal base d <;> simp
  | x :: xs, d, acc => by
    simp only [List.cons_append, digitsVal]
    cases digitVal base x with
    | none => simp
    | some v => simp only; exact digitsVal_append base xs d _

theorem digitsVal_natDigits {base : Nat} (hb2 : 2 ≤ base) (hb : base ≤ 36) :
    ∀ (fuel n : Nat), n < base ^ fuel → digitsVal base (natDigits base false fuel n) 0 = some n
  | 0, n, h => by simp at h; subst h; simp [natDigits, digitsVal]
  | fuel + 1, n, h => by
    simp only [natDigits]
    split
    · rename_i hlt
      simp [digitsVal, digitVal_digitChar hb hlt]
    · rename_i hge
      have hdiv : n / base < base ^ fuel := by
        rw [Nat.div_lt_iff_lt_mul (by omega)]
        rw [Nat.pow_succ] at h; exact h
      rw [digitsVal_append, digitsVal_natDigits hb2 hb fuel _ hdiv]
      have hmod : n % base < base := Nat.mod_lt _ (by omega)
      simp only [Option.bind_some, digitVal_digitChar hb hmod, Option.map_some]
      congr 1
      exact Nat.div_add_mod' n base

/-- the digits of anything up to 2^63 (70 digits of fuel are plenty) have its value -/
theorem digitsVal_showDec {n : Nat} (h : n ≤ 9223372036854775808) : digitsVal 10 (showDec n) 0 = some n :=
  digitsVal_natDigits (by decide) (by decide) 70 n (Nat.lt_of_le_of_lt h (by decide))

theorem digitsVal_zeros (k : Nat) (ds : Bytes) : digitsVal 10 (List.replicate k 48 ++ ds) 0 = digitsVal 10 ds 0 := by
  induction k with
  | zero => rfl
  | succ k ih =>
    simp only [List.replicate_succ, List.cons_append, digitsVal]
    have : digitVal 10 48 = some 0 := by decide
    rw [this]
    simpa using ih

/-! ### parsing a signed digit string -/

theorem fromStrRadix_digits {ds : Bytes} (hne : ds ≠ []) (hd : ∀ b ∈ ds, 48 ≤ b ∧ b ≤ 57) {m : Nat}
    (hv : digitsVal 10 ds 0 = some m) (hm : (m : Int) ≤ i64max) : fromStrRadix 10 ds = some (m : Int) := by
  cases ds with
  | nil => exact absurd rfl hne
  | cons c r =>
    have hc := hd c (.head _)
    have h43 : c ≠ 43 := by omega
    have h45 : c ≠ 45 := by omega
    -- the first byte is a digit, so only the unsigned arm of `fromStrRadix` applies
    have := fromStrRadix.eq_6 10 (c :: r) nofun (fun h => h43 (List.cons.inj h).1) (fun h => h45 (List.cons.inj h).1)
      (fun _ h => h43 (List.cons.inj h).1) (fun _ h => h45 (List.cons.inj h).1)
    rw [this, hv, Option.bind_some, if_pos hm]

theorem fromStrRadix_neg_digits {ds : Bytes} (hne : ds ≠ []) {m : Nat} (hv : digitsVal 10 ds 0 = some m)
    (hm : -(m : Int) ≥ i64min) : fromStrRadix 10 (45 :: ds) = some (-(m : Int)) := by
  cases ds with
  | nil => exact absurd rfl hne
  | cons c r => simp only [fromStrRadix, hv, Option.bind_some, if_pos hm]

theorem radixPrefix_digits {ds : Bytes} (hd : ∀ b ∈ ds, 48 ≤ b ∧ b ≤ 57) : radixPrefix ds = none := by
  unfold radixPrefix
  split
  · have := hd 120 (by simp); omega
  · have := hd 111 (by simp); omega
  · have := hd 98 (by simp); omega
  · rfl

theorem toNumberB_digits {ds : Bytes} (hne : ds ≠ []) (hd : ∀ b ∈ ds, 48 ≤ b ∧ b ≤ 57) {m : Nat}
    (hv : digitsVal 10 ds 0 = some m) :
    ((m : Int) ≤ i64max → toNumberB ds = .int m) ∧ (-(m : Int) ≥ i64min → toNumberB (45 :: ds) = .int (-(m : Int))) := by
  constructor
  · intro hm
    simp only [toNumberB, radixPrefix_digits hd, fromStrRadix_digits hne hd hv hm]
  · intro hm
    have hrp : radixPrefix (45 :: ds) = none := by
      cases ds with
      | nil => rfl
      | cons c r => rfl
    simp only [toNumberB, hrp, fromStrRadix_neg_digits hne hv hm]

theorem fromStrRadix_showDec {n : Nat} (h : (n : Int) ≤ i64max) :
    fromStrRadix 10 (showDec n) = some (n : Int) :=
  fromStrRadix_digits (showDec_ne_nil n) (showDec_digits n)
    (digitsVal_showDec (by simp only [i64max] at h; omega)) h

/-- zeroes in front of the decimal text of `n.natAbs`, a minus sign in front of them when `n` is negative:
`to_number` gives `n` back -/
theorem toNumberB_padded {n : Int} (hlo : i64min ≤ n) (hhi : n ≤ i64max) (k : Nat) :
    toNumberB ((if n < 0 then [45] else []) ++ (List.replicate k 48 ++ showDec n.natAbs)) = .int n := by
  have hne : List.replicate k 48 ++ showDec n.natAbs ≠ [] :=
    fun h => showDec_ne_nil _ (List.append_eq_nil_iff.mp h).2
  have hd : ∀ b ∈ List.replicate k 48 ++ showDec n.natAbs, 48 ≤ b ∧ b ≤ 57 := by
    intro b hb
    rcases List.mem_append.mp hb with hb | hb
    · have := (List.mem_replicate.mp hb).2; omega
    · exact showDec_digits _ b hb
  have hv : digitsVal 10 (List.replicate k 48 ++ showDec n.natAbs) 0 = some n.natAbs := by
    rw [digitsVal_zeros]
    exact digitsVal_showDec (by simp only [i64min, i64max] at hlo hhi; omega)
  obtain ⟨hpos, hneg⟩ := toNumberB_digits hne hd hv
  by_cases hn : n < 0
  · rw [if_pos hn, List.singleton_append, hneg (by omega)]
    congr 1; omega
  · rw [if_neg hn, List.nil_append, hpos (by omega)]
    congr 1; omega

/-- **rendering an `i64` in decimal and parsing it with `to_number` gives the same integer** -/
theorem toNumberB_showInt {n : Int} (hlo : i64min ≤ n) (hhi : n ≤ i64max) :
    toNumberB (showInt n) = .int n := by
  have := toNumberB_padded hlo hhi 0
  rw [List.replicate_zero, List.nil_append] at this
  rw [← this, showInt]
  by_cases hn : n < 0
  · rw [if_pos hn, if_pos hn]; rfl
  · rw [if_neg hn, if_neg hn, List.nil_append]
    congr 2; omega

end KotoVerif.Str
