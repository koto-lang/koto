/-
C01 layer 5, loop layer: the flat instruction stream with forward jumps and `JumpBack`
(`flattenL`, pc-based executor `execLFlat`) simulates the structured loop code (`execL`):
`flat_sim`. A piece of code embedded at `base` in a program runs from `base` to

  * `base + sizeL c`           when it completes normally,
  * `base + sizeL c + post`    when it breaks   (the instruction after the loop's final JumpBack),
  * `base - pre`               when it continues (the loop start),

and a fault of the structured code is a fault of the flat run.
-/
import KotoVerif.Lemmas.C01LoopSem

namespace KotoVerif.Compile

variable {S : Sem}

def At (prog : List LFlat) (base : Nat) (L : List LFlat) : Prop :=
  ∃ A B, prog = A ++ L ++ B ∧ A.length = base

theorem At.left {prog : List LFlat} {base : Nat} {L1 L2 : List LFlat} (h : At prog base (L1 ++ L2)) :
    At prog base L1 := by
  obtain ⟨A, B, h1, h2⟩ := h
  exact ⟨A, L2 ++ B, by simp [h1], h2⟩

theorem At.right {prog : List LFlat} {base : Nat} {L1 L2 : List LFlat} (h : At prog base (L1 ++ L2)) :
    At prog (base + L1.length) L2 := by
  obtain ⟨A, B, h1, h2⟩ := h
  exact ⟨A ++ L1, B, by simp [h1], by simp [h2]⟩

theorem At.head {prog : List LFlat} {base : Nat} {i : LFlat} {L : List LFlat} (h : At prog base (i :: L)) :
    prog[base]? = some i := by
  obtain ⟨A, B, h1, h2⟩ := h
  subst h1 h2
  simp

theorem At.tail {prog : List LFlat} {base : Nat} {i : LFlat} {L : List LFlat} (h : At prog base (i :: L)) :
    At prog (base + 1) L := by
  have : At prog base ([i] ++ L) := h
  exact this.right

theorem At.whole (L : List LFlat) : At L 0 L := ⟨[], [], by simp, rfl⟩

/-- from `(pc, σ)` the program reaches `(pc', σ')` (in some number of steps, whatever fuel is left) -/
def Steps (S : Sem) (prog : List LFlat) (pc : Nat) (σ : Regs S) (pc' : Nat) (σ' : Regs S) : Prop :=
  ∃ m, ∀ K, execLFlat S prog (m + K) pc σ = execLFlat S prog K pc' σ'

def Fails (S : Sem) (prog : List LFlat) (pc : Nat) (σ : Regs S) : Prop :=
  ∃ m, ∀ K, execLFlat S prog (m + K) pc σ = .err

theorem Steps.refl (prog : List LFlat) (pc : Nat) (σ : Regs S) : Steps S prog pc σ pc σ :=
  ⟨0, fun K => by rw [Nat.zero_add]⟩

theorem Steps.trans {prog : List LFlat} {p1 p2 p3 : Nat} {σ1 σ2 σ3 : Regs S}
    (h1 : Steps S prog p1 σ1 p2 σ2) (h2 : Steps S prog p2 σ2 p3 σ3) : Steps S prog p1 σ1 p3 σ3 := by
  obtain ⟨m1, e1⟩ := h1
  obtain ⟨m2, e2⟩ := h2
  exact ⟨m1 + m2, fun K => by rw [Nat.add_assoc, e1, e2]⟩

theorem Steps.fails {prog : List LFlat} {p1 p2 : Nat} {σ1 σ2 : Regs S}
    (h1 : Steps S prog p1 σ1 p2 σ2) (h2 : Fails S prog p2 σ2) : Fails S prog p1 σ1 := by
  obtain ⟨m1, e1⟩ := h1
  obtain ⟨m2, e2⟩ := h2
  exact ⟨m1 + m2, fun K => by rw [Nat.add_assoc, e1, e2]⟩

theorem Steps.cast {prog : List LFlat} {p1 p2 p2' : Nat} {σ1 σ2 : Regs S}
    (h : Steps S prog p1 σ1 p2 σ2) (hp : p2 = p2') : Steps S prog p1 σ1 p2' σ2 := hp ▸ h

theorem Steps.ends {prog : List LFlat} {pc : Nat} {σ σ' : Regs S} (h : Steps S prog pc σ prog.length σ') :
    ∃ m, ∀ K, m ≤ K → execLFlat S prog K pc σ = .ok σ' := by
  obtain ⟨m, hm⟩ := h
  refine ⟨m + 1, fun K hK => ?_⟩
  obtain ⟨K', rfl⟩ := Nat.exists_eq_add_of_lt hK
  rw [Nat.add_assoc, hm]
  simp [execLFlat]

theorem step_op {prog : List LFlat} {pc : Nat} {i : Instr} {σ σ1 : Regs S}
    (h : prog[pc]? = some (.op i)) (hs : stepInstr S i σ = some σ1) : Steps S prog pc σ (pc + 1) σ1 :=
  ⟨1, fun K => by rw [Nat.add_comm]; simp [execLFlat, h, hs]⟩

theorem step_op_fail {prog : List LFlat} {pc : Nat} {i : Instr} {σ : Regs S}
    (h : prog[pc]? = some (.op i)) (hs : stepInstr S i σ = none) : Fails S prog pc σ :=
  ⟨1, fun K => by rw [Nat.add_comm]; simp [execLFlat, h, hs]⟩

theorem step_jif {prog : List LFlat} {pc : Nat} {r : Reg} {k : Nat} {σ : Regs S}
    (h : prog[pc]? = some (.jumpIfFalse r k)) :
    Steps S prog pc σ (if S.truthy (σ r) then pc + 1 else pc + 1 + k) σ :=
  ⟨1, fun K => by
    rw [Nat.add_comm]
    by_cases ht : S.truthy (σ r) = true <;> simp [execLFlat, h, ht]⟩

theorem step_jit {prog : List LFlat} {pc : Nat} {r : Reg} {k : Nat} {σ : Regs S}
    (h : prog[pc]? = some (.jumpIfTrue r k)) :
    Steps S prog pc σ (if S.truthy (σ r) then pc + 1 + k else pc + 1) σ :=
  ⟨1, fun K => by
    rw [Nat.add_comm]
    by_cases ht : S.truthy (σ r) = true <;> simp [execLFlat, h, ht]⟩

theorem step_jump {prog : List LFlat} {pc : Nat} {k : Nat} {σ : Regs S}
    (h : prog[pc]? = some (.jump k)) : Steps S prog pc σ (pc + 1 + k) σ :=
  ⟨1, fun K => by rw [Nat.add_comm]; simp [execLFlat, h]⟩

theorem step_jumpBack {prog : List LFlat} {pc : Nat} {k : Nat} {σ : Regs S}
    (h : prog[pc]? = some (.jumpBack k)) (hk : k ≤ pc + 1) : Steps S prog pc σ (pc + 1 - k) σ :=
  ⟨1, fun K => by rw [Nat.add_comm]; simp [execLFlat, h, hk]⟩

/-- the flat run from `(pc, σ)` that corresponds to an outcome of core `Code`: it reaches `p` with the
outcome's registers, or faults -/
def SimO (S : Sem) (prog : List LFlat) (pc : Nat) (σ : Regs S) (p : Nat) : Option (Regs S) → Prop
  | some σ' => Steps S prog pc σ p σ'
  | none => Fails S prog pc σ

theorem SimO.prefix {prog : List LFlat} {pc p q : Nat} {σ σ1 : Regs S} {r : Option (Regs S)}
    (h1 : Steps S prog pc σ p σ1) (h : SimO S prog p σ1 q r) : SimO S prog pc σ q r := by
  cases r with
  | some σ' => exact h1.trans h
  | none => exact h1.fails h

theorem SimO.cast {prog : List LFlat} {pc p p' : Nat} {σ : Regs S} {r : Option (Regs S)}
    (h : SimO S prog pc σ p r) (hp : p = p') : SimO S prog pc σ p' r := hp ▸ h

theorem SimO.bind {prog : List LFlat} {pc p q : Nat} {σ : Regs S} {r : Option (Regs S)}
    {k : Regs S → Option (Regs S)} (hr : SimO S prog pc σ p r) (hk : ∀ σ1, SimO S prog p σ1 q (k σ1)) :
    SimO S prog pc σ q (match (generalizing := false) r with | some σ1 => k σ1 | none => none) := by
  cases r with
  | some σ1 => exact SimO.prefix hr (hk σ1)
  | none => exact hr

theorem base_sim : ∀ (c : Code) (prog : List LFlat) (base : Nat) (σ : Regs S),
    At prog base ((flatten c).map LFlat.ofFlat) →
    SimO S prog base σ (base + (flatten c).length) (exec S c σ) := by
  intro c
  induction c with
  | nil => intro prog base σ _; exact Steps.refl _ _ _
  | instr i =>
    intro prog base σ h
    have h : At prog base [.op i] := h
    show SimO S prog base σ (base + 1) (stepInstr S i σ)
    cases hs : stepInstr S i σ with
    | some σ1 => exact step_op h.head hs
    | none => exact step_op_fail h.head hs
  | seq a b iha ihb =>
    intro prog base σ h
    simp only [flatten, List.map_append] at h
    have hb := fun σ1 => ihb prog (base + (flatten a).length) σ1 (by simpa using h.right)
    refine ((iha prog base σ h.left).bind hb).cast ?_
    simp only [flatten, List.length_append]
    omega
  | jumpIfFalse r body ih =>
    intro prog base σ h
    have h : At prog base (.jumpIfFalse r (flatten body).length :: (flatten body).map LFlat.ofFlat) := h
    have hj := step_jif (S := S) (σ := σ) h.head
    show SimO S prog base σ (base + ((flatten body).length + 1)) (if S.truthy (σ r) then exec S body σ else some σ)
    split
    · rw [if_pos ‹_›] at hj
      exact (SimO.prefix hj (ih prog (base + 1) σ h.tail)).cast (by omega)
    · rw [if_neg ‹_›] at hj
      exact hj.cast (by omega)
  | jumpIfTrue r body ih =>
    intro prog base σ h
    have h : At prog base (.jumpIfTrue r (flatten body).length :: (flatten body).map LFlat.ofFlat) := h
    have hj := step_jit (S := S) (σ := σ) h.head
    show SimO S prog base σ (base + ((flatten body).length + 1)) (if S.truthy (σ r) then some σ else exec S body σ)
    split
    · rw [if_pos ‹_›] at hj
      exact hj.cast (by omega)
    · rw [if_neg ‹_›] at hj
      exact (SimO.prefix hj (ih prog (base + 1) σ h.tail)).cast (by omega)
  | ifElse r t wj e iht ihe =>
    intro prog base σ h
    cases wj with
    | true =>
      simp only [flatten, if_true, List.map_cons, List.map_append, LFlat.ofFlat] at h
      have h' : At prog (base + 1) ((flatten t).map LFlat.ofFlat ++ (LFlat.jump (flatten e).length :: (flatten e).map LFlat.ofFlat)) := h.tail
      have hjmp : prog[base + 1 + (flatten t).length]? = some (LFlat.jump (flatten e).length) := by
        have := h'.right.head; simpa using this
      have he' := ihe prog (base + 1 + (flatten t).length + 1) σ (by
        have := h'.right.tail; simpa using this)
      have hj := step_jif (S := S) (σ := σ) h.head
      show SimO S prog base σ _ (if S.truthy (σ r) then
        (match exec S t σ with | some σ1 => some σ1 | none => none) else exec S e σ)
      split
      · rw [if_pos ‹_›] at hj
        refine (SimO.prefix hj ((iht prog (base + 1) σ h'.left).bind (k := some) fun σ1 => step_jump hjmp)).cast ?_
        simp only [flatten, if_true, List.length_cons, List.length_append]
        omega
      · rw [if_neg ‹_›] at hj
        refine (SimO.prefix (hj.cast (by omega)) he').cast ?_
        simp only [flatten, if_true, List.length_cons, List.length_append]
        omega
    | false =>
      simp only [flatten, Bool.false_eq_true, if_false, List.map_cons, List.map_append, LFlat.ofFlat] at h
      have h' : At prog (base + 1) ((flatten t).map LFlat.ofFlat ++ (flatten e).map LFlat.ofFlat) := h.tail
      have he' := fun σ1 => ihe prog (base + 1 + (flatten t).length) σ1 (by
        have := h'.right; simpa using this)
      have hj := step_jif (S := S) (σ := σ) h.head
      show SimO S prog base σ _ (if S.truthy (σ r) then
        (match exec S t σ with | some σ1 => exec S e σ1 | none => none) else exec S e σ)
      split
      · rw [if_pos ‹_›] at hj
        refine (SimO.prefix hj ((iht prog (base + 1) σ h'.left).bind he')).cast ?_
        simp only [flatten, Bool.false_eq_true, if_false, List.length_cons, List.length_append]
        omega
      · rw [if_neg ‹_›] at hj
        refine (SimO.prefix hj (he' σ)).cast ?_
        simp only [flatten, Bool.false_eq_true, if_false, List.length_cons, List.length_append]
        omega

/-- the outcome of a loop header at `base`: on to the body, or out of the loop (over the body of
`bl` instructions and the final JumpBack), or a fault -/
def HdrSim (S : Sem) (prog : List LFlat) (base : Nat) (cond : Option (Code × Reg × Bool)) (bl : Nat)
    (σ : Regs S) : Prop :=
  match execCond S cond σ with
  | some (true, σ1) => Steps S prog base σ (base + hdrLen cond) σ1
  | some (false, σ1) => Steps S prog base σ (base + hdrLen cond + bl + 1) σ1
  | none => Fails S prog base σ

theorem hdr_sim (cond : Option (Code × Reg × Bool)) (bl : Nat) (prog : List LFlat) (base : Nat) (σ : Regs S)
    (h : At prog base (flatHdr cond bl)) : HdrSim S prog base cond bl σ := by
  cases cond with
  | none =>
    simp only [HdrSim, execCond, hdrLen, Nat.add_zero]
    exact Steps.refl _ _ _
  | some p =>
    obtain ⟨cc, r, neg⟩ := p
    simp only [flatHdr] at h
    have hb := base_sim (S := S) cc prog base σ h.left
    have hj := h.right.head
    simp only [List.length_map] at hj
    simp only [HdrSim, execCond, hdrLen]
    cases he : exec S cc σ with
    | none => simp only [he] at hb ⊢; exact hb
    | some σ1 =>
      simp only [he] at hb ⊢
      cases neg with
      | false =>
        simp only [Bool.false_eq_true, if_false] at hj
        have hs := step_jif (S := S) (σ := σ1) hj
        cases ht : S.truthy (σ1 r) with
        | true =>
          simp only [ht, if_true] at hs
          exact (Steps.trans hb hs).cast (by omega)
        | false =>
          simp only [ht, Bool.false_eq_true, if_false] at hs
          exact (Steps.trans hb hs).cast (by omega)
      | true =>
        simp only [if_true] at hj
        have hs := step_jit (S := S) (σ := σ1) hj
        cases ht : S.truthy (σ1 r) with
        | true =>
          simp only [ht, if_true] at hs
          exact (Steps.trans hb hs).cast (by omega)
        | false =>
          simp only [ht, Bool.false_eq_true, if_false] at hs
          exact (Steps.trans hb hs).cast (by omega)

def target (base pre post : Nat) (c : LCode) : Sig → Nat
  | .normal => base + sizeL c
  | .brk => base + sizeL c + post
  | .cont => base - pre

/-- the flat run from `(pc, σ)` that corresponds to an outcome of the structured code: on `ok` it
reaches the pc `tgt` assigns to the signal, with the outcome's registers; on `err` it faults -/
def SimT (S : Sem) (prog : List LFlat) (pc : Nat) (σ : Regs S) (tgt : Sig → Nat) : Res (Sig × Regs S) → Prop
  | .ok (sg, σ') => Steps S prog pc σ (tgt sg) σ'
  | .err => Fails S prog pc σ
  | .nofuel => True

theorem SimT.prefix {prog : List LFlat} {pc p : Nat} {σ σ1 : Regs S} {tgt : Sig → Nat} {r : Res (Sig × Regs S)}
    (h1 : Steps S prog pc σ p σ1) (h : SimT S prog p σ1 tgt r) : SimT S prog pc σ tgt r := by
  cases r with
  | ok q => exact h1.trans h
  | err => exact h1.fails h
  | nofuel => trivial

theorem SimT.ok {prog : List LFlat} {pc p : Nat} {σ σ' : Regs S} {tgt : Sig → Nat} {sg : Sig}
    (h : Steps S prog pc σ p σ') (hp : p = tgt sg) : SimT S prog pc σ tgt (.ok (sg, σ')) := h.cast hp

theorem SimT.andThen {prog : List LFlat} {pc : Nat} {σ : Regs S} {ta tgt : Sig → Nat} {r : Res (Sig × Regs S)}
    {k : Regs S → Res (Sig × Regs S)} (hr : SimT S prog pc σ ta r)
    (hk : ∀ σ1, SimT S prog (ta .normal) σ1 tgt (k σ1)) (hb : ta .brk = tgt .brk) (hc : ta .cont = tgt .cont) :
    SimT S prog pc σ tgt (r.andThen k) := by
  cases r with
  | ok q =>
    obtain ⟨sg, σ1⟩ := q
    cases sg with
    | normal => exact SimT.prefix hr (hk σ1)
    | brk => exact SimT.ok hr hb
    | cont => exact SimT.ok hr hc
  | err => exact hr
  | nofuel => trivial

theorem SimT.loopNext {prog : List LFlat} {pc : Nat} {σ : Regs S} {tb tgt : Sig → Nat} {r : Res (Sig × Regs S)}
    {k : Regs S → Res (Sig × Regs S)} (hr : SimT S prog pc σ tb r) (hb : tb .brk = tgt .normal)
    (hn : ∀ σ1, SimT S prog (tb .normal) σ1 tgt (k σ1)) (hc : ∀ σ1, SimT S prog (tb .cont) σ1 tgt (k σ1)) :
    SimT S prog pc σ tgt (r.loopNext k) := by
  cases r with
  | ok q =>
    obtain ⟨sg, σ1⟩ := q
    cases sg with
    | normal => exact SimT.prefix hr (hn σ1)
    | brk => exact SimT.ok hr hb
    | cont => exact SimT.prefix hr (hc σ1)
  | err => exact hr
  | nofuel => trivial

/-- where a piece of code inside a loop ends up: at `q` on normal completion, at the loop's exit `B`
on `break`, at the loop's start `C` on `continue` -/
def landing (q B C : Nat) : Sig → Nat
  | .normal => q
  | .brk => B
  | .cont => C

/-- positions are counted from the start `C` of the enclosing loop, where the code of `c` sits at
`C + pre`: every position below is then a sum, and two positions agree by associativity -/
theorem flat_simT : ∀ (n : Nat) (c : LCode) (C pre post : Nat) (prog : List LFlat) (σ : Regs S),
    At prog (C + pre) (flatAux c pre post) →
    SimT S prog (C + pre) σ (landing (C + pre + sizeL c) (C + pre + sizeL c + post) C) (execL S n c σ) := by
  intro n
  induction n with
  | zero => intros; trivial
  | succ n ih =>
    intro c C pre post prog σ hat
    cases c with
    | base c =>
      have hb := base_sim (S := S) c prog _ σ hat
      rw [execL_base]
      cases he : exec S c σ with
      | none => rw [he] at hb; exact hb
      | some σ1 => rw [he] at hb; exact hb
    | brk => exact SimT.ok (step_jump (At.head (L := []) hat)) rfl
    | cont =>
      exact SimT.ok (step_jumpBack (At.head (L := []) hat) (Nat.succ_le_succ (Nat.le_add_left pre C)))
        (Nat.add_sub_cancel (n := C) (m := pre + 1))
    | seq a b =>
      have hla : (flatAux a pre (sizeL b + post)).length = sizeL a := sizeL_flatAux _ _ _
      have hat : At prog (C + pre) (flatAux a pre (sizeL b + post) ++ flatAux b (pre + sizeL a) post) := hat
      have iha := ih a C pre (sizeL b + post) prog σ hat.left
      have ihb := fun σ1 => ih b C (pre + sizeL a) post prog σ1 (by have := hat.right; rwa [hla, Nat.add_assoc] at this)
      rw [execL_seq]
      simp only [sizeL, Nat.add_assoc] at iha ihb ⊢
      exact SimT.andThen iha ihb rfl rfl
    | ifElse r t wj e =>
      rw [execL_ifElse]
      cases wj with
      | true =>
        have hat : At prog (C + pre) (.jumpIfFalse r (sizeL t + 1) :: flatAux t (pre + 1) (1 + sizeL e + post)
          ++ (.jump (sizeL e) :: flatAux e (pre + 1 + sizeL t + 1) post)) := hat
        have hlt : (flatAux t (pre + 1) (1 + sizeL e + post)).length = sizeL t := sizeL_flatAux _ _ _
        have hat' := hat.tail
        have hjmp : prog[C + (pre + 1) + sizeL t]? = some (LFlat.jump (sizeL e)) := hlt ▸ hat'.right.head
        have hj := step_jif (S := S) (σ := σ) hat.head
        have iht := ih t C (pre + 1) (1 + sizeL e + post) prog σ hat'.left
        have ihe := ih e C (pre + 1 + sizeL t + 1) post prog σ
          (by have := hat'.right.tail; rw [hlt] at this; simpa only [Nat.add_assoc] using this)
        have hjs := fun σ1 : Regs S => step_jump (S := S) (σ := σ1) hjmp
        simp only [sizeL, if_true, Nat.add_assoc] at hj iht ihe hjs ⊢
        split
        · rw [if_pos ‹_›] at hj
          exact SimT.prefix hj (SimT.andThen iht (fun σ1 => SimT.ok (hjs σ1) rfl) rfl rfl)
        · rw [if_neg ‹_›] at hj
          exact SimT.prefix hj ihe
      | false =>
        have hat : At prog (C + pre) (.jumpIfFalse r (sizeL t) :: flatAux t (pre + 1) (sizeL e + post)
          ++ flatAux e (pre + 1 + sizeL t) post) := hat
        have hlt : (flatAux t (pre + 1) (sizeL e + post)).length = sizeL t := sizeL_flatAux _ _ _
        have hat' := hat.tail
        have hj := step_jif (S := S) (σ := σ) hat.head
        have iht := ih t C (pre + 1) (sizeL e + post) prog σ hat'.left
        have ihe := fun σ1 => ih e C (pre + 1 + sizeL t) post prog σ1
          (by have := hat'.right; rw [hlt] at this; simpa only [Nat.add_assoc] using this)
        simp only [sizeL, Bool.false_eq_true, if_false, Nat.add_zero, Nat.add_assoc] at hj iht ihe ⊢
        split
        · rw [if_pos ‹_›] at hj
          exact SimT.prefix hj (SimT.andThen iht ihe rfl rfl)
        · rw [if_neg ‹_›] at hj
          exact SimT.prefix hj (ihe σ)
    | loop cond body =>
      have hself := fun σ2 => ih (.loop cond body) C pre post prog σ2 hat
      have hat : At prog (C + pre) (flatHdr cond (sizeL body) ++ flatAux body (hdrLen cond) 1
        ++ [.jumpBack (hdrLen cond + sizeL body + 1)]) := hat
      have hl1 : (flatHdr cond (sizeL body)).length = hdrLen cond := flatHdr_length _ _
      have hl2 : (flatAux body (hdrLen cond) 1).length = sizeL body := sizeL_flatAux _ _ _
      have hh := hdr_sim (S := S) cond (sizeL body) prog _ σ hat.left.left
      -- the body's loop starts where this loop's code starts
      have hbody := fun σ1 => ih body (C + pre) (hdrLen cond) 1 prog σ1 (hl1 ▸ hat.left.right)
      have hjb : prog[C + pre + hdrLen cond + sizeL body]? = some (LFlat.jumpBack (hdrLen cond + sizeL body + 1)) := by
        have := hat.right.head
        rwa [List.length_append, hl1, hl2, ← Nat.add_assoc] at this
      have hback := fun σ2 : Regs S => step_jumpBack (S := S) (σ := σ2) hjb
        (Nat.succ_le_succ (by rw [Nat.add_assoc]; exact Nat.le_add_left _ _))
      unfold HdrSim at hh
      rw [execL_loop]
      cases hc : execCond S cond σ with
      | none => rw [hc] at hh; exact hh
      | some x =>
        obtain ⟨go, σ1⟩ := x
        rw [hc] at hh
        cases go with
        | false => exact SimT.ok hh (by simp only [landing, sizeL, Nat.add_assoc])
        | true =>
          refine SimT.prefix hh (SimT.loopNext (hbody σ1) (by simp only [landing, sizeL, Nat.add_assoc])
            (fun σ2 => SimT.prefix ((hback σ2).cast ?_) (hself σ2)) hself)
          rw [Nat.add_assoc (C + pre)]
          exact Nat.add_sub_cancel (n := C + pre) (m := hdrLen cond + sizeL body + 1)

theorem flat_sim (n : Nat) (c : LCode) (pre post : Nat) (prog : List LFlat) (base : Nat) (σ : Regs S)
    (hat : At prog base (flatAux c pre post)) (hpre : pre ≤ base) :
    (∀ sg σ', execL S n c σ = .ok (sg, σ') → Steps S prog base σ (target base pre post c sg) σ') ∧
    (execL S n c σ = .err → Fails S prog base σ) := by
  obtain ⟨C, rfl⟩ := Nat.exists_eq_add_of_le' hpre
  have h := flat_simT n c C pre post prog σ hat
  have ht : landing (C + pre + sizeL c) (C + pre + sizeL c + post) C = target (C + pre) pre post c := by
    funext sg
    cases sg
    · rfl
    · rfl
    · exact (Nat.add_sub_cancel (n := C) (m := pre)).symm
  rw [ht] at h
  constructor
  · intro sg σ' he
    rw [he] at h
    exact h
  · intro he
    rw [he] at h
    exact h

/-- `brk` / `cont` occur only inside a `loop` (or anywhere, when `inLoop`) -/
def closedL (inLoop : Bool) : LCode → Bool
  | .base _ => true
  | .seq a b => closedL inLoop a && closedL inLoop b
  | .ifElse _ t _ e => closedL inLoop t && closedL inLoop e
  | .loop _ body => closedL true body
  | .brk | .cont => inLoop

theorem CompiledS.closed {s : Stmt} {il : Bool} {F F' : Frame} {code : LCode}
    (h : CompiledS s il F code F') : closedL il code = true := by
  induction h with
  | expr | brk | cont => rfl
  | seq _ _ iha ihb => exact Bool.and_eq_true_iff.2 ⟨iha, ihb⟩
  | ite _ _ _ iht ihe => exact Bool.and_eq_true_iff.2 ⟨rfl, Bool.and_eq_true_iff.2 ⟨iht, ihe⟩⟩
  | ifThen _ _ iht => exact Bool.and_eq_true_iff.2 ⟨rfl, Bool.and_eq_true_iff.2 ⟨iht, rfl⟩⟩
  | loop _ _ ihb => exact ihb

theorem execL_closed_normal : ∀ (n : Nat) (c : LCode), closedL false c = true →
    ∀ (σ σ' : Regs S) (sg : Sig), execL S n c σ = .ok (sg, σ') → sg = .normal := by
  intro n
  induction n with
  | zero => intro c _ σ σ' sg h; cases h
  | succ n ih =>
    intro c hcl σ σ' sg h
    cases c with
    | base c =>
      rw [execL_base] at h
      cases he : exec S c σ with
      | none => simp [he] at h
      | some σ1 => simp only [he, Res.ok.injEq, Prod.mk.injEq] at h; exact h.1.symm
    | brk => simp [closedL] at hcl
    | cont => simp [closedL] at hcl
    | seq a b =>
      simp only [closedL, Bool.and_eq_true] at hcl
      rw [execL_seq] at h
      rcases Res.andThen_ok h with ⟨σ1, _, h2⟩ | ⟨hne, h1⟩
      · exact ih b hcl.2 σ1 σ' sg h2
      · exact absurd (ih a hcl.1 σ σ' sg h1) hne
    | ifElse r t wj e =>
      simp only [closedL, Bool.and_eq_true] at hcl
      rw [execL_ifElse] at h
      split at h
      · rcases Res.andThen_ok h with ⟨σ1, _, h2⟩ | ⟨hne, h1⟩
        · split at h2
          · simp only [Res.ok.injEq, Prod.mk.injEq] at h2; exact h2.1.symm
          · exact ih e hcl.2 σ1 σ' sg h2
        · exact absurd (ih t hcl.1 σ σ' sg h1) hne
      · exact ih e hcl.2 σ σ' sg h
    | loop cond body =>
      rw [execL_loop] at h
      cases hc : execCond S cond σ with
      | none => simp [hc] at h
      | some p =>
        obtain ⟨go, σ1⟩ := p
        cases go with
        | false => simp only [hc, Res.ok.injEq, Prod.mk.injEq] at h; exact h.1.symm
        | true =>
          simp only [hc] at h
          rcases Res.loopNext_ok h with ⟨rfl, _⟩ | ⟨s, σ2, _, _, h2⟩
          · rfl
          · exact ih _ hcl σ2 σ' sg h2

/-- **flattenL is correct**: whenever the structured code completes, the flat stream run from pc 0
falls off its end (pc = length) with the same registers, for every sufficiently large fuel -/
theorem flattenL_ok {c : LCode} (hcl : closedL false c = true) {n : Nat} {σ σ' : Regs S} {sg : Sig}
    (h : execL S n c σ = .ok (sg, σ')) :
    sg = .normal ∧ ∃ m, ∀ K, m ≤ K → execLFlat S (flattenL c) K 0 σ = .ok σ' := by
  have hsg := execL_closed_normal n c hcl σ σ' sg h
  subst hsg
  have hs := (flat_sim n c 0 0 (flattenL c) 0 σ (At.whole _) (Nat.le_refl _)).1 _ _ h
  have hlen : target 0 0 0 c Sig.normal = (flattenL c).length := by
    simp only [target, flattenL, sizeL_flatAux, Nat.zero_add]
  exact ⟨rfl, (hs.cast hlen).ends⟩

theorem flattenL_err {c : LCode} {n : Nat} {σ : Regs S} (h : execL S n c σ = .err) :
    ∃ m, ∀ K, m ≤ K → execLFlat S (flattenL c) K 0 σ = .err := by
  obtain ⟨m, hm⟩ := (flat_sim n c 0 0 (flattenL c) 0 σ (At.whole _) (Nat.le_refl _)).2 h
  refine ⟨m, fun K hK => ?_⟩
  obtain ⟨K', rfl⟩ := Nat.exists_eq_add_of_le hK
  exact hm K'

end KotoVerif.Compile
