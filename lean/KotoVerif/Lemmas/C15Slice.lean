/-
Helper lemmas for C15: `KStr` well-formedness, `withBounds` (checked re-slicing) against `str::get` on the
string's own bytes, and the two clamps of `KRange::indices`. Core Lean only.
-/
import KotoVerif.Model.Str
import KotoVerif.Lemmas.C15Utf8

namespace KotoVerif.Str
open KotoVerif.Utf8

/-- the invariant the code relies on ("bounds always delimit valid UTF-8") -/
structure KStr.WF (s : KStr) : Prop where
  le : s.lo ≤ s.hi
  hiLe : s.hi ≤ s.buf.length
  valid : validUtf8 s.buf = true
  blo : isBoundary s.buf s.lo = true
  bhi : isBoundary s.buf s.hi = true
  full : s.form = .full → s.lo = 0 ∧ s.hi = s.buf.length
  fullV : s.form = .fullV → s.lo = 0 ∧ s.hi = s.buf.length
  slice16 : s.form = .slice → s.hi ≤ u16max

theorem KStr.bytes_length {s : KStr} (h : s.WF) : s.bytes.length = s.len := by
  have := h.le; have := h.hiLe
  simp only [KStr.bytes, KStr.len, List.length_take, List.length_drop]
  omega

theorem KStr.WF.bytes_valid {s : KStr} (h : s.WF) : validUtf8 s.bytes = true :=
  valid_slice h.valid h.le h.blo h.bhi

theorem KStr.ofString_wf {bs : Bytes} (h : validUtf8 bs = true) : (KStr.ofString bs).WF :=
  ⟨Nat.zero_le _, Nat.le_refl _, h, isBoundary_zero _, isBoundary_length _, fun _ => ⟨rfl, rfl⟩,
    fun _ => ⟨rfl, rfl⟩, fun h => by simp [KStr.ofString] at h⟩

theorem KStr.ofStringV_wf {bs : Bytes} (h : validUtf8 bs = true) : (KStr.ofStringV bs).WF :=
  ⟨Nat.zero_le _, Nat.le_refl _, h, isBoundary_zero _, isBoundary_length _, fun _ => ⟨rfl, rfl⟩,
    fun _ => ⟨rfl, rfl⟩, fun h => by simp [KStr.ofStringV] at h⟩

theorem KStr.wf_of_bounds {buf : Bytes} {lo hi : Nat} {f : Form} (hv : validUtf8 buf = true) (hle : lo ≤ hi)
    (hhi : hi ≤ buf.length) (hbl : isBoundary buf lo = true) (hbh : isBoundary buf hi = true)
    (hf : f = .slice ∧ hi ≤ u16max ∨ f = .large) : (⟨buf, lo, hi, f⟩ : KStr).WF := by
  refine ⟨hle, hhi, hv, hbl, hbh, ?_, ?_, ?_⟩
  · rintro rfl; rcases hf with ⟨h, _⟩ | h <;> cases h
  · rintro rfl; rcases hf with ⟨h, _⟩ | h <;> cases h
  · rintro rfl; rcases hf with ⟨_, h⟩ | h
    · exact h
    · cases h

theorem KStr.ofSlice_wf {buf : Bytes} {lo hi : Nat} (hv : validUtf8 buf = true) (hle : lo ≤ hi)
    (hhi : hi ≤ buf.length) (hbl : isBoundary buf lo = true) (hbh : isBoundary buf hi = true) :
    (KStr.ofSlice buf lo hi).WF := by
  refine KStr.wf_of_bounds hv hle hhi hbl hbh ?_
  by_cases h : lo ≤ u16max ∧ hi ≤ u16max
  · exact .inl ⟨if_pos h, h.2⟩
  · exact .inr (if_neg h)

theorem KStr.WF.whole {s : KStr} (hw : s.WF) (h : s.form = .full ∨ s.form = .fullV) :
    s.lo = 0 ∧ s.hi = s.buf.length := h.elim hw.full hw.fullV

theorem KStr.ofString_bytes (bs : Bytes) : (KStr.ofString bs).bytes = bs := by
  simp [KStr.ofString, KStr.bytes]

theorem KStr.ofSlice_bytes (buf : Bytes) (a b : Nat) :
    (KStr.ofSlice buf a b).bytes = (buf.drop a).take (b - a) := rfl

theorem strGet_isSome {bs : Bytes} {a b : Nat} :
    (strGet bs a b).isSome = true ↔ a ≤ b ∧ isBoundary bs a = true ∧ isBoundary bs b = true := by
  simp only [strGet]
  split <;> simp_all

theorem strGet_of_isSome {bs : Bytes} {a b : Nat} (h : (strGet bs a b).isSome = true) :
    strGet bs a b = some ((bs.drop a).take (b - a)) := if_pos (strGet_isSome.mp h)

theorem KStr.bytes_eq_buf {s : KStr} (h : s.lo = 0 ∧ s.hi = s.buf.length) : s.bytes = s.buf := by
  rw [KStr.bytes, h.1, h.2]; exact List.take_length

theorem KStr.boundary_iff {s : KStr} (h : s.WF) {i : Nat} (hi : i ≤ s.len) :
    isBoundary s.bytes i = isBoundary s.buf (s.lo + i) := by
  have hle := h.le; have hhi := h.hiLe
  have hlen := KStr.bytes_length h
  simp only [KStr.len] at hi hlen
  rcases Nat.eq_or_lt_of_le hi with hl | hlt
  · rw [hl, ← hlen, isBoundary_length, hlen, Nat.add_sub_cancel' hle, h.bhi]
  · rw [KStr.bytes, ← isBoundary_drop h.blo]
    by_cases h0 : i = 0
    · subst h0; rfl
    · rw [isBoundary_of_ne_zero h0, isBoundary_of_ne_zero h0, List.getElem?_take_of_lt hlt,
        List.getElem?_eq_getElem (by rw [List.length_drop]; omega)]

theorem bytes_sub {buf : Bytes} {lo hi a b : Nat} (hb : b ≤ hi - lo) :
    (((buf.drop lo).take (hi - lo)).drop a).take (b - a) = (buf.drop (a + lo)).take (b + lo - (a + lo)) := by
  rw [Nat.add_sub_add_right, List.drop_take, List.take_take, List.drop_drop, Nat.add_comm lo a]
  congr 1
  omega

theorem strGet_shift {s : KStr} (hw : s.WF) {a b : Nat} (hb : b ≤ s.len) :
    strGet s.buf (a + s.lo) (b + s.lo) = strGet s.bytes a b := by
  simp only [strGet, Nat.add_le_add_iff_right]
  by_cases hab : a ≤ b
  · rw [KStr.boundary_iff hw (Nat.le_trans hab hb), KStr.boundary_iff hw hb, Nat.add_comm s.lo a,
      Nat.add_comm s.lo b, KStr.bytes, bytes_sub hb]
  · rw [if_neg (fun h => hab h.1), if_neg (fun h => hab h.1)]

theorem KStr.withBounds_bytes {s t : KStr} {a b : Nat} (hw : s.WF) (h : s.withBounds a b = some t) :
    t.buf = s.buf ∧ t.lo = a + s.lo ∧ t.hi = b + s.lo := by
  simp only [KStr.withBounds] at h
  split at h
  · rename_i hf
    have := (hw.full hf).1
    cases h
    simp [KStr.ofSlice, this]
  · rename_i hf
    have := (hw.fullV hf).1
    split at h
    · cases h; simp [KStr.ofSlice, this]
    · cases h
  · split at h
    · cases h; exact ⟨rfl, rfl, rfl⟩
    · cases h
  · split at h
    · cases h; exact ⟨rfl, rfl, rfl⟩
    · cases h

theorem guard_map_bytes {bs : Bytes} {a b : Nat} {t : KStr} {p : Prop} [Decidable p]
    (ht : t.bytes = (bs.drop a).take (b - a)) (hp : p ↔ (strGet bs a b).isSome = true) :
    (if p then some t else none).map KStr.bytes = strGet bs a b := by
  by_cases h : p
  · rw [if_pos h, strGet_of_isSome (hp.mp h), Option.map_some, ht]
  · rw [if_neg h, Option.map_none]
    exact (Option.not_isSome_iff_eq_none.mp (fun h' => h (hp.mpr h'))).symm

/-- **checked re-slicing is exact**: on the `Slice` / `SliceLarge` forms, for a request inside the string,
`with_bounds(a..b)` behaves exactly like `str::get(a..b)` on the string's own bytes — whatever else is
in the shared buffer. -/
theorem KStr.withBounds_eq_strGet {s : KStr} (hw : s.WF) (hf : s.form ≠ .full) {a b : Nat} (hb : b ≤ s.len) :
    (s.withBounds a b).map KStr.bytes = strGet s.bytes a b := by
  rw [← strGet_shift hw hb]
  cases hform : s.form with
  | full => exact absurd hform hf
  | fullV =>
    simp only [KStr.withBounds, hform, (hw.fullV hform).1, Nat.add_zero]
    exact guard_map_bytes rfl Iff.rfl
  | slice =>
    have h16 := hw.slice16 hform
    have hle := hw.le
    simp only [KStr.len] at hb
    simp only [KStr.withBounds, hform]
    refine guard_map_bytes rfl ⟨fun h => h.1, fun h => ⟨h, ?_, ?_⟩⟩
    · have := (strGet_isSome.mp h).1; omega
    · omega
  | large =>
    simp only [KStr.withBounds, hform]
    exact guard_map_bytes rfl Iff.rfl

/-- the `Full` form: `with_bounds` never fails and returns the raw bytes -/
theorem KStr.withBounds_full {s : KStr} (hw : s.WF) (hf : s.form = .full) (a b : Nat) :
    (s.withBounds a b).map KStr.bytes = some ((s.bytes.drop a).take (b - a)) := by
  simp only [KStr.withBounds, hf, Option.map_some, KStr.ofSlice_bytes, KStr.bytes_eq_buf (hw.full hf)]

/-- on a request on character boundaries (hence inside the string), `with_bounds` succeeds in every storage
form and returns exactly `bytes[a, b)` -/
theorem KStr.withBounds_ok {s : KStr} (hw : s.WF) {a b : Nat} (hab : a ≤ b)
    (ha : isBoundary s.bytes a = true) (hb : isBoundary s.bytes b = true) :
    (s.withBounds a b).map KStr.bytes = some ((s.bytes.drop a).take (b - a)) := by
  by_cases hf : s.form = .full
  · exact KStr.withBounds_full hw hf a b
  · rw [KStr.withBounds_eq_strGet hw hf (KStr.bytes_length hw ▸ isBoundary_le_length hb)]
    exact if_pos ⟨hab, ha, hb⟩

theorem KStr.withBounds_to_end {s : KStr} (hw : s.WF) {a : Nat} (ha : a ≤ s.len) (hb : isBoundary s.bytes a = true) :
    (s.withBounds a s.len).map KStr.bytes = some (s.bytes.drop a) := by
  have hlen := KStr.bytes_length hw
  rw [KStr.withBounds_ok hw ha hb (hlen ▸ isBoundary_length _),
    List.take_of_length_le (by rw [List.length_drop, hlen]; exact Nat.le_refl _)]

theorem Res.unwrap_of_map {o : Option KStr} {x : Bytes} (h : o.map KStr.bytes = some x) :
    Res.unwrap o = .str x := by
  cases o with
  | none => cases h
  | some t => cases h; rfl

theorem Res.ofOpt_of_map {o : Option KStr} {x : Bytes} (h : o.map KStr.bytes = some x) :
    Res.ofOpt o = .str x := by
  cases o with
  | none => cases h
  | some t => cases h; rfl

/-! ### `KRange::indices` -/

theorem clampI_mem {lo hi : Int} (x : Int) (h : lo ≤ hi) : lo ≤ clampI x lo hi ∧ clampI x lo hi ≤ hi := by
  unfold clampI
  split
  · exact ⟨Int.le_refl _, h⟩
  · split <;> omega

theorem clampI_of_lt {x lo : Int} (hi : Int) (h : x < lo) : clampI x lo hi = lo := if_pos h

theorem clampI_of_ge {x lo hi : Int} (h1 : lo ≤ hi) (h2 : hi ≤ x) : clampI x lo hi = hi := by
  unfold clampI
  rw [if_neg (by omega)]
  split <;> omega

theorem clampI_of_mem {x lo hi : Int} (h1 : lo ≤ x) (h2 : x ≤ hi) : clampI x lo hi = x := by
  unfold clampI
  rw [if_neg (by omega), if_neg (by omega)]

/-- the two clamps of `KRange::indices`: the start into `[0, len]`, then the end into `[start, len]` -/
theorem clampI_pair (x y : Int) (len : Nat) :
    (clampI x 0 len).toNat ≤ (clampI y (clampI x 0 len) len).toNat ∧
      (clampI y (clampI x 0 len) len).toNat ≤ len := by
  have ha := clampI_mem x (Int.natCast_nonneg len)
  have hb := clampI_mem y ha.2
  omega

end KotoVerif.Str
