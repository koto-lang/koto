/-
C01 layer 5, `compile_sem`: the rules of `Compiled` for value-producing operators (literals, locals,
unary and binary operators, comparisons and chains, `and`/`or`) preserve `SemAt`.
-/
import KotoVerif.Lemmas.C01Sem

namespace KotoVerif.Compile
open KotoVerif.C01

variable {S : Sem}

theorem sem_lit {e : Expr} {m : Mode} {F F1 : Frame} {res : Out} (w : S.V) (f : Reg → Instr)
    (ha : assignResult m F = some (res, F1)) (he : ∀ ρ : Env S, eval S e ρ = some (w, ρ))
    (hs : ∀ (σ : Regs S) r, stepInstr S (f r) σ = some (σ.set r w)) :
    SemAt S e m F (instrIf res.reg f) res F1 := by
  intro E fx hw hm _ σ ρ ρ' v hrel hev
  rw [he] at hev
  cases hev
  obtain ⟨h1, h2, _⟩ := assignResult_spec ha
  exact finish_result ha (FrameLe.of_locals_eq h1 h2) (hw.of_locals_eq h1 h2) hm
    (relEx_of_assignResult ha hrel) (TempsKept.refl _ _ _) (fun r _ => hs σ r)

theorem var_reg {x : VarId} {F : Frame} {rx : Reg} {E : List VarId} {fx : Option VarId} {σ : Regs S}
    {ρ ρ' : Env S} {v : S.V} (hg : F.getAssigned x = some rx) (hw : WF F) (hsafe : safe E fx (.var x) = true)
    (hrel : RelEx E F σ ρ) (hev : eval S (.var x) ρ = some (v, ρ')) : σ rx = v ∧ ρ' = ρ := by
  simp only [eval, Option.map_eq_some_iff] at hev
  obtain ⟨_, hx, hev⟩ := hev
  cases hev
  simp only [safe, Bool.not_eq_true', List.contains_eq_mem, decide_eq_false_iff_not] at hsafe
  obtain ⟨q, hq1, hq2⟩ := hrel x v hx hsafe
  cases has_unique hw hq1 (getAssigned_has hg)
  exact ⟨hq2, rfl⟩

theorem sem_varNone {x : VarId} {F : Frame} {rx : Reg} (hg : F.getAssigned x = some rx) :
    SemAt S (.var x) .none F .nil ⟨Option.none, false⟩ F := by
  intro E fx hw hm hsafe σ ρ ρ' v hrel hev
  obtain ⟨_, rfl⟩ := var_reg hg hw hsafe hrel hev
  exact ⟨σ, rfl, hrel.addOpt, nofun, TempsKept.refl _ _ _⟩

theorem sem_varAny {x : VarId} {F : Frame} {rx : Reg} (hg : F.getAssigned x = some rx) :
    SemAt S (.var x) .any F .nil ⟨some rx, false⟩ F := by
  intro E fx hw hm hsafe σ ρ ρ' v hrel hev
  obtain ⟨hv, rfl⟩ := var_reg hg hw hsafe hrel hev
  exact ⟨σ, rfl, hrel.addOpt, fun r hr => by cases hr; exact hv, TempsKept.refl _ _ _⟩

theorem sem_varFixed {x : VarId} {r : Reg} {F : Frame} {rx : Reg} (hg : F.getAssigned x = some rx) :
    SemAt S (.var x) (.fixed r) F (.instr (.copy r rx)) ⟨some r, false⟩ F := by
  intro E fx hw hm hsafe σ ρ ρ' v hrel hev
  obtain ⟨hv, rfl⟩ := var_reg hg hw hsafe hrel hev
  refine ⟨σ.set r (σ rx), rfl, hrel.setFixed (FrameLe.refl _) hw hm _, ?_,
    (TempsKept.refl _ _ _).set (fun _ ht _ _ => ht) _⟩
  intro r' hr
  cases hr
  rw [Regs.set_same, hv]

theorem sem_un {op : UnOp} {e : Expr} {m : Mode} {F F1 F2 F' : Frame} {res o : Out} {c : Code} {vr : Reg}
    (ha : assignResult m F = some (res, F1)) (hc : Compiled e .any F1 c o F2) (hvr : o.reg = some vr)
    (hp : popIf o.temp F2 = some F') (ih : SemAt S e .any F1 c o F2) :
    SemAt S (.un op e) m F (.seq c (instrIf res.reg fun r => .unop op r vr)) res F' := by
  intro E fx hw hm hsafe σ ρ ρ' v hrel hev
  have ff := (Compiled.un (op := op) ha hc hvr hp).frame hw
  rw [ceval_un] at hev
  obtain ⟨ve, ρ1, he, hev⟩ := obind_some hev
  simp only [Option.map_eq_some_iff, Prod.mk.injEq] at hev
  obtain ⟨w, hop, rfl, rfl⟩ := hev
  simp only [safe] at hsafe
  obtain ⟨σ1, x1, hv, hrel3, k1, _⟩ := operand_sem ha hc hvr hp ih hw hsafe hrel he
  obtain ⟨σ', y1, y2, y3, y4⟩ := finish_result (f := fun r => Instr.unop op r vr) (v := w) ha ff.le ff.wf hm hrel3
    k1 (fun r _ => by simp [stepInstr, hv, hop])
  exact ⟨σ', by rw [exec_seq x1]; exact y1, y2, y3, y4⟩

/-- the value an operand left in its register is still there after the next operand has run -/
theorem operand_kept {a b : Expr} {E : List VarId} {F1 F2 F3 : Frame} {ca cb : Code} {oa ob : Out}
    {ra : Reg} {σ1 σ2 : Regs S} {ρ ρ1 ρ2 : Env S} {va vb : S.V}
    (hca : Compiled a .any F1 ca oa F2) (hw1 : WF F1)
    (hcb : Compiled b .any F2 cb ob F3)
    (hra : oa.reg = some ra) (hlate : lateOk E a b = true)
    (hea : eval S a ρ = some (va, ρ1)) (heb : eval S b ρ1 = some (vb, ρ2))
    (hv : σ1 ra = va) (hrel : RelEx E F3 σ2 ρ2) (hk : TempsKept .any F2 σ1 σ2) : σ2 ra = va := by
  have ffa := hca.frame hw1
  have ffb := hcb.frame ffa.wf
  rcases ffa.shape with hs | ⟨_, y, r, hy, hr, hhas⟩
  · -- a fresh temporary, live while `b` is compiled
    subst hs
    simp only [Option.some.injEq] at hra
    subst hra
    have := ffa.tc
    simp [tempCount] at this
    rw [hk _ (by rw [ffa.le.tb]; omega) (by rw [ffa.le.tb]; omega) (by simp)]
    exact hv
  · -- a local's own register: `b` does not assign that local
    rw [hr] at hra
    simp only [Option.some.injEq] at hra
    subst hra
    simp only [lateOk, hy, Bool.and_eq_true, Bool.not_eq_true', List.contains_eq_mem,
      decide_eq_false_iff_not] at hlate
    have h1 : ρ1 y = some va := outLocal_eval a y ρ ρ1 va hy hea
    have h2 : ρ2 y = some va := by rw [eval_not_writes y b ρ1 ρ2 vb hlate.2 heb]; exact h1
    obtain ⟨q, hq1, hq2⟩ := hrel y va h2 hlate.1
    have := has_unique ffb.wf hq1 (ffb.le.has _ _ hhas)
    subst this
    exact hq2

/-- the operand part shared by `bin` (with a result register) and `cmp`: both operands are compiled
with `Any` in a frame `G` that has the locals of `F1`, then one instruction writes the result -/
theorem sem_binlike (mk : Expr → Expr → Expr) (op : BinOp) {a b : Expr}
    (hsafe_eq : ∀ E fx, safe E fx (mk a b) = (safe E Option.none a && safe E Option.none b && lateOk E a b))
    (heval : ∀ ρ : Env S, eval S (mk a b) ρ =
      obind (eval S a ρ) fun va ρ1 => obind (eval S b ρ1) fun vb ρ2 => (S.binop op va vb).map (fun r => (r, ρ2)))
    {m : Mode} {F F' : Frame} {res : Out} {F1 G : Frame} {ca cb : Code} {oa ob : Out} {F2 F3 : Frame} {ra rb : Reg}
    (hall : Compiled (mk a b) m F (.seq ca (.seq cb (instrIf res.reg (fun r => .binop op r ra rb)))) res F')
    (ha : assignResult m F = some (res, F1))
    (hG1 : G.locals = F1.locals) (hG2 : G.tb = F1.tb) (hG3 : F1.tc ≤ G.tc)
    (hca : Compiled a .any G ca oa F2) (hra : oa.reg = some ra)
    (hcb : Compiled b .any F2 cb ob F3) (hrb : ob.reg = some rb)
    (hF' : F'.locals = F3.locals ∧ F'.tb = F3.tb)
    (iha : SemAt S a .any G ca oa F2) (ihb : SemAt S b .any F2 cb ob F3) :
    SemAt S (mk a b) m F (.seq ca (.seq cb (instrIf res.reg (fun r => .binop op r ra rb)))) res F' := by
  intro E fx hw hm hsafe σ ρ ρ' v hrel hev
  have ff := hall.frame hw
  rw [heval] at hev
  rw [hsafe_eq] at hsafe
  simp only [Bool.and_eq_true] at hsafe
  obtain ⟨⟨hsa, hsb⟩, hlate⟩ := hsafe
  obtain ⟨va, ρ1, hea, hev⟩ := obind_some hev
  obtain ⟨vb, ρ2, heb, hev⟩ := obind_some hev
  simp only [Option.map_eq_some_iff, Prod.mk.injEq] at hev
  obtain ⟨w, hop, rfl, rfl⟩ := hev
  obtain ⟨h1, h2, h3⟩ := assignResult_spec ha
  have hw1 := hw.of_locals_eq h1 h2
  have hwG := hw1.of_locals_eq hG1 hG2
  have hrelG : RelEx E G σ ρ := (relEx_of_assignResult ha hrel).frame (FrameLe.of_locals_eq hG1 hG2)
  obtain ⟨σ1, x1, x2, x3, x4⟩ := iha E Option.none hwG trivial hsa σ ρ ρ1 va hrelG hea
  have ffa := hca.frame hwG
  obtain ⟨σ2, y1, y2, y3, y4⟩ := ihb E Option.none ffa.wf trivial hsb σ1 ρ1 ρ2 vb x2 heb
  have hva : σ2 ra = va := operand_kept hca hwG hcb hra hlate hea heb (x3 ra hra) y2 y4
  have hrel' : RelEx E F' σ2 ρ2 := y2.frame (FrameLe.of_locals_eq hF'.1 hF'.2)
  have hk : TempsKept m F σ σ2 := by
    have k1 : TempsKept m F σ σ1 :=
      (TempsKept.refl m F σ).sub x4 (by rw [hG2, h2]) (by omega) nofun
    have := ffa.tc
    exact k1.sub y4 (by rw [ffa.le.tb, hG2, h2]) (by omega) nofun
  obtain ⟨σ', z1, z2, z3, z4⟩ := finish_result (f := fun r => Instr.binop op r ra rb) (v := w) ha ff.le ff.wf hm
    hrel' hk (fun r _ => by simp [stepInstr, hva, y3 rb hrb, hop])
  exact ⟨σ', by rw [exec_seq x1, exec_seq y1]; exact z1, z2, z3, z4⟩

theorem sem_binNone {op : BinOp} {a b : Expr} {m : Mode} {F F1 F2 F' : Frame} {res oa ob : Out} {ca cb : Code}
    (ha : assignResult m F = some (res, F1)) (hr : res.reg = Option.none)
    (hca : Compiled a .none F1 ca oa F2) (iha : SemAt S a .none F1 ca oa F2) (ihb : SemAt S b .none F2 cb ob F') :
    SemAt S (.bin op a b) m F (.seq ca cb) res F' := by
  intro E fx hw hm hsafe σ ρ ρ' v hrel hev
  simp only [safe, Bool.and_eq_true] at hsafe
  obtain ⟨⟨hsa, hsb⟩, _⟩ := hsafe
  rw [ceval_bin] at hev
  obtain ⟨va, ρ1, hea, hev⟩ := obind_some hev
  obtain ⟨vb, ρ2, heb, hev⟩ := obind_some hev
  simp only [Option.map_eq_some_iff, Prod.mk.injEq] at hev
  obtain ⟨w, _, rfl, rfl⟩ := hev
  -- no result register: the mode is `none`, and `assignResult` has done nothing
  obtain ⟨rfl, rfl, rfl⟩ : m = .none ∧ res = ⟨Option.none, false⟩ ∧ F = F1 := by
    rcases assignResult_cases ha with ⟨_, _, rfl, _⟩ | h | ⟨_, rfl, _⟩
    · cases hr
    · exact ⟨h.1, h.2.1, h.2.2.symm⟩
    · cases hr
  cases modeFx_fx_none hm nofun
  obtain ⟨σ1, x1, x2, _, x4⟩ := iha E Option.none hw trivial hsa σ ρ ρ1 va hrel hea
  have ffa := hca.frame hw
  obtain ⟨σ2, y1, y2, _, y4⟩ := ihb E Option.none ffa.wf trivial hsb σ1 ρ1 ρ2 vb x2 heb
  refine ⟨σ2, by rw [exec_seq x1]; exact y1, y2, nofun, ?_⟩
  have := ffa.tc
  have := ffa.shape.no_temp nofun
  have k1 : TempsKept .none F σ σ1 := (TempsKept.refl .none F σ).sub x4 rfl (Nat.le_refl _) nofun
  exact k1.sub y4 ffa.le.tb (by omega) nofun

/-- an operand register (a fresh temporary, or a local outside `fx :: E`) is not the own register
`creg` of the node the operand belongs to -/
theorem operand_ne_own {b : Expr} {E : List VarId} {fx : Option VarId} {G G' : Frame}
    {cb : Code} {ob : Out} {rb creg : Reg}
    (hcb : Compiled b .any G cb ob G') (hwG : WF G) (hrb : ob.reg = some rb)
    (hm : ModeFx (.fixed creg) fx G)
    (hy : ∀ y, outLocal b = some y → y ∉ addOpt fx E) : rb ≠ creg := by
  have ffb := hcb.frame hwG
  have hlt := hm.lt hwG
  rcases ffb.shape with hs | ⟨_, y, r, hyo, hr, hhas⟩
  · rw [hs] at hrb
    cases hrb
    omega
  · rw [hr] at hrb
    cases hrb
    have hlt' := hhas.lt_tb ffb.wf
    rw [ffb.le.tb] at hlt'
    cases fx with
    | some x =>
      intro heq
      subst heq
      cases named_unique_name hhas.named (ffb.le.named _ _ hm)
      exact hy y hyo (by simp [addOpt])
    | none =>
      have : G.tb ≤ creg := (hm : G.tb ≤ creg ∧ _).1
      omega

theorem sem_chain3 {op1 op2 : BinOp} {a b c : Expr} {m : Mode} {F F1 G F2 F3 F4 : Frame} {out oa ob oc : Out}
    {creg ra rb rc : Reg} {ca cb cc : Code}
    (ha : assignResult m F = some (out, F1)) (hrt : resultOrTemp out F1 = some (creg, G))
    (hca : Compiled a .any G ca oa F2) (hra : oa.reg = some ra)
    (hcb : Compiled b .any F2 cb ob F3) (hrb : ob.reg = some rb)
    (hcc : Compiled c .any F3 cc oc F4) (hrc : oc.reg = some rc)
    (iha : SemAt S a .any G ca oa F2) (ihb : SemAt S b .any F2 cb ob F3) (ihc : SemAt S c .any F3 cc oc F4) :
    SemAt S (.chain3 op1 op2 a b c) m F
      (.seq ca (.seq cb (.seq (.instr (.binop op1 creg ra rb))
        (.jumpIfFalse creg (.seq cc (instrIf out.reg fun r => .binop op2 r rb rc))))))
      out { F4 with tc := F1.tc } := by
  intro E fx hw hm hsafe σ ρ ρ' v hrel hev
  simp only [safe, Bool.and_eq_true] at hsafe
  obtain ⟨⟨⟨⟨hsa, hsb⟩, hlab⟩, hsc⟩, hlbc⟩ := hsafe
  rw [ceval_chain3] at hev
  obtain ⟨va, ρ1, hea, hev⟩ := obind_some hev
  obtain ⟨vb, ρ2, heb, hev⟩ := obind_some hev
  cases h1 : S.binop op1 va vb with
  | none => simp [h1] at hev
  | some r1 =>
    simp only [h1] at hev
    obtain ⟨hwG, hmG, le0G, htcFG, hresreg, hfix⟩ := ownReg_spec ha hrt hw hm
    obtain ⟨σ1, x1, x2, x3, x4⟩ := iha E Option.none hwG trivial hsa σ ρ ρ1 va (hrel.frame le0G) hea
    have ffa := hca.frame hwG
    obtain ⟨σ2, y1, y2, y3, y4⟩ := ihb E Option.none ffa.wf trivial hsb σ1 ρ1 ρ2 vb x2 heb
    have ffb := hcb.frame ffa.wf
    have ffc := hcc.frame ffb.wf
    have tca := ffa.tc
    have tcb := ffb.tc
    have hva : σ2 ra = va := operand_kept hca hwG hcb hra hlab hea heb (x3 ra hra) y2 y4
    have hvb : σ2 rb = vb := y3 rb hrb
    -- `creg` stays a meaningful fixed target while the operands take their temporaries
    have hm2 : ModeFx (.fixed creg) fx F2 := hmG.mono ffa.le (by omega)
    have hm3 : ModeFx (.fixed creg) fx F3 := hm2.mono ffb.le (by omega)
    -- the first comparison is written to it
    have hstep1 : exec S (.instr (.binop op1 creg ra rb)) σ2 = some (σ2.set creg r1) := by
      simp [exec, stepInstr, hva, hvb, h1]
    have hrel3 : RelEx (addOpt fx E) F3 (σ2.set creg r1) ρ2 :=
      y2.setFixed (FrameLe.refl _) ffb.wf hm3 r1
    have k2 : TempsKept m F σ σ2 :=
      ((TempsKept.refl m F σ).sub x4 le0G.tb htcFG nofun).sub y4 (by rw [ffa.le.tb, le0G.tb]) (by omega) nofun
    have k3 : TempsKept m F σ (σ2.set creg r1) := k2.set hfix r1
    by_cases htr : S.truthy r1 = true
    · -- `c` is evaluated and compared with `b`
      simp only [htr, if_true] at hev
      obtain ⟨vc, ρ3, hec, hev⟩ := obind_some hev
      simp only [Option.map_eq_some_iff, Prod.mk.injEq] at hev
      obtain ⟨w, hop2, rfl, rfl⟩ := hev
      obtain ⟨σ4, z1, z2, z3, z4⟩ := ihc (addOpt fx E) Option.none ffb.wf trivial hsc
        (σ2.set creg r1) ρ2 ρ3 vc hrel3 hec
      -- `b`'s register was not `creg`, and survives `c`
      have hne : rb ≠ creg := by
        refine operand_ne_own (E := E) hcb ffa.wf hrb hm2 fun y hyo => ?_
        simp only [lateOk, hyo, Bool.and_eq_true, Bool.not_eq_true', List.contains_eq_mem,
          decide_eq_false_iff_not] at hlbc
        exact hlbc.1
      have hvb4 : σ4 rb = vb :=
        operand_kept hcb ffa.wf hcc hrb hlbc heb hec (by rw [Regs.set_other _ _ hne]; exact hvb) z2 z4
      have hrel' : RelEx (addOpt fx E) { F4 with tc := F1.tc } σ4 ρ3 := z2.frame (FrameLe.of_locals_eq rfl rfl)
      have k4 : TempsKept m F σ σ4 := k3.sub z4 (by rw [ffb.le.tb, ffa.le.tb, le0G.tb]) (by omega) nofun
      cases hr : out.reg with
      | none =>
        refine ⟨σ4, ?_, hrel', nofun, k4⟩
        rw [exec_seq x1, exec_seq y1, exec_seq hstep1]
        simp [exec, htr, z1, instrIf]
      | some r =>
        obtain rfl := hresreg r hr
        refine ⟨σ4.set r w, ?_, ?_, fun q hq => by cases hq; simp, k4.set hfix w⟩
        · rw [exec_seq x1, exec_seq y1, exec_seq hstep1]
          simp [exec, htr, z1, instrIf, stepInstr, hvb4, z3 rc hrc, hop2]
        · have hm4 : ModeFx (.fixed r) fx F4 := hm3.mono ffc.le (by have := ffc.tc; omega)
          exact ((z2.setFixed (FrameLe.refl _) ffc.wf hm4 w).weaken addOpt_idem).frame
            (FrameLe.of_locals_eq rfl rfl)
    · -- the first comparison is false: it is the result, `c` is not evaluated
      simp only [htr] at hev
      simp only [Bool.false_eq_true, if_false, Option.some.injEq, Prod.mk.injEq] at hev
      obtain ⟨rfl, rfl⟩ := hev
      refine ⟨σ2.set creg r1, ?_, (hrel3.frame ffc.le).frame (FrameLe.of_locals_eq rfl rfl),
        fun r hr => by rw [hresreg r hr]; simp, k3⟩
      rw [exec_seq x1, exec_seq y1, exec_seq hstep1]
      simp [exec, htr]

/-- a short-circuit operator `mk a b` (`and`, `or`): `a` is compiled into the node's own register, a
conditional jump `jmp` over the code of `b` is taken unless `go (truthy a)`, otherwise `b` is compiled
into the same register -/
theorem sem_short (mk : Expr → Expr → Expr) (jmp : Reg → Code → Code) (go : Bool → Bool) {a b : Expr}
    {m : Mode} {F F1 F2 F3 F4 F' : Frame} {out oa ob : Out} {reg : Reg} {ca cb : Code}
    (hsafe_eq : ∀ E fx, safe E fx (mk a b) = (safe E fx a && safe (addOpt fx E) fx b))
    (heval : ∀ ρ : Env S, eval S (mk a b) ρ =
      obind (eval S a ρ) fun va ρ1 => if go (S.truthy va) then eval S b ρ1 else some (va, ρ1))
    (hexec : ∀ σ : Regs S, exec S (jmp reg cb) σ = if go (S.truthy (σ reg)) then exec S cb σ else some σ)
    (ha : assignResult m F = some (out, F1)) (hrt : resultOrTemp out F1 = some (reg, F2))
    (hca : Compiled a (.fixed reg) F2 ca oa F3) (hcb : Compiled b (.fixed reg) F3 cb ob F4)
    (hp : popIf out.reg.isNone F4 = some F')
    (iha : SemAt S a (.fixed reg) F2 ca oa F3) (ihb : SemAt S b (.fixed reg) F3 cb ob F4) :
    SemAt S (mk a b) m F (.seq ca (jmp reg cb)) out F' := by
  intro E fx hw hm hsafe σ ρ ρ' v hrel hev
  rw [hsafe_eq, Bool.and_eq_true] at hsafe
  rw [heval] at hev
  obtain ⟨va, ρ1, hea, hrest⟩ := obind_some hev
  obtain ⟨hw2, hm2, le02, htc02, hres, hfix⟩ := ownReg_spec ha hrt hw hm
  obtain ⟨σ1, x1, x2, x3, x4⟩ := iha E fx hw2 hm2 hsafe.1 σ ρ ρ1 va (hrel.frame le02) hea
  have ffa := hca.frame hw2
  have ffb := hcb.frame ffa.wf
  have sa : oa = ⟨some reg, false⟩ := ffa.shape
  have sb : ob = ⟨some reg, false⟩ := ffb.shape
  subst sa sb
  have tca : F3.tc = F2.tc := ffa.tc
  obtain ⟨p1, p2, _⟩ := popIf_spec hp
  have le45 : FrameLe F4 F' := FrameLe.of_locals_eq p1 p2
  have hva : σ1 reg = va := x3 reg rfl
  have k1 : TempsKept m F σ σ1 := (TempsKept.refl m F σ).sub x4 le02.tb htc02 hfix
  have hex : exec S (.seq ca (jmp reg cb)) σ = if go (S.truthy va) then exec S cb σ1 else some σ1 := by
    rw [exec_seq x1, hexec, hva]
  by_cases hgo : go (S.truthy va) = true
  · -- the right operand is evaluated
    rw [if_pos hgo] at hrest hex
    obtain ⟨σ2, y1, y2, y3, y4⟩ := ihb (addOpt fx E) fx ffa.wf (hm2.mono ffa.le (Nat.le_of_eq tca.symm)) hsafe.2
      σ1 ρ1 ρ' v x2 hrest
    exact ⟨σ2, hex.trans y1, (y2.weaken addOpt_idem).frame le45, fun r hr => by rw [hres r hr]; exact y3 reg rfl,
      k1.sub y4 (by rw [ffa.le.tb, le02.tb]) (by omega) hfix⟩
  · -- the jump is taken: the left operand is the result
    rw [if_neg hgo] at hrest hex
    cases hrest
    exact ⟨σ1, hex, (x2.frame ffb.le).frame le45, fun r hr => by rw [hres r hr]; exact hva, k1⟩

end KotoVerif.Compile
