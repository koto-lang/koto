/-
C05 `compile_wf`, byte level: a program `NewFrame rc; body…` of instructions that are fine one by one
(`InstrOk`) and whose successors are instructions of its listing (`TgtOkS`) passes `checkAnns`
(`cert_of_program`); if control also reaches every instruction, `wfChunk` accepts it
(`wfChunk_of_program`).
-/
import KotoVerif.Lemmas.C05InstrFacts

namespace KotoVerif.Bytecode
open KotoVerif.Gen

/-- every successor of every instruction is the pc of an instruction of the listing: a later one for
a forward successor, the instruction itself or one already passed (`seen`) for a backward one -/
def TgtOkS : List Ann → List Ann → Prop
  | _, [] => True
  | seen, a :: rest =>
    (∃ ps, succPcs a = some ps ∧ ∀ p ∈ ps,
      (a.pc < p ∧ ∃ b ∈ rest, b.pc = p) ∨ (p ≤ a.pc ∧ ∃ b ∈ a :: seen, b.pc = p))
    ∧ TgtOkS (a :: seen) rest

theorem checkFrom_of (rc : Nat) (consts : List CKind) (l : List Ann) :
    ∀ seen, (∀ a ∈ seen, a.d = some Z) → (∀ a ∈ l, a.d = some Z) → (∀ a ∈ l, applyEff a.ins.op Z = some Z) →
      (∀ a ∈ l, regsOk rc a.ins = true ∧ constsOk consts a.ins = true) → TgtOkS seen l →
      checkFrom rc consts seen l = true := by
  induction l with
  | nil => intros; rfl
  | cons a rest ih =>
    intro seen hseen hd hn hr ht
    obtain ⟨⟨ps, hs, hps⟩, htr⟩ := ht
    simp only [checkFrom, Bool.and_eq_true]
    have hseen' : ∀ b ∈ a :: seen, b.d = some Z := by
      intro b hb
      simp at hb
      rcases hb with rfl | hb
      · exact hd _ (by simp)
      · exact hseen b hb
    refine ⟨?_, ih (a :: seen) hseen' (fun b hb => hd b (by simp [hb])) (fun b hb => hn b (by simp [hb]))
      (fun b hb => hr b (by simp [hb])) htr⟩
    have hlook : ∀ p ∈ ps, ∃ b', lookupFrom seen rest a p = some b' ∧ b'.d = some Z := by
      intro p hp
      rcases hps p hp with ⟨hlt, hex⟩ | ⟨hle, hex⟩
      · obtain ⟨b', hb', hmem⟩ := findPc_of_exists rest p hex
        exact ⟨b', by simp [lookupFrom, hlt, hb'], hd b' (by simp [hmem])⟩
      · obtain ⟨b', hb', hmem⟩ := findPc_of_exists (a :: seen) p hex
        have hnlt : ¬ a.pc < p := by omega
        exact ⟨b', by simp only [lookupFrom, hnlt, if_false]; exact hb', hseen' b' hmem⟩
    simp only [localOk, localChecks, List.all_cons, List.all_nil, Bool.and_true, Bool.and_eq_true]
    refine ⟨(hr a (by simp)).1, (hr a (by simp)).2, ?_, ?_⟩
    · simp only [hs, List.all_eq_true]
      intro p hp
      obtain ⟨b', hb', _⟩ := hlook p hp
      simp [hb']
    · simp only [hd a (by simp), hn a (by simp), hs, List.all_eq_true]
      intro p hp
      obtain ⟨b', hb', hbd⟩ := hlook p hp
      simp [hb', hbd]

theorem linLex_of (l : List Ann) (hd : ∀ a ∈ l, a.d = some Z)
    (hl : ∀ a ∈ l, ∀ s t, linStep a.ins.op s t = some (s, t)) :
    ∀ run, (linLex 0 0 run l).isSome = true := by
  induction l with
  | nil => intro run; simp [linLex]
  | cons a rest ih =>
    intro run
    have ih' := ih (fun b hb => hd b (by simp [hb])) (fun b hb => hl b (by simp [hb]))
    have hc : depthIs a 0 0 = true := by simp [depthIs, hd a (by simp), Z]
    simp only [linLex, hc, hl a (by simp) 0 0, Option.isSome_map]
    split
    · obtain ⟨lex, hlex⟩ := Option.isSome_iff_exists.mp (ih' [])
      simp [hlex]
    · exact ih' _

theorem linOk_of (l : List Ann) (hd : ∀ a ∈ l, a.d = some Z)
    (hl : ∀ a ∈ l, ∀ s t, linStep a.ins.op s t = some (s, t)) : linOk 0 0 l = true :=
  linLex_of l hd hl []

theorem length_le_flatMap_encode (l : List Instr) : l.length ≤ (l.flatMap encode).length := by
  induction l with
  | nil => exact Nat.le_refl _
  | cons i r ih =>
    have := esize_pos i
    simp only [List.flatMap_cons, List.length_append, List.length_cons, esize] at *
    omega

theorem newFrame_ok (consts : List CKind) (rc : Nat) (hrc : rc < 256) :
    (⟨.NewFrame, [rc]⟩ : Instr).valid = true ∧ regsOk rc ⟨.NewFrame, [rc]⟩ = true
      ∧ constsOk consts ⟨.NewFrame, [rc]⟩ = true :=
  ⟨by show (decide (rc < 256) && true) = true; simp [hrc], rfl, rfl⟩

/-- **certificate**: the program sweeps to its listing, and the listing annotated with depth `(0,0,0)`
everywhere passes `checkAnns` — whether or not control reaches every instruction. This is all the
soundness theorems use (`UnitFacts`). -/
theorem cert_of_program (rc : Nat) (body : List Instr) (consts : List CKind) (hrc : rc < 256)
    (hbody : ∀ i ∈ body, Compile.InstrOk consts rc i)
    (htgt : TgtOkS [] (lay (some Z) 0 (⟨.NewFrame, [rc]⟩ :: body))) :
    sweep (((⟨.NewFrame, [rc]⟩ :: body : List Instr).flatMap encode).length + 1) 0
        ((⟨.NewFrame, [rc]⟩ :: body : List Instr).flatMap encode)
      = some (lay none 0 (⟨.NewFrame, [rc]⟩ :: body), [])
    ∧ checkAnns consts 0 0 (lay (some Z) 0 (⟨.NewFrame, [rc]⟩ :: body)) = true := by
  obtain ⟨hvnf, hrnf, hcnf⟩ := newFrame_ok consts rc hrc
  have hv : ∀ i ∈ (⟨.NewFrame, [rc]⟩ :: body : List Instr), i.valid = true :=
    List.forall_mem_cons.2 ⟨hvnf, fun i hi => (hbody i hi).valid⟩
  have hneut : ∀ i ∈ (⟨.NewFrame, [rc]⟩ :: body : List Instr), applyEff i.op Z = some Z :=
    List.forall_mem_cons.2 ⟨rfl, fun i hi => (hbody i hi).neutral Z⟩
  have hlin : ∀ i ∈ (⟨.NewFrame, [rc]⟩ :: body : List Instr), ∀ s t, linStep i.op s t = some (s, t) :=
    List.forall_mem_cons.2 ⟨fun _ _ => rfl, fun i hi => (hbody i hi).lin⟩
  have hd : ∀ a ∈ lay (some Z) 0 (⟨.NewFrame, [rc]⟩ :: body), a.d = some Z := fun a ha => (lay_mem _ _ _ _ ha).2
  refine ⟨sweep_lay _ hv (List.forall_mem_cons.2 ⟨nofun, fun i hi => (hbody i hi).notFn⟩)
    (fun j hj => (hbody j hj).notNf) 0 _ (Nat.lt_succ_of_le (length_le_flatMap_encode _)), ?_⟩
  have hchk : checkFrom rc consts [] (lay (some Z) 0 (⟨.NewFrame, [rc]⟩ :: body)) = true :=
    checkFrom_of rc consts _ [] (fun a ha => absurd ha List.not_mem_nil) hd
      (fun a ha => hneut _ (lay_mem _ _ _ _ ha).1)
      (fun a ha => by
        rcases List.mem_cons.1 (lay_mem _ _ _ _ ha).1 with hm | hm
        · rw [hm]; exact ⟨hrnf, hcnf⟩
        · exact ⟨(hbody _ hm).regs, (hbody _ hm).consts⟩)
      htgt
  have hnf : (lay (some Z) (0 + esize ⟨.NewFrame, [rc]⟩) body).all (fun b => b.ins.op ≠ .NewFrame) = true :=
    List.all_eq_true.2 fun b hb => by simpa using (hbody _ (lay_mem _ _ _ _ hb).1).notNf
  have hsorted := pcsFrom_lay (some Z) (⟨.NewFrame, [rc]⟩ :: body) 0 0 (Nat.le_refl _)
  have hbr := linOk_of _ hd fun a ha => hlin _ (lay_mem _ _ _ _ ha).1
  simp only [lay] at hchk hsorted hbr ⊢
  simp only [checkAnns, Bool.and_eq_true, decide_eq_true_eq]
  exact ⟨⟨⟨⟨⟨⟨⟨trivial, trivial⟩, Nat.zero_le _⟩, rfl⟩, hnf⟩, hsorted⟩, hchk⟩, hbr⟩

/-- **acceptance**: if moreover control reaches every instruction (`CovU`), the verifier's own
inference `annotate` finds that annotation, and `wfChunk` accepts the program. -/
theorem wfChunk_of_program (rc : Nat) (body : List Instr) (consts : List CKind) (hrc : rc < 256)
    (hbody : ∀ i ∈ body, Compile.InstrOk consts rc i)
    (hcov : CovU true [] (lay none 0 (⟨.NewFrame, [rc]⟩ :: body)))
    (htgt : TgtOkS [] (lay (some Z) 0 (⟨.NewFrame, [rc]⟩ :: body))) :
    wfChunk ((⟨.NewFrame, [rc]⟩ :: body : List Instr).flatMap encode) consts = true := by
  obtain ⟨hsw, hchk⟩ := cert_of_program rc body consts hrc hbody htgt
  have hann : annotate (some ⟨0, 0, 0⟩) [] (lay none 0 (⟨.NewFrame, [rc]⟩ :: body))
      = lay (some Z) 0 (⟨.NewFrame, [rc]⟩ :: body) := by
    rw [← lay_map_d (some Z)]
    refine annotate_cov _ 0 _ _ true [] (pcsFrom_lay none _ 0 0 (Nat.le_refl _)) ?_
      (fun e he => absurd he List.not_mem_nil) rfl (fun p _ hp => absurd hp List.not_mem_nil)
      hcov
    intro a ha d
    rcases List.mem_cons.1 (lay_mem _ _ _ _ ha).1 with hm | hm
    · rw [hm]; rfl
    · exact (hbody _ hm).neutral d
  have hne : ((⟨.NewFrame, [rc]⟩ :: body : List Instr).flatMap encode).isEmpty = false := rfl
  simp only [wfChunk, hne, Bool.false_or, wfUnit, unitListing, hsw, hann, hchk, List.all_nil, Bool.and_true]

end KotoVerif.Bytecode
