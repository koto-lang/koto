/-
C17 — helper lemmas about `Model/Meta.lean`: the decision lists by kind of operand (what an
operation sees of an operand, which callees it runs, in which order, what becomes of their
answers), `with_meta`, the access chain as a specification, the `@iterator` nesting walk.
-/
import KotoVerif.Model.Meta

namespace KotoVerif.C17L
open KotoVerif.Meta KotoVerif.Gen

/-- spelling (after `@`) of a metakey according to the table generated from `parse_meta_key` -/
def spelling (k : MKey) : Option (List Nat) := (metaKeyTable.find? (fun p => p.2 == k)).map (·.1)

theorem invoke_fn (tag : Name) (key : MKey) (b : Beh) (self : AV) (args : List AV) :
    invoke tag key (.fn b) self args = ([⟨tag, .mk key, self, args⟩], b.run self) := by
  simp [invoke, invokeAt, Beh.run]

theorem unshare_metaOf (l : Layer) : l.unshare.metaOf = l.metaOf := by
  unfold Layer.unshare Layer.metaOf
  cases hs : l.src with
  | none => simp [hs]
  | own m => simp [hs]
  | shared p m => cases m <;> simp [MetaSrc.get]

theorem unshare_name (l : Layer) : l.unshare.name = l.name := by
  unfold Layer.unshare
  cases hs : l.src with
  | none => rfl
  | own m => rfl
  | shared p m => cases m <;> rfl

theorem unshare_data (l : Layer) : l.unshare.data = l.data := by
  unfold Layer.unshare
  cases hs : l.src with
  | none => rfl
  | own m => rfl
  | shared p m => cases m <;> rfl

theorem unshare_metaGet (m : MapD) (k : MKey) : m.unshare.metaGet k = m.metaGet k := by
  simp [MapD.metaGet, MapD.unshare, unshare_metaOf]

theorem unshare_hasKey (m : MapD) (k : MKey) : m.unshare.hasKey k = m.hasKey k := by
  simp [MapD.hasKey, unshare_metaGet]

theorem unshare_av (m : MapD) : m.unshare.av = m.av := by
  simp [MapD.av, MapD.unshare, unshare_name]

theorem unshare_lookupLayers (k : Key) (ls : List Layer) :
    lookupLayers k (ls.map Layer.unshare) = lookupLayers k ls := by
  induction ls with
  | nil => rfl
  | cons l rest ih =>
    simp only [List.map_cons, lookupLayers, unshare_data, unshare_metaOf, unshare_name, ih]

theorem unshare_metaType (ls : List Layer) : metaType (ls.map Layer.unshare) = metaType ls := by
  induction ls with
  | nil => rfl
  | cons l rest ih =>
    simp only [List.map_cons, metaType, unshare_metaOf, ih]

theorem unshare_layers (m : MapD) : m.unshare.layers = m.layers.map Layer.unshare := by
  simp [MapD.layers, MapD.unshare]

theorem unshare_top_name (m : MapD) : m.unshare.top.name = m.top.name := unshare_name m.top
theorem unshare_top_data (m : MapD) : m.unshare.top.data = m.top.data := unshare_data m.top
theorem unshare_top_metaOf (m : MapD) : m.unshare.top.metaOf = m.top.metaOf := unshare_metaOf m.top

theorem opd_unshare_map (m : MapD) : (Opd.map m).unshare = .map m.unshare := rfl
theorem opd_unshare_host (h : HostD) : (Opd.host h).unshare = .host h := rfl
theorem opd_av_map (m : MapD) : (Opd.map m).av = m.av := rfl

theorem opd_unshare_av (o : Opd) : o.unshare.av = o.av := by
  cases o with
  | map m => exact unshare_av m
  | _ => rfl

theorem rhsAfterUnimpl_lhs_av (op : ArithOp) (lhs lhs' rhs : Opd) (pre : List Ev)
    (h : lhs.av = lhs'.av) :
    rhsAfterUnimpl op lhs rhs pre = rhsAfterUnimpl op lhs' rhs pre := by
  simp only [rhsAfterUnimpl, hostRhs, mapRhs, h]

/-- of a map left operand only its identity and its own entry for the operator matter: not its
data, other metakeys, `@meta` names, `@type` or `@base` chain -/
theorem arith_lhs_own_entry (op : ArithOp) (m m' : MapD) (rhs : Opd)
    (hn : m.top.name = m'.top.name) (hk : m.metaGet op.key = m'.metaGet op.key) :
    arith op (.map m) rhs = arith op (.map m') rhs := by
  have hav : (Opd.map m).av = (Opd.map m').av := congrArg AV.obj hn
  have hD : rhsDirect op (.map m) rhs = rhsDirect op (.map m') rhs := by
    cases rhs <;> simp only [rhsDirect, hostRhs, mapRhs, hav]
  simp only [arith, hk, hav, rhsAfterUnimpl_lhs_av op _ _ rhs _ hav, hD]

theorem arith_rhs_own_entry (op : ArithOp) (lhs : Opd) (m m' : MapD)
    (hn : m.top.name = m'.top.name) (hk : m.metaGet op.rkey = m'.metaGet op.rkey) :
    arith op lhs (.map m) = arith op lhs (.map m') := by
  have hav : (Opd.map m).av = (Opd.map m').av := congrArg AV.obj hn
  have hR : ∀ pre, rhsAfterUnimpl op lhs (.map m) pre = rhsAfterUnimpl op lhs (.map m') pre := by
    intro pre
    simp only [rhsAfterUnimpl, mapRhs, hav, hk]
  have hD : rhsDirect op lhs (.map m) = rhsDirect op lhs (.map m') := by
    simp only [rhsDirect, mapRhs, hav, hk]
  cases lhs <;> simp only [arith, hav, hR, hD]

/-- the arms of `run_equal` / `run_not_equal` after `(Null, _) | (_, Null)`, map on the left -/
theorem equality_map (ne : Bool) (m : MapD) (rhs : Opd) (hn : rhs ≠ .prim .null) :
    equality ne (.map m) rhs =
      if ne then
        match m.metaGet .NotEqual with
        | some (tag, mv) =>
          ⟨(invoke tag .NotEqual mv m.av [rhs.av]).1, (invoke tag .NotEqual mv m.av [rhs.av]).2.pass⟩
        | none =>
          match m.metaGet .Equal with
          | some (tag, mv) =>
            match cmpCall tag .Equal mv (.map m) rhs with
            | (t, .error e) => ⟨t, .err e⟩
            | (t, .ok b) => ⟨t, .ok (.bool (!b))⟩
          | none => match rhs with
            | .map _ => ⟨[], .ok .builtin⟩
            | _ => ⟨[], .ok (.bool (false != ne))⟩
      else
        match m.metaGet .Equal with
        | some (tag, mv) =>
          ⟨(invoke tag .Equal mv m.av [rhs.av]).1, (invoke tag .Equal mv m.av [rhs.av]).2.pass⟩
        | none => match rhs with
          | .map _ => ⟨[], .ok .builtin⟩
          | _ => ⟨[], .ok (.bool (false != ne))⟩ := by
  cases rhs with
  | prim k => cases k <;> first | exact absurd rfl hn | rfl
  | map m2 => rfl
  | host h2 => rfl

theorem map_ne_null (m : MapD) : Opd.map m ≠ .prim .null := nofun

theorem equality_host (ne : Bool) (h : HostD) (rhs : Opd) (hn : rhs ≠ .prim .null) :
    equality ne (.host h) rhs =
      ⟨(h.cmp (if ne then .notEqual else .equal) rhs.av).1,
       (h.cmp (if ne then .notEqual else .equal) rhs.av).2.pass⟩ := by
  cases rhs with
  | prim k => cases k <;> first | exact absurd rfl hn | rfl
  | map m2 => simp only [equality]
  | host h2 => rfl

theorem equality_null (ne : Bool) (lhs : Opd) :
    equality ne lhs (.prim .null) = ⟨[], .ok (.bool ((lhs == .prim .null) != ne))⟩ := by
  cases lhs with
  | prim k => cases k <;> rfl
  | map m => rfl
  | host h => rfl

theorem equality_prim_trace (ne : Bool) (a : PrimK) (rhs : Opd) :
    (equality ne (.prim a) rhs).trace = [] := by
  cases rhs with
  | prim b => cases a <;> cases b <;> rfl
  | map m => cases a <;> rfl
  | host h => cases a <;> rfl

theorem order_prim_trace (op : CmpOp) (a : PrimK) (rhs : Opd) :
    (order op (.prim a) rhs).trace = [] := by
  cases rhs with
  | prim b => simp only [order]; split <;> rfl
  | map m => rfl
  | host h => rfl

theorem order_host (op : CmpOp) (h : HostD) (rhs : Opd) :
    order op (.host h) rhs = ⟨(h.cmp op.hm rhs.av).1, (h.cmp op.hm rhs.av).2.pass⟩ := rfl

theorem compareOp_lhs_own_entries (op : CmpOp) (m m' : MapD) (rhs : Opd)
    (hn : m.top.name = m'.top.name) (hk : ∀ k, m.metaGet k = m'.metaGet k) :
    compareOp op (.map m) rhs = compareOp op (.map m') rhs := by
  have hav : m.av = m'.av := congrArg AV.obj hn
  have hE : ∀ ne, equality ne (.map m) rhs = equality ne (.map m') rhs := by
    intro ne
    by_cases hr : rhs = .prim .null
    · subst hr; rfl
    · simp only [equality_map ne _ rhs hr, hk, hav, cmpCall, opd_av_map]
  cases op <;> first
    | exact hE _
    | simp only [compareOp, order, lessThenEqual, cmpCall, hk, opd_av_map, hav]

theorem compareOp_rhs_identity (op : CmpOp) (lhs : Opd) (m m' : MapD)
    (hn : m.top.name = m'.top.name) :
    compareOp op lhs (.map m) = compareOp op lhs (.map m') := by
  have hav : m.av = m'.av := congrArg AV.obj hn
  have hE : ∀ ne, equality ne lhs (.map m) = equality ne lhs (.map m') := by
    intro ne
    cases lhs with
    | prim k => cases k <;> rfl
    | map ml =>
      simp only [equality_map ne ml _ (map_ne_null _), cmpCall, opd_av_map, hav]
    | host h => simp only [equality_host ne h _ (map_ne_null _), opd_av_map, hav]
  cases op <;> first
    | exact hE _
    | (cases lhs <;> simp only [compareOp, order, lessThenEqual, cmpCall, opd_av_map, hav])

theorem unshare_binop {α : Type} (f : Opd → Opd → α)
    (hl : ∀ m r, f (.map m.unshare) r = f (.map m) r) (hr : ∀ l m, f l (.map m.unshare) = f l (.map m))
    (a b : Opd) : f a.unshare b.unshare = f a b := by
  have left : ∀ r, f a.unshare r = f a r := by cases a <;> first | exact hl _ | exact fun _ => rfl
  have right : ∀ l, f l b.unshare = f l b := by cases b <;> first | exact fun l => hr l _ | exact fun _ => rfl
  exact (left _).trans (right _)

theorem arith_unshare (op : ArithOp) (a b : Opd) : arith op a.unshare b.unshare = arith op a b :=
  unshare_binop (arith op)
    (fun m r => arith_lhs_own_entry op _ _ r (unshare_top_name m) (unshare_metaGet m _))
    (fun l m => arith_rhs_own_entry op l _ _ (unshare_top_name m) (unshare_metaGet m _)) a b

theorem compareOp_unshare (op : CmpOp) (a b : Opd) :
    compareOp op a.unshare b.unshare = compareOp op a b :=
  unshare_binop (compareOp op)
    (fun m r => compareOp_lhs_own_entries op _ _ r (unshare_top_name m) (unshare_metaGet m))
    (fun l m => compareOp_rhs_identity op l _ _ (unshare_top_name m)) a b

def layerHit (k : Key) (l : Layer) : Option AV :=
  if l.data.contains k then some (.found l.name .data k)
  else match l.metaOf with
    | some mt => if mt.named.contains k then some (.found mt.tag .named k) else none
    | none => none

def continues (l : Layer) : Bool :=
  match l.metaOf with
  | some mt => !mt.baseBad
  | none => false

/-- how the lookup ends at a layer where the chain stops without a hit -/
def terminal (l : Layer) : Look :=
  match l.metaOf with
  | none => .coreMap
  | some _ => .badBase

/-- first layer along data, `@meta`, base¹, base², … that has the key — or that ends the chain -/
def lookupSpec (k : Key) (ls : List Layer) : Look :=
  match ls.find? (fun l => (layerHit k l).isSome || !continues l) with
  | none => .miss
  | some l =>
    match layerHit k l with
    | some v => .hit v
    | none => terminal l

/-- the forms an event of a binary arithmetic operation can have -/
def Ordered (op : ArithOp) (lhs rhs : Opd) (e : Ev) : Prop :=
  (∃ tag, e = ⟨tag, .mk op.key, lhs.av, [rhs.av]⟩) ∨          -- lhs entry: (self := lhs, arg := rhs)
  (∃ tag, e = ⟨tag, .mk op.rkey, rhs.av, [lhs.av]⟩) ∨         -- rhs entry: (self := rhs, arg := lhs)
  (∃ n, e = ⟨n, .host op.hm, lhs.av, [rhs.av]⟩) ∨             -- lhs host method
  (∃ n, e = ⟨n, .host op.rhm, rhs.av, [lhs.av]⟩) ∨            -- rhs host `_rhs` method
  (∃ c, e = ⟨c, .mk .Call, .obj c, [rhs.av]⟩ ∨ e = ⟨c, .mk .Call, .obj c, [lhs.av]⟩)  -- via a callable map

def AtMostOne (P : Ev → Prop) (t : List Ev) : Prop := t = [] ∨ ∃ e, t = [e] ∧ P e

theorem AtMostOne.length_le {P : Ev → Prop} {t : List Ev} (h : AtMostOne P t) : t.length ≤ 1 := by
  rcases h with rfl | ⟨e, rfl, _⟩
  · exact Nat.zero_le 1
  · exact Nat.le_refl 1

theorem AtMostOne.of_mem {P : Ev → Prop} {t : List Ev} (h : AtMostOne P t) : ∀ e ∈ t, P e := by
  rcases h with rfl | ⟨e, rfl, he⟩
  · exact fun _ h => nomatch h
  · exact fun _ h => List.mem_singleton.1 h ▸ he

theorem AtMostOne.imp {P Q : Ev → Prop} {t : List Ev} (hpq : ∀ e, P e → Q e) :
    AtMostOne P t → AtMostOne Q t :=
  Or.imp_right fun ⟨e, ht, he⟩ => ⟨e, ht, hpq e he⟩

/-- the entry itself with the given `self` and arguments, or — the entry is a callable map `c` —
`c`'s `@call` with `self := c` and the same arguments -/
theorem invoke_events (tag : Name) (key : MKey) (mv : MV) (self : AV) (args : List AV) :
    AtMostOne (fun e => e = ⟨tag, .mk key, self, args⟩ ∨ ∃ c, e = ⟨c, .mk .Call, .obj c, args⟩)
      (invoke tag key mv self args).1 := by
  cases mv with
  | fn b => exact .inr ⟨_, rfl, .inl rfl⟩
  | native v => exact .inr ⟨_, rfl, .inl rfl⟩
  | nonCallable => exact .inl rfl
  | chain mids fin =>
    cases hm : mids.getLast? <;> cases fin <;> simp only [invoke, invokeAt, hm]
    · exact .inl rfl
    · exact .inr ⟨_, rfl, .inl rfl⟩
    · exact .inl rfl
    · exact .inr ⟨_, rfl, .inr ⟨_, rfl⟩⟩

theorem invoke_operands (tag : Name) (key : MKey) (mv : MV) (self : AV) (args : List AV)
    (hk : key ≠ .Call) :
    ∀ e ∈ (invoke tag key mv self args).1, e.key = .mk key → e.self = self ∧ e.args = args := by
  intro e he hkey
  rcases (invoke_events tag key mv self args).of_mem e he with rfl | ⟨c, rfl⟩
  · exact ⟨rfl, rfl⟩
  · exact absurd (EvKey.mk.inj hkey).symm hk

theorem hostcall_events (h : HostD) (m : HM) (args : List AV) :
    AtMostOne (· = ⟨h.name, .host m, h.av, args⟩) (h.call m args).1 := by
  unfold HostD.call
  cases h.impl.lookup m
  · exact .inl rfl
  · exact .inr ⟨_, rfl, rfl⟩

/-- What one operand contributes to a binary operation: the events of calling its own entry for `k`
(a map) or its method `hm` (a host object) on `arg`. Every trace of `arith` is one or two of these
(`arith_trace`). -/
def opdCall (k : MKey) (hm : HM) (self arg : Opd) : List Ev :=
  match self with
  | .map m =>
    match m.metaGet k with
    | some (tag, mv) => (invoke tag k mv self.av [arg.av]).1
    | none => []
  | .host h => (h.call hm [arg.av]).1
  | .prim _ => []

theorem opdCall_events (k : MKey) (hm : HM) (self arg : Opd) :
    AtMostOne (fun e => (∃ tag, e = ⟨tag, .mk k, self.av, [arg.av]⟩) ∨
      (∃ c, e = ⟨c, .mk .Call, .obj c, [arg.av]⟩) ∨ ∃ n, e = ⟨n, .host hm, self.av, [arg.av]⟩)
      (opdCall k hm self arg) := by
  unfold opdCall
  repeat' split
  · exact (invoke_events ..).imp fun e h => h.elim (fun h => .inl ⟨_, h⟩) (fun h => .inr (.inl h))
  · exact .inl rfl
  · exact (hostcall_events ..).imp fun e h => .inr (.inr ⟨_, h⟩)
  · exact .inl rfl

theorem rhsAfterUnimpl_eq (op : ArithOp) (lhs rhs : Opd) (pre : List Ev) :
    rhsAfterUnimpl op lhs rhs pre =
      ⟨pre ++ opdCall op.rkey op.rhm rhs lhs, (rhsAfterUnimpl op lhs rhs []).res⟩ := by
  cases rhs with
  | prim k => exact congrArg (Out.mk · _) (List.append_nil _).symm
  | host h =>
    simp only [rhsAfterUnimpl, hostRhs, opdCall]
    generalize h.call op.rhm [lhs.av] = c
    obtain ⟨t, r⟩ := c
    cases r <;> rfl
  | map m2 =>
    cases hk : m2.metaGet op.rkey with
    | some p => simp only [rhsAfterUnimpl, opdCall, hk]; rfl
    | none => simp only [rhsAfterUnimpl, opdCall, hk, List.append_nil]

theorem rhsAfterUnimpl_trace (op : ArithOp) (lhs rhs : Opd) (pre : List Ev) :
    (rhsAfterUnimpl op lhs rhs pre).trace = pre ++ opdCall op.rkey op.rhm rhs lhs :=
  congrArg Out.trace (rhsAfterUnimpl_eq op lhs rhs pre)

theorem pass_ne_binop (r : CallRes) (k : MKey) : r.pass ≠ .err (.binop k) := by
  cases r <;> nofun

/-- "lacks the operator" reaches the stage that "unimplemented" reaches, except that `map + map`
without `@r+` on the right merges -/
theorem rhsDirect_eq (op : ArithOp) (lhs rhs : Opd) :
    rhsDirect op lhs rhs = rhsAfterUnimpl op lhs rhs [] ∨
      (rhsDirect op lhs rhs = ⟨[], .ok .builtin⟩ ∧ op = .add ∧
        ∃ m m2, lhs = .map m ∧ rhs = .map m2 ∧ m2.metaGet op.rkey = none) := by
  cases rhs with
  | prim k => exact .inl rfl
  | host h => exact .inl rfl
  | map m2 =>
    cases hk : m2.metaGet op.rkey with
    | some p => exact .inl (by simp only [rhsDirect, rhsAfterUnimpl, hk])
    | none =>
      cases lhs with
      | map m =>
        by_cases ho : op = .add
        · exact .inr ⟨by subst ho; simp [rhsDirect, hk], ho, m, m2, rfl, rfl, hk⟩
        · exact .inl (by simp [rhsDirect, rhsAfterUnimpl, hk, ho])
      | _ => exact .inl (by simp only [rhsDirect, rhsAfterUnimpl, hk])

theorem rhsDirect_trace (op : ArithOp) (lhs rhs : Opd) :
    (rhsDirect op lhs rhs).trace = opdCall op.rkey op.rhm rhs lhs := by
  rcases rhsDirect_eq op lhs rhs with e | ⟨e, _, _, m2, _, rfl, hk⟩
  · rw [e, rhsAfterUnimpl_trace]; exact List.nil_append _
  · rw [e]; simp only [opdCall, hk]

theorem rhsAfterUnimpl_binop (op : ArithOp) (lhs rhs : Opd) (pre : List Ev) (k : MKey)
    (h : (rhsAfterUnimpl op lhs rhs pre).res = .err (.binop k)) :
    k = op.key ∨ (k = op.rkey ∧ ∃ h2, rhs = .host h2) := by
  cases rhs with
  | prim b => cases h; exact .inl rfl
  | map m2 =>
    cases hk : m2.metaGet op.rkey with
    | some p => simp only [rhsAfterUnimpl, hk, mapRhs] at h; exact absurd h (pass_ne_binop _ _)
    | none => simp only [rhsAfterUnimpl, hk] at h; cases h; exact .inl rfl
  | host h2 =>
    simp only [rhsAfterUnimpl, hostRhs] at h
    split at h <;> cases h
    exact .inr ⟨rfl, h2, rfl⟩

theorem arith_trace (op : ArithOp) (lhs rhs : Opd) :
    (arith op lhs rhs).trace = opdCall op.key op.hm lhs rhs ∨
    (arith op lhs rhs).trace = opdCall op.key op.hm lhs rhs ++ opdCall op.rkey op.rhm rhs lhs := by
  cases lhs with
  | prim a =>
    cases rhs with
    | prim b => simp only [arith]; split <;> exact .inl rfl
    | map m2 => exact .inr (rhsDirect_trace op _ _)
    | host h2 => exact .inr (rhsDirect_trace op _ _)
  | map m =>
    cases hk : m.metaGet op.key with
    | some p =>
      simp only [arith, opdCall, hk]
      generalize invoke p.1 op.key p.2 (Opd.map m).av [rhs.av] = c
      obtain ⟨t, r⟩ := c
      cases r <;> first | exact .inl rfl | exact .inr (rhsAfterUnimpl_trace ..)
    | none =>
      simp only [arith, opdCall, hk]
      exact .inr (rhsDirect_trace op _ _)
  | host h =>
    simp only [arith, opdCall]
    generalize h.call op.hm [rhs.av] = c
    obtain ⟨t, r⟩ := c
    cases r <;> first | exact .inl rfl | exact .inr (rhsAfterUnimpl_trace ..)

theorem iterateResult_not_tooNested (t : List Ev) (r : CallRes) :
    (iterateResult t r).res ≠ .err .tooNested := by
  cases r with
  | ret v =>
    cases v <;> simp [iterateResult]
    -- left: `prim k` and `inner next`, where `iterateResult` looks at the argument
    all_goals (rename_i k; cases k <;> simp)
  | unimpl => simp [iterateResult, CallRes.pass]
  | throw => simp [iterateResult, CallRes.pass]
  | notCallable => simp [iterateResult, CallRes.pass]

theorem iterWalk_shape (nx : IterStep) (leaf : List Ev → CallRes → Out) :
    ∀ (l : Nat) (v : AV) (t : List Ev), ∃ t', t'.length ≤ l ∧
      (iterWalk nx leaf l v t = ⟨t ++ t', .err .tooNested⟩ ∨
       ∃ w, iterWalk nx leaf l v t = leaf (t ++ t') (.ret w)) := by
  intro l
  induction l with
  | zero =>
    intro v t
    refine ⟨[], by simp, ?_⟩
    cases h : nx v with
    | none => exact Or.inr ⟨v, by simp [iterWalk, h]⟩
    | some p => exact Or.inl (by simp [iterWalk, h])
  | succ l ih =>
    intro v t
    cases h : nx v with
    | none => exact ⟨[], by simp, Or.inr ⟨v, by simp [iterWalk, h]⟩⟩
    | some p =>
      obtain ⟨e, nv⟩ := p
      obtain ⟨t', hl, hs⟩ := ih nv (t ++ [e])
      refine ⟨e :: t', by simp; omega, ?_⟩
      rcases hs with hs | ⟨w, hs⟩
      · exact Or.inl (by simp [iterWalk, h, hs])
      · exact Or.inr ⟨w, by simp [iterWalk, h, hs]⟩

theorem iterWalk_succ_of_ok (nx : IterStep) (leaf : List Ev → CallRes → Out) :
    ∀ (l : Nat) (v : AV) (t : List Ev), (iterWalk nx leaf l v t).res ≠ .err .tooNested →
      iterWalk nx leaf (l + 1) v t = iterWalk nx leaf l v t := by
  intro l
  induction l with
  | zero =>
    intro v t h
    cases hn : nx v with
    | none => simp [iterWalk, hn]
    | some p => simp [iterWalk, hn] at h
  | succ l ih =>
    intro v t h
    cases hn : nx v with
    | none => simp [iterWalk, hn]
    | some p =>
      obtain ⟨e, nv⟩ := p
      have h' : (iterWalk nx leaf l nv (t ++ [e])).res ≠ .err .tooNested := by
        simpa [iterWalk, hn] using h
      have := ih nv (t ++ [e]) h'
      simp only [iterWalk, hn]
      exact this

/-- the `@iterator` events of the `k` nest objects `i … i+k-1` -/
def nestEvents (i k d : Nat) (fin : NestFin) : List Ev :=
  (List.range k).map (fun j => ⟨909 + (i + j), .mk .Iterator, .aux (i + j) d fin, []⟩)

/-- with enough levels left, the nest objects `i … d` are evaluated once each, in order, and the
innermost list is iterated -/
theorem iterWalk_nest (root : AV) (rootEv : Ev) (v0 : AV) (leaf : List Ev → CallRes → Out)
    (d : Nat) (hroot : ∀ xs, root ≠ .lst xs) :
    ∀ (k i l : Nat) (t : List Ev), i + k = d → k + 1 ≤ l →
      iterWalk (nestStep root rootEv v0) leaf l (.aux i d .lst) t =
        leaf (t ++ nestEvents i (k + 1) d .lst) (.ret (.lst [20, 21])) := by
  intro k
  induction k with
  | zero =>
    intro i l t hi hl
    obtain ⟨l', rfl⟩ : ∃ l', l = l' + 1 := ⟨l - 1, by omega⟩
    have hid : ¬ i < d := by omega
    have hne : ¬ (AV.lst [20, 21] = root) := fun h => hroot _ h.symm
    cases l' with
    | zero => simp [iterWalk, nestStep, hid, NestFin.toAV, hne, nestEvents]
    | succ l'' => simp [iterWalk, nestStep, hid, NestFin.toAV, hne, nestEvents]
  | succ k ih =>
    intro i l t hi hl
    obtain ⟨l', rfl⟩ : ∃ l', l = l' + 1 := ⟨l - 1, by omega⟩
    have hid : i < d := by omega
    have := ih (i + 1) l' (t ++ [⟨909 + i, .mk .Iterator, .aux i d .lst, []⟩]) (by omega) (by omega)
    simp only [iterWalk, nestStep, hid, if_true]
    rw [this]
    congr 1
    -- `nestEvents i (k + 2)` is the event of object `i` followed by `nestEvents (i + 1) (k + 1)`
    simp [nestEvents, List.range_succ_eq_map, List.map_map, Function.comp_def, Nat.add_assoc, Nat.add_comm 1]

theorem iterWalk_cycle (nx : IterStep) (leaf : List Ev → CallRes → Out) (v : AV) (e : Ev)
    (h : nx v = some (e, v)) :
    ∀ (l : Nat) (t : List Ev), iterWalk nx leaf l v t = ⟨t ++ List.replicate l e, .err .tooNested⟩ := by
  intro l
  induction l with
  | zero => intro t; simp [iterWalk, h]
  | succ l ih =>
    intro t
    simp only [iterWalk, h]
    rw [ih]
    simp [List.replicate_succ]

/-- Iteration through `@iterator` (no `@next`): the common tail of `for`, `iterator.to_list` and
`iterator.reversed`, which differ only in the leaf handler and in the levels left. -/
def iterVia (m : MapD) (tag : Name) (mv : MV) (leaf : List Ev → CallRes → Out) (l : Nat) : Out :=
  if mv == .nonCallable then ⟨[], .err .type⟩
  else
    match invoke tag .Iterator mv m.av [] with
    | (t, .ret v0) => iterWalk (nestStep m.av (t.headD default) v0) leaf l v0 t
    | (t, r) => ⟨t, r.pass⟩

theorem forLoop_iterator {m : MapD} {tag : Name} {mv : MV} (hn : m.metaGet .Next = none)
    (hi : m.metaGet .Iterator = some (tag, mv)) :
    forLoop (.map m) = iterVia m tag mv iterateResult 16 := by
  simp only [forLoop, hn, hi, iterVia, nestingLimit]; rfl

theorem toList_iterator {m : MapD} {tag : Name} {mv : MV} (hn : m.metaGet .Next = none)
    (hi : m.metaGet .Iterator = some (tag, mv)) :
    toList (.map m) = iterVia m tag mv iterateResult 15 := by
  simp only [toList, hn, hi, iterVia, nestingLimit]; rfl

theorem iterVia_fn_ret (m : MapD) (ti : Name) (v : RV) (leaf : List Ev → CallRes → Out) (l : Nat) :
    iterVia m ti (.fn (.ret v)) leaf l =
      iterWalk (nestStep m.av ⟨ti, .mk .Iterator, m.av, []⟩ (v.toAV m.av)) leaf l (v.toAV m.av)
        [⟨ti, .mk .Iterator, m.av, []⟩] := rfl

theorem iterVia_succ_of_ok (m : MapD) (tag : Name) (mv : MV) (leaf : List Ev → CallRes → Out) (l : Nat)
    (h : (iterVia m tag mv leaf l).res ≠ .err .tooNested) :
    iterVia m tag mv leaf (l + 1) = iterVia m tag mv leaf l := by
  unfold iterVia at h ⊢
  by_cases hc : (mv == MV.nonCallable) = true
  · simp only [hc, if_true]
  · simp only [hc] at h ⊢
    generalize invoke tag .Iterator mv m.av [] = c at h ⊢
    obtain ⟨t, r⟩ := c
    cases r with
    | ret v0 => exact iterWalk_succ_of_ok _ _ l _ _ h
    | _ => rfl

theorem iterVia_bounded (m : MapD) (tag : Name) (mv : MV) (l : Nat) :
    ∃ calls, calls.length ≤ l + 1 ∧
      (iterVia m tag mv iterateResult l = ⟨calls, .err .tooNested⟩ ∨
       ∃ r, iterVia m tag mv iterateResult l = iterateResult calls r ∨
         iterVia m tag mv iterateResult l = ⟨calls, .err .type⟩) := by
  have h1 := (invoke_events tag .Iterator mv m.av []).length_le
  unfold iterVia
  split
  · exact ⟨[], Nat.zero_le _, .inr ⟨.unimpl, .inr rfl⟩⟩
  · generalize invoke tag .Iterator mv m.av [] = c at h1
    obtain ⟨t, r⟩ := c
    replace h1 : t.length ≤ 1 := h1
    cases r with
    | ret v0 =>
      obtain ⟨t', hl, hs⟩ := iterWalk_shape (nestStep m.av (t.headD default) v0) iterateResult l v0 t
      refine ⟨t ++ t', by rw [List.length_append]; omega, ?_⟩
      exact hs.imp id fun ⟨w, hw⟩ => ⟨.ret w, .inl hw⟩
    | unimpl => exact ⟨t, by omega, .inr ⟨.unimpl, .inl rfl⟩⟩
    | throw => exact ⟨t, by omega, .inr ⟨.throw, .inl rfl⟩⟩
    | notCallable => exact ⟨t, by omega, .inr ⟨.notCallable, .inl rfl⟩⟩

/-- a compound assignment discards the callee's value: success leaves `x` (the left operand) -/
def keepCall (x : AV) : CallRes → Res
  | .ret _ => .ok x
  | r => r.pass

def keepHost (x : AV) : HostRes → Res
  | .ok _ => .ok x
  | r => r.pass

theorem keepCall_ok {x v : AV} {r : CallRes} (h : keepCall x r = .ok v) : v = x := by
  cases r <;> cases h; rfl

theorem keepHost_ok {x v : AV} {r : HostRes} (h : keepHost x r = .ok v) : v = x := by
  cases r <;> cases h; rfl

theorem compound_prim (op : ArithOp) (k : PrimK) (rhs : Opd) (same : Bool) :
    compound op (.prim k) rhs same = ⟨[], .ok .builtin⟩ ∨
      compound op (.prim k) rhs same = ⟨[], .err (.binop op.akey)⟩ := by
  cases rhs with
  | prim k2 => cases k <;> first | exact .inr rfl | (cases k2 <;> first | exact .inr rfl | exact .inl rfl)
  | _ => cases k <;> exact .inr rfl

theorem compound_map (op : ArithOp) (m : MapD) (rhs : Opd) (same : Bool) :
    compound op (.map m) rhs same =
      match m.metaGet op.akey with
      | some (tag, mv) =>
        ⟨(invoke tag op.akey mv m.av [rhs.av]).1, keepCall m.av (invoke tag op.akey mv m.av [rhs.av]).2⟩
      | none => ⟨[], .err (.binop op.akey)⟩ := by
  cases hk : m.metaGet op.akey with
  | none => simp only [compound, hk]
  | some p =>
    simp only [compound, hk, opd_av_map]
    generalize invoke p.1 op.akey p.2 m.av [rhs.av] = c
    obtain ⟨t, r⟩ := c
    cases r <;> rfl

/-- what a host left operand's method receives, and the events before its call: the right operand
itself, or — both operands the same host instance — a fresh copy of it (`o.is_same_instance(o2)`) -/
def compoundArg (rhs : Opd) (same : Bool) : List Ev × AV :=
  match rhs, same with
  | .host h2, true => ([⟨h2.name, .copy, h2.av, []⟩], .host h2.name (h2.gen + 1))
  | _, _ => ([], rhs.av)

-- inside `namespace KotoVerif.C17` the bare name means the property theorem `C17.compound_host`
theorem compound_host (op : ArithOp) (h : HostD) (rhs : Opd) (same : Bool) :
    compound op (.host h) rhs same =
      ⟨(compoundArg rhs same).1 ++ (h.call op.ahm [(compoundArg rhs same).2]).1,
       keepHost h.av (h.call op.ahm [(compoundArg rhs same).2]).2⟩ := by
  have key : ∀ (c : List Ev × HostRes) (pre : List Ev),
      (match c with
        | (t, .ok _) => (⟨pre ++ t, .ok (Opd.host h).av⟩ : Out)
        | (t, r) => ⟨pre ++ t, r.pass⟩) = ⟨pre ++ c.1, keepHost h.av c.2⟩ := by
    intro c pre; obtain ⟨t, r⟩ := c; cases r <;> rfl
  cases rhs with
  | host h2 =>
    cases same
    · exact key _ []
    · exact key _ [_]
  | prim k => cases same <;> exact key _ []
  | map m => cases same <;> exact key _ []

theorem compound_unshare (op : ArithOp) (a b : Opd) (same : Bool) :
    compound op a.unshare b.unshare same = compound op a b same := by
  have hb := opd_unshare_av b
  cases a with
  | map m => simp only [opd_unshare_map, compound_map, unshare_metaGet, unshare_av, hb]
  | prim k => cases b <;> cases k <;> rfl
  | host h =>
    have : compoundArg b.unshare same = compoundArg b same := by
      cases b <;> first | rfl | exact congrArg (Prod.mk []) (unshare_av _)
    simp only [opd_unshare_host, compound_host, this]

theorem compound_trace_prim (op : ArithOp) (k : PrimK) (rhs : Opd) (same : Bool) :
    (compound op (.prim k) rhs same).trace = [] := by
  rcases compound_prim op k rhs same with e | e <;> rw [e]

theorem compound_trace_map (op : ArithOp) (m : MapD) (rhs : Opd) (same : Bool) :
    (compound op (.map m) rhs same).trace =
      match m.metaGet op.akey with
      | some (tag, mv) => (invoke tag op.akey mv m.av [rhs.av]).1
      | none => [] := by
  rw [compound_map]
  cases m.metaGet op.akey <;> rfl

theorem compound_trace_host (op : ArithOp) (h : HostD) (rhs : Opd) (same : Bool) :
    (compound op (.host h) rhs same).trace =
      (compoundArg rhs same).1 ++ (h.call op.ahm [(compoundArg rhs same).2]).1 :=
  congrArg Out.trace (compound_host op h rhs same)

theorem cmpCall_trace (tag : Name) (key : MKey) (mv : MV) (lhs rhs : Opd) :
    (cmpCall tag key mv lhs rhs).1 = (invoke tag key mv lhs.av [rhs.av]).1 := by
  unfold cmpCall
  split <;> simp_all

theorem cmpCall_trace_le_one (tag : Name) (key : MKey) (mv : MV) (lhs rhs : Opd) :
    (cmpCall tag key mv lhs rhs).1.length ≤ 1 := by
  rw [cmpCall_trace]; exact (invoke_events ..).length_le

/-- a Bool, or an error, after at most `n` calls: what a derived comparison is -/
def BoolWithin (n : Nat) (o : Out) : Prop :=
  o.trace.length ≤ n ∧ ∀ v, o.res = .ok v → ∃ b, v = .bool b

/-- the `>=` and `!=` arms: one call, negated -/
theorem cmpCall_negated_within (c : List Ev × Except Err Bool) (n : Nat) :
    c.1.length ≤ n → BoolWithin n (match c with
      | (t, .error e) => (⟨t, .err e⟩ : Out)
      | (t, .ok b) => ⟨t, .ok (.bool (!b))⟩) := by
  intro h
  obtain ⟨t, _ | b⟩ := c
  · exact ⟨h, fun _ hv => nomatch hv⟩
  · exact ⟨h, fun _ hv => ⟨!b, (Res.ok.inj hv).symm⟩⟩

/-- `lessThenEqual` with the two calls as variables; `neg` negates the answer (`>` from `<=`) -/
def lessOrEq (neg : Bool) (lt eq : List Ev × Except Err Bool) : List Ev × Except Err Bool :=
  match lt with
  | (t1, .error e) => (t1, .error e)
  | (t1, .ok true) => (t1, .ok (true != neg))
  | (t1, .ok false) =>
    match eq with
    | (t2, .error e) => (t1 ++ t2, .error e)
    | (t2, .ok b) => (t1 ++ t2, .ok (b != neg))

def boolOut : List Ev × Except Err Bool → Out
  | (t, .ok b) => ⟨t, .ok (.bool b)⟩
  | (t, .error e) => ⟨t, .err e⟩

theorem lessThenEqual_eq (m : MapD) (lt eq : Name × MV) (lhs rhs : Opd) (neg : Bool) :
    lessThenEqual m lt eq lhs rhs neg =
      boolOut (lessOrEq neg (cmpCall lt.1 .Less lt.2 lhs rhs) (cmpCall eq.1 .Equal eq.2 lhs rhs)) := by
  unfold lessThenEqual
  generalize cmpCall lt.1 .Less lt.2 lhs rhs = c1
  generalize cmpCall eq.1 .Equal eq.2 lhs rhs = c2
  obtain ⟨t1, _ | _ | _⟩ := c1
  · rfl
  · obtain ⟨t2, _ | _⟩ := c2 <;> rfl
  · rfl

theorem lessOrEq_neg (lt eq : List Ev × Except Err Bool) :
    lessOrEq true lt eq = ((lessOrEq false lt eq).1, (lessOrEq false lt eq).2.map (!·)) := by
  obtain ⟨t1, _ | _ | _⟩ := lt
  · rfl
  · obtain ⟨t2, _ | b⟩ := eq
    · rfl
    · cases b <;> rfl
  · rfl

theorem lessOrEq_length (neg : Bool) (lt eq : List Ev × Except Err Bool) :
    (lessOrEq neg lt eq).1.length ≤ lt.1.length + eq.1.length := by
  obtain ⟨t1, _ | _ | _⟩ := lt
  · exact Nat.le_add_right ..
  · obtain ⟨t2, _ | _⟩ := eq <;> exact Nat.le_of_eq List.length_append
  · exact Nat.le_add_right ..

theorem boolOut_within (c : List Ev × Except Err Bool) (n : Nat) (h : c.1.length ≤ n) :
    BoolWithin n (boolOut c) := by
  obtain ⟨t, _ | b⟩ := c
  · exact ⟨h, fun _ hv => nomatch hv⟩
  · exact ⟨h, fun _ hv => ⟨b, (Res.ok.inj hv).symm⟩⟩

theorem order_derived (op : CmpOp) (m : MapD) (rhs : Opd) (hk : m.metaGet op.key = none) :
    BoolWithin 2 (order op (.map m) rhs) := by
  have h1 := fun (e : Name × MV) k => cmpCall_trace_le_one e.1 k e.2 (.map m) rhs
  have err : ∀ e, BoolWithin 2 ⟨[], .err e⟩ := fun _ => ⟨Nat.zero_le _, fun _ hv => nomatch hv⟩
  cases op <;> simp only [CmpOp.key] at hk <;> simp only [order, CmpOp.key, hk]
  case le | gt =>
    split
    · rw [lessThenEqual_eq]
      exact boolOut_within _ _ (Nat.le_trans (lessOrEq_length ..) (Nat.add_le_add (h1 ..) (h1 ..)))
    · exact err _
  case ge =>
    split
    · exact cmpCall_negated_within _ _ (Nat.le_succ_of_le (h1 ..))
    · exact err _
  all_goals exact err _

theorem order_map_trace_le_two (op : CmpOp) (m : MapD) (rhs : Opd) :
    (order op (.map m) rhs).trace.length ≤ 2 := by
  cases hk : m.metaGet op.key with
  | some p => simp only [order, hk]; exact Nat.le_succ_of_le (invoke_events ..).length_le
  | none => exact (order_derived op m rhs hk).1

theorem equality_map_trace_le_one (ne : Bool) (m : MapD) (rhs : Opd) :
    (equality ne (.map m) rhs).trace.length ≤ 1 := by
  by_cases hr : rhs = .prim .null
  · subst hr; exact Nat.zero_le _
  · rw [equality_map ne m rhs hr]
    split
    · split
      · exact (invoke_events ..).length_le
      · split
        · exact (cmpCall_negated_within _ _ (cmpCall_trace_le_one ..)).1
        · split <;> exact Nat.zero_le _
    · split
      · exact (invoke_events ..).length_le
      · split <;> exact Nat.zero_le _

theorem hostcmp_nil (h : HostD) (hn : h.impl = []) (m : HM) (a : AV) : h.cmp m a = ([], .unimpl) := by
  obtain ⟨name, gen, impl, iter⟩ := h
  subst hn
  cases m <;> rfl

/-- what every host comparison, overridden or derived, hands the VM: as for a derived map
comparison, a Bool or an error after at most two calls -/
def CmpOk (c : List Ev × HostRes) : Prop := BoolWithin 2 ⟨c.1, c.2.pass⟩

/-- `less`, then possibly `equal`, combined into a Bool: the shape of the derived defaults -/
theorem cmpOk_less_then_equal (c1 c2 : List Ev × HostRes) (b0 : Bool) (f : AV → Bool) :
    c1.1.length ≤ 1 → c2.1.length ≤ 1 →
    CmpOk (match c1 with
      | (t1, .ok v) =>
        if truthy v then (t1, .ok (.bool b0))
        else match c2 with
          | (t2, .ok w) => (t1 ++ t2, .ok (.bool (f w)))
          | (t2, r) => (t1 ++ t2, r)
      | (t1, r) => (t1, r)) := by
  obtain ⟨t1, r1⟩ := c1
  obtain ⟨t2, r2⟩ := c2
  intro h1 h2
  have h12 : (t1 ++ t2).length ≤ 2 := by rw [List.length_append]; exact Nat.add_le_add h1 h2
  have h1' : t1.length ≤ 2 := Nat.le_succ_of_le h1
  cases r1 with
  | ok v =>
    dsimp only
    split
    · exact ⟨h1', fun _ hv => ⟨_, (Res.ok.inj hv).symm⟩⟩
    · cases r2 with
      | ok w => exact ⟨h12, fun _ hv => ⟨_, (Res.ok.inj hv).symm⟩⟩
      | unimpl => exact ⟨h12, nofun⟩
      | err => exact ⟨h12, nofun⟩
  | unimpl => exact ⟨h1', nofun⟩
  | err => exact ⟨h1', nofun⟩

theorem cmpOk_negated (c : List Ev × HostRes) : c.1.length ≤ 1 →
    CmpOk (match c with
      | (t1, .ok v) => (t1, .ok (.bool (!truthy v)))
      | (t1, r) => (t1, r)) := by
  obtain ⟨t1, r1⟩ := c
  intro h1
  have h1' : t1.length ≤ 2 := Nat.le_succ_of_le h1
  cases r1 with
  | ok v => exact ⟨h1', fun _ hv => ⟨_, (Res.ok.inj hv).symm⟩⟩
  | unimpl => exact ⟨h1', nofun⟩
  | err => exact ⟨h1', nofun⟩

theorem hostcmp_spec (h : HostD) (m : HM) (a : AV) : CmpOk (h.cmp m a) := by
  have h1 := (hostcall_events h .less [a]).length_le
  have h2 := (hostcall_events h .equal [a]).length_le
  unfold HostD.cmp
  split
  · next b _ =>
    refine ⟨Nat.le_succ_of_le (Nat.le_refl 1), ?_⟩
    cases b.hostRes h.av with
    | ok w => exact fun _ hv => ⟨_, (Res.ok.inj hv).symm⟩
    | _ => exact nofun
  · split
    · exact cmpOk_less_then_equal _ _ true truthy h1 h2
    · exact cmpOk_less_then_equal _ _ false (fun w => !truthy w) h1 h2
    · exact cmpOk_negated _ h1
    · exact cmpOk_negated _ h2
    · exact ⟨Nat.zero_le _, nofun⟩

theorem compareOp_host_within (op : CmpOp) (h : HostD) (rhs : Opd) :
    BoolWithin 2 (compareOp op (.host h) rhs) := by
  have hE : ∀ ne, BoolWithin 2 (equality ne (.host h) rhs) := by
    intro ne
    by_cases hr : rhs = .prim .null
    · subst hr; exact ⟨Nat.zero_le _, fun _ hv => ⟨_, (Res.ok.inj hv).symm⟩⟩
    · rw [equality_host ne h rhs hr]; exact hostcmp_spec h _ _
  cases op
  case eq | ne => exact hE _
  all_goals exact hostcmp_spec h _ rhs.av

/-- the statement of `C17Ext2.prim_operand_never_dispatches`, proved here, before the three Props
modules, so that the equation lemmas of the six operations are generated once: the first
`simp [negate, …]` in each of those modules would otherwise generate them again, which is slow to
check -/
theorem protocol_prim_trace (k : PrimK) (i : IdxK) :
    (negate (.prim k)).trace = [] ∧ (notOp (.prim k)).trace = [] ∧ (size (.prim k)).trace = [] ∧
    (index (.prim k) i).trace = [] ∧ (indexAssign (.prim k) i).trace = [] ∧
    (callOp (.prim k)).trace = [] := by
  cases k <;> cases i <;> simp [negate, notOp, size, index, indexAssign, callOp]

end KotoVerif.C17L
