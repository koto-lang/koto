/-
Helper lemmas for C15: the byte-level operations return well-formed UTF-8 on well-formed input
(`utf8_closed`), and the trim specification. Core Lean only.
-/
import KotoVerif.Lemmas.C15Ops

namespace KotoVerif.Str
open KotoVerif.Utf8

theorem findAt_boundary {pat s : Bytes} {e : Nat} (hpv : validUtf8 pat = true) (hp : pat ≠ [])
    (h : findAt pat s = some e) : isBoundary s e = true := by
  cases pat with
  | nil => exact absurd rfl hp
  | cons c pr =>
    have hle := findAt_some_le h
    have := isBoundary_append_noncont (s.take e) (pr ++ s.drop (e + (c :: pr).length)) (valid_head_noncont hpv)
    rwa [List.length_take_of_le (by omega), ← List.cons_append, ← List.append_assoc, ← findAt_some h] at this

theorem valid_around_find {pat rest : Bytes} {e : Nat} (hpv : validUtf8 pat = true) (hp : pat ≠ [])
    (hv : validUtf8 rest = true) (hf : findAt pat rest = some e) :
    validUtf8 (rest.take e) = true ∧ validUtf8 (rest.drop (e + pat.length)) = true := by
  have h := valid_split hv (findAt_boundary hpv hp hf)
  rw [drop_of_findAt hf] at h
  exact ⟨h.1, valid_of_append_left h.2 hpv⟩

theorem splitNE_valid {pat : Bytes} (hpv : validUtf8 pat = true) (hp : pat ≠ []) :
    ∀ (fuel : Nat) (rest : Bytes), rest.length < fuel → validUtf8 rest = true →
      ∀ p ∈ splitNE pat fuel rest, validUtf8 p = true :=
  splitNE_induct hp (P := fun s xs => validUtf8 s = true → ∀ p ∈ xs, validUtf8 p = true)
    (fun _ _ hv => List.forall_mem_singleton.mpr hv)
    fun _ _ _ hf _ ih hv =>
      List.forall_mem_cons.mpr ⟨(valid_around_find hpv hp hv hf).1, ih (valid_around_find hpv hp hv hf).2⟩

theorem replaceNE_valid {pat to : Bytes} (hpv : validUtf8 pat = true) (hp : pat ≠ []) (htv : validUtf8 to = true) :
    ∀ (fuel : Nat) (rest : Bytes), validUtf8 rest = true → validUtf8 (replaceNE pat to fuel rest) = true
  | 0, _, hv => hv
  | fuel + 1, rest, hv => by
    simp only [replaceNE]
    cases hf : findAt pat rest with
    | none => exact hv
    | some e =>
      obtain ⟨h1, h2⟩ := valid_around_find hpv hp hv hf
      exact valid_append (valid_append h1 htv) (replaceNE_valid hpv hp htv fuel _ h2)

/-- `replace` with the empty pattern (the replacement is inserted around every character) -/
theorem replaceB_empty_valid {to s : Bytes} (htv : validUtf8 to = true) (hv : validUtf8 s = true) :
    validUtf8 (replaceB [] to s) = true := by
  simp only [replaceB, List.isEmpty_nil, if_true]
  apply valid_append htv
  apply valid_flatten
  intro x hx
  obtain ⟨c, hc, rfl⟩ := List.mem_map.mp hx
  exact valid_append (charsOf_valid hv c hc) htv

theorem stripCR_valid {l : Bytes} (h : validUtf8 l = true) : validUtf8 (stripCR l) = true := by
  simp only [stripCR]
  split
  · rename_i hl
    obtain ⟨ys, hys⟩ := List.getLast?_eq_some_iff.mp hl
    rw [hys, List.dropLast_concat]
    rw [hys] at h
    exact (valid_append_noncont h (by decide)).1
  · exact h

/-- a line feed is a character of its own: the text before it and the text after it are well-formed -/
theorem linesB_valid : ∀ {s : Bytes}, validUtf8 s = true → ∀ l ∈ linesB s [], validUtf8 l = true :=
  linesB_induct (P := fun s xs => validUtf8 s = true → ∀ l ∈ xs, validUtf8 l = true)
    (fun pre _ hv => by
      split
      · exact nofun
      · exact List.forall_mem_singleton.mpr hv)
    (fun _ _ _ _ ih hv =>
      have h2 := valid_append_noncont hv (by decide : isCont 10 = false)
      List.forall_mem_cons.mpr ⟨stripCR_valid h2.1, ih (valid_of_append_left (a := [10]) h2.2 (by decide))⟩) _

/-! ### trim -/

/-- `trim_start`: the removed front consists of white-space characters only, the rest does not start with
one, and nothing else is changed -/
theorem trimStartB_spec (U : UFacts) (s : Bytes) :
    ∃ ws : List Bytes, (∀ c ∈ ws, U.isWhite c = true) ∧ s = flat ws ++ trimStartB U s ∧
      (∀ c, ((charsOf s).dropWhile U.isWhite).head? = some c → U.isWhite c = false) ∧
      isBoundary s (flat ws).length = true := by
  refine ⟨(charsOf s).takeWhile U.isWhite, List.all_eq_true.mp List.all_takeWhile, ?_, ?_, ?_⟩
  · simp only [trimStartB, flat]
    rw [← List.flatten_append, List.takeWhile_append_dropWhile, charsOf_flatten]
  · intro c hc
    have := List.head?_dropWhile_not U.isWhite (charsOf s)
    rw [hc] at this; exact this
  · exact boundary_between_groups (List.takeWhile_append_dropWhile (p := U.isWhite) (l := charsOf s)).symm

theorem trimStartB_valid (U : UFacts) {s : Bytes} (h : validUtf8 s = true) : validUtf8 (trimStartB U s) = true :=
  valid_flatten fun x hx => charsOf_valid h x (List.dropWhile_sublist _ |>.subset hx)

/-- `trim_end`: the removed end consists of white-space characters only and starts at a character boundary
(no clause says that the rest does not end with one) -/
theorem trimEndB_spec (U : UFacts) (s : Bytes) :
    ∃ ws : List Bytes, (∀ c ∈ ws, U.isWhite c = true) ∧ s = trimEndB U s ++ flat ws ∧
      isBoundary s (trimEndB U s).length = true := by
  have hsplit : charsOf s = ((charsOf s).reverse.dropWhile U.isWhite).reverse ++
      ((charsOf s).reverse.takeWhile U.isWhite).reverse := by
    rw [← List.reverse_append, List.takeWhile_append_dropWhile, List.reverse_reverse]
  refine ⟨((charsOf s).reverse.takeWhile U.isWhite).reverse, ?_, ?_, ?_⟩
  · intro c hc
    exact List.all_eq_true.mp List.all_takeWhile c (List.mem_reverse.mp hc)
  · simp only [trimEndB, flat]
    rw [← List.flatten_append, ← hsplit, charsOf_flatten]
  · exact boundary_between_groups hsplit

theorem trimEndB_valid (U : UFacts) {s : Bytes} (h : validUtf8 s = true) : validUtf8 (trimEndB U s) = true :=
  valid_flatten fun x hx =>
    charsOf_valid h x (List.mem_reverse.mp (List.dropWhile_sublist _ |>.subset (List.mem_reverse.mp hx)))

theorem trimB_valid (U : UFacts) {s : Bytes} (h : validUtf8 s = true) : validUtf8 (trimB U s) = true :=
  trimEndB_valid U (trimStartB_valid U h)

def repPat (n : Nat) (pat : Bytes) : Bytes := (List.replicate n pat).flatten

/-- `trim_start_matches(pattern)`: the input is some copies of the pattern followed by the result, and the
result does not start with the pattern -/
theorem trimStartMatchesB_spec {pat : Bytes} (hp : pat ≠ []) : ∀ (fuel : Nat) (s : Bytes), s.length ≤ fuel →
    ∃ k, s = repPat k pat ++ trimStartMatchesB pat fuel s ∧
      pat.isPrefixOf (trimStartMatchesB pat fuel s) = false
  | 0, s, h => by
    have : s = [] := List.length_eq_zero_iff.mp (by omega)
    subst this
    refine ⟨0, by simp [repPat, trimStartMatchesB], ?_⟩
    simp only [trimStartMatchesB]
    cases pat with
    | nil => exact absurd rfl hp
    | cons c r => rfl
  | fuel + 1, s, h => by
    have hne : pat.isEmpty = false := List.isEmpty_eq_false_iff.mpr hp
    simp only [trimStartMatchesB, hne, Bool.false_eq_true, if_false]
    split
    · rename_i hpre
      have hs := prefix_split hpre
      have hpl : 0 < pat.length := List.length_pos_iff.mpr hp
      have hl : (s.drop pat.length).length ≤ fuel := by
        simp only [List.length_drop]; omega
      obtain ⟨k, hk, hnp⟩ := trimStartMatchesB_spec hp fuel (s.drop pat.length) hl
      refine ⟨k + 1, ?_, hnp⟩
      conv => lhs; rw [hs, hk]
      simp [repPat, List.replicate_succ]
    · rename_i hnp
      exact ⟨0, by simp [repPat], Bool.eq_false_iff.mpr hnp⟩

end KotoVerif.Str
