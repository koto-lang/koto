/-
C04 — the guide-level evaluator `Try.run`, one unfolding at a time. `run` looks at the outcome of a sub-run
in some forty places; the model names three of these operators (`callResult`, `catchWith`, `thenFinally`).
Here the other shapes get a name, and `runStep P f` is the body of `run` written with them, `f` standing for
the evaluator on smaller fuel (`run_succ`). A fact about every run is then a fact that `runStep` hands on
from `f`, and needs one lemma per operator.
-/
import KotoVerif.Model.TryEval

namespace KotoVerif.Try

/-! ## the sequencing operators -/

def bindOk (r : Res) (k : Val → St → Res) : Res :=
  match r with
  | (.ok v, σ) => k v σ
  | r => r

def bindVals (r : Res) (k : List Val → St → Res) : Res :=
  match r with
  | (.vals vs, σ) => k vs σ
  | r => r

def loopCtl (r : Res) (next : St → Res) : Res :=
  match r with
  | (.ok _, σ) => next σ
  | (.cont, σ) => next σ
  | (.brk, σ) => (.ok .null, σ)
  | r => r

/-- a generator's code ended other than by yielding: seen from the consuming frame -/
def genExit (l : List Val) : Res → Res
  | (.err v, σ) => (.err v, { σ with locals := l })
  | (.oof, σ) => (.oof, { σ with locals := l })
  | (_, σ) => (.ok .null, { σ with locals := l })

/-- a generator segment: a yielded value goes to the loop body, anything else ends the loop -/
def genSeg (l : List Val) (r : Res) (k : Val → St → Res) : Res :=
  match r with
  | (.ok v, σ) => k v σ
  | r => genExit l r

/-- One unfolding of `run`, with `f` standing for the evaluator on smaller fuel. -/
def runStep (P : Prog) (f : Task → St → Res) : Task → St → Res
  | .ev (.lit v), σ => (.ok v, σ)
  | .ev (.var x), σ => (.ok (getLocal σ x), σ)
  | .ev (.gvar k), σ => (.ok (.list k), σ)
  | .ev (.assign x e), σ => bindOk (f (.ev e) σ) fun v σ' => (.ok v, setLocal σ' x v)
  | .ev (.emit tag none), σ => (.ok .null, emitEv σ ⟨tag, none⟩)
  | .ev (.emit tag (some e)), σ =>
    bindOk (f (.ev e) σ) fun v σ' =>
      bindVals (f (.disp [v] []) σ') fun ts σ'' => (.ok .null, emitEv σ'' ⟨tag, some (.toks v ts)⟩)
  | .ev (.emitI tag es), σ =>
    bindVals (f (.evs es []) σ) fun vs σ' =>
      bindVals (f (.disp (vs.intersperse (.str .sep)) []) σ') fun ts σ'' =>
        (.ok .null, emitEv σ'' ⟨tag, some (.parts ts)⟩)
  | .ev (.mkList es), σ =>
    bindVals (f (.evs es []) σ) fun vs σ' => (.ok (.list (alloc σ' vs).2), (alloc σ' vs).1)
  | .ev (.mkObj c), σ => (.ok (.obj c), σ)
  | .ev (.index l i), σ =>
    bindVals (f (.evs [l, i] []) σ) fun vs σ' =>
      match vs with
      | [.list r, .int k] =>
        if 0 ≤ k ∧ k.toNat < (σ'.heap.getD r []).length then (.ok ((σ'.heap.getD r []).getD k.toNat .null), σ')
        else (.err (errK (.index k (σ'.heap.getD r []).length)), σ')
      | _ => (.err (errK (.other 2)), σ')
  | .ev (.push l e), σ =>
    bindVals (f (.evs [l, e] []) σ) fun vs σ' =>
      match vs with
      | [.list r, v] => (.ok (.list r), { σ' with heap := σ'.heap.set r (σ'.heap.getD r [] ++ [v]) })
      | _ => (.err (errK (.other 3)), σ')
  | .ev (.setIdx l i e), σ =>
    bindVals (f (.evs [l, i, e] []) σ) fun vs σ' =>
      match vs with
      | [.list r, .int k, v] =>
        if 0 ≤ k ∧ k.toNat < (σ'.heap.getD r []).length then
          (.ok v, { σ' with heap := σ'.heap.set r ((σ'.heap.getD r []).set k.toNat v) })
        else (.err (errK (.invalidIndex k)), σ')
      | _ => (.err (errK (.other 4)), σ')
  | .ev (.bin op a b), σ =>
    bindVals (f (.evs [a, b] []) σ) fun vs σ' =>
      match vs with
      | [.int x, .int y] =>
        match op with
        | .add => (.ok (.int (x + y)), σ')
        | .lt => (.ok (.bool (decide (x < y))), σ')
        | .ge => (.ok (.bool (decide (x ≥ y))), σ')
      | [.obj c, y] =>
        match op with
        | .add =>
          match (P.classes.getD c {}).addFn with
          | some g => f (.callF g [.obj c, y]) σ'
          | none => (.err (errK (.binop op (.obj c) y.ty)), σ')
        | .lt =>
          match (P.classes.getD c {}).ltFn with
          | some g => f (.callF g [.obj c, y]) σ'
          | none => (.err (errK (.binop op (.obj c) y.ty)), σ')
        | .ge =>
          match (P.classes.getD c {}).ltFn with
          | some g =>
            bindOk (f (.callF g [.obj c, y]) σ') fun v σ'' =>
              match v with
              | .bool b => (.ok (.bool (!b)), σ'')
              | v => (.err (errK (.expectedBool v.ty)), σ'')
          | none => (.err (errK (.binop op (.obj c) y.ty)), σ')
      | [x, y] => (.err (errK (.binop op x.ty y.ty)), σ')
      | _ => (.err (errK (.other 5)), σ')
  | .ev (.call g args), σ => bindVals (f (.evs args []) σ) fun vs σ' => f (.callF g vs) σ'
  | .ev (.native k g l), σ =>
    bindOk (f (.ev l) σ) fun v σ' =>
      match v with
      | .list r => f (.nat k g r (σ'.heap.getD r []) [] (.int 0)) σ'
      | _ => (.err (errK (.other 6)), σ')
  | .ev (.throw e), σ => bindOk (f (.ev e) σ) fun v σ' => (.err v, σ')
  | .ev (.fault k), σ => (.err (errK k.ek), σ)
  | .ev (.seq es), σ => f (.seq es .null) σ
  | .ev (.ite c t e), σ =>
    bindOk (f (.ev c) σ) fun v σ' => if v.truthy then f (.ev t) σ' else f (.ev e) σ'
  | .ev (.forList x l body), σ =>
    bindOk (f (.ev l) σ) fun v σ' =>
      match v with
      | .list r => f (.loopL x (σ'.heap.getD r []) body) σ'
      | _ => (.err (errK (.other 7)), σ')
  | .ev (.forGen x g args body), σ =>
    bindVals (f (.evs args []) σ) fun vs σ' =>
      match P.defs[g]? with
      | some d =>
        if !d.isGen then (.err (errK (.other 8)), σ')
        else if vs.length < d.nparams then (.err (errK (.argsFew vs.length d.nparams)), σ')
        else if vs.length > d.nparams then (.err (errK (.argsMany vs.length d.nparams)), σ')
        else f (.loopG x (vs ++ List.replicate (d.nlocals - vs.length) Val.null) d.segs d.tail body) σ'
      | none => (.err (errK (.other 9)), σ')
  | .ev .brk, σ => (.brk, σ)
  | .ev (.brkV e), σ => bindOk (f (.ev e) σ) fun _ σ' => (.brk, σ')
  | .ev .cont, σ => (.cont, σ)
  | .ev (.ret e), σ => bindOk (f (.ev e) σ) fun v σ' => (.ret v, σ')
  | .ev (.try_ b cs none), σ => catchWith (f (.ev b) σ) fun v σ1 => f (.catches cs v) σ1
  | .ev (.try_ b cs (some fin)), σ =>
    thenFinally (catchWith (f (.ev b) σ) fun v σ1 => f (.catches cs v) σ1) fun σ1 => f (.ev fin) σ1
  | .evs [] acc, σ => (.vals acc, σ)
  | .evs (e :: rest) acc, σ => bindOk (f (.ev e) σ) fun v σ' => f (.evs rest (acc ++ [v])) σ'
  | .seq [] last, σ => (.ok last, σ)
  | .seq (e :: rest) _, σ => bindOk (f (.ev e) σ) fun v σ' => f (.seq rest v) σ'
  | .catches [] v, σ => (.err v, σ)
  | .catches ((ty, x, body) :: rest) v, σ =>
    if accepts ty v then f (.ev body) (bindCatch σ ty x v) else f (.catches rest v) σ
  | .callF g args, σ =>
    match P.defs[g]? with
    | some d =>
      if d.isGen then (.err (errK (.other 10)), σ)
      else if args.length < d.nparams then (.err (errK (.argsFew args.length d.nparams)), σ)
      else if args.length > d.nparams then (.err (errK (.argsMany args.length d.nparams)), σ)
      else
        callResult σ.locals
          (f (.ev d.body) { σ with locals := args ++ List.replicate (d.nlocals - args.length) Val.null })
    | none => (.err (errK (.other 11)), σ)
  | .nat k _ r [] accL accV, σ =>
    match k with
    | .each => (.ok (.list (alloc σ accL).2), (alloc σ accL).1)
    | .keep => (.ok (.list (alloc σ accL).2), (alloc σ accL).1)
    | .fold => (.ok accV, σ)
    | .sort =>
      match intKeys accL with
      | some ks =>
        (.ok (.list r), { σ with heap := σ.heap.set r ((sortByKey (ks.zip (σ.heap.getD r []))).map (·.2)) })
      | none => (.err (errK (.other 12)), σ)
  | .nat k g r (it :: rest) accL accV, σ =>
    bindOk (f (.callF g (match k with | .fold => [accV, it] | _ => [it])) σ) fun v σ' =>
      match k with
      | .each => f (.nat k g r rest (accL ++ [v]) accV) σ'
      | .keep =>
        match v with
        | .bool b => f (.nat k g r rest (if b then accL ++ [it] else accL) accV) σ'
        | v => (.err (errK (.pred v.ty)), σ')
      | .fold => f (.nat k g r rest accL v) σ'
      | .sort => f (.nat k g r rest (accL ++ [v]) accV) σ'
  | .loopL _ [] _, σ => (.ok .null, σ)
  | .loopL x (it :: rest) body, σ =>
    loopCtl (f (.ev body) (setLocal σ x it)) fun σ' => f (.loopL x rest body) σ'
  | .disp [] acc, σ => (.vals acc, σ)
  | .disp (.list r :: rest) acc, σ =>
    f (.disp (σ.heap.getD r [] ++ .str .rb :: rest) (acc ++ [.str .lb])) σ
  | .disp (.obj c :: rest) acc, σ =>
    match (P.classes.getD c {}).dispFn with
    | some g =>
      bindOk (f (.callF g [.obj c]) σ) fun v σ' =>
        match v with
        | .str (.lit n) => f (.disp rest (acc ++ [.str (.shown n)])) σ'
        | _ => (.err (errK (.other 13)), σ')
    | none => f (.disp rest (acc ++ [.obj c])) σ
  | .disp (v :: rest) acc, σ => f (.disp rest (acc ++ [v])) σ
  | .loopG _ gl [] tail _, σ => genExit σ.locals (f (.ev tail) { σ with locals := gl })
  | .loopG x gl ((pre, yv) :: rest) tail body, σ =>
    genSeg σ.locals (f (.seq [pre, yv] .null) { σ with locals := gl }) fun v σ' =>
      loopCtl (f (.ev body) (setLocal { σ' with locals := σ.locals } x v)) fun σ'' =>
        f (.loopG x σ'.locals rest tail body) σ''


/-! ## what the operators do on the outcomes that proofs meet -/

section
variable (v : Val) (σ : St)

@[simp] theorem bindOk_ok (k : Val → St → Res) : bindOk (.ok v, σ) k = k v σ := rfl
@[simp] theorem bindOk_err (k : Val → St → Res) : bindOk (.err v, σ) k = (.err v, σ) := rfl
@[simp] theorem bindVals_vals (vs : List Val) (k : List Val → St → Res) : bindVals (.vals vs, σ) k = k vs σ := rfl
@[simp] theorem bindVals_err (k : List Val → St → Res) : bindVals (.err v, σ) k = (.err v, σ) := rfl
@[simp] theorem loopCtl_ok (k : St → Res) : loopCtl (.ok v, σ) k = k σ := rfl
@[simp] theorem loopCtl_cont (k : St → Res) : loopCtl (.cont, σ) k = k σ := rfl
@[simp] theorem loopCtl_brk (k : St → Res) : loopCtl (.brk, σ) k = (.ok .null, σ) := rfl
@[simp] theorem loopCtl_err (k : St → Res) : loopCtl (.err v, σ) k = (.err v, σ) := rfl
@[simp] theorem genSeg_ok (l : List Val) (k : Val → St → Res) : genSeg l (.ok v, σ) k = k v σ := rfl
@[simp] theorem genSeg_err (l : List Val) (k : Val → St → Res) :
    genSeg l (.err v, σ) k = (.err v, { σ with locals := l }) := rfl
@[simp] theorem genExit_err (l : List Val) : genExit l (.err v, σ) = (.err v, { σ with locals := l }) := rfl
@[simp] theorem catchWith_err (k : Val → St → Res) : catchWith (.err v, σ) k = k v σ := rfl

end

theorem callResult_err (l : List Val) (v : Val) (σ : St) :
    callResult l (.err v, σ) = (.err v, { σ with locals := l }) := rfl

theorem run_succ (cfg : Cfg) (P : Prog) (n : Nat) (t : Task) (σ : St) :
    run cfg P (n + 1) t σ = runStep P (run cfg P n) t σ := by
  cases t with
  | ev e =>
    cases e with
    | emit tag arg => cases arg <;> rfl
    | try_ b cs fin => cases fin <;> rfl
    -- In the constructs that follow the model looks at the outcome and at the value(s) in it with one
    -- `match`; `runStep` binds the outcome first and the continuation looks at the value.
    | native k g l | forList x l body =>
      dsimp only [run, runStep]
      generalize run cfg P n _ σ = r
      obtain ⟨s, σ'⟩ := r
      cases s with
      | ok v => cases v <;> rfl
      | _ => rfl
    | index l i | push l e | setIdx l i e =>
      dsimp only [run, runStep]
      generalize run cfg P n _ σ = r
      obtain ⟨s, σ'⟩ := r
      cases s with
      | vals vs =>
        rw [bindVals_vals]
        split
        · rename_i heq; cases heq; rfl
        · rename_i hn heq
          cases heq
          split
          · apply False.elim; apply hn; rfl
          · rfl
        · rename_i hn; exact (hn _ _ rfl).elim
      | _ => rfl
    | bin op a b =>
      dsimp only [run, runStep]
      generalize run cfg P n _ σ = r
      obtain ⟨s, σ'⟩ := r
      cases s with
      | vals vs =>
        rw [bindVals_vals]
        split
        · rename_i heq; cases heq; rfl
        · rename_i heq
          cases heq
          cases op with
          | ge =>
            dsimp only
            generalize (P.classes.getD _ {}).ltFn = d
            cases d with
            | none => rfl
            | some g =>
              dsimp only
              generalize run cfg P n _ σ' = r
              obtain ⟨s, σ''⟩ := r
              cases s with
              | ok v => cases v <;> rfl
              | _ => rfl
          | _ => rfl
        · rename_i h1 h2 heq
          cases heq
          split
          · rename_i heq; cases heq; exact (h1 _ _ rfl rfl).elim
          · rename_i heq; cases heq; exact (h2 _ rfl).elim
          · rename_i heq; cases heq; rfl
          · rename_i hn; exact (hn _ _ rfl).elim
        · rename_i h1 h2 h3 heq
          cases heq
          split
          · exact (h1 _ _ rfl).elim
          · exact (h2 _ _ rfl).elim
          · exact (h3 _ _ rfl).elim
          · rfl
        · rename_i hn; exact (hn _ _ rfl).elim
      | _ => rfl
    | _ => rfl
  | evs es acc => cases es <;> rfl
  | seq es last => cases es <;> rfl
  | catches cs v =>
    cases cs with
    | nil => rfl
    | cons c rest => rfl
  | callF g args => rfl
  | nat k g r items accL accV => cases items <;> rfl
  | loopL x items body => cases items <;> rfl
  | disp todo acc =>
    cases todo with
    | nil => rfl
    | cons v rest =>
      cases v with
      | obj c =>
        dsimp only [run, runStep]
        generalize (P.classes.getD c {}).dispFn = d
        cases d with
        | none => rfl
        | some g =>
          dsimp only
          generalize run cfg P n _ σ = r
          obtain ⟨s, σ'⟩ := r
          cases s with
          | ok v => cases v with
            | str s => cases s <;> rfl
            | _ => rfl
          | _ => rfl
      | _ => rfl
  | loopG x gl segs tail body =>
    cases segs with
    | nil => rfl
    | cons s rest =>
      dsimp only [run, runStep]
      generalize run cfg P n _ _ = r
      obtain ⟨s, σ'⟩ := r
      cases s <;> rfl

theorem runStep_callF_body {P : Prog} {g : Nat} {d : Def} {args : List Val} (f : Task → St → Res) (σ : St)
    (hd : P.defs[g]? = some d) (hg : d.isGen = false) (ha : args.length = d.nparams) :
    runStep P f (.callF g args) σ = callResult σ.locals
      (f (.ev d.body) { σ with locals := args ++ List.replicate (d.nlocals - args.length) Val.null }) := by
  dsimp only [runStep]
  rw [hd]
  exact (if_neg (hg ▸ Bool.false_ne_true)).trans
    ((if_neg (Nat.not_lt.2 (Nat.le_of_eq ha.symm))).trans (if_neg (Nat.not_lt.2 (Nat.le_of_eq ha))))

/-- Whatever is called: the call runs one body in a fresh frame and comes back through `callResult`, or
fails in the caller's state without running anything. -/
theorem runStep_callF (P : Prog) (g : Nat) (args : List Val) (σ : St) :
    (∃ d, P.defs[g]? = some d ∧ ∀ f, runStep P f (.callF g args) σ = callResult σ.locals
      (f (.ev d.body) { σ with locals := args ++ List.replicate (d.nlocals - args.length) Val.null })) ∨
    ∃ k, ∀ f, runStep P f (.callF g args) σ = (.err (errK k), σ) := by
  cases hd : P.defs[g]? with
  | none => exact .inr ⟨.other 11, fun f => by dsimp only [runStep]; rw [hd]⟩
  | some d =>
    by_cases hg : d.isGen = true
    · exact .inr ⟨.other 10, fun f => by dsimp only [runStep]; rw [hd]; exact if_pos hg⟩
    by_cases hlt : args.length < d.nparams
    · exact .inr ⟨_, fun f => by dsimp only [runStep]; rw [hd]; exact (if_neg hg).trans (if_pos hlt)⟩
    by_cases hgt : args.length > d.nparams
    · exact .inr ⟨_, fun f => by
        dsimp only [runStep]; rw [hd]; exact (if_neg hg).trans ((if_neg hlt).trans (if_pos hgt))⟩
    · exact .inl ⟨d, rfl, fun f => runStep_callF_body f σ hd (Bool.eq_false_iff.2 hg) (by omega)⟩

end KotoVerif.Try
