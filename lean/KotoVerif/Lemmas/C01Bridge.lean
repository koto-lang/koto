/-
C01 — bridge between the two C01 layers:

  (A) the reference semantics `Core.eval` (`Model/CoreEval.lean`, the formalised language guide), and
  (B) the reference evaluator `Compile.eval` of the compiler model (`Model/Compile.lean`), which is
      parametric in an operator semantics `Sem`.

`coreSem F` instantiates `Sem` with exactly the value operations `Core.eval` uses, `toCore` embeds the
compiler model's expression language into the guide's syntax, and `lockstep` shows that on well-formed
expressions (`wfE`), from related environments, the two evaluators agree step for step.

`Sem` has a `compoundop` for `x op= e` separate from the `binop` of `x op e`: the guide (and the
runtime's `run_compound_assign_op!`) accepts numbers only in compound assignment whereas `+` also
joins strings / lists / tuples / maps, so with one operator for both the two models differ on
`x += x` with `x = 'a'` (`compound_regression_witness`).
-/
import KotoVerif.Lemmas.C01CompileInv
import KotoVerif.Lemmas.C01Eval

namespace KotoVerif.C01
open KotoVerif KotoVerif.Core

def ofExcept {α : Type} : Except Err α → Option α
  | .ok v => some v
  | .error _ => none

/-- arithmetic operators of the compiler model as guide operators (comparison operators are
excluded by `wfE`; they are sent to an arbitrary value) -/
def toArith : Compile.BinOp → ArithOp
  | .add => .add | .sub => .sub | .mul => .mul | .div => .div | .rem => .rem | .pow => .pow
  | _ => .add

/-- comparison operators of the compiler model as guide operators (arithmetic operators are
excluded by `wfE`) -/
def toCmp : Compile.BinOp → CmpOp
  | .lt => .lt | .le => .le | .gt => .gt | .ge => .ge | .eq => .eq | .ne => .ne
  | _ => .eq

/-- the operator semantics of the language guide: exactly the value operations `Core.eval` applies
for literals, `-`/`not`, `+ - * / % ^` (`arithV`), the six comparisons (`cmpV`) and compound
assignment (`opAssignV`: numbers only); an error (including `unmodelled`) is `none` -/
@[reducible] def coreSem (F : FloatOps) : Compile.Sem where
  V := Val
  null := Val.null
  ofBool := Val.bool
  ofInt := Val.int
  truthy := Val.truthy
  unop op v :=
    match op with
    | .neg => ofExcept (negV F v)
    | .not => some (Val.bool (!v.truthy))
  binop op a b :=
    if op.isComparison then ofExcept ((cmpV F (toCmp op) a b).map Val.bool)
    else ofExcept (arithV F (toArith op) a b)
  compoundop op a b := ofExcept (opAssignV F (toArith op) a b)

def toCore : Compile.Expr → Core.Expr
  | .null => .lit .null
  | .bool b => .lit (.bool b)
  | .int n => .lit (Val.int n)
  | .var x => .var x
  | .un op e =>
    match op with
    | .neg => .neg (toCore e)
    | .not => .not (toCore e)
  | .bin op a b => .arith (toArith op) (toCore a) (toCore b)
  | .cmp op a b => .cmp (toCore a) (.cons (toCmp op) (toCore b) .nil)
  | .chain3 op1 op2 a b c =>
    .cmp (toCore a) (.cons (toCmp op1) (toCore b) (.cons (toCmp op2) (toCore c) .nil))
  | .and a b => .and (toCore a) (toCore b)
  | .or a b => .or (toCore a) (toCore b)
  | .assign x e => .assign x (toCore e)
  | .compound op x e => .opAssign (toArith op) x (toCore e)
  | .seq a b => .block (.cons (toCore a) (.cons (toCore b) .nil))
  | .ite c t e => .ifElse (toCore c) (toCore t) (toCore e)
  | .ifThen c t => .ifThen (toCore c) (toCore t)

/-- `bin` / `compound` carry an arithmetic operator, `cmp` / `chain3` comparison operators -/
def wfE : Compile.Expr → Bool
  | .null | .bool _ | .int _ | .var _ => true
  | .un _ a => wfE a
  | .bin op a b => !op.isComparison && wfE a && wfE b
  | .cmp op a b => op.isComparison && wfE a && wfE b
  | .chain3 op1 op2 a b c => op1.isComparison && op2.isComparison && wfE a && wfE b && wfE c
  | .and a b | .or a b | .seq a b | .ifThen a b => wfE a && wfE b
  | .assign _ e => wfE e
  | .compound op _ e => !op.isComparison && wfE e
  | .ite c t e => wfE c && wfE t && wfE e

def EnvRel {F : FloatOps} (ρ : Compile.Env (coreSem F)) (env : List (Nat × Val)) : Prop :=
  ∀ x, ρ x = Core.lookup x env

/-- fuel that suffices for `toCore e` (there are no loops in the fragment) -/
def need : Compile.Expr → Nat
  | .null | .bool _ | .int _ | .var _ => 1
  | .un _ a => need a + 1
  | .bin _ a b => need a + need b + 1
  | .cmp _ a b => need a + need b + 2
  | .chain3 _ _ a b c => need a + need b + need c + 3
  | .and a b | .or a b | .ifThen a b => need a + need b + 1
  | .assign _ e | .compound _ _ e => need e + 1
  | .seq a b => need a + need b + 3
  | .ite c t e => need c + need t + need e + 1

theorem need_pos (e : Compile.Expr) : 1 ≤ need e := by
  cases e <;> exact Nat.le_add_left 1 _

/-- `coreSem F` with compound assignment computed by the binary operator, as in a `Sem` with one
operator for `x op e` and `x op= e` -/
def coreSemOld (F : FloatOps) : Compile.Sem := { coreSem F with compoundop := (coreSem F).binop }

/-- `x += x` -/
def progCompound : Compile.Expr := .compound .add 0 (.var 0)

/-- **regression witness.** With `compoundop := binop` the two models would differ on `x += x`,
`x = 'a'`: `Compile.eval` would compute `x + x = 'aa'`, the guide semantics — like the runtime's
`run_compound_assign_op!` — raises a type error. (With `coreSem` itself both fail:
`Props/C01Bridge.lean`.) -/
theorem compound_regression_witness :
    (Compile.eval (coreSemOld stubFloatOps) progCompound
        (fun x => if x = 0 then some (Val.str [97]) else none)).map (·.1) matches some (Val.str [97, 97])
    ∧ (Core.eval stubFloatOps 5 (toCore progCompound) { env := [(0, Val.str [97])] }).1 matches .err .type := by
  constructor
  · decide
  · decide

theorem EnvRel.set {F : FloatOps} {ρ : Compile.Env (coreSem F)} {s : St} (h : EnvRel ρ s.env)
    (x : Nat) (v : Val) : EnvRel (Compile.Env.set ρ x v) (s.set x v).env := by
  intro y
  simp only [Compile.Env.set, St.set, lookup_update, h y]

theorem EnvRel.empty {F : FloatOps} : EnvRel (F := F) (fun _ => none) ({} : St).env := by
  intro x; rfl

/-- the outcome `r` of `Compile.eval (coreSem F)` and the outcome `c` of `Core.eval` agree: both
succeed with the same value, related environments and no new output (`out` = the trace before), or
both fail -/
def Agree {F : FloatOps} (r : Option (Val × Compile.Env (coreSem F))) (c : Res Val × St) (out : List Ev) : Prop :=
  match r with
  | some (v, ρ') => ∃ st', c = (.ok v, st') ∧ EnvRel ρ' st'.env ∧ st'.out = out
  | none => ∃ er st', c = (.err er, st')

theorem Agree.ok {F : FloatOps} {v : Val} {ρ' : Compile.Env (coreSem F)} {s : St} (h : EnvRel ρ' s.env) :
    Agree (some (v, ρ')) (.ok v, s) s.out := ⟨s, rfl, h, rfl⟩

theorem Agree.err {F : FloatOps} (er : Err) (s : St) (out : List Ev) :
    Agree (F := F) none (.err er, s) out := ⟨er, s, rfl⟩

theorem Agree.ok_inv {F : FloatOps} {r : Option (Val × Compile.Env (coreSem F))} {c : Res Val} {st' : St}
    {out : List Ev} (h : Agree r (c, st') out) (hc : ∀ er, c ≠ .err er) :
    ∃ v ρ', c = .ok v ∧ r = some (v, ρ') ∧ EnvRel ρ' st'.env ∧ st'.out = out := by
  cases r with
  | none => obtain ⟨er, s, h2⟩ := h; cases h2; exact absurd rfl (hc er)
  | some p => obtain ⟨s, h2, h3, h4⟩ := h; cases h2; exact ⟨_, _, rfl, rfl, h3, h4⟩

theorem Agree.err_inv {F : FloatOps} {r : Option (Val × Compile.Env (coreSem F))} {er : Err} {st' : St}
    {out : List Ev} (h : Agree r (.err er, st') out) : r = none := by
  cases r with
  | none => rfl
  | some p => obtain ⟨s, h2, _⟩ := h; cases h2

theorem agree_bind {F : FloatOps} {r : Option (Val × Compile.Env (coreSem F))} {c : Res Val × St}
    {out : List Ev} {k1 : Val → Compile.Env (coreSem F) → Option (Val × Compile.Env (coreSem F))}
    {k2 : Val → St → Res Val × St}
    (h : Agree r c out)
    (hk : ∀ v ρ1 s1, EnvRel ρ1 s1.env → Agree (k1 v ρ1) (k2 v s1) s1.out) :
    Agree (obind (S := coreSem F) r k1) (seq c k2) out := by
  cases r with
  | none => obtain ⟨er, st', rfl⟩ := h; exact ⟨er, st', rfl⟩
  | some p =>
    obtain ⟨v, ρ1⟩ := p
    obtain ⟨st', rfl, hr, ho⟩ := h
    exact ho ▸ hk v ρ1 st' hr

theorem binop_cmp {F : FloatOps} {op : Compile.BinOp} (h : op.isComparison = true) (a b : Val) :
    (coreSem F).binop op a b = ofExcept ((cmpV F (toCmp op) a b).map Val.bool) := by
  simp only [coreSem, h, if_true]

theorem binop_arith {F : FloatOps} {op : Compile.BinOp} (h : op.isComparison = false) (a b : Val) :
    (coreSem F).binop op a b = ofExcept (arithV F (toArith op) a b) := by
  simp [coreSem, h]

theorem agree_arith {F : FloatOps} {op : Compile.BinOp} (hop : op.isComparison = false) (va vb : Val)
    {ρ2 : Compile.Env (coreSem F)} {s2 : St} (hr : EnvRel ρ2 s2.env) :
    Agree (((coreSem F).binop op va vb).map (fun r => (r, ρ2))) (lift (arithV F (toArith op) va vb) s2) s2.out := by
  rw [binop_arith hop]
  cases arithV F (toArith op) va vb with
  | error e => exact Agree.err e s2 _
  | ok r => exact Agree.ok hr

theorem agree_cmp_last {F : FloatOps} {op : Compile.BinOp} (hop : op.isComparison = true) (va vb : Val)
    {ρ2 : Compile.Env (coreSem F)} {s2 : St} (hr : EnvRel ρ2 s2.env) :
    Agree (((coreSem F).binop op va vb).map (fun r => (r, ρ2)))
      (chainStep (cmpV F (toCmp op) va vb) s2 fun s => (.ok (.bool true), s)) s2.out := by
  rw [binop_cmp hop]
  cases cmpV F (toCmp op) va vb with
  | error e => exact Agree.err e s2 _
  | ok b => cases b <;> exact Agree.ok hr

theorem Agree.of_fuel {F : FloatOps} {r : Option (Val × Compile.Env (coreSem F))} {e : Expr} {st : St}
    {k j n : Nat} (hn : k + j ≤ n) (h : ∀ m, k ≤ m → Agree r (Core.eval F (m + j) e st) st.out) :
    Agree r (Core.eval F n e st) st.out := by
  obtain ⟨m, rfl⟩ := Nat.exists_eq_add_of_le' (Nat.le_trans (Nat.le_add_left j k) hn)
  exact h m (Nat.le_of_add_le_add_right hn)

/-- **lockstep agreement** of the two reference evaluators on the common fragment, for every fuel
`n ≥ need e` -/
theorem lockstep (F : FloatOps) : ∀ (e : Compile.Expr) (ρ : Compile.Env (coreSem F)) (st : St) (n : Nat),
    wfE e = true → EnvRel ρ st.env → need e ≤ n →
    Agree (Compile.eval (coreSem F) e ρ) (Core.eval F n (toCore e) st) st.out := by
  intro e
  induction e with
  | null | bool _ | int _ =>
    intro ρ st n _ hr hn
    refine Agree.of_fuel (j := 1) hn fun m hm => ?_
    simp only [toCore, Compile.eval, eval_lit]
    exact Agree.ok hr
  | var x =>
    intro ρ st n _ hr hn
    refine Agree.of_fuel (j := 1) hn fun m hm => ?_
    simp only [toCore, Compile.eval]
    cases hx : Core.lookup x st.env with
    | none =>
      rw [eval_var_none F m x st hx, hr x, hx]
      exact Agree.err _ _ _
    | some w =>
      rw [eval_var_some F m x st w hx, hr x, hx]
      exact Agree.ok hr
  | un op a iha =>
    intro ρ st n hw hr hn
    refine Agree.of_fuel (j := 1) hn fun m hm => ?_
    simp only [wfE] at hw
    rw [ceval_un]
    cases op with
    | neg =>
      simp only [toCore, eval_neg]
      refine agree_bind (iha ρ st m hw hr hm) ?_
      intro va ρ1 s1 hr1
      show Agree ((ofExcept (negV F va)).map _) _ _
      cases negV F va with
      | error e => exact Agree.err e s1 _
      | ok r => exact Agree.ok hr1
    | not =>
      simp only [toCore, eval_not]
      refine agree_bind (iha ρ st m hw hr hm) ?_
      intro va ρ1 s1 hr1
      exact Agree.ok hr1
  | bin op a b iha ihb =>
    intro ρ st n hw hr hn
    refine Agree.of_fuel (j := 1) hn fun m hm => ?_
    simp only [wfE, Bool.and_eq_true, Bool.not_eq_true'] at hw
    rw [ceval_bin]
    simp only [toCore, eval_arith]
    refine agree_bind (iha ρ st m hw.1.2 hr (by omega)) ?_
    intro va ρ1 s1 hr1
    refine agree_bind (ihb ρ1 s1 m hw.2 hr1 (by omega)) ?_
    intro vb ρ2 s2 hr2
    exact agree_arith hw.1.1 va vb hr2
  | cmp op a b iha ihb =>
    intro ρ st n hw hr hn
    refine Agree.of_fuel (j := 2) hn fun m hm => ?_
    simp only [wfE, Bool.and_eq_true] at hw
    rw [ceval_cmp]
    simp only [toCore, eval_cmp]
    refine agree_bind (iha ρ st (m + 1) hw.1.2 hr (by omega)) ?_
    intro va ρ1 s1 hr1
    rw [evalChain_last]
    refine agree_bind (ihb ρ1 s1 m hw.2 hr1 (by omega)) ?_
    intro vb ρ2 s2 hr2
    exact agree_cmp_last hw.1.1 va vb hr2
  | chain3 op1 op2 a b c iha ihb ihc =>
    intro ρ st n hw hr hn
    refine Agree.of_fuel (j := 3) hn fun m hm => ?_
    simp only [wfE, Bool.and_eq_true] at hw
    obtain ⟨⟨⟨⟨hop1, hop2⟩, hwa⟩, hwb⟩, hwc⟩ := hw
    rw [ceval_chain3]
    simp only [toCore, eval_cmp]
    refine agree_bind (iha ρ st (m + 2) hwa hr (by omega)) ?_
    intro va ρ1 s1 hr1
    rw [evalChain_more]
    refine agree_bind (ihb ρ1 s1 (m + 1) hwb hr1 (by omega)) ?_
    intro vb ρ2 s2 hr2
    simp only [hop1, if_true]
    cases cmpV F (toCmp op1) va vb with
    | error e => exact Agree.err e s2 _
    | ok r =>
      cases r with
      | false => exact Agree.ok hr2
      | true =>
        simp only [Except.map, ofExcept, Val.truthy, if_true, chainStep]
        rw [evalChain_last]
        refine agree_bind (ihc ρ2 s2 m hwc hr2 (by omega)) ?_
        intro vc ρ3 s3 hr3
        exact agree_cmp_last hop2 vb vc hr3
  | and a b iha ihb =>
    intro ρ st n hw hr hn
    refine Agree.of_fuel (j := 1) hn fun m hm => ?_
    simp only [wfE, Bool.and_eq_true] at hw
    rw [ceval_and]
    simp only [toCore, eval_and]
    refine agree_bind (iha ρ st m hw.1 hr (by omega)) ?_
    intro va ρ1 s1 hr1
    show Agree (if va.truthy = true then _ else _) _ _
    split
    · exact ihb ρ1 s1 m hw.2 hr1 (by omega)
    · exact Agree.ok hr1
  | or a b iha ihb =>
    intro ρ st n hw hr hn
    refine Agree.of_fuel (j := 1) hn fun m hm => ?_
    simp only [wfE, Bool.and_eq_true] at hw
    rw [ceval_or]
    simp only [toCore, eval_or]
    refine agree_bind (iha ρ st m hw.1 hr (by omega)) ?_
    intro va ρ1 s1 hr1
    show Agree (if va.truthy = true then _ else _) _ _
    split
    · exact Agree.ok hr1
    · exact ihb ρ1 s1 m hw.2 hr1 (by omega)
  | assign x e ih =>
    intro ρ st n hw hr hn
    refine Agree.of_fuel (j := 1) hn fun m hm => ?_
    simp only [wfE] at hw
    rw [ceval_assign]
    simp only [toCore, eval_assign]
    refine agree_bind (ih ρ st m hw hr hm) ?_
    intro v ρ1 s1 hr1
    exact ⟨s1.set x v, rfl, hr1.set x v, rfl⟩
  | compound op x e ih =>
    intro ρ st n hw hr hn
    refine Agree.of_fuel (j := 1) hn fun m hm => ?_
    simp only [wfE, Bool.and_eq_true, Bool.not_eq_true'] at hw
    rw [ceval_compound]
    simp only [toCore]
    cases hx : Core.lookup x st.env with
    | none =>
      rw [eval_opAssign_none F m x _ _ st hx, hr x, hx]
      exact Agree.err _ _ _
    | some vx =>
      rw [eval_opAssign_some F m x _ _ st vx hx, hr x, hx]
      refine agree_bind (ih ρ st m hw.2 hr hm) ?_
      intro vr ρ1 s1 hr1
      show Agree ((ofExcept (opAssignV F (toArith op) vx vr)).map _) _ _
      cases opAssignV F (toArith op) vx vr with
      | error er => exact Agree.err er s1 _
      | ok r => exact ⟨s1.set x r, rfl, hr1.set x r, rfl⟩
  | seq a b iha ihb =>
    intro ρ st n hw hr hn
    simp only [need] at hn
    obtain ⟨m, rfl⟩ := Nat.exists_eq_add_of_le' (show 4 ≤ n by have := need_pos a; have := need_pos b; omega)
    simp only [wfE, Bool.and_eq_true] at hw
    rw [ceval_seq]
    simp only [toCore, eval_block2]
    refine agree_bind (iha ρ st (m + 2) hw.1 hr (by have := need_pos b; omega)) ?_
    intro va ρ1 s1 hr1
    rw [seq_ok_id]
    exact ihb ρ1 s1 (m + 1) hw.2 hr1 (by have := need_pos a; omega)
  | ite c t e ihc iht ihe =>
    intro ρ st n hw hr hn
    refine Agree.of_fuel (j := 1) hn fun m hm => ?_
    simp only [wfE, Bool.and_eq_true] at hw
    rw [ceval_ite]
    simp only [toCore, eval_ifElse]
    refine agree_bind (ihc ρ st m hw.1.1 hr (by omega)) ?_
    intro vc ρ1 s1 hr1
    show Agree (if vc.truthy = true then _ else _) _ _
    split
    · exact iht ρ1 s1 m hw.1.2 hr1 (by omega)
    · exact ihe ρ1 s1 m hw.2 hr1 (by omega)
  | ifThen c t ihc iht =>
    intro ρ st n hw hr hn
    refine Agree.of_fuel (j := 1) hn fun m hm => ?_
    simp only [wfE, Bool.and_eq_true] at hw
    rw [ceval_ifThen]
    simp only [toCore, eval_ifThen]
    refine agree_bind (ihc ρ st m hw.1 hr (by omega)) ?_
    intro vc ρ1 s1 hr1
    show Agree (if vc.truthy = true then _ else _) _ _
    split
    · exact iht ρ1 s1 m hw.2 hr1 (by omega)
    · exact Agree.ok hr1

/-- lockstep for whatever fuel the guide's evaluation finishes with -/
theorem lockstep_any_fuel (F : FloatOps) (e : Compile.Expr) (ρ : Compile.Env (coreSem F)) (st st' : St)
    (fuel : Nat) (r : Res Val) (hw : wfE e = true) (hr : EnvRel ρ st.env)
    (hev : Core.eval F fuel (toCore e) st = (r, st')) (hnf : r ≠ .nofuel) :
    Agree (Compile.eval (coreSem F) e ρ) (r, st') st.out := by
  rw [← eval_mono F hev hnf (Nat.le_add_right fuel (need e))]
  exact lockstep F e ρ st (fuel + need e) hw hr (Nat.le_add_left _ _)

/-- guide ⊒ compiler model: a successful `Compile.eval (coreSem F)` run is a successful guide run, for
every fuel `≥ need e` -/
theorem bridge_fwd (F : FloatOps) (e : Compile.Expr) (ρ ρ' : Compile.Env (coreSem F)) (st : St) (v : Val)
    (hw : wfE e = true) (hr : EnvRel ρ st.env)
    (hev : Compile.eval (coreSem F) e ρ = some (v, ρ')) :
    ∃ st', (∀ n, need e ≤ n → Core.eval F n (toCore e) st = (.ok v, st'))
      ∧ EnvRel ρ' st'.env ∧ st'.out = st.out := by
  have h0 := lockstep F e ρ st (need e) hw hr (Nat.le_refl _)
  rw [hev] at h0
  obtain ⟨st', h1, h2, h3⟩ := h0
  refine ⟨st', ?_, h2, h3⟩
  exact fun n hn => eval_mono F h1 nofun hn

end KotoVerif.C01
