/-
C13: `Peekable`, as an adaptor and through its script-visible operations (`next`, `next_back`, `peek`,
`peek_back`). The state `⟨inner, front, rear⟩` denotes `front ++ (what inner denotes) ++ rear`
(`peekDen`); `peek` / `peek_back` move one element from `inner` into a cache and leave that sequence
unchanged. Over a forward-only input (`b = false`) `next_back` and `peek_back` answer `None` and change
nothing, so `rear` stays empty (code as of /repo 582d021).
-/
import KotoVerif.Lemmas.C13Adaptors

namespace KotoVerif.Iter

def peekDen {σ : Type} (s : Peek σ) (ys : List Val) : List Val :=
  s.front.toList ++ ys ++ s.rear.toList

theorem peekDen_fresh {σ : Type} (s : σ) (ys : List Val) : peekDen ⟨s, none, none⟩ ys = ys :=
  List.append_nil ys

theorem nil_or_snoc (xs : List Val) : xs = [] ∨ ∃ ini l, xs = ini ++ [l] := by
  rcases List.eq_nil_or_concat xs with h | ⟨a, b, h⟩
  · exact Or.inl h
  · exact Or.inr ⟨a, b, h.trans List.concat_eq_append⟩

/-! ### what one call of the machine does -/

theorem peekableCo_next_some {c : Co} {inner : c.σ} {v : Val} (rear : Option Val)
    (h : (c.next inner).out = some v) :
    (peekableCo c).next ⟨inner, none, rear⟩ = ⟨some v, ⟨(c.next inner).st, none, rear⟩, (c.next inner).ev⟩ := by
  simp only [peekableCo, h]

theorem peekableCo_next_none {c : Co} {inner : c.σ} (rear : Option Val) (h : (c.next inner).out = none) :
    (peekableCo c).next ⟨inner, none, rear⟩ = ⟨rear, ⟨(c.next inner).st, none, none⟩, (c.next inner).ev⟩ := by
  simp only [peekableCo, h]

theorem peekableCo_back_cached {c : Co} (hb : c.bidir = true) (inner : c.σ) (front : Option Val) (v : Val) :
    (peekableCo c).back ⟨inner, front, some v⟩ = ⟨some v, ⟨inner, front, none⟩, []⟩ := by
  simp only [peekableCo, hb, if_true]

theorem peekableCo_back_some {c : Co} (hb : c.bidir = true) {inner : c.σ} {v : Val} (front : Option Val)
    (h : (c.back inner).out = some v) :
    (peekableCo c).back ⟨inner, front, none⟩ = ⟨some v, ⟨(c.back inner).st, front, none⟩, (c.back inner).ev⟩ := by
  simp only [peekableCo, hb, h, if_true]

theorem peekableCo_back_none {c : Co} (hb : c.bidir = true) {inner : c.σ} (front : Option Val)
    (h : (c.back inner).out = none) :
    (peekableCo c).back ⟨inner, front, none⟩ = ⟨front, ⟨(c.back inner).st, none, none⟩, (c.back inner).ev⟩ := by
  simp only [peekableCo, hb, h, if_true]

theorem peekableCo_back_fwdOnly {c : Co} (hb : c.bidir = false) (s : Peek c.σ) :
    (peekableCo c).back s = ⟨none, s, []⟩ := by
  simp only [peekableCo, hb, Bool.false_eq_true, if_false]

/-! ### one call on the denoted sequence -/

theorem peekable_next_spec {b : Bool} {c : Co} {s : Peek c.σ} {ys : List Val} (h : Den b c s.inner ys) :
    ((peekableCo c).next s).out = (peekDen s ys).head? ∧
    ((peekableCo c).next s).st.front = none ∧ (s.rear = none → ((peekableCo c).next s).st.rear = none) ∧
    ∃ ys', Den b c ((peekableCo c).next s).st.inner ys' ∧
      peekDen ((peekableCo c).next s).st ys' = (peekDen s ys).tail := by
  obtain ⟨inner, front, rear⟩ := s
  cases front with
  | some v => exact ⟨rfl, rfl, id, ys, h, rfl⟩
  | none =>
    cases ys with
    | nil =>
      rw [peekableCo_next_none rear h.next.1]
      exact ⟨by cases rear <;> rfl, rfl, fun _ => rfl, [], h.next.2, by cases rear <;> rfl⟩
    | cons y ys =>
      rw [peekableCo_next_some rear h.next.1]
      exact ⟨rfl, rfl, id, ys, h.next.2, rfl⟩

theorem peekable_back_spec {c : Co} (hb : c.bidir = true) {s : Peek c.σ} {ys : List Val}
    (h : Den true c s.inner ys) :
    ((peekableCo c).back s).out = (peekDen s ys).getLast? ∧ ((peekableCo c).back s).st.rear = none ∧
    ∃ ys', Den true c ((peekableCo c).back s).st.inner ys' ∧
      peekDen ((peekableCo c).back s).st ys' = (peekDen s ys).dropLast := by
  obtain ⟨inner, front, rear⟩ := s
  cases rear with
  | some v =>
    rw [peekableCo_back_cached hb]
    exact ⟨List.getLast?_concat.symm, rfl, ys, h, (List.append_nil _).trans List.dropLast_concat.symm⟩
  | none =>
    rcases nil_or_snoc ys with rfl | ⟨ini, l, rfl⟩
    · rw [peekableCo_back_none hb front h.back.1]
      exact ⟨by cases front <;> rfl, rfl, [], h.back.2, by cases front <;> rfl⟩
    · have ⟨b1, b2⟩ := h.back
      rw [List.getLast?_concat] at b1
      rw [List.dropLast_concat] at b2
      rw [peekableCo_back_some hb front b1]
      have e : peekDen ⟨inner, front, none⟩ (ini ++ [l]) = peekDen ⟨inner, front, none⟩ ini ++ [l] := by
        show front.toList ++ (ini ++ [l]) ++ [] = front.toList ++ ini ++ [] ++ [l]
        rw [List.append_nil, List.append_nil, List.append_assoc]
      rw [e, List.getLast?_concat, List.dropLast_concat]
      exact ⟨rfl, rfl, ini, b2, rfl⟩

theorem peekable_den {b : Bool} {c : Co} (hb : c.bidir = b) {s : Peek c.σ} {ys : List Val}
    (h : Den b c s.inner ys) : Den b (peekableCo c) s (peekDen s ys) := by
  refine den_coind (c := peekableCo c) (fun st xs => ∃ ys, Den b c st.inner ys ∧ xs = peekDen st ys) ?_ ?_
    ⟨ys, h, rfl⟩
  · rintro (st : Peek c.σ) _ ⟨ys, h, rfl⟩
    have ⟨n1, _, _, ys', n4, n5⟩ := peekable_next_spec h
    exact ⟨n1, ys', n4, n5.symm⟩
  · rintro rfl (st : Peek c.σ) _ ⟨ys, h, rfl⟩
    have ⟨n1, _, ys', n4, n5⟩ := peekable_back_spec hb h
    exact ⟨n1, ys', n4, n5.symm⟩

/-! ### the four operations -/

def peekOut (b : Bool) : PeekOp → List Val → Option Val
  | .next, xs | .peek, xs => xs.head?
  | .back, xs | .peekBack, xs => if b then xs.getLast? else none

def peekRest (b : Bool) : PeekOp → List Val → List Val
  | .next, xs => xs.tail
  | .back, xs => if b then xs.dropLast else xs
  | .peek, xs | .peekBack, xs => xs

theorem head_cons_tail {xs : List Val} {v : Val} (h : xs.head? = some v) : v :: xs.tail = xs := by
  obtain ⟨ys, rfl⟩ := List.head?_eq_some_iff.mp h
  rfl

theorem dropLast_snoc_last {xs : List Val} {v : Val} (h : xs.getLast? = some v) : xs.dropLast ++ [v] = xs := by
  obtain ⟨ini, rfl⟩ := List.getLast?_eq_some_iff.mp h
  rw [List.dropLast_concat]

theorem peekStep_spec {b : Bool} {c : Co} (hb : c.bidir = b) (op : PeekOp) {s : Peek c.σ} {ys : List Val}
    (h : Den b c s.inner ys) (hr : b = false → s.rear = none) :
    (peekStep c op s).out = peekOut b op (peekDen s ys) ∧
    (b = false → (peekStep c op s).st.rear = none) ∧
    ∃ ys', Den b c (peekStep c op s).st.inner ys' ∧
      peekDen (peekStep c op s).st ys' = peekRest b op (peekDen s ys) := by
  have ⟨n1, n2, n3, ys', n4, n5⟩ := peekable_next_spec h
  cases op with
  | next => exact ⟨n1, fun hf => n3 (hr hf), ys', n4, n5⟩
  | peek =>
    cases hf : s.front with
    | some v =>
      have e : peekStep c .peek s = ⟨some v, s, []⟩ := by simp only [peekStep, peekFront, hf]
      rw [e]
      exact ⟨by rw [peekDen, hf]; rfl, hr, ys, h, rfl⟩
    | none =>
      cases ho : ((peekableCo c).next s).out with
      | none =>
        have e : peekStep c .peek s = ⟨none, ((peekableCo c).next s).st, ((peekableCo c).next s).ev⟩ := by
          simp only [peekStep, peekFront, hf, ho]
        rw [e]
        rw [ho] at n1
        have hD : peekDen s ys = [] := List.head?_eq_none_iff.mp n1.symm
        exact ⟨n1, fun hf => n3 (hr hf), ys', n4, by rw [n5, hD]; rfl⟩
      | some v =>
        have e : peekStep c .peek s =
            ⟨some v, { ((peekableCo c).next s).st with front := some v }, ((peekableCo c).next s).ev⟩ := by
          simp only [peekStep, peekFront, hf, ho]
        rw [e]
        rw [ho] at n1
        refine ⟨n1, fun hf => n3 (hr hf), ys', n4, ?_⟩
        have : peekDen { ((peekableCo c).next s).st with front := some v } ys' =
            v :: peekDen ((peekableCo c).next s).st ys' := by
          simp only [peekDen, n2]; rfl
        rw [this, n5]
        exact head_cons_tail n1.symm
  | back =>
    cases b with
    | false => rw [peekStep, peekableCo_back_fwdOnly hb]; exact ⟨rfl, hr, ys, h, rfl⟩
    | true =>
      have ⟨b1, _, ys', b4, b5⟩ := peekable_back_spec hb h
      exact ⟨b1, nofun, ys', b4, b5⟩
  | peekBack =>
    cases b with
    | false =>
      have e : peekStep c .peekBack s = ⟨none, s, []⟩ := by
        simp only [peekStep, peekRear, hr rfl, peekableCo_back_fwdOnly hb]
      rw [e]; exact ⟨rfl, hr, ys, h, rfl⟩
    | true =>
      have ⟨b1, b2, ys', b4, b5⟩ := peekable_back_spec hb h
      suffices hs : (peekStep c .peekBack s).out = peekOut true .peekBack (peekDen s ys) ∧
          ∃ ys', Den true c (peekStep c .peekBack s).st.inner ys' ∧
            peekDen (peekStep c .peekBack s).st ys' = peekRest true .peekBack (peekDen s ys) from
        ⟨hs.1, nofun, hs.2⟩
      cases hf : s.rear with
      | some v =>
        have e : peekStep c .peekBack s = ⟨some v, s, []⟩ := by simp only [peekStep, peekRear, hf]
        rw [e]
        exact ⟨by rw [peekDen, hf]; exact List.getLast?_concat.symm, ys, h, rfl⟩
      | none =>
        cases ho : ((peekableCo c).back s).out with
        | none =>
          have e : peekStep c .peekBack s = ⟨none, ((peekableCo c).back s).st, ((peekableCo c).back s).ev⟩ := by
            simp only [peekStep, peekRear, hf, ho]
          rw [e]
          rw [ho] at b1
          have hD : peekDen s ys = [] := List.getLast?_eq_none_iff.mp b1.symm
          exact ⟨b1, ys', b4, by rw [b5, hD]; rfl⟩
        | some v =>
          have e : peekStep c .peekBack s =
              ⟨some v, { ((peekableCo c).back s).st with rear := some v }, ((peekableCo c).back s).ev⟩ := by
            simp only [peekStep, peekRear, hf, ho]
          rw [e]
          rw [ho] at b1
          refine ⟨b1, ys', b4, ?_⟩
          have : peekDen { ((peekableCo c).back s).st with rear := some v } ys' =
              peekDen ((peekableCo c).back s).st ys' ++ [v] := by
            simp only [peekDen, b2]; simp
          rw [this, b5]
          exact dropLast_snoc_last b1.symm

def idealPeek (b : Bool) : List PeekOp → List Val → List (Option Val)
  | [], _ => []
  | op :: ops, xs => peekOut b op xs :: idealPeek b ops (peekRest b op xs)

theorem runPeekOps_spec {b : Bool} {c : Co} (endM : Val) (hb : c.bidir = b) (ops : List PeekOp)
    {s : Peek c.σ} {ys : List Val} (h : Den b c s.inner ys) (hr : b = false → s.rear = none) :
    (runPeekOps c endM ops s).1 = (idealPeek b ops (peekDen s ys)).map (fun o => o.getD endM) := by
  induction ops generalizing s ys with
  | nil => rfl
  | cons op ops ih =>
    have ⟨p1, p2, ys', p3, p4⟩ := peekStep_spec hb op h hr
    simp only [runPeekOps, idealPeek, List.map_cons]
    rw [ih p3 p2, p1, p4]

theorem specPeekOps_eq (ops : List PeekOp) (xs : List Val) :
    specPeekOps ops xs = (idealPeek true ops xs).map (fun o => o.getD endMarker) := by
  induction ops generalizing xs with
  | nil => rfl
  | cons op ops ih => cases op <;> exact congrArg _ (ih _)

theorem specPeekOpsF_eq (ops : List PeekOp) (xs : List Val) :
    specPeekOpsF ops xs = (idealPeek false ops xs).map (fun o => o.getD endMarker) := by
  induction ops generalizing xs with
  | nil => rfl
  | cons op ops ih => cases op <;> exact congrArg _ (ih _)

/-- operations other than `next` leave the ideal forward-only sequence as it is -/
theorem specPeekOpsF_append (ops rest : List PeekOp) (xs : List Val)
    (hn : ∀ o ∈ ops, o ≠ PeekOp.next) :
    specPeekOpsF (ops ++ rest) xs = specPeekOpsF ops xs ++ specPeekOpsF rest xs := by
  induction ops with
  | nil => rfl
  | cons op ops ih =>
    have h2 := ih (fun o ho => hn o (List.mem_cons_of_mem _ ho))
    cases op with
    | next => exact absurd rfl (hn _ List.mem_cons_self)
    | back => exact congrArg _ h2
    | peek => exact congrArg _ h2
    | peekBack => exact congrArg _ h2

end KotoVerif.Iter
