/-
Binding (C02): the register shuffle of `call_koto_function` in closed form
(`layout`, `callKoto_ok_iff`), `call_generator` = `call_koto_function`, the loop invariant of
`unpack_packed_arguments` against `specArgs`, the capture operations at function creation, and
`Frame::new`'s slots (`findSlot`, `dedup`).
-/
import KotoVerif.Model.Bind

namespace KotoVerif.C02
open KotoVerif KotoVerif.Bind

/-! ### closed form of `callKoto` -/

/-- the callee's initial registers as the guide prescribes them -/
def layout (f : FnVal) (self : Val) (args : List Val) : Regs :=
  self :: args.take f.expected
    ++ (f.captures.take f.optCount).drop (min args.length f.expected - f.required)
    ++ (if f.variadic then [Val.tuple (args.drop f.expected)] else [])
    ++ f.captures.drop f.optCount

theorem take_args_junk (args junk : List Val) (self : Val) :
    (self :: (args ++ junk)).take (1 + args.length) = self :: args :=
  List.take_left' (l₁ := self :: args) (Nat.add_comm _ 1)

theorem resize_exact (rs : Regs) : resize rs rs.length = rs := by
  simp [resize]

theorem resize_take (rs : Regs) (n : Nat) (h : n ≤ rs.length) : resize rs n = rs.take n := by
  simp [resize, h]

theorem drop_take_defaults (cs : List Val) (o skip k : Nat) (h : skip + k = o) :
    (cs.drop skip).take k = (cs.take o).drop skip := by
  subst h
  rw [List.drop_take]
  simp

theorem expected_eq (f : FnVal) (hopt : f.optCount ≤ f.expected) :
    f.expected = f.required + f.optCount :=
  (Nat.sub_add_cancel hopt).symm

theorem defaults_length (f : FnVal) (n : Nat) (hopt : f.optCount ≤ f.expected)
    (hcap : f.optCount ≤ f.captures.length) (h1 : f.required ≤ n) :
    ((f.captures.take f.optCount).drop (min n f.expected - f.required)).length
      = f.expected - min n f.expected := by
  have he := expected_eq f hopt
  rw [List.length_drop, List.length_take, Nat.min_eq_left hcap]
  rcases Nat.le_total n f.expected with h | h
  · rw [Nat.min_eq_left h]; omega
  · rw [Nat.min_eq_right h]; omega

theorem applyOptional_ok (rs : Regs) (f : FnVal) (n : Nat) (hopt : f.optCount ≤ f.expected)
    (hcap : f.optCount ≤ f.captures.length) (h1 : f.required ≤ n) :
    applyOptional rs f n f.expected
      = .ok (rs ++ (f.captures.take f.optCount).drop (min n f.expected - f.required)) := by
  have he := expected_eq f hopt
  simp only [applyOptional]
  split
  · rename_i hlt
    have e1 : ¬ (f.expected - n > f.optCount) := by omega
    have e2 : ¬ (f.captures.length < f.expected - n) := by omega
    have e3 : f.optCount - (f.expected - n) = n - f.required := by omega
    rw [if_neg e1, if_neg e2, drop_take_defaults f.captures f.optCount _ (f.expected - n) (by omega), e3,
      Nat.min_eq_left (Nat.le_of_lt hlt)]
  · rename_i hge
    have hnil : (f.captures.take f.optCount).drop (min n f.expected - f.required) = [] := by
      apply List.drop_eq_nil_of_le
      rw [List.length_take, Nat.min_eq_left hcap, Nat.min_eq_right (Nat.le_of_not_lt hge)]
      omega
    rw [hnil, List.append_nil]

theorem applyVariadic_ok (f : FnVal) (self : Val) (args D : List Val)
    (hD : D.length = f.expected - min args.length f.expected)
    (h2 : f.variadic = true ∨ args.length ≤ f.expected) :
    applyVariadic (self :: args ++ D) 1 args.length f f.expected
      = .ok (self :: args.take f.expected ++ D
              ++ (if f.variadic then [Val.tuple (args.drop f.expected)] else [])) := by
  unfold applyVariadic
  cases hv : f.variadic with
  | false =>
    have hle : args.length ≤ f.expected := by simpa [hv] using h2
    simp only [Bool.false_eq_true, if_false, if_neg (Nat.not_lt.mpr hle), List.append_nil,
      List.take_of_length_le hle]
  | true =>
    simp only [if_true]
    by_cases hge : args.length ≥ f.expected
    · -- no default was needed; the extra arguments are collected
      have hnil : D = [] := List.eq_nil_of_length_eq_zero (by omega)
      subst hnil
      have hd : (self :: args).drop (1 + f.expected) = args.drop f.expected := by
        rw [Nat.add_comm]; rfl
      have ht : (self :: args).take (1 + f.expected) = self :: args.take f.expected := by
        rw [Nat.add_comm]; rfl
      have e1 : ¬ (args.length ≥ f.expected
          ∧ 1 + f.expected + (args.length - f.expected) > (self :: args).length) := by
        simp; omega
      have e2 : (args.drop f.expected).take (args.length - f.expected) = args.drop f.expected :=
        List.take_of_length_le (by simp)
      rw [List.append_nil, if_neg e1, if_pos hge, resize_take _ _ (by simp; omega), hd, ht, e2,
        List.append_nil]
    · -- the frame holds exactly the declared parameters; the variadic tuple is empty
      have hlen : (self :: args ++ D).length = 1 + f.expected := by simp [hD]; omega
      have e1 : args.take f.expected = args := List.take_of_length_le (by omega)
      have e2 : args.drop f.expected = [] := List.drop_eq_nil_of_le (by omega)
      rw [if_neg (fun h => hge h.1), if_neg hge, ← hlen, resize_exact, e1, e2]

theorem callKoto_layout (f : FnVal) (self : Val) (args junk : List Val)
    (hopt : f.optCount ≤ f.expected) (hcap : f.optCount ≤ f.captures.length)
    (h1 : f.required ≤ args.length) (h2 : f.variadic = true ∨ args.length ≤ f.expected) :
    callKoto (self :: (args ++ junk)) args.length f = .ok (layout f self args) := by
  simp only [callKoto, take_args_junk, applyOptional_ok _ f _ hopt hcap h1, bind, Except.bind,
    applyVariadic_ok f self args _ (defaults_length f _ hopt hcap h1) h2]
  rfl

theorem callKoto_too_few (f : FnVal) (self : Val) (args junk : List Val)
    (h : args.length < f.required) :
    callKoto (self :: (args ++ junk)) args.length f = .error .insufficient := by
  have hreq : f.required = f.expected - f.optCount := rfl
  have e1 : args.length < f.expected := by omega
  have e2 : f.expected - args.length > f.optCount := by omega
  simp only [callKoto, take_args_junk, applyOptional, if_pos e1, if_pos e2]
  rfl

theorem callKoto_too_many (f : FnVal) (self : Val) (args junk : List Val)
    (hv : f.variadic = false) (h : args.length > f.expected) :
    callKoto (self :: (args ++ junk)) args.length f = .error .tooMany := by
  have e1 : ¬ args.length < f.expected := by omega
  simp only [callKoto, take_args_junk, applyOptional, if_neg e1, bind, Except.bind, applyVariadic, hv,
    Bool.false_eq_true, if_false, if_pos h]

theorem callKoto_ok_iff (f : FnVal) (self : Val) (args junk : List Val) (rs : Regs)
    (hopt : f.optCount ≤ f.expected) (hcap : f.optCount ≤ f.captures.length) :
    callKoto (self :: (args ++ junk)) args.length f = .ok rs
      ↔ (f.required ≤ args.length ∧ (f.variadic = true ∨ args.length ≤ f.expected))
        ∧ rs = layout f self args := by
  by_cases h1 : f.required ≤ args.length
  · by_cases h2 : f.variadic = true ∨ args.length ≤ f.expected
    · rw [callKoto_layout f self args junk hopt hcap h1 h2]
      exact ⟨fun h => ⟨⟨h1, h2⟩, (Except.ok.inj h).symm⟩, fun h => h.2 ▸ rfl⟩
    · have hv : f.variadic = false := by
        cases hv : f.variadic
        · rfl
        · exact absurd (Or.inl hv) h2
      rw [callKoto_too_many f self args junk hv (by have := fun h => h2 (Or.inr h); omega)]
      exact ⟨fun h => (nomatch h), fun h => absurd h.1.2 h2⟩
  · rw [callKoto_too_few f self args junk (by omega)]
    exact ⟨fun h => (nomatch h), fun h => absurd h.1.1 h1⟩

/-- `call_generator` (arguments copied into the new VM) binds exactly like `call_koto_function`,
errors included. -/
theorem callGenerator_eq (f : FnVal) (self : Val) (args junk : List Val) :
    callGenerator (self :: (args ++ junk)) args.length f
      = callKoto (self :: (args ++ junk)) args.length f := by
  unfold callGenerator callKoto
  rw [take_args_junk]
  have h0 : getReg (self :: (args ++ junk)) 0 = self := rfl
  have hd1 : (self :: (args ++ junk)).drop 1 = args ++ junk := rfl
  have hdk : (self :: (args ++ junk)).drop (1 + f.expected) = (args ++ junk).drop f.expected := by
    rw [Nat.add_comm]; rfl
  simp only [h0, hd1, hdk]
  by_cases hlt : args.length < f.expected
  · -- fewer arguments than declared: nothing extra to copy
    have hmin : min f.expected args.length = args.length := by omega
    have ht : (args ++ junk).take args.length = args := by simp
    have hz : args.length - f.expected = 0 := by omega
    rw [hmin, ht, hz]
    simp only [List.take_zero, List.append_nil]
    rfl
  · have hmin : min f.expected args.length = f.expected := by omega
    rw [hmin]
    have ht : (args ++ junk).take f.expected = args.take f.expected := by
      rw [List.take_append_of_le_length (by omega)]
    have hA (rs : Regs) : applyOptional rs f args.length f.expected = .ok rs := by
      unfold applyOptional; simp [hlt]
    have hx : ((args ++ junk).drop f.expected).take (args.length - f.expected) = args.drop f.expected := by
      rw [List.drop_append_of_le_length (by omega)]
      rw [List.take_append_of_le_length (by simp)]
      exact List.take_of_length_le (by simp)
    simp only [hA, bind, Except.bind, ht, hx]
    have : [self] ++ args.take f.expected ++ args.drop f.expected = self :: args := by
      simp [List.take_append_drop]
    rw [this]

/-! ### reading the layout: registers by segment, frame size -/

theorem getD_app_left (A B : List Val) (n : Nat) (d : Val) (h : n < A.length) :
    (A ++ B).getD n d = A.getD n d := by
  simp [List.getD_eq_getElem?_getD, List.getElem?_append_left h]

theorem getD_app_right (A B : List Val) (n : Nat) (d : Val) (h : A.length ≤ n) :
    (A ++ B).getD n d = B.getD (n - A.length) d := by
  simp [List.getD_eq_getElem?_getD, List.getElem?_append_right h]

theorem getD_take (l : List Val) (k i : Nat) (d : Val) (h : i < k) : (l.take k).getD i d = l.getD i d := by
  simp [List.getD_eq_getElem?_getD, h]

theorem getD_drop (l : List Val) (k i : Nat) (d : Val) : (l.drop k).getD i d = l.getD (k + i) d := by
  simp [List.getD_eq_getElem?_getD, List.getElem?_drop]

theorem getReg_frame (self : Val) (A D T : List Val) :
    (∀ i, i < A.length → getReg (self :: A ++ D ++ T) (1 + i) = A.getD i .null)
    ∧ (∀ i, A.length ≤ i → i < A.length + D.length →
        getReg (self :: A ++ D ++ T) (1 + i) = D.getD (i - A.length) .null)
    ∧ (∀ k, getReg (self :: A ++ D ++ T) (1 + (A.length + D.length) + k) = T.getD k .null) := by
  refine ⟨fun i hi => ?_, fun i h1 h2 => ?_, fun k => ?_⟩
  · rw [List.cons_append, List.cons_append, getReg, Nat.add_comm 1 i, List.getD_cons_succ,
      getD_app_left _ _ _ _ (by simp; omega), getD_app_left _ _ _ _ hi]
  · rw [List.cons_append, List.cons_append, getReg, Nat.add_comm 1 i, List.getD_cons_succ,
      getD_app_left _ _ _ _ (by simp; omega), getD_app_right _ _ _ _ h1]
  · have e : 1 + (A.length + D.length) + k = ((A ++ D).length + k) + 1 := by simp; omega
    rw [List.cons_append, List.cons_append, getReg, e, List.getD_cons_succ,
      getD_app_right _ _ _ _ (by omega), Nat.add_sub_cancel_left]

theorem params_filled (f : FnVal) (args : List Val) (hopt : f.optCount ≤ f.expected)
    (hcap : f.optCount ≤ f.captures.length) (h1 : f.required ≤ args.length) :
    (args.take f.expected).length
      + ((f.captures.take f.optCount).drop (min args.length f.expected - f.required)).length
        = f.expected := by
  rw [defaults_length f _ hopt hcap h1, List.length_take]
  omega

theorem argCount_eq (f : FnVal) (hvar : f.variadic = true → f.argCount ≥ 1) :
    f.argCount = f.expected + (if f.variadic then 1 else 0) := by
  unfold FnVal.expected
  cases hv : f.variadic with
  | false => rfl
  | true =>
    have := hvar hv
    simp only [if_true]
    omega

theorem variadic_slot_length (f : FnVal) (X : List Val) :
    (if f.variadic then [Val.tuple X] else []).length = if f.variadic then 1 else 0 := by
  cases f.variadic <;> rfl

theorem layout_length (f : FnVal) (self : Val) (args : List Val)
    (hopt : f.optCount ≤ f.expected) (hcap : f.optCount ≤ f.captures.length)
    (hvar : f.variadic = true → f.argCount ≥ 1)
    (h1 : f.required ≤ args.length) :
    (layout f self args).length = 1 + f.argCount + (f.captures.length - f.optCount) := by
  have hAD := params_filled f args hopt hcap h1
  have hC : (f.captures.drop f.optCount).length = f.captures.length - f.optCount := List.length_drop
  rw [argCount_eq f hvar]
  simp only [layout, List.length_append, List.length_cons, hC, variadic_slot_length]
  omega

/-! ### packed arguments -/

/-- the documented meaning: every packed argument is replaced by its elements -/
def specArgs (iter : Val → Option (List Val)) : List CallArg → List Val
  | [] => []
  | (v, true) :: as => (iter v).getD [] ++ specArgs iter as
  | (v, false) :: as => v :: specArgs iter as

def allIterable (iter : Val → Option (List Val)) : List CallArg → Prop
  | [] => True
  | (v, true) :: as => (iter v).isSome ∧ allIterable iter as
  | (_, false) :: as => allIterable iter as

theorem specArgs_plain (iter : Val → Option (List Val)) (vs : List Val) :
    specArgs iter (vs.map (fun v => (v, false))) = vs := by
  induction vs with
  | nil => rfl
  | cons v vs ih => simp [specArgs, ih]

theorem allIterable_plain (iter : Val → Option (List Val)) (vs : List Val) :
    allIterable iter (vs.map (fun v => (v, false))) := by
  induction vs with
  | nil => trivial
  | cons v vs ih => simpa [allIterable] using ih

theorem specArgs_of_packedIdxs_nil (iter : Val → Option (List Val)) (k : Nat) (as : List CallArg)
    (h : packedIdxs k as = []) : specArgs iter as = as.map (·.1) := by
  induction as generalizing k with
  | nil => rfl
  | cons a as ih =>
    obtain ⟨v, p⟩ := a
    cases p
    · simp only [packedIdxs] at h; simp [specArgs, ih _ h]
    · simp [packedIdxs] at h

theorem packedIdxs_eq (off : Nat) (as : List CallArg) :
    packedIdxs off as = ((as.zipIdx off).filter (·.1.2)).map (·.2) := by
  induction as generalizing off with
  | nil => rfl
  | cons a as ih =>
    obtain ⟨v, p⟩ := a
    cases p <;> simp [packedIdxs, ih]

theorem packedIdxs_length_le (off : Nat) (as : List CallArg) : (packedIdxs off as).length ≤ as.length := by
  rw [packedIdxs_eq, List.length_map]
  exact Nat.le_trans (List.length_filter_le _ _) (Nat.le_of_eq List.length_zipIdx)

theorem set_take_mid (P R : List Val) (v x : Val) :
    ((P ++ v :: R).set P.length x).take P.length = P := by
  simp

theorem set_drop_mid (P R : List Val) (v x : Val) :
    ((P ++ v :: R).set P.length x).drop (P.length + 1) = R := by
  simp

theorem getD_mid (P R : List Val) (v d : Val) : (P ++ v :: R).getD P.length d = v := by
  simp

/-- One round of the loop on a packed argument `v` that sits behind the already spliced arguments `P`:
its elements take its place. -/
theorem unpackOne_spec (iter : Val → Option (List Val)) (self v : Val) (P R vs : List Val)
    (orig n k : Nat) (hvs : iter v = some vs)
    (hidx : ((1 + (k : Int)) + ((n : Int) - (orig : Int))).toNat = P.length + 1)
    (hlim : vs.length ≤ 254 - n) :
    unpackOne iter orig (self :: (P ++ v :: R), n) k
      = .ok (self :: (P ++ vs ++ R), n - 1 + vs.length) := by
  have hlt : ¬ (P.length + 1 ≥ (self :: (P ++ v :: R)).length) := by simp
  have hget : getReg (self :: (P ++ v :: R)) (P.length + 1) = v := by
    rw [getReg, List.getD_cons_succ, getD_mid]
  unfold unpackOne
  simp only [hidx, hlt, if_false, hget, hvs, if_neg (Nat.not_lt.mpr hlim)]
  rw [List.set_cons_succ, List.take_succ_cons, List.drop_succ_cons, set_take_mid, set_drop_mid]
  rfl

/-- Loop invariant of `unpack_packed_arguments`. `P` = arguments already spliced (the expansion of
the first `k` original arguments), `rest` = original arguments still in place. -/
theorem unpackLoop_spec (iter : Val → Option (List Val)) (self : Val) (junk : List Val)
    (rest : List CallArg) :
    ∀ (P : List Val) (k orig : Nat),
      orig = k + rest.length →
      allIterable iter rest →
      P.length + rest.length + (specArgs iter rest).length ≤ 254 →
      unpackLoop iter orig (packedIdxs k rest) (self :: (P ++ rest.map (·.1) ++ junk), P.length + rest.length)
        = .ok (self :: (P ++ specArgs iter rest ++ junk), P.length + (specArgs iter rest).length) := by
  induction rest with
  | nil =>
    intro P k orig _ _ _
    simp [packedIdxs, unpackLoop, specArgs]
  | cons a rest ih =>
    intro P k orig horig hit hlim
    obtain ⟨v, p⟩ := a
    cases p
    · -- ordinary argument: stays in place
      simp only [packedIdxs, specArgs, List.map_cons, List.length_cons] at *
      have := ih (P ++ [v]) (k + 1) orig (by omega) hit (by simp; omega)
      simp only [List.length_append, List.length_singleton, List.append_assoc, List.singleton_append] at this
      have e1 : P.length + 1 + rest.length = P.length + (rest.length + 1) := by omega
      have e2 : P.length + 1 + (specArgs iter rest).length = P.length + ((specArgs iter rest).length + 1) := by omega
      rw [e1, e2] at this
      simpa using this
    · -- packed argument
      obtain ⟨hsome, hit'⟩ := hit
      obtain ⟨vs, hvs⟩ := Option.isSome_iff_exists.mp hsome
      have hspec : specArgs iter ((v, true) :: rest) = vs ++ specArgs iter rest := by
        simp [specArgs, hvs]
      rw [hspec] at hlim ⊢
      simp only [List.length_cons, List.length_append] at hlim horig
      simp only [packedIdxs, unpackLoop, List.map_cons, List.length_cons]
      have happ : P ++ v :: rest.map (·.1) ++ junk = P ++ v :: (rest.map (·.1) ++ junk) := by simp
      rw [happ]
      rw [unpackOne_spec iter self v P _ vs orig _ k hvs (by subst horig; omega) (by omega)]
      have := ih (P ++ vs) (k + 1) orig (by omega) hit' (by simp [List.length_append]; omega)
      simp only [List.length_append, List.append_assoc] at this ⊢
      have e1 : P.length + (rest.length + 1) - 1 + vs.length = P.length + vs.length + rest.length := by omega
      have e2 : P.length + (vs.length + (specArgs iter rest).length)
          = P.length + vs.length + (specArgs iter rest).length := by omega
      rw [e1, this, e2]

/-! ### reading the index registers back, draining them -/

theorem packedIdxs_lt (off : Nat) (as : List CallArg) : ∀ i ∈ packedIdxs off as, i < off + as.length := by
  intro i hi
  rw [packedIdxs_eq] at hi
  obtain ⟨⟨a, j⟩, h, rfl⟩ := List.mem_map.1 hi
  exact (List.mem_zipIdx (List.mem_filter.1 h).1).2.1

theorem asIndex_int (i : Nat) (h : i < 2 ^ 63) : asIndex (Val.int (i : Nat)) = .ok i := by
  unfold Val.int asIndex
  simp only
  rw [Int64.toInt_ofInt_of_le (by omega) (by omega)]
  simp

theorem mapExcept_asIndex (is : List Nat) (h : ∀ i ∈ is, i < 2 ^ 63) :
    mapExcept asIndex (is.map (fun i => Val.int (i : Nat))) = .ok is := by
  induction is with
  | nil => rfl
  | cons i is ih =>
    simp only [List.map_cons, mapExcept]
    rw [asIndex_int i (h i (by simp)), ih (fun j hj => h j (by simp [hj]))]

theorem read_idx_regs (self : Val) (A I junk : List Val) :
    ((self :: (A ++ I ++ junk)).drop (1 + A.length)).take I.length = I := by
  rw [Nat.add_comm, List.drop_succ_cons, List.append_assoc, List.drop_append_of_le_length (by simp)]
  simp

theorem drain_idx_regs (self : Val) (A I junk : List Val) :
    (self :: (A ++ I ++ junk)).take (1 + A.length) ++ (self :: (A ++ I ++ junk)).drop (1 + A.length + I.length)
      = self :: (A ++ junk) := by
  have hI : (self :: (A ++ I)).length = 1 + A.length + I.length := by
    rw [List.length_cons, List.length_append]; omega
  rw [← List.cons_append, List.drop_left' hI, List.cons_append, List.append_assoc, ← List.cons_append,
    List.take_left' (Nat.add_comm _ 1), List.cons_append]

/-! ### creation of the captures list -/

theorem set_mid (A B : List Val) (r v : Val) : (A ++ r :: B).set A.length v = A ++ v :: B := by
  simp

theorem set_same_comm (l : List Val) (i k : Nat) (x : Val) :
    (l.set i x).set k x = (l.set k x).set i x := by
  by_cases h : i = k
  · subst h; rfl
  · exact List.set_comm x x h

theorem applyDeferred_set (fv : Val) (d : List Nat) : ∀ (l : List Val) (i : Nat),
    applyDeferred fv (l.set i fv) d = (applyDeferred fv l d).set i fv := by
  induction d with
  | nil => intro l i; rfl
  | cons k d ih =>
    intro l i
    simp only [applyDeferred, setSlot]
    rw [set_same_comm, ih]

theorem applyDefaultCaps_spec (vs : List Val) : ∀ (P : List Val) (k : Nat),
    applyDefaultCaps (P ++ List.replicate (vs.length + k) Val.null) P.length vs
      = P ++ vs ++ List.replicate k Val.null := by
  induction vs with
  | nil => intro P k; simp [applyDefaultCaps]
  | cons v vs ih =>
    intro P k
    simp only [applyDefaultCaps, setSlot, List.length_cons]
    have e : vs.length + 1 + k = (vs.length + k) + 1 := by omega
    rw [e, List.replicate_succ, set_mid]
    have := ih (P ++ [v]) k
    simp only [List.length_append, List.length_singleton, List.append_assoc, List.singleton_append] at this
    simpa using this

theorem applyCaptureOps_spec (fv : Val) (D : List Val) (cs : List CapSrc) :
    ∀ (Q R : List Val), R.length = cs.length →
      applyDeferred fv (applyCaptureOps D.length (D ++ Q ++ R) Q.length cs).1
          (applyCaptureOps D.length (D ++ Q ++ R) Q.length cs).2
        = D ++ Q ++ cs.map (CapSrc.value fv) := by
  induction cs with
  | nil =>
    intro Q R hR
    have : R = [] := List.eq_nil_of_length_eq_zero hR
    subst this
    simp [applyCaptureOps, applyDeferred]
  | cons c cs ih =>
    intro Q R hR
    cases R with
    | nil => simp at hR
    | cons r R0 =>
      have hR0 : R0.length = cs.length := by simpa using hR
      have hlen : (D ++ Q).length = D.length + Q.length := by simp
      cases c with
      | val v =>
        simp only [applyCaptureOps, setSlot, List.map_cons, CapSrc.value]
        rw [← hlen, set_mid]
        have := ih (Q ++ [v]) R0 hR0
        simp only [List.length_append, List.length_singleton, List.append_assoc, List.singleton_append] at this
        simpa [List.append_assoc] using this
      | self =>
        simp only [applyCaptureOps, applyDeferred, setSlot, List.map_cons, CapSrc.value]
        rw [applyDeferred_set]
        have := ih (Q ++ [r]) R0 hR0
        simp only [List.length_append, List.length_singleton, List.append_assoc, List.singleton_append] at this
        simp only [List.append_assoc]
        rw [this]
        have : D ++ (Q ++ r :: cs.map (CapSrc.value fv)) = (D ++ Q) ++ r :: cs.map (CapSrc.value fv) := by simp
        rw [this, ← hlen, set_mid]
        simp

/-! ### well-formed parameter lists and the frame layout -/

theorem findSlot_append_of_ne (n : Bind.Name) (A B : List Slot) (k : Nat)
    (h : ∀ s ∈ A, s ≠ .assigned n) :
    findSlot n (A ++ B) k = findSlot n B (k + A.length) := by
  induction A generalizing k with
  | nil => rfl
  | cons a A ih =>
    rw [List.cons_append, findSlot, if_neg (h a List.mem_cons_self),
      ih (k + 1) (fun s hs => h s (List.mem_cons_of_mem _ hs)), List.length_cons, Nat.add_right_comm,
      Nat.add_assoc]

theorem findSlot_map_assigned (n : Bind.Name) (cs : List Bind.Name) (B : List Slot) (k j : Nat)
    (hj : cs[j]? = some n) (hfirst : ∀ i, i < j → cs[i]? ≠ some n) :
    findSlot n (cs.map Slot.assigned ++ B) k = some (k + j) := by
  induction cs generalizing k j with
  | nil => simp at hj
  | cons c cs ih =>
    rw [List.map_cons, List.cons_append, findSlot]
    cases j with
    | zero =>
      cases Option.some.inj hj
      rw [if_pos rfl, Nat.add_zero]
    | succ j =>
      have hc : Slot.assigned c ≠ Slot.assigned n := fun h =>
        hfirst 0 (Nat.succ_pos j) (by rw [List.getElem?_cons_zero, Slot.assigned.inj h])
      rw [if_neg hc, ih (k + 1) j hj (fun i hi => hfirst (i + 1) (Nat.succ_lt_succ hi)), Nat.add_right_comm,
        Nat.add_assoc]

theorem dedup_length_of_nodup (l : List Bind.Name) (h : nodupB l = true) : (dedup l).length = l.length := by
  induction l with
  | nil => rfl
  | cons x xs ih =>
    simp only [nodupB, Bool.and_eq_true, Bool.not_eq_true'] at h
    have hx : x ∉ xs := by simpa using h.1
    simp [dedup, hx, ih h.2]

theorem params_length (ps : List Param) : ps.length = (topNames ps).length + placeholders ps := by
  induction ps with
  | nil => rfl
  | cons p ps ih =>
    cases p <;> simp [topNames, placeholders, ih] <;> omega

end KotoVerif.C02
