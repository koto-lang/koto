/-
C14 — `==` on data with maps (keys pairwise different): reflexive for the spec-level and the
hashed lookup alike, symmetric at the spec level.
-/
import KotoVerif.Model.Equal
import KotoVerif.Lemmas.C14Equal
import KotoVerif.Lemmas.C14Map

namespace KotoVerif
namespace Equal

def distinctKeysB (F : FloatOps) : List Val → Bool
  | [] => true
  | k :: rest => rest.all (fun x => !keyEq F k x && !keyEq F x k) && distinctKeysB F rest

mutual
/-- every map in the value has hashable, pairwise different keys -/
def keysDistinct (F : FloatOps) : Val → Bool
  | .tuple xs => keysDistinctList F xs
  | .list xs => keysDistinctList F xs
  | .map es => distinctKeysB F (es.map Prod.fst) && keysDistinctEntries F es
  | _ => true
def keysDistinctList (F : FloatOps) : List Val → Bool
  | [] => true
  | x :: xs => keysDistinct F x && keysDistinctList F xs
def keysDistinctEntries (F : FloatOps) : List (Val × Val) → Bool
  | [] => true
  | (k, v) :: es => hashable k && keysDistinct F v && keysDistinctEntries F es
end

mutual
theorem keyEq_refl {F : FloatOps} (hF : FloatLaws F) :
    ∀ (k : Val), hashable k = true → noNaN F k = true → keyEq F k k = true
  | .null, _, _ => rfl
  | .bool x, _, _ => beq_self_eq_true x
  | .num n, _, h => num_eq_refl hF n (Eq.mp (Bool.not_eq_true' _) h)
  | .str s, _, _ => beq_self_eq_true s
  | .range a b, _, _ => Bool.and_eq_true_iff.mpr ⟨beq_self_eq_true a, beq_self_eq_true b⟩
  | .tuple xs, h1, h2 => keyEqList_refl hF xs h1 h2
  | .list _, h1, _ => nomatch h1
  | .map _, h1, _ => nomatch h1
theorem keyEqList_refl {F : FloatOps} (hF : FloatLaws F) :
    ∀ (xs : List Val), hashableList xs = true → noNaNList F xs = true → keyEqList F xs xs = true
  | [], _, _ => rfl
  | x :: xs, h1, h2 =>
    have h1' := Bool.and_eq_true_iff.mp h1
    have h2' := Bool.and_eq_true_iff.mp h2
    Bool.and_eq_true_iff.mpr ⟨keyEq_refl hF x h1'.1 h2'.1, keyEqList_refl hF xs h1'.2 h2'.2⟩
end

theorem hashEq_refl (F : FloatOps) (k : Val) : hashEq F k k = true := by simp [hashEq]

/-- the matcher used by `veqMap` -/
def eqMatcher (F : FloatOps) (mech : Bool) (n : Nat) : Val → Val → Bool :=
  if mech then getMatch F n else keyEq F

theorem eqMatcher_refl (F : FloatOps) (mech : Bool) (n : Nat) (k : Val) (h : keyEq F k k = true) :
    eqMatcher F mech n k k = true := by
  unfold eqMatcher getMatch keyEqH
  cases mech <;> simp [h]
  split <;> simp [h, hashEq_refl]

theorem eqMatcher_sound (F : FloatOps) (mech : Bool) (n : Nat) (a b : Val)
    (h : keyEq F a b = false) : eqMatcher F mech n a b = false := by
  unfold eqMatcher getMatch keyEqH
  cases mech <;> simp [h]
  split <;> simp [h]

mutual
theorem veq_refl {F : FloatOps} (hF : FloatLaws F) (mech : Bool) :
    ∀ (v : Val), noNaN F v = true → keysDistinct F v = true → veq F mech v v = true
  | .null, _, _ => rfl
  | .bool x, _, _ => beq_self_eq_true x
  | .num n, h, _ => num_eq_refl hF n (Eq.mp (Bool.not_eq_true' _) h)
  | .str s, _, _ => beq_self_eq_true s
  | .range a b, _, _ => Bool.and_eq_true_iff.mpr ⟨beq_self_eq_true a, beq_self_eq_true b⟩
  | .tuple xs, h1, h2 => veqList_refl hF mech xs h1 h2
  | .list xs, h1, h2 => veqList_refl hF mech xs h1 h2
  | .map es, h1, h2 => by
    have h2' := Bool.and_eq_true_iff.mp h2
    have := veqMap_refl hF mech es [] h1 h2'.2 h2'.1 (fun _ hp => nomatch hp)
    exact Bool.and_eq_true_iff.mpr ⟨beq_self_eq_true _, this⟩
theorem veqList_refl {F : FloatOps} (hF : FloatLaws F) (mech : Bool) :
    ∀ (xs : List Val), noNaNList F xs = true → keysDistinctList F xs = true → veqList F mech xs xs = true
  | [], _, _ => rfl
  | x :: xs, h1, h2 =>
    have h1' := Bool.and_eq_true_iff.mp h1
    have h2' := Bool.and_eq_true_iff.mp h2
    Bool.and_eq_true_iff.mpr ⟨veq_refl hF mech x h1'.1 h2'.1, veqList_refl hF mech xs h1'.2 h2'.2⟩
theorem veqMap_refl {F : FloatOps} (hF : FloatLaws F) (mech : Bool) :
    ∀ (sub pre : List (Val × Val)), noNaNEntries F sub = true → keysDistinctEntries F sub = true →
      distinctKeysB F (sub.map Prod.fst) = true →
      (∀ p ∈ pre, ∀ s ∈ sub, keyEq F s.1 p.1 = false) →
      veqMap F mech sub (pre ++ sub) = true
  | [], _, _, _, _, _ => by simp [veqMap]
  | (k, v) :: rest, pre, h1, h2, h3, h4 => by
    simp only [noNaNEntries, Bool.and_eq_true] at h1
    simp only [keysDistinctEntries, Bool.and_eq_true] at h2
    simp only [List.map_cons, distinctKeysB, Bool.and_eq_true, List.all_eq_true, Bool.not_eq_true',
      List.mem_map, forall_exists_index, and_imp] at h3
    have hkk : keyEq F k k = true := keyEq_refl hF k h2.1.1 h1.1.1
    have hlook : lookupBy (if mech = true then getMatch F (pre ++ (k, v) :: rest).length else keyEq F) k
        (pre ++ (k, v) :: rest) = some v := by
      have hpre : OMap.Absent (eqMatcher F mech (pre ++ (k, v) :: rest).length) k pre :=
        fun p hp => eqMatcher_sound F mech _ k p.1 (h4 p hp (k, v) (by simp))
      exact OMap.lookupBy_found hpre (eqMatcher_refl F mech _ k hkk) v rest
    simp only [veqMap, hlook, Bool.and_eq_true]
    refine ⟨veq_refl hF mech v h1.1.2 h2.1.2, ?_⟩
    have hrec := veqMap_refl hF mech rest (pre ++ [(k, v)]) h1.2 h2.2 h3.2 (by
      intro p hp s hs
      rcases List.mem_append.mp hp with hp' | hp'
      · exact h4 p hp' s (List.mem_cons_of_mem _ hs)
      · simp only [List.mem_singleton] at hp'
        subst hp'
        exact (h3.1 s.1 s hs rfl).2)
    simpa [List.append_assoc] using hrec
end

/-! ### symmetry of `==` on data with maps (spec-level key lookup): the pigeonhole argument -/

open OMap

variable {β : Type}

/-- pigeonhole: between two maps of the same size with pairwise different keys, "every entry of the
left one is found on the right" turns round -/
theorem map_symm_core {m : Val → Val → Bool} (hm : KeyPER m) (R : β → β → Prop) :
    ∀ (as bs : List (Val × β)), Distinct m (keys as) → Distinct m (keys bs) → as.length = bs.length →
      (∀ e ∈ as, ∃ v', lookupBy m e.1 bs = some v' ∧ R e.2 v') →
      ∀ e' ∈ bs, ∃ v, lookupBy m e'.1 as = some v ∧ R v e'.2 := by
  intro as
  induction as with
  | nil =>
    intro bs _ _ hlen _ e' he'
    have : bs = [] := List.eq_nil_of_length_eq_zero (by simpa using hlen.symm)
    subst this; cases he'
  | cons a as ih =>
    intro bs hda hdb hlen hfwd e' he'
    obtain ⟨k, v⟩ := a
    have hda' := List.pairwise_cons.mp hda
    obtain ⟨v0, hl, hR⟩ := hfwd (k, v) (by simp)
    obtain ⟨pre, k0, post, rfl, hp, hk0⟩ := lookupBy_eq_some hl
    have hnm := remove_no_match hm k _ hdb
    have hdr := distinct_remove k _ hdb
    have hlr := fun k2 => lookup_remove_other hm k k2 (pre ++ (k0, v0) :: post)
    rw [remove_found hp hk0] at hnm hdr hlr
    have hrec := ih (pre ++ post) hda'.2 hdr (by simp at hlen ⊢; omega) (by
      intro e he
      obtain ⟨v', h1, h2⟩ := hfwd e (List.mem_cons_of_mem _ he)
      have hke : m e.1 k = false := by
        rw [hm.symm]; exact hda'.1 e.1 (List.mem_map_of_mem he)
      exact ⟨v', (hlr e.1 hke).trans h1, h2⟩)
    have hmem : e' ∈ pre ++ post ∨ e' = (k0, v0) := by
      simp only [List.mem_append, List.mem_cons] at he' ⊢
      rcases he' with h | h | h
      · exact .inl (.inl h)
      · exact .inr h
      · exact .inl (.inr h)
    rcases hmem with h | h
    · obtain ⟨v1, h1, h2⟩ := hrec e' h
      have hke : m e'.1 k = false := by rw [hm.symm]; exact hnm e' h
      exact ⟨v1, by simp [lookupBy, hke, h1], h2⟩
    · subst h
      have : m k0 k = true := by rw [hm.symm]; exact hk0
      exact ⟨v, by simp [lookupBy, this], hR⟩

theorem veqMap_iff (F : FloatOps) (as bs : List (Val × Val)) :
    veqMap F false as bs = true ↔
      ∀ e ∈ as, ∃ v', lookupBy (keyEq F) e.1 bs = some v' ∧ veq F false e.2 v' = true := by
  induction as with
  | nil => simp [veqMap]
  | cons a as ih =>
    obtain ⟨k, v⟩ := a
    simp only [veqMap, Bool.and_eq_true, ih, List.mem_cons, forall_eq_or_imp, Bool.false_eq_true, if_false]
    constructor
    · rintro ⟨h1, h2⟩
      refine ⟨?_, h2⟩
      cases hl : lookupBy (keyEq F) k bs with
      | none => simp [hl] at h1
      | some v' => exact ⟨v', rfl, by simpa [hl] using h1⟩
    · rintro ⟨⟨v', h1, h2⟩, h3⟩
      exact ⟨by simp [h1, h2], h3⟩

theorem distinctKeysB_distinct (F : FloatOps) (ks : List Val) (h : distinctKeysB F ks = true) :
    Distinct (keyEq F) ks := by
  induction ks with
  | nil => exact List.Pairwise.nil
  | cons k ks ih =>
    simp only [distinctKeysB, Bool.and_eq_true, List.all_eq_true, Bool.not_eq_true'] at h
    exact List.pairwise_cons.mpr ⟨fun x hx => (h.1 x hx).1, ih h.2⟩

theorem keysDistinctList_mem (F : FloatOps) (xs : List Val) (h : keysDistinctList F xs = true) :
    ∀ x ∈ xs, keysDistinct F x = true := by
  induction xs with
  | nil => intro x hx; cases hx
  | cons y ys ih =>
    simp only [keysDistinctList, Bool.and_eq_true] at h
    exact List.forall_mem_cons.mpr ⟨h.1, ih h.2⟩

theorem keysDistinctEntries_mem (F : FloatOps) (es : List (Val × Val)) (h : keysDistinctEntries F es = true) :
    ∀ e ∈ es, keysDistinct F e.2 = true := by
  induction es with
  | nil => intro x hx; cases hx
  | cons y ys ih =>
    obtain ⟨k, v⟩ := y
    simp only [keysDistinctEntries, Bool.and_eq_true] at h
    exact List.forall_mem_cons.mpr ⟨h.1.2, ih h.2⟩

theorem veqList_imp (F : FloatOps) (xs : List Val)
    (H : ∀ x ∈ xs, ∀ y, keysDistinct F y = true → veq F false x y = true → veq F false y x = true) :
    ∀ ys, keysDistinctList F ys = true → veqList F false xs ys = true → veqList F false ys xs = true := by
  induction xs with
  | nil => intro ys _ h; cases ys <;> simp_all [veqList]
  | cons x xs ih =>
    intro ys wy h
    cases ys with
    | nil => simp [veqList] at h
    | cons y ys =>
      simp only [keysDistinctList, Bool.and_eq_true] at wy
      simp only [veqList, Bool.and_eq_true] at h ⊢
      exact ⟨H x (by simp) y wy.1 h.1, ih (fun z hz => H z (List.mem_cons_of_mem _ hz)) ys wy.2 h.2⟩

theorem sizeOf_entry_lt (es : List (Val × Val)) (e : Val × Val) (h : e ∈ es) : sizeOf e.2 < sizeOf es := by
  have h1 := List.sizeOf_lt_of_mem h
  obtain ⟨k, v⟩ := e
  simp only [Prod.mk.sizeOf_spec] at h1
  simp only
  omega

/-- one direction; by induction on the size of the left value -/
theorem veq_imp {F : FloatOps} (hF : FloatLaws F) (hm : KeyPER (keyEq F)) (n : Nat) :
    ∀ (a : Val), sizeOf a ≤ n → ∀ (b : Val), keysDistinct F a = true → keysDistinct F b = true →
      veq F false a b = true → veq F false b a = true := by
  induction n with
  | zero =>
    intro a ha
    cases a <;> simp at ha <;> omega
  | succ n ih =>
    intro a ha b wa wb h
    cases a with
    | null => rw [← veq_symm_mapFree hF false .null b rfl]; exact h
    | bool x => rw [← veq_symm_mapFree hF false (.bool x) b rfl]; exact h
    | num x => rw [← veq_symm_mapFree hF false (.num x) b rfl]; exact h
    | str x => rw [← veq_symm_mapFree hF false (.str x) b rfl]; exact h
    | range x y => rw [← veq_symm_mapFree hF false (.range x y) b rfl]; exact h
    | tuple xs =>
      cases b <;> first | cases h | skip
      rename_i ys
      show veqList F false ys xs = true
      simp only [keysDistinct] at wa wb
      simp only [Val.tuple.sizeOf_spec] at ha
      refine veqList_imp F xs (fun x hx y wy hxy => ?_) ys wb h
      have := List.sizeOf_lt_of_mem hx
      exact ih x (by omega) y (keysDistinctList_mem F xs wa x hx) wy hxy
    | list xs =>
      cases b <;> first | cases h | skip
      rename_i ys
      show veqList F false ys xs = true
      simp only [keysDistinct] at wa wb
      simp only [Val.list.sizeOf_spec] at ha
      refine veqList_imp F xs (fun x hx y wy hxy => ?_) ys wb h
      have := List.sizeOf_lt_of_mem hx
      exact ih x (by omega) y (keysDistinctList_mem F xs wa x hx) wy hxy
    | map as =>
      cases b <;> first | cases h | skip
      rename_i bs
      simp only [keysDistinct, Bool.and_eq_true] at wa wb
      simp only [Val.map.sizeOf_spec] at ha
      have h : as.length = bs.length ∧ veqMap F false as bs = true :=
        ⟨eq_of_beq (Bool.and_eq_true_iff.mp h).1, (Bool.and_eq_true_iff.mp h).2⟩
      refine Bool.and_eq_true_iff.mpr ⟨beq_iff_eq.mpr h.1.symm, ?_⟩
      rw [veqMap_iff] at h ⊢
      have hda := distinctKeysB_distinct F _ wa.1
      have hdb := distinctKeysB_distinct F _ wb.1
      have core := map_symm_core hm (fun v v' => veq F false v' v = true) as bs hda hdb h.1
        (by
          intro e he
          obtain ⟨v', h1, h2⟩ := h.2 e he
          obtain ⟨pre, k0, post, hbs, _, _⟩ := lookupBy_eq_some h1
          have wv' := keysDistinctEntries_mem F bs wb.2 (k0, v') (by rw [hbs]; simp)
          have := sizeOf_entry_lt as e he
          exact ⟨v', h1, ih e.2 (by omega) v' (keysDistinctEntries_mem F as wa.2 e he) wv' h2⟩)
      exact core

theorem veq_symm {F : FloatOps} (hF : FloatLaws F) (hm : KeyPER (keyEq F)) (a b : Val)
    (ha : keysDistinct F a = true) (hb : keysDistinct F b = true) :
    veq F false a b = veq F false b a :=
  Bool.eq_iff_iff.mpr ⟨veq_imp hF hm (sizeOf a) a (Nat.le_refl _) b ha hb,
    veq_imp hF hm (sizeOf b) b (Nat.le_refl _) a hb ha⟩

end Equal
end KotoVerif
