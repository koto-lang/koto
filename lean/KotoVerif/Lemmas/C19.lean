/-
C19 — the tagged sequential checker `seqAll` in terms of `seqOps`; the micro-steps of the thread
model of `Model/Cell.lean` (Part 2) as a labelled transition relation, and the invariants every
transition preserves.
-/
import KotoVerif.Model.Cell
namespace KotoVerif.C19
open KotoVerif.Cell

variable {σ ρ : Type}

theorem lt_of_getElem? {l : List α} {i : Nat} {a : α} (h : l[i]? = some a) : i < l.length :=
  (List.getElem?_eq_some_iff.1 h).1

theorem forall_getElem?_set {α : Type} {l : List α} {i : Nat} {a : α} {Q : Nat → α → Prop}
    (hi : Q i a) (ho : ∀ j b, j ≠ i → l[j]? = some b → Q j b) :
    ∀ j b, (l.set i a)[j]? = some b → Q j b := by
  intro j b hj
  rw [List.getElem?_set] at hj
  split at hj
  · next e =>
    subst e
    split at hj
    · exact Option.some.inj hj ▸ hi
    · cases hj
  · next e => exact ho j b (Ne.symm e) hj

theorem sum_map_set {α : Type} (f : α → Nat) (l : List α) (i : Nat) (a b : α) (h : l[i]? = some a) :
    ((l.set i b).map f).sum + f a = (l.map f).sum + f b := by
  obtain ⟨hi, rfl⟩ := List.getElem?_eq_some_iff.1 h
  have hl : l = l.take i ++ l[i] :: l.drop (i + 1) := by simp
  rw [List.set_eq_take_append_cons_drop, if_pos hi]
  conv => rhs; rw [hl]
  simp only [List.map_append, List.map_cons, List.sum_append_nat, List.sum_cons]
  omega

theorem sum_map_zero {α : Type} (f : α → Nat) (l : List α) (h : ∀ a ∈ l, f a = 0) :
    (l.map f).sum = 0 :=
  List.sum_eq_zero_iff_forall_eq_nat.2 fun _ hx =>
    have ⟨a, ha, e⟩ := List.mem_map.1 hx
    e ▸ h a ha

theorem filter_tag_eq_self {α : Type} (t : Nat) (l : List (Nat × α)) (h : ∀ e ∈ l, e.1 = t) :
    l.filter (fun e => e.1 == t) = l :=
  List.filter_eq_self.2 fun e he => beq_iff_eq.2 (h e he)

theorem seqAll_snoc (d0 : σ) (lin : List (Nat × Op σ ρ)) (e : Nat × Op σ ρ) :
    seqAll d0 (lin ++ [e]) = seqStep (seqAll d0 lin) e := by
  simp [seqAll, List.foldl_append]

theorem resOf_snoc (t u : Nat) (rs : List (Nat × ρ)) (r : ρ) :
    resOf t (rs ++ [(u, r)]) = if u = t then resOf t rs ++ [r] else resOf t rs := by
  by_cases h : u = t <;> simp [resOf, List.filter_append, h]

theorem opsOf_snoc (t u : Nat) (lin : List (Nat × Op σ ρ)) (o : Op σ ρ) :
    opsOf t (lin ++ [(u, o)]) = if u = t then opsOf t lin ++ [o] else opsOf t lin :=
  -- `opsOf` is `resOf` at result type `Op σ ρ`
  resOf_snoc t u lin o

theorem seqOps_length (d : σ) (ops : List (Op σ ρ)) : (seqOps d ops).1.length = ops.length := by
  induction ops generalizing d with
  | nil => simp [seqOps]
  | cons o rest ih => simp [seqOps, ih]

theorem seqAll_fold_eq_seqOps (lin : List (Nat × Op σ ρ)) (d : σ) (acc : List (Nat × ρ)) :
    lin.foldl seqStep (d, acc) =
      ((seqOps d (lin.map (·.2))).2, acc ++ (lin.map (·.1)).zip (seqOps d (lin.map (·.2))).1) := by
  induction lin generalizing d acc with
  | nil => simp [seqOps]
  | cons e rest ih =>
    simp only [List.foldl_cons, seqStep, List.map_cons]
    rw [ih]
    simp [seqOps, effD]

theorem seqAll_eq (d : σ) (lin : List (Nat × Op σ ρ)) :
    seqAll d lin =
      ((seqOps d (lin.map (·.2))).2, (lin.map (·.1)).zip (seqOps d (lin.map (·.2))).1) :=
  (seqAll_fold_eq_seqOps lin d []).trans (by rw [List.nil_append])

/-- Only writes store anything: a read's `f` need not preserve `P`. -/
theorem seqOps_invariant (P : σ → Prop) (ops : List (Op σ ρ))
    (hops : ∀ o ∈ ops, o.write = true → ∀ d, P d → P (o.f d).1) (d : σ) (h : P d) :
    P (seqOps d ops).2 := by
  induction ops generalizing d with
  | nil => exact h
  | cons o rest ih =>
    refine ih (fun o' ho' => hops o' (List.mem_cons_of_mem _ ho')) _ ?_
    split
    · next hw => exact hops o List.mem_cons_self hw d h
    · exact h

/-- What `step g t` can be.  Every step but a stutter replaces thread `t`; only `acquire*` and
`release*` touch the lock, only `effect*` touch data and linearization. -/
inductive Move (g : Conc σ ρ) (t : Nat) : Conc σ ρ → Prop
  | stutter : enabled g t = false → Move g t g
  | acquireW {o rest rs ob} : g.threads[t]? = some ⟨o :: rest, .idle, rs, ob⟩ → o.write = true →
      g.writer = none → g.readers = [] →
      Move g t { g with writer := some t, threads := g.threads.set t ⟨o :: rest, .held, rs, ob⟩ }
  | acquireR {o rest rs ob} : g.threads[t]? = some ⟨o :: rest, .idle, rs, ob⟩ → o.write = false →
      g.writer = none →
      Move g t { g with readers := t :: g.readers,
                        threads := g.threads.set t ⟨o :: rest, .held, rs, ob⟩ }
  | load {p rs ob} : g.threads[t]? = some ⟨p, .held, rs, ob⟩ →
      Move g t { g with threads := g.threads.set t ⟨p, .loaded g.data, rs, ob⟩ }
  | effectW {o rest s rs ob} : g.threads[t]? = some ⟨o :: rest, .loaded s, rs, ob⟩ →
      o.write = true →
      Move g t { g with data := (o.f s).1, lin := g.lin ++ [(t, o)],
                        threads := g.threads.set t ⟨rest, .fin true, rs ++ [(o.f s).2], ob⟩ }
  | effectR {o rest s rs ob} : g.threads[t]? = some ⟨o :: rest, .loaded s, rs, ob⟩ →
      o.write = false →
      Move g t { g with lin := g.lin ++ [(t, o)],
                        threads := g.threads.set t
                          ⟨rest, .fin false, rs ++ [(o.f s).2], ob ++ [(s, g.data)]⟩ }
  | releaseW {p rs ob} : g.threads[t]? = some ⟨p, .fin true, rs, ob⟩ →
      Move g t { g with writer := none, threads := g.threads.set t ⟨p, .idle, rs, ob⟩ }
  | releaseR {p rs ob} : g.threads[t]? = some ⟨p, .fin false, rs, ob⟩ →
      Move g t { g with readers := g.readers.erase t,
                        threads := g.threads.set t ⟨p, .idle, rs, ob⟩ }

theorem step_move (g : Conc σ ρ) (t : Nat) : Move g t (step g t) := by
  unfold step stepP
  cases hth : g.threads[t]? with
  | none => exact .stutter (by simp [enabled, hth])
  | some th =>
    obtain ⟨prog, phase, rs, ob⟩ := th
    cases phase with
    | idle =>
      cases prog with
      | nil => exact .stutter (by simp [enabled, hth])
      | cons o rest =>
        simp only [Policy.excl]
        cases hw : o.write with
        | true =>
          by_cases hf : g.writer = none ∧ g.readers = []
          · simpa only [if_true, if_pos hf] using .acquireW hth hw hf.1 hf.2
          · simp only [if_true, if_neg hf]
            refine .stutter ?_
            simpa [enabled, hth, hw, ← not_and] using hf
        | false =>
          by_cases hf : g.writer = none
          · simpa only [Bool.false_eq_true, if_false, if_pos hf] using .acquireR hth hw hf
          · simp only [Bool.false_eq_true, if_false, if_neg hf]
            exact .stutter (by simpa [enabled, hth, hw, Option.isSome_iff_ne_none] using hf)
    | held => exact .load hth
    | loaded s =>
      cases prog with
      | nil => exact .stutter (by simp [enabled, hth])
      | cons o rest =>
        simp only [Policy.excl]
        cases hw : o.write with
        | true => exact .effectW hth hw
        | false => exact .effectR hth hw
    | fin w =>
      cases w with
      | true => exact .releaseW hth
      | false => exact .releaseR hth

/-- the annotation `(w, rs)` of the lock agrees with what thread `t` holds; a guard is only held
for a head operation -/
structure Tracks (w : Option Nat) (rs : List Nat) (t : Nat) (th : Thread σ ρ) : Prop where
  w : th.holdsW = true ↔ w = some t
  r : th.holdsR = true ↔ t ∈ rs
  phaseOk : th.prog = [] → th.phase = .idle ∨ ∃ b, th.phase = .fin b

theorem Tracks.loaded_holds {w : Option Nat} {rs : List Nat} {t : Nat} {th : Thread σ ρ}
    (k : Tracks w rs t th) {s : σ} (hp : th.phase = .loaded s) :
    th.holdsW = true ∨ th.holdsR = true := by
  obtain ⟨prog, phase, _, _⟩ := th
  cases hp
  cases prog with
  | nil => simpa using k.phaseOk rfl
  | cons o rest => cases h : o.write <;> simp [Thread.holdsW, Thread.holdsR, h]

structure LockInv (g : Conc σ ρ) : Prop where
  tracks : ∀ (t : Nat) (th : Thread σ ρ), g.threads[t]? = some th → Tracks g.writer g.readers t th
  wRange : ∀ t, g.writer = some t → t < g.threads.length
  rRange : ∀ t ∈ g.readers, t < g.threads.length
  excl : ∀ w, g.writer = some w → g.readers = []
  nodup : g.readers.Nodup

theorem LockInv.wOwner {g : Conc σ ρ} (h : LockInv g) {t : Nat} (hw : g.writer = some t) :
    ∃ th, g.threads[t]? = some th ∧ th.holdsW = true :=
  have ht := List.getElem?_eq_getElem (h.wRange t hw)
  ⟨_, ht, (h.tracks t _ ht).w.2 hw⟩

theorem LockInv.rOwner {g : Conc σ ρ} (h : LockInv g) {t : Nat} (hr : t ∈ g.readers) :
    ∃ th, g.threads[t]? = some th ∧ th.holdsR = true :=
  have ht := List.getElem?_eq_getElem (h.rRange t hr)
  ⟨_, ht, (h.tracks t _ ht).r.2 hr⟩

theorem LockInv.alone {g : Conc σ ρ} (h : LockInv g) {t u : Nat} {th thu : Thread σ ρ}
    (ht : g.threads[t]? = some th) (hW : th.holdsW = true) (hu : g.threads[u]? = some thu)
    (hne : u ≠ t) : thu.holdsW = false ∧ thu.holdsR = false := by
  have hw := (h.tracks t th ht).w.1 hW
  have k := h.tracks u thu hu
  constructor
  · refine Bool.eq_false_iff.2 fun hW' => hne ?_
    exact Option.some.inj ((k.w.1 hW').symm.trans hw)
  · refine Bool.eq_false_iff.2 fun hR' => ?_
    have := k.r.1 hR'
    rw [h.excl t hw] at this
    cases this

/-- Thread `t` is replaced and the annotation changed at most in what it says about `t`. -/
theorem LockInv.set {g : Conc σ ρ} (h : LockInv g) {t : Nat} {th th' : Thread σ ρ}
    (hth : g.threads[t]? = some th) {w' : Option Nat} {rs' : List Nat} {d' : σ}
    {lin' : List (Nat × Op σ ρ)}
    (hw : ∀ u, u ≠ t → (w' = some u ↔ g.writer = some u))
    (hr : ∀ u, u ≠ t → (u ∈ rs' ↔ u ∈ g.readers))
    (ht : Tracks w' rs' t th') (hex : ∀ u, w' = some u → rs' = []) (hnd : rs'.Nodup) :
    LockInv { data := d', readers := rs', writer := w', threads := g.threads.set t th', lin := lin' } where
  tracks := forall_getElem?_set ht fun u thu hne hu =>
    have k := h.tracks u thu hu
    ⟨k.w.trans (hw u hne).symm, k.r.trans (hr u hne).symm, k.phaseOk⟩
  wRange u hu := by
    rw [List.length_set]
    by_cases e : u = t
    · exact e ▸ lt_of_getElem? hth
    · exact h.wRange u ((hw u e).1 hu)
  rRange u hu := by
    rw [List.length_set]
    by_cases e : u = t
    · exact e ▸ lt_of_getElem? hth
    · exact h.rRange u ((hr u e).1 hu)
  excl := hex
  nodup := hnd

/-- … and not at all: the new thread `t` holds what the old one held. -/
theorem LockInv.setThread {g : Conc σ ρ} (h : LockInv g) {t : Nat} {th th' : Thread σ ρ}
    (hth : g.threads[t]? = some th) {d' : σ} {lin' : List (Nat × Op σ ρ)}
    (hW : th'.holdsW = th.holdsW) (hR : th'.holdsR = th.holdsR)
    (hp : th'.prog = [] → th'.phase = .idle ∨ ∃ b, th'.phase = .fin b) :
    LockInv { g with data := d', lin := lin', threads := g.threads.set t th' } :=
  have k := h.tracks t th hth
  h.set hth (fun _ _ => .rfl) (fun _ _ => .rfl) ⟨hW ▸ k.w, hR ▸ k.r, hp⟩ h.excl h.nodup

theorem LockInv.move {g g' : Conc σ ρ} {t : Nat} (h : LockInv g) (m : Move g t g') : LockInv g' := by
  cases m with
  | stutter => exact h
  | acquireW hth hw hw0 hr0 =>
    refine h.set hth (fun u hu => ?_) (fun _ _ => .rfl) ⟨?_, ?_, ?_⟩ (fun _ _ => hr0) (hr0 ▸ .nil)
    · simp [hw0, Ne.symm hu]
    · simp [Thread.holdsW, hw]
    · simp [Thread.holdsR, hw, hr0]
    · simp
  | acquireR hth hw hw0 =>
    have k := h.tracks _ _ hth
    refine h.set hth (fun _ _ => .rfl) (fun u hu => ?_) ⟨?_, ?_, ?_⟩ ?_ ?_
    · simp [hu]
    · simp [Thread.holdsW, hw, hw0]
    · simp [Thread.holdsR, hw]
    · simp
    · simp [hw0]
    · exact List.nodup_cons.2 ⟨fun hm => by simpa [Thread.holdsR] using k.r.2 hm, h.nodup⟩
  | @load p _ _ hth =>
    have k := h.tracks _ _ hth
    exact h.setThread hth (by cases p <;> rfl) (by cases p <;> rfl) fun e => by simpa using k.phaseOk e
  | effectW hth hw =>
    exact h.setThread hth (by simp [Thread.holdsW, hw]) (by simp [Thread.holdsR, hw])
      fun _ => .inr ⟨_, rfl⟩
  | effectR hth hw =>
    exact h.setThread hth (by simp [Thread.holdsW, hw]) (by simp [Thread.holdsR, hw])
      fun _ => .inr ⟨_, rfl⟩
  | releaseW hth =>
    have hwt := (h.tracks _ _ hth).w.1 rfl
    refine h.set hth (fun u hu => ?_) (fun _ _ => .rfl) ⟨?_, ?_, fun _ => .inl rfl⟩ ?_ h.nodup
    · simp [hwt, Ne.symm hu]
    · simp [Thread.holdsW]
    · simp [Thread.holdsR, h.excl _ hwt]
    · simp
  | releaseR hth =>
    have k := h.tracks _ _ hth
    refine h.set hth (fun _ _ => .rfl) (fun u hu => List.mem_erase_of_ne hu)
      ⟨?_, ?_, fun _ => .inl rfl⟩ (fun u hu => ?_) (h.nodup.erase _)
    · simpa [Thread.holdsW] using k.w
    · simp [Thread.holdsR, h.nodup.mem_erase_iff]
    · simp [h.excl u hu]

/-- what the linearization `lin` and the shared `data` say about thread `t` -/
structure Sees (d0 : σ) (progs : List (List (Op σ ρ))) (data : σ) (lin : List (Nat × Op σ ρ)) (t : Nat)
    (th : Thread σ ρ) : Prop where
  results_eq : th.results = resOf t (seqAll d0 lin).2
  order : progs[t]? = some (opsOf t lin ++ th.prog)
  snap : ∀ s, th.phase = .loaded s → s = data
  obsOk : ∀ a b, (a, b) ∈ th.obs → a = b ∧ ∃ pre, pre <+: lin ∧ a = (seqAll d0 pre).1

structure DataInv (d0 : σ) (progs : List (List (Op σ ρ))) (g : Conc σ ρ) : Prop where
  len : g.threads.length = progs.length
  data_eq : g.data = (seqAll d0 g.lin).1
  sees : ∀ (t : Nat) (th : Thread σ ρ), g.threads[t]? = some th → Sees d0 progs g.data g.lin t th
  mem : ∀ e ∈ g.lin, ∃ p, progs[e.1]? = some p ∧ e.2 ∈ p
  count : g.lin.length + (g.threads.map (fun th => th.prog.length)).sum = (progs.map List.length).sum

variable {d0 : σ} {progs : List (List (Op σ ρ))} {g g' : Conc σ ρ} {t : Nat}

theorem DataInv.setPhase (h : DataInv d0 progs g) {p : List (Op σ ρ)} {ph : Phase σ} {rs : List ρ}
    {ob : List (σ × σ)} (hth : g.threads[t]? = some ⟨p, ph, rs, ob⟩) (ph' : Phase σ)
    (hph : ∀ s, ph' = .loaded s → s = g.data) {w' : Option Nat} {rs' : List Nat} :
    DataInv d0 progs
      { g with readers := rs', writer := w', threads := g.threads.set t ⟨p, ph', rs, ob⟩ } :=
  have k := h.sees _ _ hth
  { len := (List.length_set ..).trans h.len
    data_eq := h.data_eq
    sees := forall_getElem?_set ⟨k.results_eq, k.order, hph, k.obsOk⟩ fun u thu _ => h.sees u thu
    mem := h.mem
    count := by
      have := sum_map_set (fun th => th.prog.length) g.threads t _ ⟨p, ph', rs, ob⟩ hth
      have := h.count
      simp only at *
      omega }

/-- The effect step of an operation `o` whose first access saw the current data: `o` is appended
to the linearization.  A write changes the data, but then no other thread is between its two
accesses (`LockInv.alone`), so every snapshot stays current. -/
theorem DataInv.effect (hl : LockInv g) (h : DataInv d0 progs g) {o : Op σ ρ} {rest : List (Op σ ρ)}
    {rs : List ρ} {ob ob' : List (σ × σ)} {d' : σ} {b : Bool}
    (hth : g.threads[t]? = some ⟨o :: rest, .loaded g.data, rs, ob⟩) (hd : d' = effD o g.data)
    (hob : ∀ x ∈ ob', x ∈ ob ∨ x = (g.data, g.data)) :
    DataInv d0 progs
      { g with data := d', lin := g.lin ++ [(t, o)],
               threads := g.threads.set t ⟨rest, .fin b, rs ++ [(o.f g.data).2], ob'⟩ } where
  len := (List.length_set ..).trans h.len
  data_eq := by rw [seqAll_snoc, hd]; exact congrArg (effD o) h.data_eq
  sees := by
    have e : (seqAll d0 (g.lin ++ [(t, o)])).2 = (seqAll d0 g.lin).2 ++ [(t, (o.f g.data).2)] := by
      rw [seqAll_snoc, h.data_eq]; rfl
    have old : ∀ u (thu : Thread σ ρ), g.threads[u]? = some thu → ∀ a b, (a, b) ∈ thu.obs →
        a = b ∧ ∃ pre, pre <+: g.lin ++ [(t, o)] ∧ a = (seqAll d0 pre).1 := fun u thu hu a b hab =>
      have ⟨e, pre, hp, e'⟩ := (h.sees u thu hu).obsOk a b hab
      ⟨e, pre, hp.trans (List.prefix_append _ _), e'⟩
    have k := h.sees _ _ hth
    refine forall_getElem?_set ⟨?_, ?_, nofun, fun a b hab => ?_⟩ fun u thu hne hu => ?_
    · rw [e, resOf_snoc, if_pos rfl, ← k.results_eq]
    · rw [opsOf_snoc, if_pos rfl, List.append_assoc]; exact k.order
    · rcases hob _ hab with hab | hab
      · exact old _ _ hth a b hab
      · cases hab; exact ⟨rfl, g.lin, List.prefix_append _ _, h.data_eq⟩
    · have ku := h.sees u thu hu
      refine ⟨?_, ?_, fun s hs => ?_, old u thu hu⟩
      · rw [e, resOf_snoc, if_neg (Ne.symm hne)]; exact ku.results_eq
      · rw [opsOf_snoc, if_neg (Ne.symm hne)]; exact ku.order
      · rw [ku.snap s hs, hd, effD]
        split
        · next hw =>
          have ⟨hW, hR⟩ := hl.alone hth (by simpa [Thread.holdsW] using hw) hu hne
          rcases (hl.tracks u thu hu).loaded_holds hs with k | k
          · rw [hW] at k; cases k
          · rw [hR] at k; cases k
        · rfl
  mem e he := by
    rcases List.mem_append.1 he with he | he
    · exact h.mem e he
    · cases List.mem_singleton.1 he
      exact ⟨_, (h.sees _ _ hth).order, List.mem_append_right _ List.mem_cons_self⟩
  count := by
    have := sum_map_set (fun th => th.prog.length) g.threads t _
      ⟨rest, .fin b, rs ++ [(o.f g.data).2], ob'⟩ hth
    have := h.count
    simp only [List.length_cons, List.length_append, List.length_nil] at *
    omega

theorem DataInv.move (hl : LockInv g) (h : DataInv d0 progs g) (m : Move g t g') :
    DataInv d0 progs g' := by
  cases m with
  | stutter => exact h
  | acquireW hth => exact h.setPhase hth .held fun _ => nofun
  | acquireR hth => exact h.setPhase hth .held fun _ => nofun
  | load hth => exact h.setPhase hth _ fun _ e => (Phase.loaded.inj e).symm
  | effectW hth hw =>
    obtain rfl := (h.sees _ _ hth).snap _ rfl
    exact h.effect hl hth (by simp [effD, hw]) fun _ hx => .inl hx
  | effectR hth hw =>
    obtain rfl := (h.sees _ _ hth).snap _ rfl
    exact h.effect hl hth (by simp [effD, hw]) fun x hx => by simpa using hx
  | releaseW hth => exact h.setPhase hth .idle fun _ => nofun
  | releaseR hth => exact h.setPhase hth .idle fun _ => nofun

structure Inv (d0 : σ) (progs : List (List (Op σ ρ))) (g : Conc σ ρ) : Prop where
  lock : LockInv g
  data : DataInv d0 progs g

theorem init_thread {th : Thread σ ρ} (h : (init d0 progs).threads[t]? = some th) :
    ∃ p, progs[t]? = some p ∧ th = { prog := p } := by
  simp only [init, List.getElem?_map, Option.map_eq_some_iff] at h
  exact h.imp fun p hp => ⟨hp.1, hp.2.symm⟩

theorem inv_init (d0 : σ) (progs : List (List (Op σ ρ))) : Inv d0 progs (init d0 progs) where
  lock :=
    { tracks := fun t th h => by
        obtain ⟨p, _, rfl⟩ := init_thread h
        exact ⟨by simp [Thread.holdsW, init], by simp [Thread.holdsR, init], fun _ => .inl rfl⟩
      wRange := nofun
      rRange := nofun
      excl := fun _ _ => rfl
      nodup := .nil }
  data :=
    { len := List.length_map ..
      data_eq := rfl
      sees := fun t th h => by
        obtain ⟨p, hp, rfl⟩ := init_thread h
        exact ⟨rfl, hp, nofun, nofun⟩
      mem := nofun
      count := by simp [init, List.map_map, Function.comp_def] }

theorem inv_step (d0 : σ) (progs : List (List (Op σ ρ))) (g : Conc σ ρ) (t : Nat)
    (h : Inv d0 progs g) : Inv d0 progs (step g t) :=
  ⟨h.lock.move (step_move g t), h.data.move h.lock (step_move g t)⟩

theorem inv_exec (d0 : σ) (progs : List (List (Op σ ρ))) (g : Conc σ ρ) (sched : List Nat)
    (h : Inv d0 progs g) : Inv d0 progs (exec g sched) := by
  induction sched generalizing g with
  | nil => exact h
  | cons t rest ih => exact ih _ (inv_step d0 progs g t h)

theorem inv_reachable (d0 : σ) (progs : List (List (Op σ ρ))) (sched : List Nat) :
    Inv d0 progs (exec (init d0 progs) sched) :=
  inv_exec d0 progs _ sched (inv_init d0 progs)

theorem exec_invariant (P : σ → Prop) (d0 : σ) (progs : List (List (Op σ ρ))) (h0 : P d0)
    (hops : ∀ p ∈ progs, ∀ o ∈ p, o.write = true → ∀ d, P d → P (o.f d).1) (sched : List Nat) :
    P (exec (init d0 progs) sched).data := by
  have h := (inv_reachable d0 progs sched).data
  rw [h.data_eq, seqAll_eq]
  refine seqOps_invariant P _ (fun o ho => ?_) d0 h0
  obtain ⟨e, he, rfl⟩ := List.mem_map.1 ho
  obtain ⟨p, hp, hm⟩ := h.mem e he
  exact hops p (List.mem_of_getElem? hp) _ hm

end KotoVerif.C19
