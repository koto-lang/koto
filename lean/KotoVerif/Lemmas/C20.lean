/-
Lemmas about `Model/Serde.lean`. A fact about all value trees is one induction with the parts in
membership form (`Val.ind`); for that the mutually recursive list-level functions are restated on lists
(what they do on a `cons`, the predicates as "for all members", `normL`/`normE` as `List.map`). Besides:
association-list maps (`insertKV`/`buildMap`), UTF-8 decoding of an encoded scalar value, `fromKoto` on
the shapes `toKoto` produces, and the TOML entry order as a stable partition.
-/
import KotoVerif.Model.Serde

namespace KotoVerif.Serde
open KotoVerif

def keysOf (es : List (Val × Val)) : List Val := es.map (·.1)

/-- A fact about all values is one induction (no mutual block); its list-level form is the fact at
`.tuple xs`. -/
theorem Val.ind {P : Val → Prop} (null : P .null) (bool : ∀ b, P (.bool b)) (num : ∀ n, P (.num n))
    (str : ∀ s, P (.str s)) (range : ∀ a b, P (.range a b))
    (tuple : ∀ xs, (∀ x ∈ xs, P x) → P (.tuple xs)) (list : ∀ xs, (∀ x ∈ xs, P x) → P (.list xs))
    (map : ∀ es, (∀ e ∈ es, P e.2) → P (.map es)) : ∀ v, P v :=
  Val.rec (motive_2 := fun xs => ∀ x ∈ xs, P x) (motive_3 := fun es => ∀ e ∈ es, P e.2)
    (motive_4 := fun e => P e.2) null bool num str range tuple list map
    (fun _ h => nomatch h) (fun _ _ hx hxs => List.forall_mem_cons.2 ⟨hx, hxs⟩)
    (fun _ h => nomatch h) (fun _ _ he hes => List.forall_mem_cons.2 ⟨he, hes⟩) (fun _ _ _ hv => hv)

theorem serL_cons_some (X : Ext) (x : Val) (xs : List Val) (ss : List SVal) :
    serL X (x :: xs) = some ss ↔ ∃ s ss', ser X x = some s ∧ serL X xs = some ss' ∧ ss = s :: ss' := by
  simp only [serL]
  cases ser X x <;> cases serL X xs <;> simp [eq_comm]

theorem serE_cons_some (X : Ext) (k v : Val) (es : List (Val × Val)) (ss : List (SVal × SVal)) :
    serE X ((k, v) :: es) = some ss
      ↔ ∃ s ss', ser X v = some s ∧ serE X es = some ss' ∧ ss = (.str (keyStr X k), s) :: ss' := by
  simp only [serE]
  cases ser X v <;> cases serE X es <;> simp [eq_comm]

theorem deL_cons_some (x : SVal) (xs : List SVal) (vs : List Val) :
    deL (x :: xs) = some vs ↔ ∃ v vs', de x = some v ∧ deL xs = some vs' ∧ vs = v :: vs' := by
  simp only [deL]
  cases de x <;> cases deL xs <;> simp [eq_comm]

theorem deE_cons_some (k x : SVal) (es : List (SVal × SVal)) (kvs : List (Val × Val)) :
    deE ((k, x) :: es) = some kvs
      ↔ ∃ k' v r, de k = some k' ∧ de x = some v ∧ deE es = some r ∧ hashable k' = true
          ∧ kvs = (k', v) :: r := by
  simp only [deE]
  cases de k with
  | none => simp
  | some k' =>
    cases de x with
    | none => simp
    | some v =>
      cases deE es with
      | none => simp
      | some r => by_cases h : hashable k' = true <;> simp [h, @eq_comm _ kvs]

theorem toKotoL_cons_some (X : Ext) (x : RVal) (xs : List RVal) (vs : List Val) :
    toKotoL X (x :: xs) = some vs
      ↔ ∃ v vs', toKoto X x = some v ∧ toKotoL X xs = some vs' ∧ vs = v :: vs' := by
  simp only [toKotoL]
  cases toKoto X x <;> cases toKotoL X xs <;> simp [eq_comm]

theorem toKotoF_cons_some (X : Ext) (n : Name) (x : RVal) (es : List (Name × RVal))
    (kvs : List (Val × Val)) :
    toKotoF X ((n, x) :: es) = some kvs
      ↔ ∃ v kvs', toKoto X x = some v ∧ toKotoF X es = some kvs' ∧ kvs = (.str n, v) :: kvs' := by
  simp only [toKotoF]
  cases toKoto X x <;> cases toKotoF X es <;> simp [eq_comm]

theorem serL_cons_isSome (X : Ext) (x : Val) (xs : List Val) :
    (serL X (x :: xs)).isSome = ((ser X x).isSome && (serL X xs).isSome) := by
  simp only [serL]
  cases ser X x <;> cases serL X xs <;> rfl

theorem serE_cons_isSome (X : Ext) (k v : Val) (es : List (Val × Val)) :
    (serE X ((k, v) :: es)).isSome = ((ser X v).isSome && (serE X es).isSome) := by
  simp only [serE]
  cases ser X v <;> cases serE X es <;> rfl

theorem deL_cons_isSome (x : SVal) (xs : List SVal) :
    (deL (x :: xs)).isSome = ((de x).isSome && (deL xs).isSome) := by
  simp only [deL]
  cases de x <;> cases deL xs <;> rfl

theorem deE_cons_isSome (k v : SVal) (es : List (SVal × SVal)) :
    (deE ((k, v) :: es)).isSome = ((de k).any hashable && (de v).isSome && (deE es).isSome) := by
  simp only [deE]
  cases de k with
  | none => rfl
  | some k' =>
    cases de v with
    | none => simp
    | some v' =>
      cases deE es with
      | none => simp
      | some r => by_cases h : hashable k' = true <;> simp [h]

theorem toKotoL_cons_isSome (X : Ext) (x : RVal) (xs : List RVal) :
    (toKotoL X (x :: xs)).isSome = ((toKoto X x).isSome && (toKotoL X xs).isSome) := by
  simp only [toKotoL]
  cases toKoto X x <;> cases toKotoL X xs <;> rfl

theorem toKotoF_cons_isSome (X : Ext) (n : Name) (x : RVal) (es : List (Name × RVal)) :
    (toKotoF X ((n, x) :: es)).isSome = ((toKoto X x).isSome && (toKotoF X es).isSome) := by
  simp only [toKotoF]
  cases toKoto X x <;> cases toKotoF X es <;> rfl

theorem ofI_isSome (n : Int) : (ofI n).isSome = inI64 n := by
  unfold ofI
  cases inI64 n <;> rfl

theorem inI64_iff (n : Int) : inI64 n = true ↔ i64Min ≤ n ∧ n ≤ i64Max := by
  simp [inI64]

theorem ofI_none (n : Int) (h : n < i64Min ∨ i64Max < n) : ofI n = none :=
  if_neg fun hi => by
    have := (inI64_iff n).1 hi
    omega

theorem ofI_some (n : Int) (h1 : i64Min ≤ n) (h2 : n ≤ i64Max) :
    ∃ a : Int64, ofI n = some (.num (.i a)) ∧ a.toInt = n := by
  refine ⟨Int64.ofInt n, if_pos ((inI64_iff n).2 ⟨h1, h2⟩), ?_⟩
  apply Int64.toInt_ofInt_of_le <;> simp [i64Min, i64Max] at h1 h2 <;> omega

/-- what `KValueVisitor` answers to a JSON integer literal: the value if it fits `i64`, an error in
`(i64::MAX, u64::MAX]` (the literal arrives through `visit_u64`), the nearest float otherwise -/
theorem de_jsonInt (X : Ext) (n : Int) :
    de (jsonInt X n) =
      if i64Min ≤ n ∧ n ≤ i64Max then some (.num (.i (Int64.ofInt n)))
      else if n ≤ 18446744073709551615 ∧ i64Max < n then none
      else some (.num (.f (X.big2f n))) := by
  unfold jsonInt
  by_cases h1 : i64Min ≤ n ∧ n ≤ i64Max
  · rw [if_pos ((inI64_iff n).2 h1), if_pos h1]
    rfl
  · rw [if_neg (mt (inI64_iff n).1 h1), if_neg h1]
    -- outside `i64`, "fits `u64`" and "above `i64::MAX`, at most `u64::MAX`" are the same condition
    have hu : (0 ≤ n ∧ n ≤ 18446744073709551615) ↔ (n ≤ 18446744073709551615 ∧ i64Max < n) := by
      simp only [i64Min, i64Max] at h1 ⊢
      omega
    by_cases h2 : n ≤ 18446744073709551615 ∧ i64Max < n
    · rw [if_pos (hu.2 h2), if_pos h2]
      show ofI _ = none
      rw [Int.toNat_of_nonneg (hu.2 h2).1]
      exact ofI_none n (Or.inr h2.2)
    · rw [if_neg (mt hu.1 h2), if_neg h2]
      rfl

theorem insertKV_of_not_mem (k v : Val) :
    ∀ m : List (Val × Val), k ∉ keysOf m → insertKV k v m = m ++ [(k, v)]
  | [], _ => rfl
  | (k', v') :: r, h => by
    simp only [keysOf, List.map_cons, List.mem_cons, not_or] at h
    have hne : ¬ k' = k := fun e => h.1 e.symm
    simp only [insertKV, hne, ↓reduceIte, List.cons_append, List.cons.injEq, true_and]
    exact insertKV_of_not_mem k v r h.2

theorem insertKV_length (k v : Val) : ∀ m : List (Val × Val),
    m.length ≤ (insertKV k v m).length ∧ (insertKV k v m).length ≤ m.length + 1
  | [] => by simp [insertKV]
  | (k', v') :: r => by
    simp only [insertKV]
    split
    · simp
    · have := insertKV_length k v r
      simp only [List.length_cons]
      omega

theorem buildFrom_length : ∀ (es acc : List (Val × Val)),
    acc.length ≤ (buildFrom acc es).length ∧ (buildFrom acc es).length ≤ acc.length + es.length
  | [], acc => by simp [buildFrom]
  | (k, v) :: r, acc => by
    have h1 := buildFrom_length r (insertKV k v acc)
    have h2 := insertKV_length k v acc
    simp only [buildFrom, List.length_cons]
    omega

theorem keysOf_insertKV (k v : Val) :
    ∀ m : List (Val × Val), keysOf (insertKV k v m) = if k ∈ keysOf m then keysOf m else keysOf m ++ [k]
  | [] => by simp [insertKV, keysOf]
  | (k', v') :: r => by
    by_cases h : k' = k
    · simp [insertKV, h, keysOf]
    · have ih := keysOf_insertKV k v r
      have hne : ¬ k = k' := fun e => h e.symm
      simp only [insertKV, h, ↓reduceIte, keysOf, List.map_cons, List.mem_cons, hne, false_or] at ih ⊢
      rw [ih]
      by_cases hm : k ∈ List.map (fun x => x.fst) r <;> simp [hm]

theorem nodup_insertKV (k v : Val) (m : List (Val × Val)) (h : (keysOf m).Nodup) :
    (keysOf (insertKV k v m)).Nodup := by
  rw [keysOf_insertKV]
  split
  · exact h
  · rename_i hk
    exact (List.nodup_cons.2 ⟨hk, h⟩).perm (List.perm_append_singleton k _).symm

theorem nodup_buildFrom : ∀ (es acc : List (Val × Val)), (keysOf acc).Nodup → (keysOf (buildFrom acc es)).Nodup
  | [], _, h => h
  | (k, v) :: r, acc, h => nodup_buildFrom r _ (nodup_insertKV k v acc h)

theorem nodup_buildMap (es : List (Val × Val)) : (keysOf (buildMap es)).Nodup :=
  nodup_buildFrom es [] (by simp [keysOf])

theorem buildFrom_of_nodup : ∀ (es acc : List (Val × Val)),
    (keysOf acc ++ keysOf es).Nodup → buildFrom acc es = acc ++ es
  | [], acc, _ => by simp [buildFrom]
  | (k, v) :: r, acc, h => by
    have hk : k ∉ keysOf acc := by
      intro hm
      have := List.nodup_append.mp h
      exact this.2.2 k hm k (by simp [keysOf]) rfl
    rw [buildFrom, insertKV_of_not_mem k v acc hk, buildFrom_of_nodup r (acc ++ [(k, v)])]
    · simp
    · simpa [keysOf, List.append_assoc] using h

theorem buildMap_of_nodup (es : List (Val × Val)) (h : (keysOf es).Nodup) : buildMap es = es := by
  have := buildFrom_of_nodup es [] (by simpa [keysOf] using h)
  simpa [buildMap] using this

theorem buildMap_idem (es : List (Val × Val)) : buildMap (buildMap es) = buildMap es :=
  buildMap_of_nodup _ (nodup_buildMap es)

theorem mem_insertKV {k v : Val} {e : Val × Val} :
    ∀ {m : List (Val × Val)}, e ∈ insertKV k v m → e = (k, v) ∨ e ∈ m
  | [], h => .inl (List.mem_singleton.1 h)
  | (k', v') :: r, h => by
    unfold insertKV at h
    split at h
    · rename_i hk
      exact (List.mem_cons.1 h).imp (hk ▸ ·) (List.mem_cons_of_mem _)
    · exact (List.mem_cons.1 h).elim (fun h => .inr (h ▸ List.mem_cons_self)) fun h =>
        (mem_insertKV h).imp_right (List.mem_cons_of_mem _)

theorem mem_buildFrom {e : Val × Val} :
    ∀ (es acc : List (Val × Val)), e ∈ buildFrom acc es → e ∈ acc ∨ e ∈ es
  | [], _, h => .inl h
  | (_, _) :: r, _, h => (mem_buildFrom r _ h).elim
      (fun h => (mem_insertKV h).elim (fun h => .inr (h ▸ List.mem_cons_self)) .inl)
      fun h => .inr (List.mem_cons_of_mem _ h)

/-- `IndexMap::insert` adds or overwrites, nothing else: whatever holds of all entries handed over holds
of all entries of the map -/
theorem mem_of_mem_buildMap {e : Val × Val} {es : List (Val × Val)} (h : e ∈ buildMap es) : e ∈ es :=
  (mem_buildFrom es [] h).elim (fun h => nomatch h) id

theorem serializableL_iff : ∀ xs : List Val, serializableL xs = true ↔ ∀ x ∈ xs, serializable x = true
  | [] => by simp [serializableL]
  | x :: r => by simp [serializableL, serializableL_iff r]

theorem serializableE_iff : ∀ es : List (Val × Val), serializableE es = true ↔ ∀ e ∈ es, serializable e.2 = true
  | [] => by simp [serializableE]
  | (k, v) :: r => by simp [serializableE, serializableE_iff r]

theorem noNullL_iff : ∀ xs : List Val, noNullL xs = true ↔ ∀ x ∈ xs, noNull x = true
  | [] => by simp [noNullL]
  | x :: r => by simp [noNullL, noNullL_iff r]

theorem noNullE_iff : ∀ es : List (Val × Val), noNullE es = true ↔ ∀ e ∈ es, noNull e.2 = true
  | [] => by simp [noNullE]
  | (k, v) :: r => by simp [noNullE, noNullE_iff r]

theorem allFiniteE_iff : ∀ es : List (Val × Val), allFiniteE es = true ↔ ∀ e ∈ es, allFinite e.2 = true
  | [] => by simp [allFiniteE]
  | (k, v) :: r => by simp [allFiniteE, allFiniteE_iff r]

theorem noNullE_append : ∀ a b : List (Val × Val), noNullE (a ++ b) = (noNullE a && noNullE b)
  | [], b => by simp [noNullE]
  | (k, v) :: a, b => by simp [noNullE, noNullE_append a b, Bool.and_assoc]

theorem serializableE_append : ∀ a b : List (Val × Val),
    serializableE (a ++ b) = (serializableE a && serializableE b)
  | [], b => by simp [serializableE]
  | (k, v) :: a, b => by simp [serializableE, serializableE_append a b, Bool.and_assoc]

theorem strKeysL_iff : ∀ xs : List Val, strKeysL xs = true ↔ ∀ x ∈ xs, strKeys x = true
  | [] => by simp [strKeysL]
  | x :: r => by simp [strKeysL, strKeysL_iff r]

theorem strKeysE_iff (es : List (Val × Val)) :
    strKeysE es = true ↔ ∀ e ∈ es, (∃ s, e.1 = .str s) ∧ strKeys e.2 = true := by
  induction es with
  | nil => exact ⟨fun _ _ h => (nomatch h), fun _ => rfl⟩
  | cons e r ih =>
    obtain ⟨k, v⟩ := e
    rw [List.forall_mem_cons, ← ih]
    cases k with
    | str s =>
      show (strKeys v && strKeysE r) = true ↔ _
      rw [Bool.and_eq_true]
      exact ⟨fun h => ⟨⟨⟨s, rfl⟩, h.1⟩, h.2⟩, fun h => ⟨h.1.2, h.2⟩⟩
    | _ => exact ⟨fun h => (nomatch h), fun h => (nomatch h.1.1)⟩

theorem depthL_le_iff (d : Nat) : ∀ xs : List Val, depthL xs ≤ d ↔ ∀ x ∈ xs, depth x ≤ d
  | [] => by simp [depthL]
  | x :: r => by simp [depthL, Nat.max_le, depthL_le_iff d r]

theorem depthE_le_iff (d : Nat) : ∀ es : List (Val × Val), depthE es ≤ d ↔ ∀ e ∈ es, depth e.2 ≤ d
  | [] => by simp [depthE]
  | (k, v) :: r => by simp [depthE, Nat.max_le, depthE_le_iff d r]

theorem depth_le_depthL {x : Val} {xs : List Val} (h : x ∈ xs) : depth x ≤ depthL xs :=
  (depthL_le_iff _ xs).1 (Nat.le_refl _) x h

theorem depth_le_depthE {e : Val × Val} {es : List (Val × Val)} (h : e ∈ es) : depth e.2 ≤ depthE es :=
  (depthE_le_iff _ es).1 (Nat.le_refl _) e h

theorem depthE_append : ∀ a b : List (Val × Val), depthE (a ++ b) = max (depthE a) (depthE b)
  | [], b => by simp [depthE]
  | (k, v) :: a, b => by simp [depthE, depthE_append a b, Nat.max_assoc]

theorem normL_eq (X : Ext) : ∀ xs : List Val, normL X xs = xs.map (norm X)
  | [] => rfl
  | x :: xs => congrArg (norm X x :: ·) (normL_eq X xs)

theorem normE_eq (X : Ext) : ∀ es : List (Val × Val),
    normE X es = es.map fun e => (.str (keyStr X e.1), norm X e.2)
  | [] => rfl
  | (k, v) :: es => congrArg ((Val.str (keyStr X k), norm X v) :: ·) (normE_eq X es)

theorem normL_length (X : Ext) (xs : List Val) : (normL X xs).length = xs.length := by
  rw [normL_eq, List.length_map]

theorem normE_length (X : Ext) (es : List (Val × Val)) : (normE X es).length = es.length := by
  rw [normE_eq, List.length_map]

theorem forall_mem_normL (X : Ext) {P : Val → Prop} {xs : List Val} :
    (∀ y ∈ normL X xs, P y) ↔ ∀ x ∈ xs, P (norm X x) := by
  rw [normL_eq]
  exact List.forall_mem_map

theorem normE_mem (X : Ext) : ∀ (es : List (Val × Val)) (e : Val × Val), e ∈ normE X es →
    ∃ e0 ∈ es, e = (.str (keyStr X e0.1), norm X e0.2) := by
  intro es e h
  rw [normE_eq] at h
  obtain ⟨e0, h0, rfl⟩ := List.mem_map.1 h
  exact ⟨e0, h0, rfl⟩

theorem normE_fix (X : Ext) (es : List (Val × Val))
    (h : ∀ e ∈ es, (∃ s, e.1 = .str s) ∧ norm X e.2 = e.2) : normE X es = es := by
  rw [normE_eq]
  refine (List.map_congr_left fun e he => ?_).trans (List.map_id es)
  obtain ⟨⟨s, hs⟩, hv⟩ := h e he
  exact Prod.ext (hs ▸ rfl) hv

theorem mem_norm_map (X : Ext) {es : List (Val × Val)} {e : Val × Val}
    (h : e ∈ buildMap (normE X es)) : ∃ e0 ∈ es, e = (.str (keyStr X e0.1), norm X e0.2) :=
  normE_mem X es e (mem_of_mem_buildMap h)

theorem norm_map_entries (X : Ext) (Q : Val → Prop) (es : List (Val × Val))
    (h : ∀ e ∈ es, Q (norm X e.2)) : ∀ e ∈ buildMap (normE X es), (∃ s, e.1 = .str s) ∧ Q e.2 :=
  fun e he => by
    obtain ⟨e0, h0, rfl⟩ := mem_norm_map X he
    exact ⟨⟨_, rfl⟩, h e0 h0⟩

theorem insertN_of_not_mem (k : Name) (v : RVal) :
    ∀ m : List (Name × RVal), k ∉ names m → insertN k v m = m ++ [(k, v)]
  | [], _ => rfl
  | (k', v') :: r, h => by
    simp only [names, List.map_cons, List.mem_cons, not_or] at h
    have hne : ¬ k' = k := fun e => h.1 e.symm
    simp only [insertN, hne, ↓reduceIte, List.cons_append, List.cons.injEq, true_and]
    exact insertN_of_not_mem k v r h.2

theorem buildFromN_of_nodup : ∀ (es acc : List (Name × RVal)),
    (names acc ++ names es).Nodup → buildFromN acc es = acc ++ es
  | [], acc, _ => by simp [buildFromN]
  | (k, v) :: r, acc, h => by
    have hk : k ∉ names acc := by
      intro hm
      have := List.nodup_append.mp h
      exact this.2.2 k hm k (by simp [names]) rfl
    rw [buildFromN, insertN_of_not_mem k v acc hk, buildFromN_of_nodup r (acc ++ [(k, v)])]
    · simp
    · simpa [names, List.append_assoc] using h

theorem buildN_of_nodup (es : List (Name × RVal)) (h : (names es).Nodup) : buildFromN [] es = es := by
  have := buildFromN_of_nodup es [] (by simpa [names] using h)
  simpa using this

theorem isCont_low (x : Nat) (h : x < 64) : isCont (0x80 + x) = true := by
  simp only [isCont, Bool.and_eq_true, decide_eq_true_eq]
  omega

/-- a number from its base-64 digits (three and four of them) -/
theorem digits64 (x : Nat) :
    x / 4096 * 4096 + x / 64 % 64 * 64 + x % 64 = x
      ∧ x / 262144 * 262144 + x / 4096 % 64 * 4096 + x / 64 % 64 * 64 + x % 64 = x := by
  have h1 := Nat.div_add_mod' x 64
  have h2 := Nat.div_add_mod' (x / 64) 64
  have h3 := Nat.div_add_mod' (x / 64 / 64) 64
  have e2 : x / 4096 = x / 64 / 64 := (Nat.div_div_eq_div_mul x 64 64).symm
  have e3 : x / 262144 = x / 64 / 64 / 64 := by
    rw [Nat.div_div_eq_div_mul, Nat.div_div_eq_div_mul]
  rw [e2, e3]
  generalize x / 64 / 64 / 64 = a at *
  generalize x / 64 / 64 % 64 = b at *
  generalize x / 64 / 64 = q2 at *
  generalize x / 64 % 64 = c at *
  generalize x / 64 = q1 at *
  generalize x % 64 = d at *
  omega

theorem decodeOne_utf8 (cp : Nat) (h : scalar cp = true) : decodeOne (utf8 cp) = some cp := by
  have hlt : cp < 0x110000 := by
    simp only [scalar, Bool.or_eq_true, Bool.and_eq_true, decide_eq_true_eq] at h
    omega
  have hc : ∀ x, isCont (0x80 + x % 64) = true := fun x => isCont_low _ (Nat.mod_lt _ (by decide))
  unfold utf8
  split
  · simp [decodeOne, *]
  split
  · have e : cp / 64 * 64 + cp % 64 = cp := by omega
    have c : 0xC0 + cp / 64 < 0xE0 := by omega
    simp only [decodeOne, Nat.le_add_right, c, hc, Nat.add_sub_cancel_left, decide_true, Bool.and_self,
      if_true, e]
  split
  · have e : cp / 4096 * 4096 + cp / 64 % 64 * 64 + cp % 64 = cp := (digits64 cp).1
    have c : 0xE0 + cp / 4096 < 0xF0 := by omega
    simp only [decodeOne, Nat.le_add_right, c, hc, Nat.add_sub_cancel_left, decide_true, Bool.and_self,
      if_true, e]
  · have e : cp / 262144 * 262144 + cp / 4096 % 64 * 4096 + cp / 64 % 64 * 64 + cp % 64 = cp :=
      (digits64 cp).2
    have c : 0xF0 + cp / 262144 < 0xF8 := by omega
    simp only [decodeOne, Nat.le_add_right, c, hc, Nat.add_sub_cancel_left, decide_true, Bool.and_self,
      if_true, e]

theorem toKotoF_keys (X : Ext) : ∀ (es : List (Name × RVal)) (kvs : List (Val × Val)),
    toKotoF X es = some kvs → keysOf kvs = (names es).map Val.str
  | [], kvs, h => by cases h; rfl
  | (n, x) :: es, kvs, h => by
    obtain ⟨_, _, h1, h2, rfl⟩ := (toKotoF_cons_some _ _ _ _ _).1 h
    have ih := toKotoF_keys X es _ h2
    simp only [keysOf, names, List.map_map] at ih
    simp [keysOf, names, ih]

theorem nodup_map_str (ns : List Name) (h : ns.Nodup) : (ns.map Val.str).Nodup :=
  List.Pairwise.map Val.str (fun _ _ hab e => hab (Val.str.inj e)) h

/-- with distinct names the `ValueMap` built by `serialize_map`/`serialize_struct` is the plain
entry list -/
theorem buildMap_toKotoF (X : Ext) (es : List (Name × RVal)) (kvs : List (Val × Val))
    (h : toKotoF X es = some kvs) (hn : (names es).Nodup) : buildMap kvs = kvs :=
  buildMap_of_nodup kvs (by rw [toKotoF_keys X es kvs h]; exact nodup_map_str _ hn)

theorem allStrKeys_toKotoF (X : Ext) : ∀ (es : List (Name × RVal)) (kvs : List (Val × Val)),
    toKotoF X es = some kvs → allStrKeys kvs = true
  | [], kvs, h => by cases h; rfl
  | (n, x) :: es, kvs, h => by
    obtain ⟨_, _, h1, h2, rfl⟩ := (toKotoF_cons_some _ _ _ _ _).1 h
    simp [allStrKeys, allStrKeys_toKotoF X es _ h2]

theorem countKey_toKotoF (X : Ext) (n : Name) : ∀ (es : List (Name × RVal)) (kvs : List (Val × Val)),
    toKotoF X es = some kvs → countKey n kvs = (names es).count n
  | [], kvs, h => by cases h; rfl
  | (m, x) :: es, kvs, h => by
    obtain ⟨_, _, h1, h2, rfl⟩ := (toKotoF_cons_some _ _ _ _ _).1 h
    simp only [countKey, names, List.map_cons, List.count_cons, countKey_toKotoF X n es _ h2]
    by_cases hm : m = n <;> simp [hm, Nat.add_comm]

theorem fieldsOnce_of_nodup {α : Type} (X : Ext) (es : List (Name × RVal)) (kvs : List (Val × Val))
    (h : toKotoF X es = some kvs) (hn : (names es).Nodup) :
    ∀ fs : List (Name × α), fieldsOnce fs kvs = true
  | [] => rfl
  | (n, _) :: fs => by
    simp only [fieldsOnce, Bool.and_eq_true, decide_eq_true_eq]
    refine ⟨?_, fieldsOnce_of_nodup X es kvs h hn fs⟩
    rw [countKey_toKotoF X n es kvs h]
    exact List.nodup_iff_count.mp hn n

theorem lookup_toKotoF (X : Ext) : ∀ (es : List (Name × RVal)) (kvs : List (Val × Val)),
    toKotoF X es = some kvs → (names es).Nodup →
    ∀ e ∈ es, ∃ v, toKoto X e.2 = some v ∧ lookupStr e.1 kvs = some v
  | [], _, _, _, e, he => by simp at he
  | (n, x) :: es, kvs, h, hn, e, he => by
    obtain ⟨_, _, h1, h2, rfl⟩ := (toKotoF_cons_some _ _ _ _ _).1 h
    simp only [names, List.map_cons, List.nodup_cons] at hn
    simp only [List.mem_cons] at he
    rcases he with he | he
    · subst he
      exact ⟨_, h1, by simp [lookupStr]⟩
    · obtain ⟨v, hv1, hv2⟩ := lookup_toKotoF X es _ h2 hn.2 e he
      refine ⟨v, hv1, ?_⟩
      have hne : ¬ n = e.1 := fun heq => hn.1 (heq ▸ List.mem_map_of_mem (f := (·.1)) he)
      simp [lookupStr, hne, hv2]

theorem allM_rt (X : Ext) (f : Val → Option RVal) : ∀ (xs : List RVal) (vs : List Val),
    (∀ x ∈ xs, ∀ v, toKoto X x = some v → f v = some x) → toKotoL X xs = some vs → allM f vs = some xs
  | [], vs, _, h => by cases h; rfl
  | x :: xs, vs, hx, h => by
    obtain ⟨_, _, h1, h2, rfl⟩ := (toKotoL_cons_some _ _ _ _).1 h
    simp [allM, hx x (by simp) _ h1, allM_rt X f xs _ (fun y hy => hx y (by simp [hy])) h2]

theorem entriesM_rt (X : Ext) (f : Val → Option RVal) : ∀ (es : List (Name × RVal)) (kvs : List (Val × Val)),
    (∀ e ∈ es, ∀ v, toKoto X e.2 = some v → f v = some e.2) → toKotoF X es = some kvs →
    entriesM f kvs = some es
  | [], kvs, _, h => by cases h; rfl
  | (n, x) :: es, kvs, hx, h => by
    obtain ⟨_, _, h1, h2, rfl⟩ := (toKotoF_cons_some _ _ _ _ _).1 h
    simp [entriesM, strKey?, hx (n, x) (by simp) _ h1,
      entriesM_rt X f es _ (fun e he => hx e (by simp [he])) h2]

theorem toKoto_ne_null (X : Ext) (t : Ty) (x : RVal) (hn : nullable t = false)
    (ht : hasTy t x = true) (hk : toKoto X x = some .null) : False := by
  cases x with
  | unit | none | some _ =>
    -- these have a nullable type only
    cases t with
    | unit | option _ => cases hn
    | _ => cases ht
  | bool _ | f32 _ | f64 _ | char _ | str _ => cases hk
  | int n =>
    simp only [toKoto, ofI] at hk
    split at hk <;> cases hk
  | seq _ | tuple _ | map _ | struct _ => simp [toKoto] at hk
  | variant n k p => cases k <;> simp [toKoto] at hk

/-! ### `fromKoto` on the shapes `toKoto` produces (each by unfolding the definition)

`fromKoto` and `hasTy` match on a type and a value at once. Open them with these equations, `show`, `rfl`,
`cases` on the hypothesis, or `unfold`; `simp [fromKoto]` / `simp [hasTy]` first make every equation lemma
of the double match (several million heartbeats), and do so again in each theorem that asks. -/

theorem fromKoto_option (X : Ext) (t : Ty) (v : Val) (h : v ≠ .null) :
    fromKoto X (.option t) v = (fromKoto X t v).map .some := by
  cases v with
  | null => exact absurd rfl h
  | _ => rfl

theorem fromKoto_seq (X : Ext) (t : Ty) (vs : List Val) :
    fromKoto X (.seq t) (.tuple vs) = (allM (fromKoto X t) vs).map .seq := rfl

theorem fromKoto_tuple (X : Ext) (ts : List Ty) (vs : List Val) :
    fromKoto X (.tuple ts) (.tuple vs) = (fromPos X ts vs).map .tuple := rfl

theorem fromKoto_map (X : Ext) (t : Ty) (es : List (Val × Val)) :
    fromKoto X (.map t) (.map es)
      = (entriesM (fromKoto X t) es).map (fun kvs => .map (buildFromN [] kvs)) := rfl

theorem fromKoto_struct (X : Ext) (fs : List (Name × Ty)) (es : List (Val × Val)) :
    fromKoto X (.struct fs) (.map es)
      = if allStrKeys es && fieldsOnce fs es then (fromFields X fs es).map .struct else none := rfl

theorem fromKoto_enum (X : Ext) (vs : List (Name × VKind × Ty)) (s : Name) (payload : Val) :
    fromKoto X (.enum vs) (.map [(.str s, payload)]) = fromVariant X vs s payload := rfl

theorem fromPos_cons_some (X : Ext) {t : Ty} {ts : List Ty} {v : Val} {vs : List Val} {x : RVal}
    {xs : List RVal} (h1 : fromKoto X t v = some x) (h2 : fromPos X ts vs = some xs) :
    fromPos X (t :: ts) (v :: vs) = some (x :: xs) := by
  simp only [fromPos, h1, h2]

theorem fromFields_cons_some (X : Ext) {n : Name} {t : Ty} {fs : List (Name × Ty)}
    {es : List (Val × Val)} {v : Val} {x : RVal} {r : List (Name × RVal)}
    (hl : lookupStr n es = some v) (h1 : fromKoto X t v = some x) (h2 : fromFields X fs es = some r) :
    fromFields X ((n, t) :: fs) es = some ((n, x) :: r) := by
  simp only [fromFields, hl, h1, h2]

theorem fromInt_i (X : Ext) (k : IntK) (a : Int64) : fromInt X k (.i a) =
    if k.lo ≤ a.toInt ∧ a.toInt ≤ k.hi then some (.int a.toInt) else none := rfl

theorem rt_int (X : Ext) (k : IntK) (n : Int) (v : Val) (h1 : k.lo ≤ n) (h2 : n ≤ k.hi)
    (hk : toKoto X (.int n) = some v) : fromKoto X (.int k) v = some (.int n) := by
  have hk : ofI n = some v := hk
  have hin := (inI64_iff n).1 ((ofI_isSome n).symm.trans (by rw [hk]; rfl))
  obtain ⟨a, ha, rfl⟩ := ofI_some n hin.1 hin.2
  cases hk.symm.trans ha
  exact (fromInt_i X k a).trans (if_pos ⟨h1, h2⟩)

theorem hasTyFields_names : ∀ (fs : List (Name × Ty)) (xs : List (Name × RVal)),
    hasTyFields fs xs = true → names fs = names xs
  | [], xs, h => by cases xs <;> simp [hasTyFields] at h; rfl
  | (n, t) :: fs, xs, h => by
    cases xs with
    | nil => simp [hasTyFields] at h
    | cons e xs =>
      obtain ⟨m, x⟩ := e
      simp only [hasTyFields, Bool.and_eq_true, decide_eq_true_eq] at h
      have ih := hasTyFields_names fs xs h.2
      simp only [names] at ih
      simp [names, h.1.1, ih]

theorem rtVariantUnit (X : Ext) : ∀ (vs : List (Name × VKind × Ty)) (n : Name) (p : RVal),
    wfTyV vs = true → hasTyVariant vs n .unit p = true →
    fromVariant X vs n .null = some (.variant n .unit .unit) ∧ p = .unit
  | [], n, p, _, ht => by cases ht
  | (m, k', t) :: vs, n, p, hw, ht => by
    simp only [wfTyV, Bool.and_eq_true] at hw
    simp only [hasTyVariant] at ht
    by_cases hm : m = n
    · subst hm
      simp only [↓reduceIte, Bool.and_eq_true, decide_eq_true_eq] at ht
      obtain ⟨rfl, htp⟩ := ht
      have hk := hw.1.1
      cases t with
      | unit =>
        cases p with
        | unit => simp [fromVariant]
        | _ => cases htp
      | _ => cases hk
    · simp only [hm, ↓reduceIte] at ht
      simpa [fromVariant, hm] using rtVariantUnit X vs n p hw.2 ht

theorem allSome_none_of_mem {α : Type} : ∀ l : List (Option α), none ∈ l → allSome l = none
  | [], h => by simp at h
  | none :: _, _ => rfl
  | some a :: r, h => by
    simp only [List.mem_cons, reduceCtorEq, false_or] at h
    simp [allSome, allSome_none_of_mem r h]

theorem isMap_tomlOrd (v : Val) : isMap (tomlOrd v) = isMap v := by
  cases v with
  | tuple xs | list xs =>
    by_cases h : (!xs.isEmpty && xs.all isMap) = true
    · simp only [tomlOrd, h, ↓reduceIte, isMap]
    · simp [tomlOrd, h]
  | map es => simp only [tomlOrd, isMap]
  | null | bool _ | num _ | str _ | range _ _ => rfl

theorem tomlOrdL_isEmpty : ∀ xs : List Val, (tomlOrdL xs).isEmpty = xs.isEmpty
  | [] | _ :: _ => rfl

theorem tomlOrdL_all_isMap : ∀ xs : List Val, (tomlOrdL xs).all isMap = xs.all isMap
  | [] => rfl
  | x :: xs => by simp [tomlOrdL, isMap_tomlOrd, tomlOrdL_all_isMap xs]

theorem isTableLike_tomlOrd (v : Val) : isTableLike (tomlOrd v) = isTableLike v := by
  cases v with
  | tuple xs | list xs =>
    by_cases h : (!xs.isEmpty && xs.all isMap) = true
    · simp only [tomlOrd, h, ↓reduceIte, isTableLike, tomlOrdL_isEmpty, tomlOrdL_all_isMap]
    · simp [tomlOrd, h]
  | map es => simp only [tomlOrd, isTableLike]
  | null | bool _ | num _ | str _ | range _ _ => rfl

/-- TOML's entry order is a stable partition of the entries by `isTableLike`: `tomlPlain` keeps the
inline ones, `tomlTables` the others, each ordered inside. What follows about the two is list algebra
of `filter`. -/
theorem tomlPlain_eq : ∀ es : List (Val × Val), tomlPlain es = es.filter fun e => !isTableLike e.2
  | [] => rfl
  | (k, v) :: es => by
    rw [tomlPlain, tomlPlain_eq es, List.filter_cons]
    cases isTableLike v <;> rfl

theorem tomlTables_eq : ∀ es : List (Val × Val),
    tomlTables es = (es.filter fun e => isTableLike e.2).map fun e => (e.1, tomlOrd e.2)
  | [] => rfl
  | (k, v) :: es => by
    rw [tomlTables, tomlTables_eq es, List.filter_cons]
    cases isTableLike v <;> rfl

theorem tomlPlain_append (a b : List (Val × Val)) : tomlPlain (a ++ b) = tomlPlain a ++ tomlPlain b := by
  simp only [tomlPlain_eq, List.filter_append]

theorem tomlTables_append (a b : List (Val × Val)) : tomlTables (a ++ b) = tomlTables a ++ tomlTables b := by
  simp only [tomlTables_eq, List.filter_append, List.map_append]

theorem tomlPlain_plain (es : List (Val × Val)) : tomlPlain (tomlPlain es) = tomlPlain es := by
  simp only [tomlPlain_eq, List.filter_filter, Bool.and_self]

theorem tomlTables_plain (es : List (Val × Val)) : tomlTables (tomlPlain es) = [] := by
  simp [tomlPlain_eq, tomlTables_eq, List.filter_filter]

/-- ordering a table-like value inside leaves it table-like, so none of them is written inline -/
theorem tomlPlain_tables (es : List (Val × Val)) : tomlPlain (tomlTables es) = [] := by
  simp [tomlPlain_eq, tomlTables_eq, List.filter_map, Function.comp_def, isTableLike_tomlOrd,
    List.filter_filter]

end KotoVerif.Serde
