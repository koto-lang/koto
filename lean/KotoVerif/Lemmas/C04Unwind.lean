/-
C04 — errors pass unchanged through every construct that is not a try block. `Sub cfg P n outer inner`:
evaluating `outer` with fuel `n + 1` evaluates `inner` with fuel `n` in a position where an `err` outcome of
`inner` becomes the outcome of `outer` (the frame's locals are restored when a call / generator boundary is
crossed; heap and trace are passed on as they are). Its constructors enumerate the positions; `Path` chains
any number of such links.
-/
import KotoVerif.Lemmas.C04Step

namespace KotoVerif.Try

/-- how a native adaptor continues after a successful callback -/
def natNextAcc (k : NatKind) (accL : List Val) (accV it v : Val) : Option (List Val × Val) :=
  match k, v with
  | .each, v => some (accL ++ [v], accV)
  | .keep, .bool b => some (if b then accL ++ [it] else accL, accV)
  | .keep, _ => none
  | .fold, v => some (accL, v)
  | .sort, v => some (accL ++ [v], accV)

def natArgs (k : NatKind) (accV it : Val) : List Val :=
  match k with
  | .fold => [accV, it]
  | _ => [it]

inductive Sub (cfg : Cfg) (P : Prog) (n : Nat) : Task × St → Task × St → Prop where
  -- sequences and argument lists
  | evSeq es σ : Sub cfg P n (.ev (.seq es), σ) (.seq es .null, σ)
  | seqHead e rest last σ : Sub cfg P n (.seq (e :: rest) last, σ) (.ev e, σ)
  | seqTail e rest last σ v' σ1 : run cfg P n (.ev e) σ = (.ok v', σ1) →
      Sub cfg P n (.seq (e :: rest) last, σ) (.seq rest v', σ1)
  | argHead e rest acc σ : Sub cfg P n (.evs (e :: rest) acc, σ) (.ev e, σ)
  | argTail e rest acc σ v' σ1 : run cfg P n (.ev e) σ = (.ok v', σ1) →
      Sub cfg P n (.evs (e :: rest) acc, σ) (.evs rest (acc ++ [v']), σ1)
  -- simple operand positions
  | assignRhs x e σ : Sub cfg P n (.ev (.assign x e), σ) (.ev e, σ)
  | emitArg t e σ : Sub cfg P n (.ev (.emit t (some e)), σ) (.ev e, σ)
  | throwArg e σ : Sub cfg P n (.ev (.throw e), σ) (.ev e, σ)
  | retArg e σ : Sub cfg P n (.ev (.ret e), σ) (.ev e, σ)
  | breakValue e σ : Sub cfg P n (.ev (.brkV e), σ) (.ev e, σ)
  | mkListArgs es σ : Sub cfg P n (.ev (.mkList es), σ) (.evs es [], σ)
  | interpHoles t es σ : Sub cfg P n (.ev (.emitI t es), σ) (.evs es [], σ)
  | indexArgs l i σ : Sub cfg P n (.ev (.index l i), σ) (.evs [l, i] [], σ)
  | pushArgs l e σ : Sub cfg P n (.ev (.push l e), σ) (.evs [l, e] [], σ)
  | setIdxArgs l i e σ : Sub cfg P n (.ev (.setIdx l i e), σ) (.evs [l, i, e] [], σ)
  | binArgs op a b σ : Sub cfg P n (.ev (.bin op a b), σ) (.evs [a, b] [], σ)
  | iteCond c t e σ : Sub cfg P n (.ev (.ite c t e), σ) (.ev c, σ)
  | iteThen c t e σ v' σ1 : run cfg P n (.ev c) σ = (.ok v', σ1) → v'.truthy = true →
      Sub cfg P n (.ev (.ite c t e), σ) (.ev t, σ1)
  | iteElse c t e σ v' σ1 : run cfg P n (.ev c) σ = (.ok v', σ1) → v'.truthy = false →
      Sub cfg P n (.ev (.ite c t e), σ) (.ev e, σ1)
  -- displaying a value (print / interpolation): `@display` functions of the value or of the
  -- elements of a container, at any nesting depth — as long as every element before it is a
  -- container or an object with `@display`: there is no link past a plain value
  | emitDisp t e σ v' σ1 : run cfg P n (.ev e) σ = (.ok v', σ1) →
      Sub cfg P n (.ev (.emit t (some e)), σ) (.disp [v'] [], σ1)
  | interpDisp t es σ vs σ1 : run cfg P n (.evs es []) σ = (.vals vs, σ1) →
      Sub cfg P n (.ev (.emitI t es), σ) (.disp (vs.intersperse (.str .sep)) [], σ1)
  | dispContainer r rest acc σ :
      Sub cfg P n (.disp (.list r :: rest) acc, σ) (.disp (σ.heap.getD r [] ++ .str .rb :: rest) (acc ++ [.str .lb]), σ)
  | dispObject c rest acc σ f : (P.classes.getD c {}).dispFn = some f →
      Sub cfg P n (.disp (.obj c :: rest) acc, σ) (.callF f [.obj c], σ)
  | dispNext c rest acc σ f k σ1 : (P.classes.getD c {}).dispFn = some f →
      run cfg P n (.callF f [.obj c]) σ = (.ok (.str (.lit k)), σ1) →
      Sub cfg P n (.disp (.obj c :: rest) acc, σ) (.disp rest (acc ++ [.str (.shown k)]), σ1)
  -- calls
  | callArgs f args σ : Sub cfg P n (.ev (.call f args), σ) (.evs args [], σ)
  | callFn f args σ vs σ1 : run cfg P n (.evs args []) σ = (.vals vs, σ1) →
      Sub cfg P n (.ev (.call f args), σ) (.callF f vs, σ1)
  | callBody f args d σ : P.defs[f]? = some d → d.isGen = false → args.length = d.nparams →
      Sub cfg P n (.callF f args, σ)
        (.ev d.body, { σ with locals := args ++ List.replicate (d.nlocals - args.length) Val.null })
  -- native adaptors calling back into functions
  | nativeArg k f l σ : Sub cfg P n (.ev (.native k f l), σ) (.ev l, σ)
  | nativeRun k f l σ r σ1 : run cfg P n (.ev l) σ = (.ok (.list r), σ1) →
      Sub cfg P n (.ev (.native k f l), σ) (.nat k f r (σ1.heap.getD r []) [] (.int 0), σ1)
  | natCallback k f r it rest accL accV σ :
      Sub cfg P n (.nat k f r (it :: rest) accL accV, σ) (.callF f (natArgs k accV it), σ)
  | natNext k f r it rest accL accV σ v' σ1 aL aV :
      run cfg P n (.callF f (natArgs k accV it)) σ = (.ok v', σ1) →
      natNextAcc k accL accV it v' = some (aL, aV) →
      Sub cfg P n (.nat k f r (it :: rest) accL accV, σ) (.nat k f r rest aL aV, σ1)
  -- overloaded operators
  | opAdd a b σ c y σ1 f : run cfg P n (.evs [a, b] []) σ = (.vals [.obj c, y], σ1) →
      (P.classes.getD c {}).addFn = some f →
      Sub cfg P n (.ev (.bin .add a b), σ) (.callF f [.obj c, y], σ1)
  | opLt a b σ c y σ1 f : run cfg P n (.evs [a, b] []) σ = (.vals [.obj c, y], σ1) →
      (P.classes.getD c {}).ltFn = some f →
      Sub cfg P n (.ev (.bin .lt a b), σ) (.callF f [.obj c, y], σ1)
  | opGe a b σ c y σ1 f : run cfg P n (.evs [a, b] []) σ = (.vals [.obj c, y], σ1) →
      (P.classes.getD c {}).ltFn = some f →
      Sub cfg P n (.ev (.bin .ge a b), σ) (.callF f [.obj c, y], σ1)
  -- loops
  | forListArg x l body σ : Sub cfg P n (.ev (.forList x l body), σ) (.ev l, σ)
  | forListRun x l body σ r σ1 : run cfg P n (.ev l) σ = (.ok (.list r), σ1) →
      Sub cfg P n (.ev (.forList x l body), σ) (.loopL x (σ1.heap.getD r []) body, σ1)
  | loopBody x it rest body σ : Sub cfg P n (.loopL x (it :: rest) body, σ) (.ev body, setLocal σ x it)
  | loopNext x it rest body σ s σ1 : run cfg P n (.ev body) (setLocal σ x it) = (s, σ1) →
      ((∃ v', s = .ok v') ∨ s = .cont) →
      Sub cfg P n (.loopL x (it :: rest) body, σ) (.loopL x rest body, σ1)
  -- generators consumed by `for`: the error is passed on as it is
  | forGenArgs x g args body σ : Sub cfg P n (.ev (.forGen x g args body), σ) (.evs args [], σ)
  | forGenRun x g args body σ vs σ1 d : run cfg P n (.evs args []) σ = (.vals vs, σ1) →
      P.defs[g]? = some d → d.isGen = true → vs.length = d.nparams →
      Sub cfg P n (.ev (.forGen x g args body), σ)
        (.loopG x (vs ++ List.replicate (d.nlocals - vs.length) Val.null) d.segs d.tail body, σ1)
  | genSegment x gl pre yv rest tail body σ :
      Sub cfg P n (.loopG x gl ((pre, yv) :: rest) tail body, σ) (.seq [pre, yv] .null, { σ with locals := gl })
  | genTail x gl tail body σ :
      Sub cfg P n (.loopG x gl [] tail body, σ) (.ev tail, { σ with locals := gl })
  | genBody x gl pre yv rest tail body σ v' σ1 :
      run cfg P n (.seq [pre, yv] .null) { σ with locals := gl } = (.ok v', σ1) →
      Sub cfg P n (.loopG x gl ((pre, yv) :: rest) tail body, σ)
        (.ev body, setLocal { σ1 with locals := σ.locals } x v')
  | genNext x gl pre yv rest tail body σ v' σ1 s σ2 :
      run cfg P n (.seq [pre, yv] .null) { σ with locals := gl } = (.ok v', σ1) →
      run cfg P n (.ev body) (setLocal { σ1 with locals := σ.locals } x v') = (s, σ2) →
      ((∃ w, s = .ok w) ∨ s = .cont) →
      Sub cfg P n (.loopG x gl ((pre, yv) :: rest) tail body, σ) (.loopG x σ1.locals rest tail body, σ2)
  -- an error escaping a catch block of a try without finally
  | catchChain b cs σ v0 σ1 : run cfg P n (.ev b) σ = (.err v0, σ1) →
      Sub cfg P n (.ev (.try_ b cs none), σ) (.catches cs v0, σ1)
  | catchBody ty x body rest v0 σ : accepts ty v0 = true →
      Sub cfg P n (.catches ((ty, x, body) :: rest) v0, σ) (.ev body, bindCatch σ ty x v0)
  | catchSkip ty x body rest v0 σ : accepts ty v0 = false →
      Sub cfg P n (.catches ((ty, x, body) :: rest) v0, σ) (.catches rest v0, σ)

theorem sub_err_transparent (cfg : Cfg) (P : Prog) (n : Nat) (t t' : Task) (σ σ' σ1 : St) (v : Val)
    (hs : Sub cfg P n (t, σ) (t', σ')) (h : run cfg P n t' σ' = (.err v, σ1)) :
    ∃ σ2, run cfg P (n + 1) t σ = (.err v, σ2) ∧ σ2.heap = σ1.heap ∧ σ2.out = σ1.out := by
  rw [run_succ]
  cases hs with
  | callBody f args d _ hd hg ha =>
    exact ⟨{ σ1 with locals := σ.locals }, by rw [runStep_callF_body _ σ hd hg ha, h, callResult_err], rfl, rfl⟩
  | genSegment x gl pre yv rest tail body _ =>
    exact ⟨{ σ1 with locals := σ.locals }, by dsimp only [runStep]; rw [h, genSeg_err], rfl, rfl⟩
  | genTail x gl tail body _ =>
    exact ⟨{ σ1 with locals := σ.locals }, by dsimp only [runStep]; rw [h, genExit_err], rfl, rfl⟩
  | forGenRun x g args body _ vs _ d h1 hd hg ha =>
    have hlt : ¬ (vs.length < d.nparams) := by omega
    have hgt : ¬ (vs.length > d.nparams) := by omega
    refine ⟨σ1, ?_, rfl, rfl⟩
    dsimp only [runStep]
    simp only [h1, bindVals_vals, hd, hg, hlt, hgt, h, Bool.not_true, Bool.false_eq_true, ↓reduceIte]
  | natCallback k f r it rest accL accV _ =>
    refine ⟨σ1, ?_, rfl, rfl⟩
    change bindOk (run cfg P n (.callF f (natArgs k accV it)) σ) _ = _
    rw [h, bindOk_err]
  | natNext k f r it rest accL accV _ v' _ aL aV h1 h2 =>
    refine ⟨σ1, ?_, rfl, rfl⟩
    change bindOk (run cfg P n (.callF f (natArgs k accV it)) σ) _ = _
    rw [h1, bindOk_ok]
    cases k with
    | keep =>
      cases v' with
      | bool b => cases h2; exact h
      | _ => cases h2
    | _ => cases h2; exact h
  | loopNext x it rest body _ s _ h1 hs =>
    refine ⟨σ1, ?_, rfl, rfl⟩
    dsimp only [runStep]
    rcases hs with ⟨w, rfl⟩ | rfl
    · rw [h1, loopCtl_ok, h]
    · rw [h1, loopCtl_cont, h]
  | genNext x gl pre yv rest tail body _ v' σa s _ h1 h2 hs =>
    refine ⟨σ1, ?_, rfl, rfl⟩
    dsimp only [runStep]
    rcases hs with ⟨w, rfl⟩ | rfl
    · rw [h1, genSeg_ok, h2, loopCtl_ok, h]
    · rw [h1, genSeg_ok, h2, loopCtl_cont, h]
  -- every other link: one unfolding at the outer task, evaluated with the outcomes the link records
  -- for the sub-runs before it and with `h` for the inner one
  | _ =>
    refine ⟨σ1, ?_, rfl, rfl⟩
    dsimp only [runStep]
    simp only [*, bindOk_ok, bindOk_err, bindVals_vals, bindVals_err, loopCtl_err, genSeg_ok, catchWith_err, ↓reduceIte,
      Bool.false_eq_true]

/-- `Path cfg P k n outer inner`: `k` links; `outer` runs with fuel `n + k`, `inner` with fuel `n`. -/
inductive Path (cfg : Cfg) (P : Prog) : Nat → Nat → Task × St → Task × St → Prop where
  | refl n x : Path cfg P 0 n x x
  | step k n a b c : Sub cfg P (n + k) a b → Path cfg P k n b c → Path cfg P (k + 1) n a c

theorem path_err_transparent (cfg : Cfg) (P : Prog) (k n : Nat) (t t' : Task) (σ σ' σ1 : St) (v : Val)
    (hp : Path cfg P k n (t, σ) (t', σ')) (h : run cfg P n t' σ' = (.err v, σ1)) :
    ∃ σ2, run cfg P (n + k) t σ = (.err v, σ2) ∧ σ2.heap = σ1.heap ∧ σ2.out = σ1.out := by
  induction k generalizing t σ with
  | zero => cases hp; exact ⟨σ1, h, rfl, rfl⟩
  | succ k ih =>
    cases hp with
    | step _ _ _ b _ hs hp =>
      obtain ⟨σ3, h3, hh3, ho3⟩ := ih b.1 b.2 hp
      obtain ⟨σ4, h4, hh4, ho4⟩ := sub_err_transparent cfg P (n + k) t b.1 σ b.2 σ3 v hs h3
      exact ⟨σ4, h4, hh4.trans hh3, ho4.trans ho3⟩

end KotoVerif.Try
