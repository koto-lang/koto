/-
C13: every adaptor refines its list function. For an adaptor `A` over an input `c`:
`Fwd c s ys → Fwd (A c) (init s) (F ys)` with `F` the textbook function (`List.map`, `List.take`,
`List.drop`, `++`, …), and `Den b` instead of `Fwd` for the adaptors that pass `next_back` on (`each`,
`skip`); `reversed` swaps the two ends of a `Deq`. Each proof is a coinduction on a relation between
adaptor states and denoted lists. The equations that say what one call of a machine does, case by
case, are stated apart, since the trace and laziness lemmas use them too.
-/
import KotoVerif.Lemmas.C13Sources

namespace KotoVerif.Iter

/-! ### one inner call per call -/

theorem eachCo_next (f : Fn) (c : Co) (s : c.σ) :
    ((eachCo f c).next s).out = (c.next s).out.map f.app ∧ ((eachCo f c).next s).st = (c.next s).st := by
  simp only [eachCo]
  cases (c.next s).out <;> exact ⟨rfl, rfl⟩

theorem eachCo_back (f : Fn) (c : Co) (s : c.σ) :
    ((eachCo f c).back s).out = (c.back s).out.map f.app ∧ ((eachCo f c).back s).st = (c.back s).st := by
  simp only [eachCo]
  cases (c.back s).out <;> exact ⟨rfl, rfl⟩

theorem each_den (f : Fn) {b : Bool} {c : Co} {s : c.σ} {ys : List Val} (h : Den b c s ys) :
    Den b (eachCo f c) s (ys.map f.app) := by
  refine den_coind (c := eachCo f c) (fun s xs => ∃ ys, Den b c s ys ∧ xs = ys.map f.app) ?_ ?_ ⟨ys, h, rfl⟩
  · rintro s _ ⟨ys, h, rfl⟩
    rw [(eachCo_next f c s).1, (eachCo_next f c s).2, h.next.1, List.head?_map, ← List.map_tail]
    exact ⟨rfl, _, h.next.2, rfl⟩
  · rintro rfl s _ ⟨ys, h, rfl⟩
    rw [(eachCo_back f c s).1, (eachCo_back f c s).2, h.back.1, List.getLast?_map, ← List.map_dropLast]
    exact ⟨rfl, _, h.back.2, rfl⟩

theorem pair_fwd (first : Bool) {c : Co} {s : c.σ} {ys : List Val} (h : Fwd c s ys) :
    Fwd (pairCo first c) s (ys.map (projPair first)) := by
  refine fwd_coind (c := pairCo first c) (fun s xs => ∃ ys, Fwd c s ys ∧ xs = ys.map (projPair first)) ?_
    ⟨ys, h, rfl⟩
  rintro s _ ⟨ys, h, rfl⟩
  rw [List.head?_map, ← List.map_tail, ← fwd_head h]
  exact ⟨rfl, _, fwd_tail h, rfl⟩

theorem enumerate_fwd {c : Co} {s : c.σ} (i : Nat) {ys : List Val} (h : Fwd c s ys) :
    Fwd (enumerateCo c) (s, i) (enumFrom i ys) := by
  refine fwd_coind (c := enumerateCo c) (fun st xs => ∃ ys, Fwd c st.1 ys ∧ xs = enumFrom st.2 ys) ?_
    ⟨ys, h, rfl⟩
  rintro ⟨s, i⟩ _ ⟨ys, h, rfl⟩
  refine ⟨?_, ys.tail, fwd_tail h, ?_⟩
  · show ((c.next s).out.map fun v => Val.tuple [Val.int i, v]) = _
    rw [fwd_head h]
    cases ys <;> rfl
  · cases ys <;> rfl

theorem take_fwd {c : Co} {s : c.σ} (k : Nat) {ys : List Val} (h : Fwd c s ys) :
    Fwd (takeCo c) (s, k) (ys.take k) := by
  refine fwd_coind (c := takeCo c) (fun st xs => ∃ ys, Fwd c st.1 ys ∧ xs = ys.take st.2) ?_ ⟨ys, h, rfl⟩
  rintro ⟨s, k⟩ _ ⟨ys, h, rfl⟩
  cases k with
  | zero => exact ⟨rfl, ys, h, rfl⟩
  | succ k =>
    refine ⟨(fwd_head h).trans ?_, ys.tail, fwd_tail h, ?_⟩
    · cases ys <;> rfl
    · show (ys.take (k + 1)).tail = ys.tail.take k
      cases ys <;> simp

theorem takeWhileCo_next_done (p : Pred) (c : Co) (s : c.σ) :
    (takeWhileCo p c).next (s, true) = ⟨none, (s, true), []⟩ := rfl

theorem takeWhileCo_next_none (p : Pred) {c : Co} {s : c.σ} (h : (c.next s).out = none) :
    (takeWhileCo p c).next (s, false) = ⟨none, ((c.next s).st, false), (c.next s).ev⟩ := by
  simp only [takeWhileCo, h]; rfl

theorem takeWhileCo_next_some (p : Pred) {c : Co} {s : c.σ} {v : Val} (h : (c.next s).out = some v) :
    (takeWhileCo p c).next (s, false) =
      if p.app v then ⟨some v, ((c.next s).st, false), (c.next s).ev ++ [Ev.call p.tag [v]]⟩
      else ⟨none, ((c.next s).st, true), (c.next s).ev ++ [Ev.call p.tag [v]]⟩ := by
  simp only [takeWhileCo, h]; rfl

theorem takeWhile_fwd (p : Pred) {c : Co} {s : c.σ} {ys : List Val} (h : Fwd c s ys) :
    Fwd (takeWhileCo p c) (s, false) (takeWhileL p.app ys) := by
  refine fwd_coind (c := takeWhileCo p c)
    (fun st xs => ∃ ys, Fwd c st.1 ys ∧ xs = if st.2 then [] else takeWhileL p.app ys) ?_ ⟨ys, h, rfl⟩
  rintro ⟨s, done⟩ _ ⟨ys, h, rfl⟩
  cases done with
  | true => exact ⟨rfl, ys, h, rfl⟩
  | false =>
    cases ys with
    | nil => rw [takeWhileCo_next_none p (fwd_head h)]; exact ⟨rfl, [], fwd_tail h, rfl⟩
    | cons y ys =>
      rw [takeWhileCo_next_some p (fwd_head h)]
      show _ = (takeWhileL p.app (y :: ys)).head? ∧ ∃ ys', _ ∧ (takeWhileL p.app (y :: ys)).tail = _
      rw [takeWhileL]
      split <;> exact ⟨rfl, ys, fwd_tail h, rfl⟩

/-! ### two inputs -/

theorem chainCo_next_some {a b : Co} {sa : a.σ} (sb : b.σ) {v : Val} (h : (a.next sa).out = some v) :
    (chainCo a b).next (some sa, sb) = ⟨some v, (some (a.next sa).st, sb), (a.next sa).ev⟩ := by
  simp only [chainCo, h]

theorem chainCo_next_none {a b : Co} {sa : a.σ} (sb : b.σ) (h : (a.next sa).out = none) :
    (chainCo a b).next (some sa, sb) = ⟨(b.next sb).out, (none, (b.next sb).st), (a.next sa).ev ++ (b.next sb).ev⟩ := by
  simp only [chainCo, h]

theorem chainCo_next_dropped (a b : Co) (sb : b.σ) :
    (chainCo a b).next (none, sb) = ⟨(b.next sb).out, (none, (b.next sb).st), (b.next sb).ev⟩ := rfl

theorem chain_fwd {a b : Co} {sa : a.σ} {sb : b.σ} {as bs : List Val}
    (ha : Fwd a sa as) (hb : Fwd b sb bs) : Fwd (chainCo a b) (some sa, sb) (as ++ bs) := by
  refine fwd_coind (c := chainCo a b)
    (fun st xs => match st.1 with
      | some sa => ∃ as bs, Fwd a sa as ∧ Fwd b st.2 bs ∧ xs = as ++ bs
      | none => Fwd b st.2 xs) ?_ (show ∃ as' bs', _ from ⟨as, bs, ha, hb, rfl⟩)
  rintro ⟨sa, sb⟩ xs hR
  cases sa with
  | none =>
    have hb : Fwd b sb xs := hR
    exact ⟨(fwd_head hb :), (fwd_tail hb :)⟩
  | some sa =>
    obtain ⟨as, bs, ha, hb, rfl⟩ := (show ∃ as bs, _ from hR)
    cases as with
    | nil => rw [chainCo_next_none sb (fwd_head ha)]; exact ⟨fwd_head hb, fwd_tail hb⟩
    | cons x as =>
      rw [chainCo_next_some sb (fwd_head ha)]
      exact ⟨rfl, as, bs, fwd_tail ha, hb, rfl⟩

theorem zipCo_next_none {a b : Co} {sa : a.σ} (sb : b.σ) (h : (a.next sa).out = none) :
    (zipCo a b).next (sa, sb) = ⟨none, ((a.next sa).st, sb), (a.next sa).ev⟩ := by
  simp only [zipCo, h]

theorem zipCo_next_some {a b : Co} {sa : a.σ} (sb : b.σ) {va : Val} (h : (a.next sa).out = some va) :
    (zipCo a b).next (sa, sb) = ⟨(b.next sb).out.map fun vb => Val.tuple [va, vb],
      ((a.next sa).st, (b.next sb).st), (a.next sa).ev ++ (b.next sb).ev⟩ := by
  simp only [zipCo, h]
  cases (b.next sb).out <;> rfl

theorem zipL_nil_right (xs : List Val) : zipL xs [] = [] := by
  cases xs <;> rfl

theorem zip_fwd {a b : Co} {sa : a.σ} {sb : b.σ} {as bs : List Val}
    (ha : Fwd a sa as) (hb : Fwd b sb bs) : Fwd (zipCo a b) (sa, sb) (zipL as bs) := by
  refine fwd_coind (c := zipCo a b)
    (fun st xs => ∃ as bs, Fwd a st.1 as ∧ Fwd b st.2 bs ∧ xs = zipL as bs) ?_ ⟨as, bs, ha, hb, rfl⟩
  rintro ⟨sa, sb⟩ _ ⟨as, bs, ha, hb, rfl⟩
  cases as with
  | nil => rw [zipCo_next_none sb (fwd_head ha)]; exact ⟨rfl, [], bs, fwd_tail ha, hb, rfl⟩
  | cons x as =>
    rw [zipCo_next_some sb (fwd_head ha), fwd_head hb]
    cases bs with
    | nil => exact ⟨rfl, as, [], fwd_tail ha, fwd_tail hb, (zipL_nil_right as).symm⟩
    | cons y bs => exact ⟨rfl, as, bs, fwd_tail ha, fwd_tail hb, rfl⟩

/-! ### `Iterator::advance_by`, `nth`, `take` collected -/

theorem pullN_fwd (c : Co) : ∀ (k : Nat) (s : c.σ) (ys : List Val),
    Fwd c s ys → Fwd c (pullN c k s).1 (ys.drop k) := by
  intro k
  induction k with
  | zero => intro s ys h; exact h
  | succ k ih =>
    intro s ys h
    rw [← List.drop_tail]
    exact ih _ _ (fwd_tail h)

theorem takeUpTo_none {c : Co} {s : c.σ} (n : Nat) (h : (c.next s).out = none) :
    takeUpTo c (n + 1) s = ([], (c.next s).st, (c.next s).ev) := by
  simp only [takeUpTo, h]

theorem takeUpTo_some {c : Co} {s : c.σ} {v : Val} (n : Nat) (h : (c.next s).out = some v) :
    takeUpTo c (n + 1) s = (v :: (takeUpTo c n (c.next s).st).1, (takeUpTo c n (c.next s).st).2.1,
      (c.next s).ev ++ (takeUpTo c n (c.next s).st).2.2) := by
  simp only [takeUpTo, h]

theorem takeUpTo_den {b : Bool} {c : Co} (n : Nat) {s : c.σ} {ys : List Val} (h : Den b c s ys) :
    (takeUpTo c n s).1 = ys.take n ∧ Den b c (takeUpTo c n s).2.1 (ys.drop n) := by
  induction n generalizing s ys with
  | zero => exact ⟨rfl, h⟩
  | succ n ih =>
    cases ys with
    | nil => rw [takeUpTo_none n h.next.1]; exact ⟨rfl, h.next.2⟩
    | cons y ys =>
      rw [takeUpTo_some n h.next.1]
      exact ⟨congrArg _ (ih h.next.2).1, (ih h.next.2).2⟩

theorem advance_eq_takeUpTo (c : Co) (n : Nat) (s : c.σ) :
    advance c n s = (decide ((takeUpTo c n s).1.length = n), (takeUpTo c n s).2) := by
  induction n generalizing s with
  | zero => rfl
  | succ n ih =>
    cases h : (c.next s).out with
    | none => rw [takeUpTo_none n h]; simp only [advance, h]; rfl
    | some v => rw [takeUpTo_some n h]; simp only [advance, h, ih]; simp

theorem fillCache_eq_takeUpTo (c : Co) (k : Nat) (s : c.σ) (cache : List Val) :
    fillCache c k s cache = (cache ++ (takeUpTo c k s).1, (takeUpTo c k s).2) := by
  induction k generalizing s cache with
  | zero => simp only [fillCache, takeUpTo, List.append_nil]
  | succ k ih =>
    cases h : (c.next s).out with
    | none => rw [takeUpTo_none k h]; simp only [fillCache, h, List.append_nil]
    | some v => rw [takeUpTo_some k h]; simp only [fillCache, h, ih, List.append_assoc, List.singleton_append]

theorem advance_den {b : Bool} {c : Co} (k : Nat) {s : c.σ} {ys : List Val} (h : Den b c s ys) :
    (advance c k s).1 = decide (k ≤ ys.length) ∧ Den b c (advance c k s).2.1 (ys.drop k) := by
  rw [advance_eq_takeUpTo, (takeUpTo_den k h).1, List.length_take]
  exact ⟨decide_eq_decide.mpr ⟨fun e => e ▸ Nat.min_le_right _ _, Nat.min_eq_left⟩, (takeUpTo_den k h).2⟩

theorem nth_den {b : Bool} {c : Co} (k : Nat) {s : c.σ} {ys : List Val} (h : Den b c s ys) :
    (nth c k s).out = (ys.drop k).head? ∧ Den b c (nth c k s).st (ys.drop (k + 1)) := by
  have ⟨a1, a2⟩ := advance_den k h
  unfold nth
  generalize advance c k s = r at a1 a2
  obtain ⟨ok, s', e⟩ := r
  rw [← List.tail_drop]
  by_cases hk : k ≤ ys.length
  · cases a1.trans (decide_eq_true hk)
    exact a2.next
  · cases a1.trans (decide_eq_false hk)
    rw [List.drop_of_length_le (Nat.le_of_lt (Nat.lt_of_not_le hk))] at a2 ⊢
    exact ⟨rfl, a2⟩

/-! ### `Skip`, `Step` -/

theorem skipCo_next (c : Co) (s : c.σ) (k : Nat) :
    ((skipCo c).next (s, k)).out = (nth c k s).out ∧ ((skipCo c).next (s, k)).st = ((nth c k s).st, 0) := by
  cases k <;> exact ⟨rfl, rfl⟩

theorem skipCo_back_succ (c : Co) (s : c.σ) (k : Nat) :
    (skipCo c).back (s, k + 1) = ⟨(c.back (nth c k s).st).out, ((c.back (nth c k s).st).st, 0),
      (nth c k s).ev ++ (c.back (nth c k s).st).ev⟩ := rfl

theorem skip_den {b : Bool} {c : Co} {s : c.σ} (k : Nat) {ys : List Val} (h : Den b c s ys) :
    Den b (skipCo c) (s, k) (ys.drop k) := by
  refine den_coind (c := skipCo c) (fun st xs => ∃ ys, Den b c st.1 ys ∧ xs = ys.drop st.2) ?_ ?_ ⟨ys, h, rfl⟩
  · rintro ⟨s, k⟩ _ ⟨ys, h, rfl⟩
    rw [(skipCo_next c s k).1, (skipCo_next c s k).2, List.tail_drop]
    exact ⟨(nth_den k h).1, _, (nth_den k h).2, rfl⟩
  · rintro rfl ⟨s, k⟩ _ ⟨ys, h, rfl⟩
    cases k with
    | zero => exact ⟨h.back.1, _, h.back.2, rfl⟩
    | succ k =>
      rw [skipCo_back_succ]
      exact ⟨(nth_den k h).2.back.1, _, (nth_den k h).2.back.2, rfl⟩

theorem everyNthAux_drop (n k : Nat) (ys : List Val) :
    everyNthAux n k ys = everyNthAux n 0 (ys.drop k) := by
  induction k generalizing ys with
  | zero => rfl
  | succ k ih =>
    cases ys with
    | nil => rfl
    | cons y ys => exact ih ys

theorem everyNth_cons (n : Nat) (y : Val) (ys : List Val) :
    everyNth n (y :: ys) = y :: everyNth n (ys.drop (n - 1)) :=
  congrArg _ (everyNthAux_drop n (n - 1) ys)

theorem everyNth_nil (n : Nat) : everyNth n [] = [] := rfl

theorem everyNth_head (n : Nat) (zs : List Val) : (everyNth n zs).head? = zs.head? := by
  cases zs with
  | nil => rw [everyNth_nil]
  | cons z zs => rw [everyNth_cons]; rfl

theorem step_next_eq (n : Nat) (c : Co) (st : c.σ × Nat) :
    ((stepCo n c).next st).out = (nth c st.2 st.1).out ∧
    ((stepCo n c).next st).st.1 = (nth c st.2 st.1).st ∧
    ((stepCo n c).next st).ev = (nth c st.2 st.1).ev ∧
    ((stepCo n c).next st).st.2 = (if (nth c st.2 st.1).out.isSome then n - 1 else 0) := by
  simp only [stepCo, nth]
  generalize advance c st.2 st.1 = r
  obtain ⟨ok, s', e⟩ := r
  cases ok <;> exact ⟨rfl, rfl, rfl, rfl⟩

theorem step_fwd_pending (n : Nat) {c : Co} {s : c.σ} (k : Nat) {ys : List Val} (h : Fwd c s ys) :
    Fwd (stepCo n c) (s, k) (everyNth n (ys.drop k)) := by
  refine fwd_coind (c := stepCo n c)
    (fun st xs => ∃ ys, Fwd c st.1 ys ∧ xs = everyNth n (ys.drop st.2)) ?_ ⟨ys, h, rfl⟩
  rintro st _ ⟨ys, h, rfl⟩
  have ⟨e1, e2, _, e4⟩ := step_next_eq n c st
  have ⟨n1, n2⟩ := nth_den st.2 h.toDen
  refine ⟨by rw [e1, n1, everyNth_head], ys.drop (st.2 + 1), by rw [e2]; exact n2.fwd, ?_⟩
  rw [e4, n1, ← List.tail_drop]
  cases ys.drop st.2 with
  | nil => rfl
  | cons z zs => rw [everyNth_cons]; rfl

theorem step_fwd (n : Nat) {c : Co} {s : c.σ} {ys : List Val} (h : Fwd c s ys) :
    Fwd (stepCo n c) (s, 0) (everyNth n ys) := step_fwd_pending n 0 h

/-! ### `Keep` -/

theorem keepLoop_none (p : Pred) {c : Co} {s : c.σ} (fuel : Nat) (h : (c.next s).out = none) :
    keepLoop p c (fuel + 1) s = ⟨none, (c.next s).st, (c.next s).ev⟩ := by
  simp only [keepLoop, h]

theorem keepLoop_some (p : Pred) {c : Co} {s : c.σ} {v : Val} (fuel : Nat) (h : (c.next s).out = some v) :
    keepLoop p c (fuel + 1) s =
      if p.app v then ⟨some v, (c.next s).st, (c.next s).ev ++ [Ev.call p.tag [v]]⟩
      else ⟨(keepLoop p c fuel (c.next s).st).out, (keepLoop p c fuel (c.next s).st).st,
        (c.next s).ev ++ [Ev.call p.tag [v]] ++ (keepLoop p c fuel (c.next s).st).ev⟩ := by
  simp only [keepLoop, h]

theorem keepLoop_fwd (p : Pred) {c : Co} (fuel : Nat) {s : c.σ} {ys : List Val}
    (h : Fwd c s ys) (hl : ys.length < fuel) :
    (keepLoop p c fuel s).out = (ys.filter p.app).head? ∧
    ∃ ys', Fwd c (keepLoop p c fuel s).st ys' ∧ (ys.filter p.app).tail = ys'.filter p.app ∧
      ys'.length ≤ ys.length := by
  induction fuel generalizing s ys with
  | zero => exact absurd hl (Nat.not_lt_zero _)
  | succ fuel ih =>
    cases ys with
    | nil => rw [keepLoop_none p fuel (fwd_head h)]; exact ⟨rfl, [], fwd_tail h, rfl, Nat.le_refl _⟩
    | cons y ys =>
      rw [keepLoop_some p fuel (fwd_head h)]
      by_cases hp : p.app y = true
      · rw [if_pos hp, List.filter_cons_of_pos hp]
        exact ⟨rfl, ys, fwd_tail h, rfl, Nat.le_succ _⟩
      · rw [if_neg hp, List.filter_cons_of_neg hp]
        have ⟨i1, ys', i2, i3, i4⟩ := ih (fwd_tail h) (Nat.lt_of_succ_lt_succ hl)
        exact ⟨i1, ys', i2, i3, Nat.le_succ_of_le i4⟩

theorem keep_fwd (fuel : Nat) (p : Pred) {c : Co} {s : c.σ} {ys : List Val} (h : Fwd c s ys)
    (hl : ys.length < fuel) : Fwd (keepCo fuel p c) s (ys.filter p.app) := by
  refine fwd_coind (c := keepCo fuel p c)
    (fun s xs => ∃ ys, Fwd c s ys ∧ ys.length < fuel ∧ xs = ys.filter p.app) ?_ ⟨ys, h, hl, rfl⟩
  rintro s _ ⟨ys, h, hl, rfl⟩
  have ⟨k1, ys', k2, k3, k4⟩ := keepLoop_fwd p fuel h hl
  exact ⟨k1, ys', k2, Nat.lt_of_le_of_lt k4 hl, k3⟩

/-! ### `Intersperse` -/

def sepAll (sep : Val) : List Val → List Val
  | [] => []
  | y :: ys => sep :: y :: sepAll sep ys

theorem intersperseL_cons (sep y : Val) (ys : List Val) :
    intersperseL sep (y :: ys) = y :: sepAll sep ys := by
  induction ys generalizing y with
  | nil => rfl
  | cons z zs ih => rw [intersperseL, ih, sepAll]

def Inter.cur {c : Co} (st : Inter c.σ) : Res c.σ :=
  match st.peeked with
  | some v => ⟨some v, st.inner, []⟩
  | none => c.next st.inner

theorem intersperseCo_next (sep : Val) (lg : Bool) {c : Co} (st : Inter c.σ) :
    (intersperseCo sep lg c).next st =
      match st.cur.out with
      | some v =>
        if st.nextIsSep then
          ⟨some sep, ⟨st.cur.st, some v, false⟩, st.cur.ev ++ (if lg then [Ev.call tagSep []] else [])⟩
        else ⟨some v, ⟨st.cur.st, none, true⟩, st.cur.ev⟩
      | none => ⟨none, ⟨st.cur.st, none, st.nextIsSep⟩, st.cur.ev⟩ := rfl

theorem Inter.cur_spec {c : Co} {st : Inter c.σ} {ys : List Val} (h : Fwd c st.inner ys) :
    st.cur.out = (st.peeked.toList ++ ys).head? ∧ Fwd c st.cur.st (st.peeked.toList ++ ys).tail := by
  obtain ⟨inner, peeked, nis⟩ := st
  cases peeked with
  | some v => exact ⟨rfl, h⟩
  | none => exact ⟨fwd_head h, fwd_tail h⟩

theorem intersperse_fwd (sep : Val) (lg : Bool) {c : Co} {s : c.σ} {ys : List Val} (h : Fwd c s ys) :
    Fwd (intersperseCo sep lg c) ⟨s, none, false⟩ (intersperseL sep ys) := by
  refine fwd_coind (c := intersperseCo sep lg c)
    (fun st xs => ∃ ys, Fwd c st.inner ys ∧
      xs = (if st.nextIsSep then sepAll sep else intersperseL sep) (st.peeked.toList ++ ys)) ?_ ⟨ys, h, rfl⟩
  rintro (st : Inter c.σ) _ ⟨ys, h, rfl⟩
  have ⟨c1, c2⟩ := Inter.cur_spec h
  cases hz : st.peeked.toList ++ ys with
  | nil =>
    rw [hz] at c1 c2
    rw [intersperseCo_next sep lg st, c1]
    exact ⟨by cases st.nextIsSep <;> rfl, [], c2, by cases st.nextIsSep <;> rfl⟩
  | cons z zs =>
    rw [hz] at c1 c2
    rw [intersperseCo_next sep lg st, c1]
    cases st.nextIsSep with
    | true => exact ⟨rfl, zs, c2, (intersperseL_cons sep z zs).symm⟩
    | false =>
      exact ⟨(congrArg List.head? (intersperseL_cons sep z zs)).symm, zs, c2,
        congrArg List.tail (intersperseL_cons sep z zs)⟩

/-! ### `Chunks`, `Windows` -/

theorem chunks_fwd (n : Nat) (hn : n ≥ 1) {c : Co} {s : c.σ} {ys : List Val} (h : Fwd c s ys) :
    Fwd (chunksCo n c) s (chunksOf n ys.length ys) := by
  refine fwd_coind (c := chunksCo n c)
    (fun s xs => ∃ ys f, Fwd c s ys ∧ ys.length ≤ f ∧ xs = chunksOf n f ys) ?_
    ⟨ys, ys.length, h, Nat.le_refl _, rfl⟩
  rintro s _ ⟨ys, f, h, hl, rfl⟩
  have ⟨t1, t2⟩ := takeUpTo_den n h.toDen
  have e : (chunksCo n c).next s = ⟨if (takeUpTo c n s).1.isEmpty then none else some (Val.tuple (takeUpTo c n s).1),
      (takeUpTo c n s).2.1, (takeUpTo c n s).2.2⟩ := rfl
  rw [e, t1]
  obtain ⟨m, rfl⟩ : ∃ m, n = m + 1 := ⟨n - 1, (Nat.sub_add_cancel hn).symm⟩
  cases ys with
  | nil => exact ⟨by cases f <;> rfl, [], 0, t2.fwd, Nat.le_refl _, by cases f <;> rfl⟩
  | cons y ys =>
    cases f with
    | zero => cases hl
    | succ f =>
      exact ⟨rfl, _, f, t2.fwd, by
        rw [List.length_drop]
        exact Nat.sub_le_of_le_add (Nat.le_trans hl (Nat.add_le_add_left (Nat.succ_le_succ (Nat.zero_le m)) f)), rfl⟩

/-- unfolding `windowsOf` by the length of the whole list rather than by its first cell -/
theorem windowsOf_eq (n : Nat) (hn : n ≥ 1) (zs : List Val) :
    windowsOf n zs = if zs.length ≥ n then Val.tuple (zs.take n) :: windowsOf n (zs.drop 1) else [] := by
  cases zs with
  | nil => exact (if_neg (Nat.not_le_of_lt hn)).symm
  | cons z zs => rfl

theorem windowsOf_short (n : Nat) (zs : List Val) (h : zs.length < n) : windowsOf n zs = [] := by
  rw [windowsOf_eq n (Nat.succ_le_of_lt (Nat.lt_of_le_of_lt (Nat.zero_le _) h)), if_neg (Nat.not_le_of_lt h)]

theorem windowsOf_long (n : Nat) (zs : List Val) (hn : n ≥ 1) (h : zs.length ≥ n) :
    windowsOf n zs = Val.tuple (zs.take n) :: windowsOf n (zs.drop 1) := by
  rw [windowsOf_eq n hn, if_pos h]

/-- `zs = cache.drop 1 ++ ys` is what is left to slide over: the new cache is `zs.take n`, yielded if it
is full, and the input is left denoting `zs.drop n`. -/
theorem windowsCo_next (n : Nat) {c : Co} {st : c.σ × List Val} {ys : List Val}
    (h : Fwd c st.1 ys) (hc : st.2.length ≤ n) :
    ((windowsCo n c).next st).out =
      (if (st.2.drop 1 ++ ys).length ≥ n then some (Val.tuple ((st.2.drop 1 ++ ys).take n)) else none) ∧
    ((windowsCo n c).next st).st.2 = (st.2.drop 1 ++ ys).take n ∧
    Fwd c ((windowsCo n c).next st).st.1 ((st.2.drop 1 ++ ys).drop n) := by
  have hk : (st.2.drop 1).length ≤ n := by rw [List.length_drop]; exact Nat.le_trans (Nat.sub_le _ _) hc
  have ⟨t1, t2⟩ := takeUpTo_den (n - (st.2.drop 1).length) h.toDen
  have e : (windowsCo n c).next st =
      ⟨if (fillCache c (n - (st.2.drop 1).length) st.1 (st.2.drop 1)).1.length = n
         then some (Val.tuple (fillCache c (n - (st.2.drop 1).length) st.1 (st.2.drop 1)).1) else none,
       ((fillCache c (n - (st.2.drop 1).length) st.1 (st.2.drop 1)).2.1,
        (fillCache c (n - (st.2.drop 1).length) st.1 (st.2.drop 1)).1),
       (fillCache c (n - (st.2.drop 1).length) st.1 (st.2.drop 1)).2.2⟩ := rfl
  have hcache : st.2.drop 1 ++ ys.take (n - (st.2.drop 1).length) = (st.2.drop 1 ++ ys).take n := by
    rw [List.take_append, List.take_of_length_le hk]
  have hdrop : ys.drop (n - (st.2.drop 1).length) = (st.2.drop 1 ++ ys).drop n := by
    rw [List.drop_append, List.drop_of_length_le hk, List.nil_append]
  rw [e, fillCache_eq_takeUpTo, t1, hcache, ← hdrop]
  refine ⟨?_, rfl, t2.fwd⟩
  rw [List.length_take]
  by_cases hl : (st.2.drop 1 ++ ys).length ≥ n
  · rw [if_pos hl, if_pos (Nat.min_eq_left hl)]
  · rw [if_neg hl, if_neg (Nat.ne_of_lt (Nat.lt_of_le_of_lt (Nat.min_le_right _ _) (Nat.lt_of_not_le hl)))]

theorem windows_fwd (n : Nat) (hn : n ≥ 1) {c : Co} {s : c.σ} {ys : List Val} (h : Fwd c s ys) :
    Fwd (windowsCo n c) (s, []) (windowsOf n ys) := by
  refine fwd_coind (c := windowsCo n c)
    (fun st xs => ∃ ys, Fwd c st.1 ys ∧ st.2.length ≤ n ∧ xs = windowsOf n (st.2.drop 1 ++ ys)) ?_
    ⟨ys, h, Nat.zero_le _, rfl⟩
  rintro st _ ⟨ys, h, hc, rfl⟩
  have ⟨s1, s2, s3⟩ := windowsCo_next n h hc
  generalize st.2.drop 1 ++ ys = zs at s1 s2 s3
  -- the new cache without its first element, and the rest of the input, are `zs` without its first
  have hrest : (zs.take n).drop 1 ++ zs.drop n = zs.drop 1 := by
    obtain ⟨m, rfl⟩ : ∃ m, n = m + 1 := ⟨n - 1, (Nat.sub_add_cancel hn).symm⟩
    cases zs <;> simp
  refine ⟨?_, _, s3, by rw [s2, List.length_take]; exact Nat.min_le_left _ _, ?_⟩
  · rw [s1, windowsOf_eq n hn]; split <;> rfl
  · rw [s2, hrest, windowsOf_eq n hn zs]
    split
    · rfl
    · next hl =>
      rw [windowsOf_short n _ (by
        rw [List.length_drop]; exact Nat.lt_of_le_of_lt (Nat.sub_le _ _) (Nat.lt_of_not_le hl))]
      rfl

/-! ### `Flatten` -/

theorem flattenLoop_nested (c : Co) (fuel : Nat) (s : c.σ) (x : Val) (rest : List Val) :
    flattenLoop c (fuel + 1) s (some (x :: rest)) = ⟨some x, (s, some rest), []⟩ := rfl

theorem flattenLoop_outer {c : Co} (fuel : Nat) (s : c.σ) {nested : Option (List Val)}
    (hn : nested.getD [] = []) :
    flattenLoop c (fuel + 1) s nested =
      match (c.next s).out with
      | none => ⟨none, ((c.next s).st, nested), (c.next s).ev⟩
      | some v =>
        match elemsOf v with
        | some es => ⟨(flattenLoop c fuel (c.next s).st (some es)).out,
            (flattenLoop c fuel (c.next s).st (some es)).st,
            (c.next s).ev ++ (flattenLoop c fuel (c.next s).st (some es)).ev⟩
        | none => ⟨some v, ((c.next s).st, nested), (c.next s).ev⟩ := by
  match nested, hn with
  | none, _ => rfl
  | some [], _ => rfl

theorem flattenLoop_fwd {c : Co} (fuel : Nat) {s : c.σ} {ys : List Val} (nested : Option (List Val))
    (h : Fwd c s ys) (hl : ys.length < fuel) :
    (flattenLoop c fuel s nested).out = (nested.getD [] ++ flattenL ys).head? ∧
    ∃ ys', Fwd c (flattenLoop c fuel s nested).st.1 ys' ∧ ys'.length ≤ ys.length ∧
      (nested.getD [] ++ flattenL ys).tail = (flattenLoop c fuel s nested).st.2.getD [] ++ flattenL ys' := by
  induction fuel generalizing s ys nested with
  | zero => exact absurd hl (Nat.not_lt_zero _)
  | succ fuel ih =>
    have outer (hn : nested.getD [] = []) :
        (flattenLoop c (fuel + 1) s nested).out = (nested.getD [] ++ flattenL ys).head? ∧
        ∃ ys', Fwd c (flattenLoop c (fuel + 1) s nested).st.1 ys' ∧ ys'.length ≤ ys.length ∧
          (nested.getD [] ++ flattenL ys).tail =
            (flattenLoop c (fuel + 1) s nested).st.2.getD [] ++ flattenL ys' := by
      rw [flattenLoop_outer fuel s hn, fwd_head h, hn]
      cases ys with
      | nil => exact ⟨rfl, [], fwd_tail h, Nat.le_refl _, ((List.append_nil _).trans hn).symm⟩
      | cons y ys =>
        rw [show flattenL (y :: ys) = (match elemsOf y with | some es => es | none => [y]) ++ flattenL ys
          from rfl]
        simp only [List.head?_cons]
        cases elemsOf y with
        | some es =>
          have ⟨i1, ys', i2, i3, i4⟩ := ih (some es) (fwd_tail h) (Nat.lt_of_succ_lt_succ hl)
          exact ⟨i1, ys', i2, Nat.le_succ_of_le i3, i4⟩
        | none => exact ⟨rfl, ys, fwd_tail h, Nat.le_succ _, by rw [hn]; rfl⟩
    match nested with
    | some (x :: more) => exact ⟨rfl, ys, h, Nat.le_refl _, rfl⟩
    | none => exact outer rfl
    | some [] => exact outer rfl

theorem flatten_fwd (fuel : Nat) {c : Co} {s : c.σ} {ys : List Val} (h : Fwd c s ys)
    (hl : ys.length < fuel) : Fwd (flattenCo fuel c) (s, none) (flattenL ys) := by
  refine fwd_coind (c := flattenCo fuel c)
    (fun st xs => ∃ ys, Fwd c st.1 ys ∧ ys.length < fuel ∧ xs = st.2.getD [] ++ flattenL ys) ?_
    ⟨ys, h, hl, rfl⟩
  rintro st _ ⟨ys, h, hl, rfl⟩
  have ⟨k1, ys', k2, k3, k4⟩ := flattenLoop_fwd fuel st.2 h hl
  exact ⟨k1, ys', k2, Nat.lt_of_le_of_lt k3 hl, k4⟩

/-! ### `Reversed` -/

theorem reversed_deq {c : Co} {s : c.σ} {ys : List Val} (h : Deq c s ys) :
    Deq (reversedCo c) s ys.reverse := by
  refine deq_coind (c := reversedCo c) (fun s xs => Deq c s xs.reverse) ?_
    (show Deq c s ys.reverse.reverse by rwa [List.reverse_reverse])
  intro s xs h
  have ⟨⟨a1, a2⟩, b1, b2⟩ := deq_iff.mp h
  rw [List.head?_reverse] at a1
  rw [List.getLast?_reverse] at b1
  rw [List.tail_reverse] at a2
  rw [List.dropLast_reverse] at b2
  exact ⟨⟨b1, b2⟩, a1, a2⟩

/-! ### `Cycle` -/

theorem cycleCo_next_some {c : Co} {st : Cyc c.σ} {v : Val} (h : (c.next st.inner).out = some v) :
    (cycleCo c).next st = ⟨some v, ⟨(c.next st.inner).st, st.cache ++ [v], st.idx⟩, (c.next st.inner).ev⟩ := by
  simp only [cycleCo, h]

theorem cycleCo_next_none {c : Co} {st : Cyc c.σ} (h : (c.next st.inner).out = none) :
    (cycleCo c).next st =
      if st.cache.isEmpty then ⟨none, ⟨(c.next st.inner).st, st.cache, st.idx⟩, (c.next st.inner).ev⟩
      else ⟨st.cache[if st.idx = st.cache.length then 0 else st.idx]?,
        ⟨(c.next st.inner).st, st.cache, (if st.idx = st.cache.length then 0 else st.idx) + 1⟩,
        (c.next st.inner).ev⟩ := by
  simp only [cycleCo, h]

theorem map_range_succ_shift {β : Type} (g : Nat → β) (i m : Nat) :
    (List.range (m + 1)).map (fun j => g (i + j)) = g i :: (List.range m).map (fun j => g (i + 1 + j)) := by
  rw [List.range_succ_eq_map, List.map_cons, List.map_map]
  refine congrArg _ (List.map_congr_left fun j _ => ?_)
  show g (i + (j + 1)) = g (i + 1 + j)
  rw [Nat.add_assoc, Nat.add_comm 1 j]

theorem cycle_replay {c : Co} {ys : List Val} (hne : ys ≠ []) (n : Nat) (st : Cyc c.σ)
    (hc : st.cache = ys) (hi : st.idx ≤ ys.length) (hf : Fwd c st.inner []) :
    outs (cycleCo c) n st = (List.range n).map (fun t => ys[(st.idx + t) % ys.length]?) := by
  induction n generalizing st with
  | zero => rfl
  | succ n ih =>
    have hlen : 0 < ys.length := List.length_pos_iff.mpr hne
    have he : st.cache.isEmpty = false := by rw [hc]; cases ys <;> trivial
    rw [map_range_succ_shift (fun t => ys[t % ys.length]?), outs_succ (cycleCo c) n st,
      cycleCo_next_none (fwd_head hf), he, hc]
    simp only [Bool.false_eq_true, if_false]
    have hnext : (if st.idx = ys.length then 0 else st.idx) + 1 ≤ ys.length := by
      split
      · exact hlen
      · next h => exact Nat.lt_of_le_of_ne hi h
    rw [ih _ rfl hnext (fwd_tail hf)]
    show ys[if st.idx = ys.length then 0 else st.idx]? ::
        (List.range n).map (fun t => ys[((if st.idx = ys.length then 0 else st.idx) + 1 + t) % ys.length]?) = _
    split
    · next h => simp only [h, Nat.mod_self, Nat.add_assoc, Nat.add_mod_left, Nat.zero_add]
    · next h => rw [Nat.mod_eq_of_lt (Nat.lt_of_le_of_ne hi h)]

theorem cycle_caching {c : Co} {ys : List Val} (hne : ys ≠ []) (n j : Nat) (st : Cyc c.σ)
    (hj : j ≤ ys.length) (hc : st.cache = ys.take j) (hi : st.idx = 0) (hf : Fwd c st.inner (ys.drop j)) :
    outs (cycleCo c) n st = (List.range n).map (fun t => ys[(j + t) % ys.length]?) := by
  induction n generalizing j st with
  | zero => rfl
  | succ n ih =>
    by_cases hlt : j < ys.length
    · rw [List.drop_eq_getElem_cons hlt] at hf
      rw [map_range_succ_shift (fun t => ys[t % ys.length]?), outs_succ (cycleCo c) n st,
        cycleCo_next_some (fwd_head hf),
        ih (j + 1) ⟨(c.next st.inner).st, st.cache ++ [ys[j]], st.idx⟩ hlt
          (by rw [hc, List.take_add_one, List.getElem?_eq_getElem hlt]; rfl) hi (fwd_tail hf),
        Nat.mod_eq_of_lt hlt, List.getElem?_eq_getElem hlt]
    · -- everything is cached: from here on it is the replay, and `0 ≡ len` as a position
      obtain rfl : j = ys.length := Nat.le_antisymm hj (Nat.le_of_not_lt hlt)
      rw [List.drop_length] at hf
      rw [List.take_length] at hc
      rw [cycle_replay hne (n + 1) st hc (hi ▸ Nat.zero_le _) hf, hi]
      exact List.map_congr_left fun t _ => by rw [Nat.add_mod_left, Nat.zero_add]

theorem cycle_outs {c : Co} {s : c.σ} {ys : List Val} (h : Fwd c s ys) (hne : ys ≠ []) (n : Nat) :
    outs (cycleCo c) n ⟨s, [], 0⟩ = (List.range n).map (fun t => ys[t % ys.length]?) := by
  rw [cycle_caching hne n 0 ⟨s, [], 0⟩ (Nat.zero_le _) rfl rfl h]
  exact List.map_congr_left fun t _ => by rw [Nat.zero_add]

theorem cycle_empty {c : Co} {s : c.σ} (h : Fwd c s []) : Fwd (cycleCo c) ⟨s, [], 0⟩ [] := by
  refine fwd_coind (c := cycleCo c) (fun st xs => xs = [] ∧ st.cache = [] ∧ Fwd c st.inner []) ?_ ⟨rfl, rfl, h⟩
  rintro st _ ⟨rfl, hc, hf⟩
  rw [cycleCo_next_none (fwd_head hf), hc]
  exact ⟨rfl, rfl, rfl, fwd_tail hf⟩

end KotoVerif.Iter
