/-
C16 helper lemmas about `Model/Types.lean`: the `@base` loop and the special-name table.
-/
import KotoVerif.Model.Types

namespace KotoVerif.C16
open KotoVerif.Types KotoVerif.Gen.TypeNames

/-- `h` is one of the names `compare_value_type` treats specially -/
def isSpecial (h : TyName) : Prop :=
  h = name_always ∨ h = name_callable ∨ h = name_indexable ∨ h = name_iterable

theorem isNull_iff (v : V) : v.isNull = true ↔ v = V.null := by
  cases v <;> simp [V.isNull]

theorem base_none_of_not_obj (v : V) (hv : ∀ ty fl es b, v = V.obj ty fl es (some b) → False) : v.base = none := by
  cases v with
  | obj ty fl es b =>
    cases b with
    | none => rfl
    | some b => exact (hv ty fl es b rfl).elim
  | _ => rfl

/-- the ordinary-name branch of `compare_value_type` (`k = 0`: the value itself) -/
theorem typeName_or_baseChain_iff (h : TyName) (v : V) :
    (typeName v == h || baseChain h v) = true ↔ ∃ k w, V.baseIter k v = some w ∧ typeName w = h := by
  fun_induction baseChain h v with
  | case1 ty fl es b ih =>
    simp only [Bool.or_eq_true, beq_iff_eq] at ih ⊢
    rw [ih]
    constructor
    · rintro (h0 | ⟨k, w, hk, hw⟩)
      · exact ⟨0, _, rfl, h0⟩
      · exact ⟨k + 1, w, hk, hw⟩
    · rintro ⟨k, w, hk, hw⟩
      cases k with
      | zero => cases hk; exact Or.inl hw
      | succ k => exact Or.inr ⟨k, w, hk, hw⟩
  | case2 v hv =>
    simp only [Bool.or_false, beq_iff_eq]
    constructor
    · exact fun h0 => ⟨0, v, rfl, h0⟩
    · rintro ⟨k, w, hk, hw⟩
      cases k with
      | zero => cases hk; exact hw
      | succ k => simp [V.baseIter, base_none_of_not_obj v hv] at hk

theorem special_cases (h : TyName) :
    (specialLookup h specialTable = some .always ∧ h = name_always) ∨
    (specialLookup h specialTable = some .callable ∧ h = name_callable) ∨
    (specialLookup h specialTable = some .indexable ∧ h = name_indexable) ∨
    (specialLookup h specialTable = some .iterable ∧ h = name_iterable) ∨
    (specialLookup h specialTable = none ∧ ¬ isSpecial h) := by
  by_cases h1 : h = name_always
  · subst h1; exact Or.inl ⟨by decide, rfl⟩
  by_cases h2 : h = name_callable
  · subst h2; exact Or.inr (Or.inl ⟨by decide, rfl⟩)
  by_cases h3 : h = name_indexable
  · subst h3; exact Or.inr (Or.inr (Or.inl ⟨by decide, rfl⟩))
  by_cases h4 : h = name_iterable
  · subst h4; exact Or.inr (Or.inr (Or.inr (Or.inl ⟨by decide, rfl⟩)))
  refine Or.inr (Or.inr (Or.inr (Or.inr ⟨?_, ?_⟩)))
  · simp only [name_always, name_callable, name_indexable, name_iterable] at h1 h2 h3 h4
    simp [specialLookup, specialTable, h1, h2, h3, h4]
  · rintro (h | h | h | h) <;> contradiction

end KotoVerif.C16
