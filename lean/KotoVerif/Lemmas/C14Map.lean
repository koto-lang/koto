/-
C14 — lemmas about the order-preserving map (`Equal.OMap`): the key list after each operation is
the insertion-order specification and keys stay pairwise non-equivalent; the hash-first lookups agree
with the spec on hash-consistent key sets; index assignment replaces in place and never panics.
Every operation is reasoned about through `probe`: the search for a key finds no match (`Absent`) or
stops at a first one, and `*_absent` / `*_found` say what each operation then does.
-/
import KotoVerif.Model.Equal
import KotoVerif.Model.Sort
import KotoVerif.Lemmas.C14Sort

namespace KotoVerif
namespace Equal
namespace OMap

variable {β : Type}

structure KeyPER (m : Val → Val → Bool) : Prop where
  symm : ∀ a b, m a b = m b a
  trans : ∀ a b c, m a b = true → m b c = true → m a c = true

def Distinct (m : Val → Val → Bool) (ks : List Val) : Prop :=
  ks.Pairwise (fun a b => m a b = false)

/-- insert: an equivalent key keeps its place (and its spelling), a new key goes to the end -/
def specInsert (m : Val → Val → Bool) (k : Val) (ks : List Val) : List Val :=
  if ks.any (m k) then ks else ks ++ [k]

/-- remove: the first (= only) equivalent key disappears, the rest keep their order -/
def specRemove (m : Val → Val → Bool) (k : Val) (ks : List Val) : List Val := ks.eraseP (m k)

theorem distinct_specInsert {m : Val → Val → Bool} (hm : KeyPER m) (k : Val) (ks : List Val)
    (h : Distinct m ks) : Distinct m (specInsert m k ks) := by
  unfold specInsert
  split
  · exact h
  · rename_i hany
    have hno : ∀ a ∈ ks, m k a = false := fun a ha =>
      Bool.eq_false_iff.mpr (fun e => hany (List.any_eq_true.mpr ⟨a, ha, e⟩))
    unfold Distinct
    rw [List.pairwise_append]
    refine ⟨h, by simp, ?_⟩
    intro a ha b hb
    simp only [List.mem_singleton] at hb
    subst hb
    rw [hm.symm]
    exact hno a ha

theorem distinct_specRemove {m : Val → Val → Bool} (k : Val) (ks : List Val)
    (h : Distinct m ks) : Distinct m (specRemove m k ks) :=
  List.Pairwise.sublist (List.eraseP_sublist) h

theorem lookupBy_congr (m m' : Val → Val → Bool) (k k' : Val) (es : List (Val × β))
    (h : ∀ e ∈ es, m k e.1 = m' k' e.1) : lookupBy m k es = lookupBy m' k' es := by
  induction es with
  | nil => rfl
  | cons e es ih =>
    obtain ⟨k0, v0⟩ := e
    simp only [lookupBy]
    rw [h (k0, v0) (by simp)]
    rw [ih (fun e he => h e (List.mem_cons_of_mem _ he))]

theorem findIdx_congr (m m' : Val → Val → Bool) (k k' : Val) (es : List (Val × β))
    (h : ∀ e ∈ es, m k e.1 = m' k' e.1) : findIdx m k es = findIdx m' k' es := by
  induction es with
  | nil => rfl
  | cons e es ih =>
    obtain ⟨k0, v0⟩ := e
    simp only [findIdx]
    rw [h (k0, v0) (by simp)]
    rw [ih (fun e he => h e (List.mem_cons_of_mem _ he))]

/-! #### the probe: `lookupBy`, `findIdx`, `insert` and `remove` all walk past the entries whose key does
not match and act on the first one that does -/

def Absent (m : Val → Val → Bool) (k : Val) (es : List (Val × β)) : Prop := ∀ e ∈ es, m k e.1 = false

theorem probe (m : Val → Val → Bool) (k : Val) (es : List (Val × β)) :
    Absent m k es ∨ ∃ pre k' v' post, es = pre ++ (k', v') :: post ∧ Absent m k pre ∧ m k k' = true := by
  induction es with
  | nil => exact Or.inl nofun
  | cons e es ih =>
    by_cases h : m k e.1 = true
    · exact Or.inr ⟨[], e.1, e.2, es, rfl, nofun, h⟩
    · rcases ih with ha | ⟨pre, k', v', post, rfl, hp, hk⟩
      · exact Or.inl (List.forall_mem_cons.mpr ⟨Bool.eq_false_iff.mpr h, ha⟩)
      · exact Or.inr ⟨e :: pre, k', v', post, rfl, List.forall_mem_cons.mpr ⟨Bool.eq_false_iff.mpr h, hp⟩, hk⟩

section
variable {m : Val → Val → Bool} {k k' : Val} {pre es : List (Val × β)}

theorem lookupBy_skip (h : Absent m k pre) (rest : List (Val × β)) :
    lookupBy m k (pre ++ rest) = lookupBy m k rest := by
  induction pre with
  | nil => rfl
  | cons e pre ih =>
    obtain ⟨h0, h⟩ := List.forall_mem_cons.mp h
    simp [lookupBy, h0, ih h]

theorem findIdx_skip (h : Absent m k pre) (rest : List (Val × β)) :
    findIdx m k (pre ++ rest) = (findIdx m k rest).map (pre.length + ·) := by
  induction pre with
  | nil => simp
  | cons e pre ih =>
    obtain ⟨h0, h⟩ := List.forall_mem_cons.mp h
    simp [findIdx, h0, ih h, Function.comp_def, Nat.add_right_comm]

theorem insert_skip (h : Absent m k pre) (v : β) (rest : List (Val × β)) :
    insert m k v (pre ++ rest) = (pre ++ (insert m k v rest).1, (insert m k v rest).2) := by
  induction pre with
  | nil => rfl
  | cons e pre ih =>
    obtain ⟨h0, h⟩ := List.forall_mem_cons.mp h
    simp [insert, h0, ih h]

theorem remove_skip (h : Absent m k pre) (rest : List (Val × β)) :
    remove m k (pre ++ rest) = (pre ++ (remove m k rest).1, (remove m k rest).2) := by
  induction pre with
  | nil => rfl
  | cons e pre ih =>
    obtain ⟨h0, h⟩ := List.forall_mem_cons.mp h
    simp [remove, h0, ih h]

theorem lookupBy_absent (h : Absent m k es) : lookupBy m k es = none := by
  simpa [lookupBy] using lookupBy_skip h []

theorem findIdx_absent (h : Absent m k es) : findIdx m k es = none := by
  simpa [findIdx] using findIdx_skip h []

theorem insert_absent (h : Absent m k es) (v : β) : insert m k v es = (es ++ [(k, v)], none) := by
  simpa [insert] using insert_skip h v []

theorem remove_absent (h : Absent m k es) : remove m k es = (es, none) := by
  simpa [remove] using remove_skip h []

theorem lookupBy_found (h : Absent m k pre) (hk : m k k' = true) (v' : β) (post : List (Val × β)) :
    lookupBy m k (pre ++ (k', v') :: post) = some v' := by
  simp [lookupBy_skip h, lookupBy, hk]

theorem findIdx_found (h : Absent m k pre) (hk : m k k' = true) (v' : β) (post : List (Val × β)) :
    findIdx m k (pre ++ (k', v') :: post) = some pre.length := by
  simp [findIdx_skip h, findIdx, hk]

theorem insert_found (h : Absent m k pre) (hk : m k k' = true) (v v' : β) (post : List (Val × β)) :
    insert m k v (pre ++ (k', v') :: post) = (pre ++ (k', v) :: post, some v') := by
  simp [insert_skip h, insert, hk]

theorem remove_found (h : Absent m k pre) (hk : m k k' = true) (v' : β) (post : List (Val × β)) :
    remove m k (pre ++ (k', v') :: post) = (pre ++ post, some v') := by
  simp [remove_skip h, remove, hk]

end

theorem Absent.keys {m : Val → Val → Bool} {k : Val} {es : List (Val × β)} (h : Absent m k es) :
    ∀ x ∈ keys es, m k x = false := fun _ hx => by
  obtain ⟨e, he, rfl⟩ := List.mem_map.mp hx
  exact h e he

theorem keys_insert (m : Val → Val → Bool) (k : Val) (v : β) (es : List (Val × β)) :
    keys (insert m k v es).1 = specInsert m k (keys es) := by
  unfold specInsert
  rcases probe m k es with h | ⟨pre, k', v', post, rfl, h, hk⟩
  · rw [insert_absent h, if_neg (by simpa using h.keys)]; simp [keys]
  · rw [insert_found h hk, if_pos (by simp [keys, hk])]; simp [keys]

theorem keys_remove (m : Val → Val → Bool) (k : Val) (es : List (Val × β)) :
    keys (remove m k es).1 = specRemove m k (keys es) := by
  unfold specRemove
  rcases probe m k es with h | ⟨pre, k', v', post, rfl, h, hk⟩
  · rw [remove_absent h, List.eraseP_of_forall_not (fun x hx => by simp [h.keys x hx])]
  · rw [remove_found h hk]
    simp only [keys, List.map_append, List.map_cons]
    rw [List.eraseP_append_right _ (fun x hx => by simp [h.keys x hx]), List.eraseP_cons_of_pos hk]

theorem lookupBy_append (m : Val → Val → Bool) (k : Val) (xs ys : List (Val × β)) :
    lookupBy m k (xs ++ ys) = (lookupBy m k xs).or (lookupBy m k ys) := by
  induction xs with
  | nil => rfl
  | cons e xs ih => simp only [List.cons_append, lookupBy]; split <;> simp [ih]

/-- equivalent keys are interchangeable in every lookup -/
theorem per_same_verdict {m : Val → Val → Bool} (hm : KeyPER m) (k k' x : Val) (h : m k k' = true) :
    m k x = m k' x :=
  Bool.eq_iff_iff.mpr ⟨hm.trans k' k x (hm.symm k k' ▸ h), hm.trans k k' x h⟩

theorem distinct_perm {m : Val → Val → Bool} (hm : KeyPER m) {ks ks' : List Val} (hp : ks'.Perm ks)
    (h : Distinct m ks) : Distinct m ks' :=
  (List.Perm.pairwise_iff (fun {a b} (hab : m a b = false) => by rw [hm.symm]; exact hab) hp).mpr h

theorem lookup_remove_other {m : Val → Val → Bool} (hm : KeyPER m) (k k2 : Val) (es : List (Val × β))
    (h : m k2 k = false) : lookupBy m k2 (remove m k es).1 = lookupBy m k2 es := by
  rcases probe m k es with ha | ⟨pre, k', v', post, rfl, hp, hk⟩
  · rw [remove_absent ha]
  · have : m k2 k' = false := by rw [hm.symm, ← per_same_verdict hm k k' k2 hk, hm.symm]; exact h
    simp [remove_found hp hk, lookupBy_append, lookupBy, this]

theorem remove_no_match {m : Val → Val → Bool} (hm : KeyPER m) (k : Val) (es : List (Val × β))
    (hd : Distinct m (keys es)) : Absent m k (remove m k es).1 := by
  rcases probe m k es with ha | ⟨pre, k', v', post, rfl, hp, hk⟩
  · rw [remove_absent ha]; exact ha
  · rw [remove_found hp hk]
    intro e he
    rcases List.mem_append.mp he with h | h
    · exact hp e h
    · have hd' : Distinct m (keys ((k', v') :: post)) := by
        rw [keys, List.map_append] at hd; exact (List.pairwise_append.mp hd).2.1
      rw [per_same_verdict hm k k' e.1 hk]
      exact (List.pairwise_cons.mp hd').1 e.1 (List.mem_map_of_mem h)

theorem lookupBy_eq_some {m : Val → Val → Bool} {k : Val} {es : List (Val × β)} {v : β}
    (h : lookupBy m k es = some v) :
    ∃ pre k' post, es = pre ++ (k', v) :: post ∧ Absent m k pre ∧ m k k' = true := by
  rcases probe m k es with ha | ⟨pre, k', v', post, rfl, hp, hk⟩
  · rw [lookupBy_absent ha] at h; cases h
  · cases (lookupBy_found hp hk v' post).symm.trans h
    exact ⟨pre, k', post, rfl, hp, hk⟩

theorem distinct_remove {m : Val → Val → Bool} (k : Val) (es : List (Val × β))
    (hd : Distinct m (keys es)) : Distinct m (keys (remove m k es).1) := by
  rw [keys_remove]
  exact distinct_specRemove k _ hd

inductive MapOp (β : Type) where
  | insert (k : Val) (v : β)
  | remove (k : Val)
  | extend (other : List (Val × β))
  | clear
  | sortBy (lt : Val → Val → Bool)
  /-- `m[i] = (k, v)` in the cases where it completes: `i` valid and `k` not present at another index -/
  | replace (i : Nat) (k : Val) (v : β)

def replaceOk (m : Val → Val → Bool) (i : Nat) (k : Val) (ks : List Val) : Bool :=
  decide (i < ks.length) && ((ks.eraseIdx i).all (fun x => !m k x))

theorem replaceOk_iff {m : Val → Val → Bool} {i : Nat} {k : Val} {ks : List Val} :
    replaceOk m i k ks = true ↔ i < ks.length ∧ ∀ x ∈ ks.eraseIdx i, m k x = false := by
  simp only [replaceOk, Bool.and_eq_true, decide_eq_true_eq, List.all_eq_true, Bool.not_eq_true']

def runOp (m : Val → Val → Bool) : MapOp β → List (Val × β) → List (Val × β)
  | .insert k v, es => (insert m k v es).1
  | .remove k, es => (remove m k es).1
  | .extend other, es => extend m es other
  | .clear, _ => []
  | .sortBy lt, es => Sorting.sortBy (fun a b => lt a.1 b.1) es
  | .replace i k v, es => if replaceOk m i k (keys es) then replaceAt i k v es else es

/-- the same operations on the bare key list: the insertion-order specification -/
def specOp (m : Val → Val → Bool) : MapOp β → List Val → List Val
  | .insert k _, ks => specInsert m k ks
  | .remove k, ks => specRemove m k ks
  | .extend other, ks => (keys other).foldl (fun acc k => specInsert m k acc) ks
  | .clear, _ => []
  | .sortBy lt, ks => Sorting.sortBy lt ks
  | .replace i k _, ks => if replaceOk m i k ks then ks.set i k else ks

theorem keys_extend (m : Val → Val → Bool) (es other : List (Val × β)) :
    keys (extend m es other) = (keys other).foldl (fun acc k => specInsert m k acc) (keys es) := by
  induction other generalizing es with
  | nil => simp [extend, keys]
  | cons e other ih =>
    obtain ⟨k, v⟩ := e
    simp only [extend]
    rw [ih, keys_insert]
    simp [keys]

theorem keys_runOp (m : Val → Val → Bool) (op : MapOp β) (es : List (Val × β)) :
    keys (runOp m op es) = specOp m op (keys es) := by
  cases op with
  | insert k v => exact keys_insert m k v es
  | remove k => exact keys_remove m k es
  | extend other => exact keys_extend m es other
  | clear => rfl
  | sortBy lt => exact Sorting.map_sortBy Prod.fst lt es
  | replace i k v =>
    simp only [runOp, specOp]
    split
    · simp [replaceAt, keys, List.map_set]
    · rfl

theorem distinct_foldl_insert {m : Val → Val → Bool} (hm : KeyPER m) (new ks : List Val)
    (h : Distinct m ks) : Distinct m (new.foldl (fun acc k => specInsert m k acc) ks) :=
  List.foldlRecOn new _ h (fun ks h k _ => distinct_specInsert hm k ks h)

theorem perm_cons_eraseIdx {α : Type} {ks : List α} {i : Nat} (hi : i < ks.length) :
    ks.Perm (ks[i] :: ks.eraseIdx i) := by
  rw [List.eraseIdx_eq_take_drop_succ]
  conv => lhs; rw [← List.take_append_drop i ks, List.drop_eq_getElem_cons hi]
  exact List.perm_middle

theorem distinct_iff_eraseIdx {m : Val → Val → Bool} (hm : KeyPER m) {ks : List Val} {i : Nat}
    (hi : i < ks.length) :
    Distinct m ks ↔ (∀ x ∈ ks.eraseIdx i, m ks[i] x = false) ∧ Distinct m (ks.eraseIdx i) :=
  ⟨fun h => List.pairwise_cons.mp (distinct_perm hm (perm_cons_eraseIdx hi).symm h),
   fun h => distinct_perm hm (perm_cons_eraseIdx hi) (List.pairwise_cons.mpr h)⟩

theorem distinct_set {m : Val → Val → Bool} (hm : KeyPER m) (i : Nat) (k : Val) (ks : List Val)
    (h : Distinct m ks) (hok : replaceOk m i k ks = true) : Distinct m (ks.set i k) := by
  obtain ⟨hi, hall⟩ := replaceOk_iff.mp hok
  have hi' : i < (ks.set i k).length := by simpa using hi
  rw [distinct_iff_eraseIdx hm hi', List.eraseIdx_set_eq, List.getElem_set_self]
  exact ⟨hall, ((distinct_iff_eraseIdx hm hi).mp h).2⟩

theorem distinct_specOp {m : Val → Val → Bool} (hm : KeyPER m) (op : MapOp β) (ks : List Val)
    (h : Distinct m ks) : Distinct m (specOp m op ks) := by
  cases op with
  | insert k v => exact distinct_specInsert hm k ks h
  | remove k => exact distinct_specRemove k ks h
  | extend other => exact distinct_foldl_insert hm _ ks h
  | clear => exact List.Pairwise.nil
  | sortBy lt => exact distinct_perm hm (Sorting.sortBy_perm lt ks) h
  | replace i k v =>
    simp only [specOp]
    split
    · rename_i hok; exact distinct_set hm i k ks h hok
    · exact h

/-- after any sequence of operations: the key list is what the insertion-order specification says,
and the keys are pairwise non-equivalent -/
theorem ops_invariant {m : Val → Val → Bool} (hm : KeyPER m) (ops : List (MapOp β)) (es : List (Val × β))
    (h : Distinct m (keys es)) :
    keys (ops.foldl (fun acc op => runOp m op acc) es) = ops.foldl (fun ks op => specOp m op ks) (keys es) ∧
    Distinct m (keys (ops.foldl (fun acc op => runOp m op acc) es)) := by
  induction ops generalizing es with
  | nil => exact ⟨rfl, h⟩
  | cons op ops ih =>
    simp only [List.foldl_cons]
    have hk := keys_runOp m op es
    have hd : Distinct m (keys (runOp m op es)) := by rw [hk]; exact distinct_specOp hm op _ h
    have := ih (runOp m op es) hd
    rw [hk] at this
    exact this

/-! #### the mechanism (hash first) agrees with the spec on hash-consistent keys -/

theorem keyEqH_eq_keyEq_of {F : FloatOps} {a b : Val} (h : keyEq F a b = true → hashEq F a b = true) :
    keyEqH F a b = keyEq F a b := by
  unfold keyEqH
  cases hk : keyEq F a b
  · simp
  · simp [h hk]

theorem getMatch_lookup_eq_spec (F : FloatOps) (k : Val) (es : List (Val × β))
    (hc : ∀ e ∈ es, keyEq F k e.1 = true → hashEq F k e.1 = true) :
    lookupBy (getMatch F es.length) k es = lookupBy (keyEq F) k es := by
  unfold getMatch
  split
  · rfl
  · exact lookupBy_congr _ _ k k es (fun e he => keyEqH_eq_keyEq_of (hc e he))

/-! #### `run_index_assign` (Map arm): the three IndexMap calls replace entry `i` in place whenever
the new key is not present at another index. All three act at the end of the list, so the map is read as
`body ++ [l]` and `i` stays a number. -/

theorem swapRemoveIndex_concat (i : Nat) (body : List (Val × β)) (l : Val × β) (hi : i ≤ body.length) :
    swapRemoveIndex i (body ++ [l]) = if i = body.length then body else body.set i l := by
  unfold swapRemoveIndex
  rw [List.getLast?_concat, if_pos (by simp; omega)]
  simp only [List.length_append, List.length_singleton, Nat.add_right_cancel_iff]
  split
  · exact List.dropLast_concat
  · rw [List.set_append_left _ _ (by omega), List.dropLast_concat]

theorem keys_eraseIdx (i : Nat) (es : List (Val × β)) : (keys es).eraseIdx i = keys (es.eraseIdx i) := by
  simp [keys, List.eraseIdx_eq_take_drop_succ, List.map_take, List.map_drop]

/-- `swap_remove_index` removes entry `i` (and moves the last one into its place) -/
theorem mem_swapRemoveIndex {i : Nat} {body : List (Val × β)} {l e : Val × β} (hi : i ≤ body.length)
    (he : e ∈ swapRemoveIndex i (body ++ [l])) : e ∈ (body ++ [l]).eraseIdx i := by
  rw [swapRemoveIndex_concat i body l hi] at he
  by_cases h : i = body.length
  · rw [if_pos h] at he
    rw [List.eraseIdx_append_of_length_le (by omega)]
    exact List.mem_append_left _ he
  · rw [if_neg h, List.set_eq_take_append_cons_drop, if_pos (by omega)] at he
    rw [List.eraseIdx_append_of_lt_length (by omega), List.eraseIdx_eq_take_drop_succ]
    simp only [List.mem_append, List.mem_cons, List.not_mem_nil, or_false] at he ⊢
    rcases he with h | h | h
    · exact .inl (.inl h)
    · exact .inr h
    · exact .inl (.inr h)

theorem indexAssign_concat (m : Val → Val → Bool) (i : Nat) (k : Val) (v : β) (body : List (Val × β))
    (l : Val × β) (hi : i ≤ body.length) (hk : Absent m k (swapRemoveIndex i (body ++ [l]))) :
    indexAssign m i k v (body ++ [l]) = some ((body ++ [l]).set i (k, v)) := by
  unfold indexAssign
  rw [insert_absent hk v, swapRemoveIndex_concat i body l hi]
  unfold swapIndices
  by_cases e : i = body.length
  · subst e
    simp
  · have hlt : i < body.length := by omega
    simp [e, hlt, List.set_append_left, List.getElem?_append_left]

theorem indexAssign_ok (m : Val → Val → Bool) (i : Nat) (k : Val) (v : β) (es : List (Val × β))
    (hok : replaceOk m i k (keys es) = true) : indexAssign m i k v es = some (replaceAt i k v es) := by
  obtain ⟨hi, hall⟩ := replaceOk_iff.mp hok
  rcases List.eq_nil_or_concat es with rfl | ⟨body, l, rfl⟩
  · cases hi
  · rw [List.concat_eq_append] at *
    have hi' : i ≤ body.length := by simpa [keys, Nat.lt_succ_iff] using hi
    rw [keys_eraseIdx] at hall
    exact indexAssign_concat m i k v body l hi'
      (fun e he => hall e.1 (List.mem_map_of_mem (mem_swapRemoveIndex hi' he)))

/-! ### the checked index assignment (fix 6a9dccd) never panics -/

theorem distinct_other_no_match {m : Val → Val → Bool} (hm : KeyPER m) (k : Val) (ks : List Val) (i : Nat)
    (hi : i < ks.length) (hd : Distinct m ks) (hk : m k ks[i] = true) :
    ∀ x ∈ ks.eraseIdx i, m k x = false :=
  fun x hx => (per_same_verdict hm k ks[i] x hk).trans (((distinct_iff_eraseIdx hm hi).mp hd).1 x hx)

/-- `m[i] = (k, v)` for a valid index on a map with pairwise different keys: either `k` is in use at
another index `j` — a runtime error, the map is untouched — or entry `i` is replaced in place.
It never panics. -/
theorem indexAssignChecked_total {m : Val → Val → Bool} (hm : KeyPER m) (i : Nat) (k : Val) (v : β)
    (es : List (Val × β)) (hi : i < es.length) (hd : Distinct m (keys es)) :
    (∃ j, j ≠ i ∧ indexAssignChecked m m i k v es = .keyInUse j ∧ replaceOk m i k (keys es) = false) ∨
    (indexAssignChecked m m i k v es = .replaced (replaceAt i k v es) ∧ replaceOk m i k (keys es) = true) := by
  have hik : i < (keys es).length := by simpa [keys] using hi
  have ok_of : (∀ x ∈ (keys es).eraseIdx i, m k x = false) → replaceOk m i k (keys es) = true :=
    fun h => replaceOk_iff.mpr ⟨hik, h⟩
  unfold indexAssignChecked
  rcases probe m k es with hno | ⟨pre, k', v', post, rfl, hp, hk⟩
  · have hok := ok_of (fun x hx => hno.keys x (List.mem_of_mem_eraseIdx hx))
    rw [findIdx_absent hno, indexAssign_ok m i k v es hok]
    exact Or.inr ⟨rfl, hok⟩
  · rw [findIdx_found hp hk]
    by_cases hji : pre.length = i
    · subst hji
      have hok := ok_of (distinct_other_no_match hm k _ _ hik hd (by simpa [keys] using hk))
      rw [indexAssign_ok m _ k v _ hok]
      exact Or.inr ⟨by simp, hok⟩
    · refine Or.inl ⟨pre.length, hji, by simp [hji], Bool.eq_false_iff.mpr (fun hr => ?_)⟩
      have hmem : k' ∈ (keys (pre ++ (k', v') :: post)).eraseIdx i := by
        rw [List.mem_eraseIdx_iff_getElem]
        exact ⟨pre.length, by simp [keys], hji, by simp [keys]⟩
      exact Bool.eq_false_iff.mp ((replaceOk_iff.mp hr).2 _ hmem) hk

end OMap
end Equal
end KotoVerif
