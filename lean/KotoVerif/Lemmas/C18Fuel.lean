/-
C18 — fuel adequacy: the import nesting depth is bounded by the number of cache keys that are not
in progress, so from `keys.length + 1` on (the driver uses `6 * files.length + 8`, `Drivers/C18.lean`
`fuelFor`) `runUnit`, `hostRun` and `runOps` never run out of fuel and their results do not depend on
the fuel.
-/
import KotoVerif.Lemmas.C18Exec

namespace KotoVerif.C18L
open KotoVerif.Modules

/-- number of cache keys (module paths as `find_module` returns them) that are not in progress right now -/
def avail (keys : List Path) (s : St) : Nat := keys.countP (fun p => !inProgB s.cache p)

/-- both runs return, and return the same -/
def Both {α : Type} (x x' : Option α) : Prop := ∃ a, x = some a ∧ x' = some a

theorem Both.eq_ne {α : Type} {x x' : Option α} (h : Both x x') : x = x' ∧ x ≠ none :=
  let ⟨_, h1, h2⟩ := h
  ⟨h1.trans h2.symm, by rw [h1]; exact Option.some_ne_none _⟩

def Agree (keys : List Path) (K : Nat) (rec rec' : Runner) : Prop :=
  ∀ self dir body s, Inv s → avail keys s < K → Both (rec self dir body s) (rec' self dir body s)

def Ready (keys : List Path) (K : Nat) (s : St) : Prop := Inv s ∧ avail keys s ≤ K

theorem countP_lt_of {α : Type} (f g : α → Bool) (l : List α) (hle : ∀ x, g x = true → f x = true)
    (p : α) (hp : p ∈ l) (hf : f p = true) (hg : g p = false) : l.countP g < l.countP f := by
  have h : l.countP g = ((l.filter f).filter g).length := by
    rw [← List.countP_eq_length_filter, List.countP_filter]
    exact List.countP_congr fun x _ => ⟨fun h => by simp [h, hle x h], fun h => by simp at h; exact h.1⟩
  rw [h, List.countP_eq_length_filter (p := f)]
  exact List.length_filter_lt_length_iff_exists.mpr ⟨p, List.mem_filter.mpr ⟨hp, hf⟩, by simp [hg]⟩

theorem avail_eq_of_rel {keys : List Path} {s s' : St} (h : Rel s s') : avail keys s' = avail keys s := by
  unfold avail
  congr 1
  funext p
  rw [h.inProgB_eq]

theorem avail_enter {keys : List Path} {s : St} {p : Path} (hnone : s.cache p = none) (hp : p ∈ keys) :
    avail keys (emit (Event.enter p) { s with cache := upd s.cache p (some Entry.inProgress), exports := {} })
      < avail keys s := by
  unfold avail
  apply countP_lt_of _ _ keys _ p hp
  · simp [inProgB, hnone]
  · simp [emit, inProgB, upd]
  · intro q hq
    change (!inProgB (upd s.cache p (some Entry.inProgress)) q) = true at hq
    by_cases hqp : q = p
    · subst hqp; simp [inProgB, upd] at hq
    · rw [inProgB_upd_other _ _ _ _ hqp] at hq; exact hq

/-- execution keeps a state ready: the placeholders are where they were -/
theorem Ready.step {keys : List Path} {K : Nat} {s s' : St} (hr : Ready keys K s) (h : Sound s s') :
    Ready keys K s' :=
  let ⟨inv, rel⟩ := h hr.1
  ⟨inv, by rw [avail_eq_of_rel rel]; exact hr.2⟩

section
variable {cfg : Cfg} {fs : FS} {keys : List Path} {K : Nat} {rec rec' : Runner}
  (hkeys : ∀ dir r p, findModule cfg fs dir r = some p → p ∈ keys) (hs : RecSound rec)
  (ha : Agree keys K rec rec')

include ha in
theorem agree_loadModule {p : Path} {s : St} (hr : Ready keys K s) (hnone : s.cache p = none)
    (hp : p ∈ keys) : Both (loadModule fs rec p s) (loadModule fs rec' p s) := by
  have hlt := avail_enter (keys := keys) hnone hp
  obtain ⟨⟨r1, s3⟩, h1, h2⟩ :=
    ha (some p) p.folder (bodyOf fs p) _ (inv_enter hr.1 hnone) (by have := hr.2; omega)
  unfold loadModule
  dsimp only
  rw [h1, h2]
  cases r1 <;> exact ⟨_, rfl, rfl⟩

include hkeys ha in
theorem agree_runImport {fr : Frame} {name : Ref} {s : St} (hr : Ready keys K s) :
    Both (runImport cfg fs rec fr name s) (runImport cfg fs rec' fr name s) := by
  rw [runImport_plan, runImport_plan]
  cases hpl : importPlan cfg fs fr name s with
  | inl r => exact ⟨r, rfl, rfl⟩
  | inr ps =>
    obtain ⟨p, s1⟩ := ps
    obtain ⟨hfm, h1, _, hnone, _⟩ := importPlan_inr hr.1 hpl
    exact agree_loadModule ha (hr.step fun _ => h1) hnone (hkeys _ _ p hfm)

include hkeys ha in
theorem agree_rootValue {fr : Frame} {m : Ref} {s : St} (hr : Ready keys K s) :
    Both (rootValue cfg fs rec fr m s) (rootValue cfg fs rec' fr m s) := by
  unfold rootValue
  cases (if m.str then none else lookup m.name fr.locals) with
  | some v => exact ⟨_, rfl, rfl⟩
  | none => exact agree_runImport hkeys ha hr

include hkeys ha in
theorem agree_importRoot {fr : Frame} {m : Ref} {s : St} (hr : Ready keys K s) :
    Both (importRoot cfg fs rec fr m s) (importRoot cfg fs rec' fr m s) := by
  obtain ⟨⟨r1, s1⟩, h1, h2⟩ := agree_rootValue (cfg := cfg) (m := m) (fr := fr) hkeys ha hr
  unfold importRoot
  rw [h1, h2]
  cases r1 <;> exact ⟨_, rfl, rfl⟩

include hkeys ha in
theorem agree_wildRoot {fr : Frame} {m : Ref} {s : St} (hr : Ready keys K s) :
    Both (wildRoot cfg fs rec fr m s) (wildRoot cfg fs rec' fr m s) := by
  unfold wildRoot
  split
  · cases (if m.str then none else lookup m.name fr.locals) with
    | some v => exact ⟨_, rfl, rfl⟩
    | none => exact agree_runImport hkeys ha hr
  · obtain ⟨⟨r1, s1⟩, h1, h2⟩ := agree_importRoot (cfg := cfg) (m := m) (fr := fr) hkeys ha hr
    rw [h1, h2]
    cases r1 <;> exact ⟨_, rfl, rfl⟩

include hkeys hs ha in
theorem agree_importItems (items : List Item) :
    ∀ (fr : Frame) (s : St), Ready keys K s →
    Both (importItems cfg fs rec items fr s) (importItems cfg fs rec' items fr s) := by
  induction items with
  | nil => intro fr s _; exact ⟨_, rfl, rfl⟩
  | cons it rest ih =>
    intro fr s hr
    obtain ⟨⟨r1, s1⟩, h1, h2⟩ := agree_importRoot (cfg := cfg) (m := it.toRef) (fr := fr) hkeys ha hr
    simp only [importItems]
    rw [h1, h2]
    cases r1 with
    | error e => exact ⟨_, rfl, rfl⟩
    | ok v =>
      dsimp only
      have e : Eff cfg fs rec (fun _ => True) s _ := (eff_importRoot h1).trans
        (.exportItem (fun _ _ _ => trivial) (b := fr.exportTop) (al := cfg.exportAlias) (sa := cfg.exportStrAlias)
          (it := it) v s1)
      exact ih _ _ (hr.step (e.sound hs))

include hkeys hs ha in
theorem agree_execAct (a : Act) (fr : Frame) (s : St) (hr : Ready keys K s) :
    Both (execAct cfg fs rec a fr s) (execAct cfg fs rec' a fr s) := by
  cases a with
  | print mk => exact ⟨_, rfl, rfl⟩
  | export_ k v => exact ⟨_, rfl, rfl⟩
  | assign k v => exact ⟨_, rfl, rfl⟩
  | exportId k src =>
    simp only [execAct]
    cases readId cfg fr s src <;> exact ⟨_, rfl, rfl⟩
  | «show» mk k =>
    simp only [execAct]
    cases readId cfg fr s k <;> exact ⟨_, rfl, rfl⟩
  | importMods items =>
    simp only [execAct]
    exact agree_importItems hkeys hs ha items fr s hr
  | fromImport m items =>
    obtain ⟨⟨r1, s1⟩, h1, h2⟩ := agree_importRoot (cfg := cfg) (m := m) (fr := fr) hkeys ha hr
    simp only [execAct]
    rw [h1, h2]
    cases r1 <;> exact ⟨_, rfl, rfl⟩
  | fromAll m =>
    obtain ⟨⟨r1, s1⟩, h1, h2⟩ := agree_wildRoot (cfg := cfg) (m := m) (fr := fr) hkeys ha hr
    simp only [execAct]
    rw [h1, h2]
    cases r1 with
    | error e => exact ⟨_, rfl, rfl⟩
    | ok mv =>
      dsimp only
      cases fr.exportTop <;> cases mv.scalar <;> exact ⟨_, rfl, rfl⟩
  | tryImport m mk =>
    obtain ⟨⟨r1, s1⟩, h1, h2⟩ := agree_runImport (cfg := cfg) (name := m) (fr := fr) hkeys ha hr
    simp only [execAct]
    rw [h1, h2]
    cases r1 <;> exact ⟨_, rfl, rfl⟩
  | tryShow mk k =>
    simp only [execAct]
    cases readId cfg fr s k <;> exact ⟨_, rfl, rfl⟩
  | fail mk => exact ⟨_, rfl, rfl⟩
  | assignPat exp targets rhs =>
    simp only [execAct]
    cases evalRhs cfg fr s rhs <;> exact ⟨_, rfl, rfl⟩
  | compound k op r => exact ⟨_, rfl, rfl⟩
  | loopCompound n k op r =>
    simp only [execAct]
    split <;> exact ⟨_, rfl, rfl⟩
  | cbExport last k => exact ⟨_, rfl, rfl⟩
  | condAssign form k v =>
    simp only [execAct]
    split <;> exact ⟨_, rfl, rfl⟩

include hkeys hs ha in
theorem agree_execActs (acts : List Act) :
    ∀ (fr : Frame) (s : St), Ready keys K s →
    Both (execActs cfg fs rec acts fr s) (execActs cfg fs rec' acts fr s) := by
  induction acts with
  | nil => intro fr s _; exact ⟨_, rfl, rfl⟩
  | cons a rest ih =>
    intro fr s hr
    obtain ⟨⟨r1, fr1, s1⟩, h1, h2⟩ := agree_execAct (cfg := cfg) hkeys hs ha a fr s hr
    simp only [execActs]
    rw [h1, h2]
    cases r1 with
    | some e => exact ⟨_, rfl, rfl⟩
    | none =>
      dsimp only
      exact ih fr1 s1 (hr.step ((eff_execAct (W := fun _ => True) h1 (fun _ _ => trivial)).1.sound hs))

include hkeys hs ha in
theorem agree_closure (body : List Act) (fr : Frame) (s : St) (hr : Ready keys K s) :
    Both (match execActs cfg fs rec body fr s with | none => none | some (r, _, st1) => some (r, st1))
      (match execActs cfg fs rec' body fr s with | none => none | some (r, _, st1) => some (r, st1)) := by
  obtain ⟨_, h1, h2⟩ := agree_execActs (cfg := cfg) hkeys hs ha body fr s hr
  rw [h1, h2]
  exact ⟨_, rfl, rfl⟩

include hkeys hs ha in
theorem agree_runFn (c : Closure) (s : St) (hr : Ready keys K s) :
    Both (runFn cfg fs rec c s) (runFn cfg fs rec' c s) :=
  agree_closure hkeys hs ha _ _ s hr

include hkeys hs ha in
theorem agree_callValue (v : V) (s : St) (hr : Ready keys K s) :
    Both (callValue cfg fs rec v s) (callValue cfg fs rec' v s) := by
  unfold callValue
  cases v with
  | fn home key =>
    dsimp only
    cases fnOf s home key with
    | none => exact ⟨_, rfl, rfl⟩
    | some c => exact agree_closure hkeys hs ha _ _ s hr
  | int n => exact ⟨_, rfl, rfl⟩
  | mref p => exact ⟨_, rfl, rfl⟩
  | core n => exact ⟨_, rfl, rfl⟩
  | native n => exact ⟨_, rfl, rfl⟩
  | null => exact ⟨_, rfl, rfl⟩

include hkeys hs ha in
theorem agree_execTAct (a : TAct) (fr : Frame) (s : St) (hr : Ready keys K s) :
    Both (execTAct cfg fs rec a fr s) (execTAct cfg fs rec' a fr s) := by
  cases a with
  | act a => simp only [execTAct]; exact agree_execAct hkeys hs ha a fr s hr
  | defMain mk body => exact ⟨_, rfl, rfl⟩
  | defTest n mk body => exact ⟨_, rfl, rfl⟩
  | exportFn k mk body => exact ⟨_, rfl, rfl⟩
  | callMember m k =>
    simp only [execTAct]
    cases readId cfg fr s m with
    | none => exact ⟨_, rfl, rfl⟩
    | some mv =>
      dsimp only
      cases access s.cache mv k with
      | error e => exact ⟨_, rfl, rfl⟩
      | ok fv =>
        dsimp only
        obtain ⟨_, h1, h2⟩ := agree_callValue (cfg := cfg) hkeys hs ha fv s hr
        rw [h1, h2]
        exact ⟨_, rfl, rfl⟩
  | call k =>
    simp only [execTAct]
    cases readId cfg fr s k with
    | none => exact ⟨_, rfl, rfl⟩
    | some fv =>
      dsimp only
      obtain ⟨_, h1, h2⟩ := agree_callValue (cfg := cfg) hkeys hs ha fv s hr
      rw [h1, h2]
      exact ⟨_, rfl, rfl⟩

include hkeys hs ha in
theorem agree_execTActs (acts : List TAct) :
    ∀ (fr : Frame) (s : St), Ready keys K s →
    Both (execTActs cfg fs rec acts fr s) (execTActs cfg fs rec' acts fr s) := by
  induction acts with
  | nil => intro fr s _; exact ⟨_, rfl, rfl⟩
  | cons a rest ih =>
    intro fr s hr
    obtain ⟨⟨r1, fr1, s1⟩, h1, h2⟩ := agree_execTAct (cfg := cfg) hkeys hs ha a fr s hr
    simp only [execTActs]
    rw [h1, h2]
    cases r1 with
    | some e => exact ⟨_, rfl, rfl⟩
    | none =>
      dsimp only
      exact ih fr1 s1 (hr.step ((eff_execTAct (W := fun _ => True) h1 (fun _ _ => trivial)).1.sound hs))

include hkeys hs ha in
theorem agree_runTests (ts : List (Name × Closure)) :
    ∀ (s : St), Ready keys K s → Both (runTests cfg fs rec ts s) (runTests cfg fs rec' ts s) := by
  induction ts with
  | nil => intro s _; exact ⟨_, rfl, rfl⟩
  | cons t rest ih =>
    intro s hr
    obtain ⟨n, c⟩ := t
    obtain ⟨⟨r1, s1⟩, h1, h2⟩ := agree_runFn (cfg := cfg) hkeys hs ha c s hr
    simp only [runTests]
    rw [h1, h2]
    cases r1 with
    | some e => exact ⟨_, rfl, rfl⟩
    | none =>
      dsimp only
      exact ih s1 (hr.step ((eff_runFn h1).sound hs))

include hkeys hs ha in
theorem agree_runMain (s : St) (hr : Ready keys K s) :
    Both (runMain cfg fs rec s) (runMain cfg fs rec' s) := by
  unfold runMain
  cases s.exports.main with
  | none => exact ⟨_, rfl, rfl⟩
  | some c => exact agree_runFn hkeys hs ha c s hr

include hkeys hs ha in
theorem agree_afterTop (tests : Bool) (s : St) (hr : Ready keys K s) :
    Both (afterTop cfg fs rec tests s) (afterTop cfg fs rec' tests s) := by
  unfold afterTop
  cases tests with
  | false =>
    simp only [Bool.false_eq_true, if_false]
    exact agree_runMain hkeys hs ha s hr
  | true =>
    simp only [if_true]
    obtain ⟨⟨r1, s1⟩, h1, h2⟩ := agree_runTests (cfg := cfg) hkeys hs ha s.exports.tests s hr
    rw [h1, h2]
    cases r1 with
    | some e => exact ⟨_, rfl, rfl⟩
    | none =>
      dsimp only
      exact agree_runMain hkeys hs ha s1 (hr.step ((eff_runTests _ h1).sound hs))

include hkeys hs ha in
theorem agree_runBody (tests : Bool) (fr : Frame) (body : List TAct) (s : St)
    (hr : Ready keys K s) :
    Both (runBody cfg fs rec tests fr body s) (runBody cfg fs rec' tests fr body s) := by
  obtain ⟨⟨r1, fr1, s1⟩, h1, h2⟩ := agree_execTActs (cfg := cfg) hkeys hs ha body fr s hr
  unfold runBody
  rw [h1, h2]
  cases r1 with
  | some e => exact ⟨_, rfl, rfl⟩
  | none =>
    dsimp only
    exact agree_afterTop hkeys hs ha tests s1
      (hr.step ((eff_execTActs (W := fun _ => True) _ h1 (fun _ _ _ _ => trivial)).1.sound hs))

end

/-- all fuels from the number of available keys on agree, and suffice -/
theorem runUnit_adequate (cfg : Cfg) (fs : FS) (keys : List Path)
    (hkeys : ∀ dir r p, findModule cfg fs dir r = some p → p ∈ keys) :
    ∀ K n m, K ≤ n → K ≤ m → Agree keys K (runUnit cfg fs n) (runUnit cfg fs m) := by
  intro K
  induction K with
  | zero => intro n m _ _ self dir body s _ hav; omega
  | succ K ih =>
    intro n m hn hm self dir body s hinv hav
    obtain ⟨n', rfl⟩ : ∃ n', n = n' + 1 := ⟨n - 1, by omega⟩
    obtain ⟨m', rfl⟩ : ∃ m', m = m' + 1 := ⟨m - 1, by omega⟩
    simp only [runUnit]
    exact agree_runBody hkeys (recSound_runUnit cfg fs n') (ih n' m' (by omega) (by omega)) _ _ _ s
      ⟨hinv, by omega⟩

theorem avail_le_length (keys : List Path) (s : St) : avail keys s ≤ keys.length :=
  List.countP_le_length

theorem hostRun_adequate (cfg : Cfg) (fs : FS) (keys : List Path)
    (hkeys : ∀ dir r p, findModule cfg fs dir r = some p → p ∈ keys) (n m : Nat) (hn : keys.length < n) (hm : keys.length < m)
    (op : Op) (s : St) (hinv : Inv s) : Both (hostRun cfg fs n op s) (hostRun cfg fs m op s) := by
  unfold hostRun
  exact agree_runBody hkeys (recSound_runUnit cfg fs n)
    (runUnit_adequate cfg fs keys hkeys keys.length n (m := m) (by omega) (by omega)) _ _ _ s
    ⟨hinv, by have := avail_le_length keys s; omega⟩

theorem runOps_adequate (cfg : Cfg) (fs : FS) (keys : List Path)
    (hkeys : ∀ dir r p, findModule cfg fs dir r = some p → p ∈ keys) (n m : Nat) (hn : keys.length < n) (hm : keys.length < m)
    (ops : List Op) : ∀ (s : St), Inv s → Both (runOps cfg fs n ops s) (runOps cfg fs m ops s) := by
  induction ops with
  | nil => intro s _; exact ⟨_, rfl, rfl⟩
  | cons op rest ih =>
    intro s hinv
    obtain ⟨⟨r, s1⟩, h1, h2⟩ := hostRun_adequate cfg fs keys hkeys n m hn hm op s hinv
    obtain ⟨_, h3, h4⟩ := ih s1 (sound_hostRun h1 hinv).1
    simp only [runOps]
    rw [h1, h2]
    dsimp only
    rw [h3, h4]
    exact ⟨_, rfl, rfl⟩

end KotoVerif.C18L
