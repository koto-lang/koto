/-
C08 lemmas about `Model/Timeout.lean`. The poller: `check` takes exactly one of three branches
(`check_cases`), a run preserves whatever every check preserves (`runN_invariant`), and up to its first
timeout it keeps the invariant `Timing` (upper cost bound) resp. `Adapted` (both cost bounds), which give
the slack bounds `slack_capped` / `slack_adapted`. Delivery: the per-entry `unwind` + re-raise (`deliver`)
is the one-pass `deliverFlat`, described frame by frame.
-/
import KotoVerif.Model.Timeout

namespace KotoVerif.C08L
open KotoVerif.Timeout

/-! ### `check` case analysis -/

theorem check_skip (F : TOps) (s : St) (now : Nat) (h : s.sinceLast < s.intervalInstr) :
    check F s now = ({ s with sinceLast := s.sinceLast + 1 }, .skip) := by
  simp [check, h]

theorem check_timeout (F : TOps) (s : St) (now : Nat) (h : ¬ s.sinceLast < s.intervalInstr)
    (hd : s.deadline ≤ now) : check F s now = (s, .timeout) := by
  simp [check, h, hd]

theorem check_ok (F : TOps) (s : St) (now : Nat) (h : ¬ s.sinceLast < s.intervalInstr)
    (hd : ¬ s.deadline ≤ now) :
    check F s now =
      ({ s with intervalInstr := nextInterval F s now, sinceLast := 0, lastCheck := now }, .ok) := by
  simp [check, h, hd]

theorem check_cases (F : TOps) (s : St) (now : Nat) :
    (s.sinceLast < s.intervalInstr ∧ check F s now = ({ s with sinceLast := s.sinceLast + 1 }, .skip)) ∨
    (¬ s.sinceLast < s.intervalInstr ∧ s.deadline ≤ now ∧ check F s now = (s, .timeout)) ∨
    (¬ s.sinceLast < s.intervalInstr ∧ ¬ s.deadline ≤ now ∧
      check F s now =
        ({ s with intervalInstr := nextInterval F s now, sinceLast := 0, lastCheck := now }, .ok)) := by
  by_cases h : s.sinceLast < s.intervalInstr
  · exact Or.inl ⟨h, check_skip F s now h⟩
  · by_cases hd : s.deadline ≤ now
    · exact Or.inr (Or.inl ⟨h, hd, check_timeout F s now h hd⟩)
    · exact Or.inr (Or.inr ⟨h, hd, check_ok F s now h hd⟩)

theorem check_skip_iff (F : TOps) (s : St) (now : Nat) :
    (check F s now).2 = .skip ↔ s.sinceLast < s.intervalInstr := by
  rcases check_cases F s now with ⟨h, h2⟩ | ⟨h, _, h2⟩ | ⟨h, _, h2⟩ <;> rw [h2] <;> simp [h]

theorem check_timeout_iff (F : TOps) (s : St) (now : Nat) :
    (check F s now).2 = .timeout ↔ ¬ s.sinceLast < s.intervalInstr ∧ s.deadline ≤ now := by
  rcases check_cases F s now with ⟨h, h2⟩ | ⟨h, hd, h2⟩ | ⟨h, hd, h2⟩ <;> rw [h2] <;> simp [*]

theorem check_ok_iff (F : TOps) (s : St) (now : Nat) :
    (check F s now).2 = .ok ↔ ¬ s.sinceLast < s.intervalInstr ∧ ¬ s.deadline ≤ now := by
  rcases check_cases F s now with ⟨h, h2⟩ | ⟨h, hd, h2⟩ | ⟨h, hd, h2⟩ <;> rw [h2] <;> simp [*]

theorem check_deadline (F : TOps) (s : St) (now : Nat) : (check F s now).1.deadline = s.deadline := by
  rcases check_cases F s now with ⟨_, h⟩ | ⟨_, _, h⟩ | ⟨_, _, h⟩ <;> rw [h]

theorem check_limit (F : TOps) (s : St) (now : Nat) : (check F s now).1.limit = s.limit := by
  rcases check_cases F s now with ⟨_, h⟩ | ⟨_, _, h⟩ | ⟨_, _, h⟩ <;> rw [h]

theorem check_maxInterval (F : TOps) (s : St) (now : Nat) : (check F s now).1.maxInterval = s.maxInterval := by
  rcases check_cases F s now with ⟨_, h⟩ | ⟨_, _, h⟩ | ⟨_, _, h⟩ <;> rw [h]

theorem check_sinceLast_le (F : TOps) (s : St) (now : Nat) (h : s.sinceLast ≤ s.intervalInstr) :
    (check F s now).1.sinceLast ≤ (check F s now).1.intervalInstr := by
  rcases check_cases F s now with ⟨h1, h2⟩ | ⟨_, _, h2⟩ | ⟨_, _, h2⟩ <;> rw [h2] <;> simp <;> omega

theorem check_interval_le (F : TOps) (s : St) (now M : Nat) (h : s.intervalInstr ≤ M)
    (hm : s.maxInterval ≤ M) : (check F s now).1.intervalInstr ≤ M := by
  rcases check_cases F s now with ⟨_, h2⟩ | ⟨_, _, h2⟩ | ⟨_, _, h2⟩ <;> rw [h2]
  · exact h
  · exact h
  · exact Nat.le_trans (Nat.min_le_right _ _) hm

/-! ### runs -/

theorem runN_invariant (F : TOps) (clk : Nat → Nat) {Q : St → Prop}
    (hstep : ∀ s now, Q s → Q (check F s now).1) (n : Nat) :
    ∀ (s : St) (i : Nat), Q s → Q (runN F clk n s i) := by
  induction n with
  | zero => exact fun s i h => h
  | succ n ih => exact fun s i h => ih _ _ (hstep s _ h)

theorem runN_deadline (F : TOps) (clk : Nat → Nat) (n : Nat) (s : St) (i : Nat) :
    (runN F clk n s i).deadline = s.deadline :=
  runN_invariant F clk (Q := fun s' => s'.deadline = s.deadline)
    (fun s' now h => (check_deadline F s' now).trans h) n s i rfl

theorem runN_limit (F : TOps) (clk : Nat → Nat) (n : Nat) :
    ∀ (s : St) (i : Nat), (runN F clk n s i).limit = s.limit := fun s i =>
  runN_invariant F clk (Q := fun s' => s'.limit = s.limit)
    (fun s' now h => (check_limit F s' now).trans h) n s i rfl

theorem runN_sinceLast_le (F : TOps) (clk : Nat → Nat) (n : Nat) (s : St) (i : Nat) :
    s.sinceLast ≤ s.intervalInstr → (runN F clk n s i).sinceLast ≤ (runN F clk n s i).intervalInstr :=
  runN_invariant F clk (check_sinceLast_le F) n s i

/-- With `M = max(first interval, MAX_INTERVAL_INSTRUCTIONS)`: the number of unobserved instructions
between two clock reads is bounded over the whole entry, not only after the next read. -/
theorem interval_bounded_run (F : TOps) (clk : Nat → Nat) (M : Nat) (n : Nat) (s : St)
    (i : Nat) (h : s.intervalInstr ≤ M) (hm : s.maxInterval ≤ M) : (runN F clk n s i).intervalInstr ≤ M :=
  (runN_invariant F clk (Q := fun s' => s'.intervalInstr ≤ M ∧ s'.maxInterval ≤ M)
    (fun s' now h => ⟨check_interval_le F s' now M h.1 h.2, check_maxInterval F s' now ▸ h.2⟩)
    n s i ⟨h, hm⟩).1

theorem runN_eq_foldl (F : TOps) (clk : Nat → Nat) (n : Nat) : ∀ (s : St) (i : Nat),
    runN F clk n s i = (List.range' i n).foldl (fun s j => (check F s (clk j)).1) s := by
  induction n with
  | zero => exact fun s i => rfl
  | succ n ih => exact fun s i => ih _ _

theorem runN_add (F : TOps) (clk : Nat → Nat) (a b : Nat) (s : St) (i : Nat) :
    runN F clk (a + b) s i = runN F clk b (runN F clk a s i) (i + a) := by
  simp only [runN_eq_foldl, ← List.range'_append_1, List.foldl_append]

theorem runN_succ_last (F : TOps) (clk : Nat → Nat) (n : Nat) (s : St) (i : Nat) :
    runN F clk (n + 1) s i = (check F (runN F clk n s i) (clk (i + n))).1 :=
  runN_add F clk n 1 s i

theorem run_induction (F : TOps) (clk : Nat → Nat) {Q : Nat → St → Prop} (s0 : St) (h0 : Q 0 s0)
    (hstep : ∀ n, Q n (runN F clk n s0 0) → pollAt F clk s0 n ≠ .timeout →
      Q (n + 1) (check F (runN F clk n s0 0) (clk n)).1) :
    ∀ n, (∀ j, j < n → pollAt F clk s0 j ≠ .timeout) → Q n (runN F clk n s0 0) := by
  intro n
  induction n with
  | zero => exact fun _ => h0
  | succ n ih =>
    intro hnt
    rw [runN_succ_last, Nat.zero_add]
    exact hstep n (ih fun j hj => hnt j (Nat.lt_succ_of_lt hj)) (hnt n (Nat.lt_succ_self n))

theorem runN_skips (F : TOps) (clk : Nat → Nat) (k : Nat) :
    ∀ (s : St) (i : Nat), k ≤ s.intervalInstr - s.sinceLast → runN F clk k s i = skipMany s k := by
  induction k with
  | zero => intro s i _; rfl
  | succ k ih =>
    intro s i h
    have hlt : s.sinceLast < s.intervalInstr := Nat.lt_of_sub_pos (Nat.lt_of_lt_of_le (Nat.succ_pos k) h)
    simp only [runN]
    rw [check_skip F s _ hlt, ih _ _ (Nat.sub_add_eq .. ▸ Nat.le_sub_one_of_lt h)]
    simp only [skipMany, Nat.add_assoc, Nat.add_comm 1 k]

theorem check_due_ok (F : TOps) {s : St} (t : Nat) (hle : s.sinceLast ≤ s.intervalInstr) (ht : t < s.deadline) :
    check F (skipMany s (s.intervalInstr - s.sinceLast)) t =
      ({ s with intervalInstr := nextInterval F (skipMany s (s.intervalInstr - s.sinceLast)) t,
                sinceLast := 0, lastCheck := t }, .ok) :=
  check_ok F _ t (by simp only [skipMany]; omega) (Nat.not_le_of_lt ht)

theorem check_due_timeout (F : TOps) {s : St} (t : Nat) (hle : s.sinceLast ≤ s.intervalInstr)
    (ht : s.deadline ≤ t) :
    check F (skipMany s (s.intervalInstr - s.sinceLast)) t =
      (skipMany s (s.intervalInstr - s.sinceLast), .timeout) :=
  check_timeout F _ t (by simp only [skipMany]; omega) ht

/-! ### the trace replayer, one clock reading at a time -/

theorem replay_cons_ok (F : TOps) (t : Nat) (ts : List Nat) (s : St) (calls : Nat)
    (hle : s.sinceLast ≤ s.intervalInstr) (ht : t < s.deadline) :
    replay F (t :: ts) s calls =
      { calls := calls + (s.intervalInstr - s.sinceLast) + 1, lastCheck := t,
        interval := nextInterval F (skipMany s (s.intervalInstr - s.sinceLast)) t, timedOut := false,
        sound := decide (UpdateSound F (skipMany s (s.intervalInstr - s.sinceLast)) t) } ::
      replay F ts { s with intervalInstr := nextInterval F (skipMany s (s.intervalInstr - s.sinceLast)) t,
                           sinceLast := 0, lastCheck := t }
        (calls + (s.intervalInstr - s.sinceLast) + 1) := by
  simp only [replay, check_due_ok F t hle ht]

theorem replay_cons_timeout (F : TOps) (t : Nat) (ts : List Nat) (s : St) (calls : Nat)
    (hle : s.sinceLast ≤ s.intervalInstr) (ht : s.deadline ≤ t) :
    replay F (t :: ts) s calls =
      [{ calls := calls + (s.intervalInstr - s.sinceLast) + 1, lastCheck := s.lastCheck,
         interval := s.intervalInstr, timedOut := true, sound := true }] := by
  simp only [replay, check_due_timeout F t hle ht]
  rfl

/-! ### unwinding -/

theorem unwind_catch {f : Frame} {h : Nat} {hs : List Nat} (rest : List Frame) (hc : f.catches = h :: hs) :
    unwind true (f :: rest) = (some h, f :: rest) := by
  simp only [unwind, hc]

theorem deliverFlat_catch {f : Frame} {h : Nat} {hs : List Nat} (kind : ErrKind) (rest : List Frame)
    (hc : f.catches = h :: hs) : deliverFlat kind true (f :: rest) = .caught h (rest.length + 1) := by
  simp only [deliverFlat, hc, List.length_cons]

theorem unwind_pass {ac : Bool} {f : Frame} (rest : List Frame) (hc : ac = false ∨ f.catches = []) :
    unwind ac (f :: rest) = if f.barrier then (none, f :: rest) else unwind ac rest := by
  rcases hc with rfl | hc
  · simp only [unwind]
  · cases ac <;> simp only [unwind, hc]

theorem deliverFlat_pass {ac : Bool} {f : Frame} (kind : ErrKind) (rest : List Frame)
    (hc : ac = false ∨ f.catches = []) :
    deliverFlat kind ac (f :: rest) = deliverFlat kind (if f.barrier then kind.allowCatch else ac) rest := by
  rcases hc with rfl | hc
  · cases hb : f.barrier <;> simp only [deliverFlat, hb] <;> rfl
  · cases hb : f.barrier <;> cases ac <;> simp only [deliverFlat, hc, hb] <;> rfl

theorem catches_of_not_pass {ac : Bool} {f : Frame} (hc : ¬(ac = false ∨ f.catches = [])) :
    ac = true ∧ ∃ h hs, f.catches = h :: hs := by
  cases ac <;> cases hcs : f.catches <;> simp_all

theorem deliver_eq_flat (fuel : Nat) (kind : ErrKind) (ac : Bool) (stack : List Frame)
    (hlen : stack.length < fuel) : deliver fuel kind ac stack = deliverFlat kind ac stack := by
  induction stack generalizing fuel ac with
  | nil => cases fuel with
    | zero => omega
    | succ fuel => rfl
  | cons f rest ih =>
    obtain ⟨fuel, rfl⟩ : ∃ k, fuel = k + 1 := ⟨fuel - 1, by simp at hlen; omega⟩
    have hrest : rest.length < fuel := by simpa using hlen
    by_cases hc : ac = false ∨ f.catches = []
    · rw [deliverFlat_pass kind rest hc]
      cases hb : f.barrier
      · -- an inner frame of the entry: the same unwinding continues below it
        have : deliver (fuel + 1) kind ac (f :: rest) = deliver (fuel + 1) kind ac rest := by
          simp only [deliver, unwind_pass rest hc, hb, Bool.false_eq_true, if_false]
        rw [this]
        exact ih _ _ (by omega)
      · simp only [deliver, unwind_pass rest hc, hb, if_true]
        cases rest with
        | nil => rfl
        | cons g below => exact ih _ _ hrest
    · obtain ⟨rfl, h, hs, hcs⟩ := catches_of_not_pass hc
      simp only [deliver, unwind_catch rest hcs, deliverFlat_catch kind rest hcs, List.length_cons]

theorem deliverTimeout_flat (stack : List Frame) : deliverTimeout stack = deliverFlat .timeout false stack :=
  deliver_eq_flat _ _ _ _ (by omega)

theorem deliverError_flat (stack : List Frame) : deliverError stack = deliverFlat .other true stack :=
  deliver_eq_flat _ _ _ _ (by omega)

theorem flat_timeout_escaped (stack : List Frame) :
    deliverFlat .timeout false stack = .escaped .timeout := by
  induction stack with
  | nil => simp [deliverFlat]
  | cons f rest ih => rw [deliverFlat_pass _ _ (.inl rfl), ← ih]; cases f.barrier <;> rfl

theorem deliverFlat_other_pass {f : Frame} (rest : List Frame) (hc : f.catches = []) :
    deliverFlat .other true (f :: rest) = deliverFlat .other true rest := by
  rw [deliverFlat_pass _ _ (.inr hc)]
  cases f.barrier <;> rfl

/-! ### arithmetic behind the slack theorems -/

/-- if the float update returned at most the exact quotient + 1 (`hu`) and the previous interval of
`I + 1` checks took at least `(I + 1) · tmin` (`he`), the new interval satisfies
`I' · tmin ≤ m + tmin` where `m = min(target, remaining)` -/
theorem adapt_bound (I I' e m tmin : Nat) (he : (I + 1) * tmin ≤ e)
    (hu : I' * e ≤ I * m + e) : I' * tmin ≤ m + tmin := by
  cases I' with
  | zero => simp
  | succ k =>
    rw [Nat.succ_mul] at hu
    have h0 : k * e ≤ I * m := by omega
    have h1 : k * ((I + 1) * tmin) ≤ k * e := Nat.mul_le_mul_left k he
    have h2 : I * m ≤ (I + 1) * m := Nat.mul_le_mul_right m (Nat.le_succ I)
    have h3 : (I + 1) * (k * tmin) ≤ (I + 1) * m := by
      rw [Nat.mul_left_comm]; omega
    have h4 : k * tmin ≤ m := Nat.le_of_mul_le_mul_left h3 (Nat.succ_pos I)
    rw [Nat.succ_mul]; omega

/-- detection at `c ≤ T + (I + 1) · tmax` with an adapted interval (`I · tmin ≤ m + tmin`,
`m ≤ target`, `T + m ≤ D`): `c ≤ D + target · (tmax/tmin − 1) + 2 · tmax`, multiplied out by `tmin` -/
theorem final_bound (c T I tmin tmax m target D : Nat) (hle : tmin ≤ tmax)
    (hc : c ≤ T + (I + 1) * tmax) (hI : I * tmin ≤ m + tmin) (hm : m ≤ target) (hT : T + m ≤ D) :
    c * tmin ≤ D * tmin + target * (tmax - tmin) + 2 * tmin * tmax := by
  obtain ⟨d, rfl⟩ : ∃ d, tmax = tmin + d := ⟨tmax - tmin, by omega⟩
  have e0 : tmin + d - tmin = d := by omega
  rw [e0]
  have a1 : c * tmin ≤ (T + (I + 1) * (tmin + d)) * tmin := Nat.mul_le_mul_right tmin hc
  have a2 : (I * tmin) * (tmin + d) ≤ (m + tmin) * (tmin + d) := Nat.mul_le_mul_right _ hI
  have a3 : m * d ≤ target * d := Nat.mul_le_mul_right d hm
  have a4 : (T + m) * tmin ≤ D * tmin := Nat.mul_le_mul_right tmin hT
  grind

theorem least_of_exists (P : Nat → Prop) (n : Nat) (h : P n) :
    ∃ m, m ≤ n ∧ P m ∧ ∀ j, j < m → ¬ P j := by
  induction n using Nat.strongRecOn with
  | _ n ih =>
    by_cases hex : ∃ j, j < n ∧ P j
    · obtain ⟨j, hj, hp⟩ := hex
      obtain ⟨m, hm, hpm, hmin⟩ := ih j hj hp
      exact ⟨m, by omega, hpm, hmin⟩
    · exact ⟨n, Nat.le_refl n, h, fun j hj hp => hex ⟨j, hj, hp⟩⟩

theorem clk_lower (clk : Nat → Nat) (t0 tmin tmax : Nat) (hc : Costs clk t0 tmin tmax) :
    ∀ n, t0 + n + 1 ≤ clk n := by
  intro n
  induction n with
  | zero => have := hc.first_lo; have := hc.pos; omega
  | succ n ih => have := hc.step_lo n; have := hc.pos; omega

/-! ### timing of a run up to its first timeout -/

/-- state before check `n` when consecutive checks are at most `tmax` apart: the stored clock
reading lies before the deadline and at most `since + 1` instruction costs back -/
structure Timing (tmax : Nat) (clk : Nat → Nat) (n : Nat) (s : St) : Prop where
  le : s.sinceLast ≤ s.intervalInstr
  last : s.lastCheck ≤ s.deadline
  hi : clk n ≤ s.lastCheck + (s.sinceLast + 1) * tmax

theorem timing_step (F : TOps) {tmax : Nat} {clk : Nat → Nat} (hstep : ∀ i, clk (i + 1) ≤ clk i + tmax)
    {n : Nat} {s : St} (h : Timing tmax clk n s) (hnt : (check F s (clk n)).2 ≠ .timeout) :
    Timing tmax clk (n + 1) (check F s (clk n)).1 := by
  have hn := hstep n
  rcases check_cases F s (clk n) with ⟨h1, h2⟩ | ⟨_, _, h2⟩ | ⟨_, hd, h2⟩
  · rw [h2]
    refine ⟨Nat.succ_le_of_lt h1, h.last, ?_⟩
    have := h.hi
    simp only
    rw [Nat.succ_mul (s.sinceLast + 1)]
    omega
  · rw [h2] at hnt; exact absurd rfl hnt
  · rw [h2]
    exact ⟨Nat.zero_le _, Nat.le_of_lt (Nat.lt_of_not_le hd), by simpa using hn⟩

theorem timing_timeout (F : TOps) {tmax : Nat} {clk : Nat → Nat} {n : Nat} {s : St} (h : Timing tmax clk n s)
    (ht : (check F s (clk n)).2 = .timeout) : clk n ≤ s.lastCheck + (s.intervalInstr + 1) * tmax := by
  have heq : s.sinceLast = s.intervalInstr :=
    Nat.le_antisymm h.le (Nat.le_of_not_lt ((check_timeout_iff F s _).1 ht).1)
  rw [← heq]; exact h.hi

/-- The general form of `C08.bounded_slack_capped`, from any state: `M` bounds the current interval and
the cap. -/
theorem slack_capped (F : TOps) {tmax : Nat} {clk : Nat → Nat} (hstep : ∀ i, clk (i + 1) ≤ clk i + tmax)
    (s0 : St) (M : Nat) (h0 : Timing tmax clk 0 s0) (hI : s0.intervalInstr ≤ M) (hM : s0.maxInterval ≤ M)
    (n : Nat) (hbefore : ∀ j, j < n → pollAt F clk s0 j ≠ .timeout) (hn : pollAt F clk s0 n = .timeout) :
    clk n ≤ s0.deadline + (M + 1) * tmax := by
  have ht := run_induction F clk s0 h0 (fun _ h hnt => timing_step F hstep h hnt) n hbefore
  have h1 := timing_timeout F ht hn
  have h2 := ht.last
  rw [runN_deadline] at h2
  have := Nat.mul_le_mul_right tmax (Nat.add_le_add_right (interval_bounded_run F clk M n s0 0 hI hM) 1)
  omega

/-! ### the adaptive bound -/

/-- `Timing`, and with consecutive checks at least `tmin` apart: the interval is still the one the run
started with (`T0`, `I0`: no clock read yet) or has been adapted to a measured rate -/
structure Adapted (T0 I0 tmin tmax : Nat) (clk : Nat → Nat) (n : Nat) (s : St) : Prop
    extends Timing tmax clk n s where
  lo : s.lastCheck + (s.sinceLast + 1) * tmin ≤ clk n
  shape : (s.lastCheck = T0 ∧ s.intervalInstr = I0) ∨
          s.intervalInstr * tmin ≤ min (s.limit / 10) (s.deadline - s.lastCheck) + tmin

theorem adapted_step (F : TOps) {T0 I0 tmin tmax : Nat} {clk : Nat → Nat}
    (hlo : ∀ i, clk i + tmin ≤ clk (i + 1)) (hhi : ∀ i, clk (i + 1) ≤ clk i + tmax) {n : Nat} {s : St}
    (hi : Adapted T0 I0 tmin tmax clk n s)
    (hnt : (check F s (clk n)).2 ≠ .timeout)
    (hs : (check F s (clk n)).2 = .ok → UpdateSound F s (clk n)) :
    Adapted T0 I0 tmin tmax clk (n + 1) (check F s (clk n)).1 := by
  have ht := timing_step F hhi hi.toTiming hnt
  have hn := hlo n
  rcases check_cases F s (clk n) with ⟨_, h2⟩ | ⟨_, _, h2⟩ | ⟨h1, _, h2⟩
  · rw [h2] at ht ⊢
    refine ⟨ht, ?_, hi.shape⟩
    have := hi.lo
    simp only
    rw [Nat.succ_mul (s.sinceLast + 1)]
    omega
  · rw [h2] at hnt; exact absurd rfl hnt
  · -- a clock read before the deadline: the `interval + 1` checks since the stored reading took at
    -- least `(interval + 1) · tmin`, which bounds the measured rate
    have hsound := hs (by rw [h2])
    rw [h2] at ht ⊢
    have heq : s.sinceLast = s.intervalInstr := Nat.le_antisymm hi.le (Nat.le_of_not_lt h1)
    have hlo' := hi.lo
    rw [heq] at hlo'
    exact ⟨ht, by simpa using hn, Or.inr (adapt_bound s.intervalInstr _ (clk n - s.lastCheck) _ tmin
      (by omega) hsound)⟩

/-- The general form of `C08.bounded_slack`, from any state in which the invariant holds: detection
within the current interval, or at most `target · (tmax/tmin − 1) + 2 · tmax` after the deadline
(`target = limit/10`; stated multiplied by `tmin`). -/
theorem slack_adapted (F : TOps) {tmin tmax : Nat} {clk : Nat → Nat} (hle : tmin ≤ tmax)
    (hlo : ∀ i, clk i + tmin ≤ clk (i + 1)) (hhi : ∀ i, clk (i + 1) ≤ clk i + tmax)
    (s0 : St) (h0 : Adapted s0.lastCheck s0.intervalInstr tmin tmax clk 0 s0)
    (hs : ∀ j, pollAt F clk s0 j = .ok → UpdateSound F (runN F clk j s0 0) (clk j))
    (n : Nat) (hbefore : ∀ j, j < n → pollAt F clk s0 j ≠ .timeout) (hn : pollAt F clk s0 n = .timeout) :
    clk n ≤ s0.lastCheck + (s0.intervalInstr + 1) * tmax ∨
    clk n * tmin ≤ s0.deadline * tmin + (s0.limit / 10) * (tmax - tmin) + 2 * tmin * tmax := by
  have hinv := run_induction F clk s0 h0 (fun j h hnt => adapted_step F hlo hhi h hnt (hs j)) n hbefore
  have hhi := timing_timeout F hinv.toTiming hn
  have hlast := hinv.last
  rcases hinv.shape with ⟨hT, hI⟩ | hI
  · left; rw [hT, hI] at hhi; exact hhi
  · right
    rw [runN_deadline] at hlast
    rw [runN_deadline, runN_limit] at hI
    exact final_bound (clk n) _ _ tmin tmax _ (s0.limit / 10) s0.deadline hle hhi hI
      (Nat.min_le_left _ _) (by omega)

end KotoVerif.C08L
