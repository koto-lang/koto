/-
Helper lemmas for C15: `split` with the repaired `Split` iterator (empty pattern included): termination
(the fuel is irrelevant), piece counts, join laws, and the code-level loop computes the byte-level
definition for every pattern. Core Lean only.
-/
import KotoVerif.Lemmas.C15Refine

namespace KotoVerif.Str
open KotoVerif.Utf8

/-! ### non-empty pattern -/

/-- more fuel than bytes changes nothing: the iteration ends by itself -/
theorem splitNE_fuel_irrelevant {pat : Bytes} (hp : pat ≠ []) : ∀ (fuel fuel' : Nat) (rest : Bytes),
    rest.length < fuel → rest.length < fuel' → splitNE pat fuel rest = splitNE pat fuel' rest
  | 0, _, _, h, _ => by omega
  | _, 0, _, _, h => by omega
  | fuel + 1, fuel' + 1, rest, h, h' => by
    simp only [splitNE]
    cases hf : findAt pat rest with
    | none => rfl
    | some e =>
      simp only
      have hlen := length_drop_findAt_lt hp hf
      rw [splitNE_fuel_irrelevant hp fuel fuel' _ (by omega) (by omega)]

theorem splitNE_length_le {pat : Bytes} (hp : pat ≠ []) : ∀ (fuel : Nat) (rest : Bytes), rest.length < fuel →
    (splitNE pat fuel rest).length ≤ rest.length + 1 :=
  splitNE_induct hp (P := fun s xs => xs.length ≤ s.length + 1) (fun _ _ => Nat.le_add_left _ _)
    fun _ _ _ hf _ ih => by have := length_drop_findAt_lt hp hf; rw [List.length_cons]; omega

/-! ### empty pattern -/

theorem splitEmptyTail_eq : ∀ (fuel : Nat) (rest : Bytes), rest.length < fuel →
    splitEmptyTail fuel rest = segs gFirstChar fuel rest ++ [[]]
  | 0, _, h => by omega
  | fuel + 1, [], _ => by simp [splitEmptyTail, segs]
  | fuel + 1, b :: bs, h => by
    simp only [splitEmptyTail, List.isEmpty_cons, Bool.false_eq_true, if_false, segs, List.cons_append]
    rw [splitEmptyTail_eq fuel _
      (Nat.lt_of_lt_of_le (progress_gFirstChar.drop_lt (List.cons_ne_nil b bs)) (Nat.le_of_lt_succ h))]

/-- the pieces of a split by the empty pattern: `''`, the characters, `''` -/
theorem splitB_empty (fuel : Nat) (s : Bytes) (h : s.length < fuel) :
    splitB [] fuel s = [] :: (charsOf s ++ [[]]) := by
  simp only [splitB, List.isEmpty_nil, if_true]
  rw [splitEmptyTail_eq fuel s h, segs_gFirstChar_eq fuel s (Nat.le_of_lt h)]

theorem splitB_join (pat s : Bytes) : joinWith pat (splitB pat (s.length + 2) s) = s := by
  cases pat with
  | cons c r =>
    rw [splitB_of_ne_nil (List.cons_ne_nil c r)]
    exact splitNE_join (List.cons_ne_nil c r) (s.length + 2) s (by omega)
  | nil =>
    rw [splitB_empty _ s (by omega), joinWith_nil, List.flatten_cons, List.flatten_append, List.nil_append,
      List.flatten_cons, List.flatten_nil, List.append_nil, List.append_nil]
    exact charsOf_flatten s

/-! ### the code-level loop -/

theorem splitLoop_done (s : KStr) (pat : Bytes) (fuel start : Nat) (st : Bool) (h : s.len < start) :
    splitLoop s pat fuel start st = some [] := by
  cases fuel with
  | zero => rfl
  | succ f => simp only [splitLoop]; rw [if_neg (by omega)]

/-- non-empty pattern, from any position: behind a well-formed `pre` the loop computes `splitNE` of the rest -/
theorem splitLoop_at_ne {s : KStr} (hw : s.WF) {pat : Bytes} (hpv : validUtf8 pat = true) (hp : pat ≠ []) :
    ∀ (fuel : Nat) (pre rest : Bytes) (st : Bool), s.bytes = pre ++ rest → validUtf8 pre = true →
      (splitLoop s pat fuel pre.length st).map (List.map KStr.bytes) = some (splitNE pat fuel rest)
  | 0, _, _, _, _, _ => rfl
  | fuel + 1, pre, rest, st, hs, hpre => by
    obtain ⟨hlen, hdrop, hrv⟩ := hw.cursor hs hpre
    simp only [splitLoop, splitNE, List.isEmpty_eq_false_iff.mpr hp, Bool.false_eq_true, if_false, hdrop]
    rw [if_pos (by omega)]
    cases hf : findAt pat rest with
    | none =>
      exact emit_cons (KStr.withBounds_rest hw hs hpre) (by rw [splitLoop_done s pat fuel _ true (Nat.lt_succ_self _)]; rfl)
    | some e =>
      -- `rest` is the piece, the pattern, and what is searched next
      obtain ⟨h1, h2⟩ := valid_around_find hpv hp hrv hf
      have he : (rest.take e).length = e := List.length_take_of_le (findAt_prefix hf).1
      rw [findAt_some hf, List.append_assoc] at hs
      have hemit := KStr.withBounds_append hw hs hpre h1
      have hnext := splitLoop_at_ne hw hpv hp fuel (pre ++ rest.take e ++ pat) (rest.drop (e + pat.length)) true
        (by rw [List.append_assoc, List.append_assoc]; exact hs) (valid_append (valid_append hpre h1) hpv)
      rw [he] at hemit
      rw [List.length_append, List.length_append, he] at hnext
      exact emit_cons hemit hnext

/-- empty pattern, after the first piece: behind a well-formed `pre` the loop computes `splitEmptyTail` of the rest -/
theorem splitLoop_at_empty {s : KStr} (hw : s.WF) :
    ∀ (fuel : Nat) (pre rest : Bytes), s.bytes = pre ++ rest → validUtf8 pre = true →
      (splitLoop s [] fuel pre.length true).map (List.map KStr.bytes) = some (splitEmptyTail fuel rest)
  | 0, _, _, _, _ => rfl
  | fuel + 1, pre, rest, hs, hpre => by
    obtain ⟨hlen, hdrop, hrv⟩ := hw.cursor hs hpre
    simp only [splitLoop, splitEmptyTail, List.isEmpty_nil, if_true, hdrop]
    rw [if_pos (by omega)]
    cases rest with
    | nil =>
      exact emit_cons (KStr.withBounds_rest hw hs hpre) (by rw [splitLoop_done s [] fuel _ true (Nat.lt_succ_self _)]; rfl)
    | cons b r =>
      -- the first character `b :: r.takeWhile isCont`, then the rest
      have hcv := charsOf_valid hrv _ (by rw [charsOf_cons]; exact .head _)
      simp only [List.isEmpty_cons, Bool.false_eq_true, if_false, take_gFirstChar, drop_gFirstChar]
      rw [gFirstChar_cons]
      rw [cons_eq_group_append b r] at hs
      refine emit_cons (KStr.withBounds_append hw hs hpre hcv) ?_
      have := splitLoop_at_empty hw fuel (pre ++ (b :: r.takeWhile isCont)) (r.dropWhile isCont)
        (by rw [List.append_assoc]; exact hs) (valid_append hpre hcv)
      rwa [List.length_append] at this

/-- the first turn with the empty pattern; a lemma of its own, about `fuel + 1`, because unfolding `splitLoop` at the
fuel `s.len + 3` of its caller is slow to check -/
theorem splitLoop_first_empty (s : KStr) (fuel : Nat) :
    splitLoop s [] (fuel + 1) 0 false =
      match s.withBounds 0 0 with
      | none => none
      | some t => (splitLoop s [] fuel 0 true).map (t :: ·) := by
  simp only [splitLoop, List.isEmpty_nil, if_true, Nat.zero_le, Bool.false_eq_true, if_false]
  cases s.withBounds 0 0 <;> rfl

/-- **`split` at the code level computes `splitB`, for every pattern** (every `with_bounds(..).unwrap()`
succeeds, the iteration ends by itself) -/
theorem splitLoop_refines_all {s : KStr} (hw : s.WF) {pat : Bytes} (hpv : validUtf8 pat = true) :
    (splitLoop s pat (s.len + 3) 0 false).map (List.map KStr.bytes) = some (splitB pat (s.len + 2) s.bytes) := by
  cases pat with
  | cons c r =>
    rw [splitB_of_ne_nil (List.cons_ne_nil c r),
      splitNE_fuel_irrelevant (List.cons_ne_nil c r) (s.len + 2) (s.len + 3) s.bytes
        (by rw [KStr.bytes_length hw]; omega) (by rw [KStr.bytes_length hw]; omega)]
    exact splitLoop_at_ne hw hpv (List.cons_ne_nil c r) (s.len + 3) [] s.bytes false rfl valid_nil
  | nil =>
    rw [splitLoop_first_empty]
    exact emit_cons (KStr.withBounds_append hw (x := []) (y := []) (z := s.bytes) rfl valid_nil valid_nil)
      (splitLoop_at_empty hw (s.len + 2) [] s.bytes rfl valid_nil)

end KotoVerif.Str
