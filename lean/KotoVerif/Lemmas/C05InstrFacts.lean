/-
C05 `compile_wf`: what the verifier asks of a single instruction, by class of opcode. An opcode outside
`specialOps` is judged by its operands alone (`instrOk_of`); a `Plain` one moreover only falls
through. The jumps and `Return` are not special.
-/
import KotoVerif.Lemmas.C05Listing
namespace KotoVerif.Bytecode
open KotoVerif.Gen

/-- the opcodes the verifier treats specially besides jumps: a frame, a nested unit, a register
window, a value-dependent operand tail, a builder or try effect -/
def specialOps : List Op :=
  [.NewFrame, .Function, .StringPush, .Call, .CallInstance, .MakeTempTuple, .SequencePushN,
   .SequenceStart, .SequencePush, .SequenceToList, .SequenceToTuple, .StringStart, .StringFinish,
   .TryStart, .TryEnd]

/-- the opcodes after which control does not fall through -/
def exitOps : List Op := [.Return, .Throw, .Jump, .JumpBack]

theorem applyEff_of_not_special {op : Op} (h : op ∉ specialOps) (d : Depth) : applyEff op d = some d := by
  unfold applyEff
  split <;> first | rfl | exact absurd (by decide) h

theorem linStep_of_not_special {op : Op} (h : op ∉ specialOps) (s t : Nat) : linStep op s t = some (s, t) := by
  unfold linStep
  split <;> first | rfl | exact absurd (by decide) h

theorem windowTop_of_not_special {i : Instr} (h : i.op ∉ specialOps) : windowTop i = none := by
  unfold windowTop
  split <;> first | rfl | (rename_i heq; rw [heq] at h; exact absurd (by decide) h)

theorem fields_of_not_special {i : Instr} (h : i.op ∉ specialOps) : i.fields = layout i.op := by
  unfold Instr.fields tailLayout
  split
  · rename_i heq _; rw [heq] at h; exact absurd (by decide) h
  · exact List.append_nil _

theorem fwdOffsets_of_no_off {fs : List Fld} {vs : List Nat} (h : Fld.off ∉ fs) : fwdOffsets fs vs = [] := by
  fun_induction fwdOffsets fs vs with
  | case1 => simp at h
  | case2 _ _ _ _ _ ih => exact ih (fun hm => h (List.mem_cons_of_mem _ hm))
  | case3 => rfl

/-- an opcode whose only successor is the next instruction and which leaves the depths alone -/
def Plain (op : Op) : Prop := op ∉ specialOps ∧ op ∉ exitOps ∧ Fld.off ∉ layout op

instance (op : Op) : Decidable (Plain op) := inferInstanceAs (Decidable (_ ∧ _ ∧ _))

theorem succPcs_of_plain (a : Ann) (h : Plain a.ins.op) :
    succPcs a = some [a.next] ∧ isTerminal a.ins.op = false := by
  obtain ⟨hs, hx, ho⟩ := h
  refine ⟨?_, ?_⟩
  · unfold succPcs
    split
    all_goals first
      | (rename_i heq; rw [heq] at hx; exact absurd (by decide) hx)
      | (rename_i heq; rw [heq] at hs; exact absurd (by decide) hs)
      | skip
    rw [fields_of_not_special hs, fwdOffsets_of_no_off ho]; rfl
  · unfold isTerminal
    split <;> first | rfl | (rename_i heq; rw [heq] at hx; exact absurd (by decide) hx)

theorem fieldsOk_regs (vs : List Nat) (h : ∀ v ∈ vs, v < 256) : fieldsOk (vs.map fun _ => Fld.reg) vs = true := by
  induction vs with
  | nil => rfl
  | cons v vs ih =>
    simp only [List.map_cons, fieldsOk, fieldOk, Bool.and_eq_true, decide_eq_true_eq]
    exact ⟨h v (by simp), ih fun w hw => h w (by simp [hw])⟩

theorem regOperands_regs (vs : List Nat) : regOperands (vs.map fun _ => Fld.reg) vs = vs := by
  induction vs with
  | nil => rfl
  | cons v vs ih => simp only [List.map_cons, regOperands, ih]

theorem constOperands_regs (vs : List Nat) : constOperands (vs.map fun _ => Fld.reg) vs = [] := by
  induction vs with
  | nil => rfl
  | cons v vs ih => simp only [List.map_cons, constOperands, ih]

end KotoVerif.Bytecode

namespace KotoVerif.Compile
open KotoVerif.Gen KotoVerif.Bytecode

/-- what `wfChunk_of_program` needs to know about one instruction of the body -/
structure InstrOk (consts : List CKind) (rc : Nat) (i : Bytecode.Instr) : Prop where
  valid : i.valid = true
  notFn : i.op ≠ .Function
  notNf : i.op ≠ .NewFrame
  neutral : ∀ d, applyEff i.op d = some d
  lin : ∀ s t, linStep i.op s t = some (s, t)
  regs : regsOk rc i = true
  consts : constsOk consts i = true

/-- `InstrOk` of an instruction that only falls through -/
structure EncFacts (consts : List CKind) (rc : Nat) (i : Bytecode.Instr) : Prop where
  valid : i.valid = true
  notFn : i.op ≠ .Function
  notNf : i.op ≠ .NewFrame
  neutral : ∀ d, applyEff i.op d = some d
  lin : ∀ s t, linStep i.op s t = some (s, t)
  regs : regsOk rc i = true
  consts : constsOk consts i = true
  succ : ∀ pc sz d, succPcs ⟨pc, sz, i, d⟩ = some [pc + sz]
  nonterm : isTerminal i.op = false

theorem instrOk_of {consts : List CKind} {rc : Nat} {op : Op} {args : List Nat} {fs : List Fld}
    (hs : op ∉ specialOps) (hl : layout op = fs) (hv : fieldsOk fs args = true)
    (hr : ∀ r ∈ regOperands fs args, r < rc)
    (hc : ∀ kc ∈ constOperands fs args, consts[kc.2]? = some kc.1) : InstrOk consts rc ⟨op, args⟩ where
  valid := by rw [Instr.valid, fields_of_not_special (i := ⟨op, args⟩) hs, hl]; exact hv
  notFn := by show op ≠ _; rintro rfl; exact hs (by decide)
  notNf := by show op ≠ _; rintro rfl; exact hs (by decide)
  neutral := applyEff_of_not_special hs
  lin := linStep_of_not_special hs
  regs := by
    rw [regsOk, regAccesses, fields_of_not_special (i := ⟨op, args⟩) hs, windowTop_of_not_special (i := ⟨op, args⟩) hs, hl]
    simpa using hr
  consts := by
    rw [constsOk, fields_of_not_special (i := ⟨op, args⟩) hs, hl, List.all_eq_true]
    intro kc hkc
    simpa using hc kc hkc

theorem InstrOk.encFacts {consts : List CKind} {rc : Nat} {i : Bytecode.Instr} (h : InstrOk consts rc i)
    (hp : Plain i.op) : EncFacts consts rc i :=
  ⟨h.valid, h.notFn, h.notNf, h.neutral, h.lin, h.regs, h.consts,
    fun pc sz d => (succPcs_of_plain ⟨pc, sz, i, d⟩ hp).1, (succPcs_of_plain ⟨0, 0, i, none⟩ hp).2⟩

theorem instrOk_regs {consts : List CKind} {rc : Nat} {op : Op} {args : List Nat} (hs : op ∉ specialOps)
    (hl : layout op = args.map fun _ => Fld.reg) (hr : ∀ r ∈ args, r < rc) (hrc : rc ≤ 256) :
    InstrOk consts rc ⟨op, args⟩ :=
  instrOk_of hs hl (fieldsOk_regs _ fun v hv => Nat.lt_of_lt_of_le (hr v hv) hrc)
    (by rw [regOperands_regs]; exact hr) (by rw [constOperands_regs]; simp)

theorem instrOk_regOff {consts : List CKind} {rc : Nat} {op : Op} {r off : Nat} (hs : op ∉ specialOps)
    (hl : layout op = [.reg, .off]) (hrc : rc ≤ 255) (hr : r < rc) (ho : off < 65536) :
    InstrOk consts rc ⟨op, [r, off]⟩ :=
  instrOk_of hs hl (by simp [fieldsOk, fieldOk, ho]; omega) (by simpa [regOperands] using hr)
    (by simp [constOperands])

theorem instrOk_jif (consts : List CKind) (rc r off : Nat) (hrc : rc ≤ 255) (hr : r < rc) (ho : off < 65536) :
    InstrOk consts rc ⟨.JumpIfFalse, [r, off]⟩ :=
  instrOk_regOff (by decide) rfl hrc hr ho

theorem instrOk_jit (consts : List CKind) (rc r off : Nat) (hrc : rc ≤ 255) (hr : r < rc) (ho : off < 65536) :
    InstrOk consts rc ⟨.JumpIfTrue, [r, off]⟩ :=
  instrOk_regOff (by decide) rfl hrc hr ho

theorem instrOk_jump (consts : List CKind) (rc off : Nat) (ho : off < 65536) :
    InstrOk consts rc ⟨.Jump, [off]⟩ :=
  instrOk_of (op := .Jump) (fs := [.off]) (by decide) rfl (by simp [fieldsOk, fieldOk, ho])
    (by simp [regOperands]) (by simp [constOperands])

theorem instrOk_jb (consts : List CKind) (rc off : Nat) (ho : off < 65536) :
    InstrOk consts rc ⟨.JumpBack, [off]⟩ :=
  instrOk_of (op := .JumpBack) (fs := [.offBack]) (by decide) rfl (by simp [fieldsOk, fieldOk, ho])
    (by simp [regOperands]) (by simp [constOperands])

theorem instrOk_return (consts : List CKind) (rc r : Nat) (hrc : rc ≤ 255) (hr : r < rc) :
    InstrOk consts rc ⟨.Return, [r]⟩ :=
  instrOk_regs (op := .Return) (by decide) rfl (by simpa using hr) (by omega)

theorem esize_jif (r off : Nat) : esize ⟨.JumpIfFalse, [r, off]⟩ = 4 := rfl
theorem esize_jit (r off : Nat) : esize ⟨.JumpIfTrue, [r, off]⟩ = 4 := rfl
theorem esize_jump (off : Nat) : esize ⟨.Jump, [off]⟩ = 3 := rfl
theorem esize_jb (off : Nat) : esize ⟨.JumpBack, [off]⟩ = 3 := rfl

theorem succ_jif (pc sz r off : Nat) (d : Option Depth) :
    succPcs ⟨pc, sz, ⟨.JumpIfFalse, [r, off]⟩, d⟩ = some [pc + sz, pc + sz + off] := rfl
theorem succ_jit (pc sz r off : Nat) (d : Option Depth) :
    succPcs ⟨pc, sz, ⟨.JumpIfTrue, [r, off]⟩, d⟩ = some [pc + sz, pc + sz + off] := rfl
theorem succ_jump (pc sz off : Nat) (d : Option Depth) :
    succPcs ⟨pc, sz, ⟨.Jump, [off]⟩, d⟩ = some [pc + sz + off] := rfl
theorem succ_newFrame (rc : Nat) (d : Option Depth) : succPcs ⟨0, 2, ⟨.NewFrame, [rc]⟩, d⟩ = some [2] := rfl
theorem succ_jumpBack (pc sz off : Nat) (d : Option Depth) (h : off ≤ pc + sz) :
    succPcs ⟨pc, sz, ⟨.JumpBack, [off]⟩, d⟩ = some [pc + sz - off] := if_pos h

end KotoVerif.Compile
