/-
C01 layer 5: the structured code the compiler model emits and the flat instruction stream with
relative forward jumps (what the real compiler produces after patching its offset placeholders)
execute identically.
-/
import KotoVerif.Model.Compile

namespace KotoVerif.Compile

variable (S : Sem)

/-- execution of a flat instruction stream: a jump skips the given number of following
instructions (all jumps of the modelled core are forward jumps) -/
def execFlat : List Flat → Regs S → Option (Regs S)
  | [], σ => some σ
  | .op i :: rest, σ =>
    match stepInstr S i σ with
    | some σ1 => execFlat rest σ1
    | none => none
  | .jumpIfFalse r k :: rest, σ => if S.truthy (σ r) then execFlat rest σ else execFlat (rest.drop k) σ
  | .jumpIfTrue r k :: rest, σ => if S.truthy (σ r) then execFlat (rest.drop k) σ else execFlat rest σ
  | .jump k :: rest, σ => execFlat (rest.drop k) σ
termination_by l => l.length
decreasing_by all_goals simp_wf; all_goals omega

/-- `flatten_correct` of DESIGN §6, with a continuation `rest` so that the induction goes through -/
theorem flatten_correct : ∀ (c : Code) (rest : List Flat) (σ : Regs S),
    execFlat S (flatten c ++ rest) σ =
      match exec S c σ with
      | some σ1 => execFlat S rest σ1
      | none => none := by
  intro c
  induction c with
  | nil => intro rest σ; simp [flatten, exec]
  | instr i =>
    intro rest σ
    simp only [flatten, exec, List.cons_append, List.nil_append]
    rw [execFlat]
  | seq a b iha ihb =>
    intro rest σ
    simp only [flatten, exec, List.append_assoc]
    rw [iha]
    cases exec S a σ with
    | none => rfl
    | some σ1 => simp only; rw [ihb]
  | jumpIfFalse r body ih =>
    intro rest σ
    simp only [flatten, exec, List.cons_append]
    rw [execFlat]
    by_cases h : S.truthy (σ r) = true
    · simp only [h, if_true]; rw [ih]
    · simp only [h]; simp only [Bool.false_eq_true, if_false]; rw [List.drop_left]
  | jumpIfTrue r body ih =>
    intro rest σ
    simp only [flatten, exec, List.cons_append]
    rw [execFlat]
    by_cases h : S.truthy (σ r) = true
    · simp only [h, if_true]; rw [List.drop_left]
    · simp only [h]; simp only [Bool.false_eq_true, if_false]; rw [ih]
  | ifElse r t withJump e iht ihe =>
    intro rest σ
    simp only [flatten, exec]
    cases withJump with
    | true =>
      simp only [if_true, List.cons_append, List.append_assoc]
      rw [execFlat]
      by_cases h : S.truthy (σ r) = true
      · simp only [h, if_true]
        rw [iht]
        cases exec S t σ with
        | none => rfl
        | some σ1 =>
          simp only
          rw [execFlat, List.drop_left]
      · simp only [h]; simp only [Bool.false_eq_true, if_false]
        have : (flatten t ++ (Flat.jump (flatten e).length :: (flatten e ++ rest))).drop ((flatten t).length + 1)
            = flatten e ++ rest := by
          rw [List.drop_append]; simp
        rw [this, ihe]
    | false =>
      simp only [Bool.false_eq_true, if_false, List.cons_append, List.append_assoc]
      rw [execFlat]
      by_cases h : S.truthy (σ r) = true
      · simp only [h, if_true]
        rw [iht]
        cases exec S t σ with
        | none => rfl
        | some σ1 => simp only; rw [ihe]
      · simp only [h]; simp only [Bool.false_eq_true, if_false]
        rw [List.drop_left, ihe]

end KotoVerif.Compile
