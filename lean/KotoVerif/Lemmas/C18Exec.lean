/-
Lemmas for C18, the statements. Everything a module body does to the runtime is a sequence of a few
kinds of step (`Eff`); this is established once, by walking through the functions of
`Model/Modules.lean` (`eff_*`). Two facts are then read off the steps: execution is `Sound` for every
fuel (`Eff.sound`), and a statement leaves alone the exports entries it does not write (`Eff.keeps`).
The same walk says what a statement does to its frame: `Frame.Ext`.
-/
import KotoVerif.Lemmas.C18

namespace KotoVerif.C18L
open KotoVerif.Modules

theorem lookup_insert_self {α : Type} (k : Name) (v : α) (l : List (Name × α)) :
    lookup k (Modules.insert k v l) = some v := by
  induction l with
  | nil => simp [Modules.insert, lookup]
  | cons kv rest ih =>
    obtain ⟨k', v'⟩ := kv
    unfold Modules.insert
    by_cases h : k' = k
    · simp [h, lookup]
    · simp [h, lookup, ih]

theorem lookup_insert_ne {α : Type} (k k2 : Name) (v : α) (l : List (Name × α)) (hne : k2 ≠ k) :
    lookup k2 (Modules.insert k v l) = lookup k2 l := by
  induction l with
  | nil => simp [Modules.insert, lookup, Ne.symm hne]
  | cons kv rest ih =>
    obtain ⟨k', v'⟩ := kv
    unfold Modules.insert
    by_cases h : k' = k
    · subst h
      have : ¬ (k' = k2) := fun hh => hne hh.symm
      simp [lookup, this]
    · by_cases h2 : k' = k2
      · subst h2; simp [h, lookup]
      · simp [h, lookup, h2, ih]

theorem setData_lookup_ne (k k2 : Name) (v : V) (s : St) (hne : k2 ≠ k) :
    lookup k2 (setData k v s).exports.data = lookup k2 s.exports.data :=
  lookup_insert_ne k k2 v _ hne

theorem setData_lookup_self (k : Name) (v : V) (s : St) : lookup k (setData k v s).exports.data = some v :=
  lookup_insert_self k v _

theorem exportIf_lookup_self {b : Bool} (hb : b = true) (k : Name) (v : V) (s : St) :
    lookup k (exportIf b k v s).exports.data = some v := by
  rw [exportIf, if_pos hb]; exact setData_lookup_self k v s

theorem bind_lookup_self (k : Name) (v : V) (fr : Frame) : lookup k (bind k v fr).locals = some v :=
  lookup_insert_self k v _

theorem bindItem_lookup_target {it : Item} (hb : it.binds = true) (v : V) (fr : Frame) :
    lookup it.target (bindItem it v fr).locals = some v := by
  rw [bindItem, if_pos hb]; exact bind_lookup_self _ v fr

/-! ### the steps of execution -/

/-- What statements do to the runtime: print; write an exports entry whose key is in `W`; define
`@main`, a `@test` or the closure of an exported function; import. -/
inductive Eff (cfg : Cfg) (fs : FS) (rec : Runner) (W : Name → Prop) : St → St → Prop
  | refl (s : St) : Eff cfg fs rec W s s
  | trans {a b c : St} : Eff cfg fs rec W a b → Eff cfg fs rec W b c → Eff cfg fs rec W a c
  | emit (e : Event) (s : St) : Event.obs e = true → Eff cfg fs rec W s (emit e s)
  | setData (k : Name) (v : V) (s : St) : W k → Eff cfg fs rec W s (setData k v s)
  | define (s : St) (e : Exports) : e.data = s.exports.data → Eff cfg fs rec W s { s with exports := e }
  | runImport {fr : Frame} {name : Ref} {s s' : St} {r : Except Err V} :
      runImport cfg fs rec fr name s = some (r, s') → Eff cfg fs rec W s s'

section
variable {cfg : Cfg} {fs : FS} {rec : Runner} {W : Name → Prop}

theorem Eff.mono {W' : Name → Prop} {s s' : St} (h : Eff cfg fs rec W s s') (hW : ∀ k, W k → W' k) :
    Eff cfg fs rec W' s s' := by
  induction h with
  | refl s => exact .refl s
  | trans _ _ ih1 ih2 => exact ih1.trans ih2
  | emit e s he => exact .emit e s he
  | setData k v s hk => exact .setData k v s (hW k hk)
  | define s e he => exact .define s e he
  | runImport h => exact .runImport h

theorem Eff.sound (hrec : RecSound rec) {s s' : St} (h : Eff cfg fs rec W s s') : Sound s s' := by
  induction h with
  | refl s => exact Sound.refl s
  | trans _ _ ih1 ih2 => exact ih1.trans ih2
  | emit e s he => exact sound_emit_obs e he s
  | setData k v s _ => exact sound_exports s _
  | define s e _ => exact sound_exports s e
  | runImport h => exact sound_runImport hrec h

theorem Eff.keeps {s s' : St} (h : Eff cfg fs rec W s s') {k : Name} (hk : ¬ W k) :
    lookup k s'.exports.data = lookup k s.exports.data := by
  induction h with
  | refl s => rfl
  | trans _ _ ih1 ih2 => exact ih2.trans ih1
  | emit e s _ => rfl
  | setData k' v s hk' => exact setData_lookup_ne k' k v s (fun h => hk (h ▸ hk'))
  | define s e he => exact congrArg (lookup k) he
  | runImport h => rw [runImport_exports h]

theorem Eff.exportIf {b : Bool} {k : Name} (h : b = true → W k) (v : V) (s : St) :
    Eff cfg fs rec W s (exportIf b k v s) := by
  unfold Modules.exportIf
  split
  · next hb => exact .setData k v s (h hb)
  · exact .refl s

theorem Eff.exportItem {b al sa : Bool} {it : Item} (h : ∀ k, b = true → it.exportKey? al sa = some k → W k)
    (v : V) (s : St) : Eff cfg fs rec W s (exportItem b al sa it v s) := by
  unfold Modules.exportItem
  split
  · next k hk => exact .exportIf (fun hb => h k hb hk) v s
  · exact .refl s

theorem Eff.exportAll (h : ∀ k, W k) (es : List (Name × V)) (s : St) : Eff cfg fs rec W s (exportAll es s) := by
  induction es generalizing s with
  | nil => exact .refl s
  | cons kv rest ih => exact (Eff.setData kv.1 kv.2 s (h _)).trans (ih _)

/-! ### statements write the exports entries `touches` names, and only extend their frame -/

/-- does the statement (possibly) write the exports entry `k`? `et` = export_top_level_ids is active -/
def touches (al sa et : Bool) (k : Name) : Act → Bool
  | .export_ k' _ => k' == k
  | .exportId k' _ => k' == k
  | .assign k' _ => et && k' == k
  | .importMods items => et && items.any (fun i => i.exportKey? al sa == some k)
  | .fromImport _ items => et && items.any (fun i => i.exportKey? al sa == some k)
  | .fromAll _ => et
  | .assignPat exp targets _ => (exp || et) && (boundIds targets).contains k
  | .compound k' _ _ => et && k' == k
  | .loopCompound _ k' _ _ => et && (k' == k || loopVar == k)
  | .condAssign _ k' _ => et && k' == k
  | .cbExport _ k' => k' == k
  | _ => false

def touchesT (al sa et : Bool) (k : Name) : TAct → Bool
  | .act a => touches al sa et k a
  | .exportFn k' _ _ => k' == k
  | .callMember _ _ => true      -- the called function may export anything into the active exports map
  | .call _ => true
  | _ => false

theorem beq_name (k : Name) : (k == k) = true := by simp

theorem and_beq_name {b : Bool} (k : Name) (h : b = true) : (b && k == k) = true := by rw [h, beq_name]; rfl

theorem bind_exportTop (k : Name) (v : V) (fr : Frame) : (bind k v fr).exportTop = fr.exportTop := rfl

/-- What statements do to their frame: `fr'` is `fr` further on — same export mode, same directory, and
every local of `fr` is still a local (the local / non-local decision of `compile_load_id` stays valid). -/
structure Frame.Ext (fr fr' : Frame) : Prop where
  exportTop : fr'.exportTop = fr.exportTop
  dir : fr'.dir = fr.dir
  locals : ∀ n, (lookup n fr.locals).isSome → (lookup n fr'.locals).isSome

theorem Frame.Ext.refl (fr : Frame) : Frame.Ext fr fr := ⟨rfl, rfl, fun _ h => h⟩

theorem Frame.Ext.trans {a b c : Frame} (h1 : Frame.Ext a b) (h2 : Frame.Ext b c) : Frame.Ext a c :=
  ⟨h2.exportTop.trans h1.exportTop, h2.dir.trans h1.dir, fun n h => h2.locals n (h1.locals n h)⟩

theorem Frame.Ext.bind (k : Name) (v : V) (fr : Frame) : Frame.Ext fr (Modules.bind k v fr) := by
  refine ⟨rfl, rfl, fun n h => ?_⟩
  show (lookup n (Modules.insert k v fr.locals)).isSome
  by_cases hn : n = k
  · rw [hn, lookup_insert_self]; rfl
  · rw [lookup_insert_ne _ _ _ _ hn]; exact h

theorem Frame.Ext.bindItem (it : Item) (v : V) (fr : Frame) : Frame.Ext fr (Modules.bindItem it v fr) := by
  unfold Modules.bindItem; split
  · exact .bind _ v fr
  · exact .refl fr

theorem Frame.Ext.addWild (b : Bool) (v : V) (fr : Frame) : Frame.Ext fr (Modules.addWild b v fr) := by
  unfold Modules.addWild; split
  · split <;> exact ⟨rfl, rfl, fun _ h => h⟩
  · exact ⟨rfl, rfl, fun _ h => h⟩

theorem eff_rootValue {fr : Frame} {m : Ref} {s s' : St} {r : Except Err V}
    (h : rootValue cfg fs rec fr m s = some (r, s')) : Eff cfg fs rec W s s' := by
  unfold rootValue at h
  split at h
  · cases h; exact .refl s
  · exact .runImport h

theorem eff_importRoot {fr : Frame} {m : Ref} {s s' : St} {r : Except Err V}
    (h : importRoot cfg fs rec fr m s = some (r, s')) : Eff cfg fs rec W s s' := by
  unfold importRoot at h
  split at h
  · cases h
  · next hr => cases h; exact eff_rootValue hr
  · next hr => cases h; exact eff_rootValue hr

theorem eff_wildRoot {fr : Frame} {m : Ref} {s s' : St} {r : Except Err V}
    (h : wildRoot cfg fs rec fr m s = some (r, s')) : Eff cfg fs rec W s s' := by
  unfold wildRoot at h
  split at h
  · split at h
    · cases h; exact .refl s
    · exact .runImport h
  · split at h
    · cases h
    · next hr => cases h; exact eff_importRoot hr
    · next hr => cases h; exact eff_importRoot hr

theorem eff_importItems (items : List Item) : ∀ {fr fr' : Frame} {s s' : St} {r : Option Err},
    importItems cfg fs rec items fr s = some (r, fr', s') →
    (∀ it ∈ items, ∀ k, fr.exportTop = true →
      it.exportKey? cfg.exportAlias cfg.exportStrAlias = some k → W k) →
    Eff cfg fs rec W s s' ∧ Frame.Ext fr fr' := by
  induction items with
  | nil => intro fr fr' s s' r h _; cases h; exact ⟨.refl s, .refl fr⟩
  | cons it rest ih =>
    intro fr fr' s s' r h hW
    unfold importItems at h
    split at h
    · cases h
    · next hir => cases h; exact ⟨eff_importRoot hir, .refl fr⟩
    · next v s1 hir =>
      have hx := Frame.Ext.bindItem it v fr
      obtain ⟨e, ht⟩ := ih h (fun i hi k hb =>
        hW i (List.mem_cons_of_mem _ hi) k (by rwa [hx.exportTop] at hb))
      exact ⟨(eff_importRoot hir).trans ((Eff.exportItem (hW it List.mem_cons_self) v s1).trans e), hx.trans ht⟩

theorem eff_fromItems (al sa : Bool) (mv : V) (items : List Item) :
    ∀ {fr fr' : Frame} {s s' : St} {r : Option Err}, fromItems al sa mv items fr s = (r, fr', s') →
    (∀ it ∈ items, ∀ k, fr.exportTop = true → it.exportKey? al sa = some k → W k) →
    Eff cfg fs rec W s s' ∧ Frame.Ext fr fr' := by
  induction items with
  | nil => intro fr fr' s s' r h _; cases h; exact ⟨.refl s, .refl fr⟩
  | cons it rest ih =>
    intro fr fr' s s' r h hW
    unfold fromItems at h
    split at h
    · cases h; exact ⟨.refl s, .refl fr⟩
    · next v _ =>
      have hx := Frame.Ext.bindItem it v fr
      obtain ⟨e, ht⟩ := ih h (fun i hi k hb =>
        hW i (List.mem_cons_of_mem _ hi) k (by rwa [hx.exportTop] at hb))
      exact ⟨(Eff.exportItem (hW it List.mem_cons_self) v s).trans e, hx.trans ht⟩

theorem eff_bindEntries (b : Bool) (mv : V) (es : List PEntry) :
    ∀ {fr fr' : Frame} {s s' : St} {r : Option Err}, bindEntries b mv es fr s = (r, fr', s') →
    (∀ k ∈ es.filterMap PEntry.target, b = true → W k) →
    Eff cfg fs rec W s s' ∧ Frame.Ext fr fr' := by
  induction es with
  | nil => intro fr fr' s s' r h _; cases h; exact ⟨.refl s, .refl fr⟩
  | cons e rest ih =>
    intro fr fr' s s' r h hW
    unfold bindEntries at h
    split at h
    · cases h; exact ⟨.refl s, .refl fr⟩
    · next v _ =>
      split at h
      · next n hn =>
        obtain ⟨e', ht⟩ := ih h (fun k hk => hW k (by simp [hn, hk]))
        exact ⟨(Eff.exportIf (hW n (by simp [hn])) v s).trans e', (Frame.Ext.bind n v fr).trans ht⟩
      · next hn => exact ih h (fun k hk => hW k (by simpa [List.filterMap_cons, hn] using hk))

theorem eff_bindTargets (b : Bool) (ts : List Target) :
    ∀ {vs : List V} {fr fr' : Frame} {s s' : St} {r : Option Err},
    bindTargets b ts vs fr s = (r, fr', s') → (∀ k ∈ boundIds ts, b = true → W k) →
    Eff cfg fs rec W s s' ∧ Frame.Ext fr fr' := by
  induction ts with
  | nil => intro vs fr fr' s s' r h _; cases h; exact ⟨.refl s, .refl fr⟩
  | cons t rest ih =>
    intro vs fr fr' s s' r h hW
    have hrest : ∀ k ∈ boundIds rest, b = true → W k :=
      fun k hk => hW k (by simp only [boundIds, List.flatMap_cons, List.mem_append]; exact Or.inr hk)
    have hhead : ∀ k ∈ t.bound, b = true → W k :=
      fun k hk => hW k (by simp only [boundIds, List.flatMap_cons, List.mem_append]; exact Or.inl hk)
    cases t with
    | id k =>
      simp only [bindTargets] at h
      obtain ⟨e, ht⟩ := ih h hrest
      exact ⟨(Eff.exportIf (hhead k (by simp [Target.bound])) _ s).trans e, (Frame.Ext.bind k _ fr).trans ht⟩
    | ignored => simp only [bindTargets] at h; exact ih h hrest
    | mapPat es =>
      simp only [bindTargets] at h
      split at h
      · next hb => cases h; exact eff_bindEntries b _ es hb hhead
      · next hb =>
        obtain ⟨e1, ht1⟩ := eff_bindEntries (cfg := cfg) (fs := fs) (rec := rec) b _ es hb hhead
        obtain ⟨e2, ht2⟩ := ih h hrest
        exact ⟨e1.trans e2, ht1.trans ht2⟩

theorem compoundStep_spec (cfg : Cfg) (k : Name) (op : COp) (r : Rhs) (fr : Frame) (st : St) :
    (∃ e, compoundStep cfg k op r fr st = (some e, fr, st)) ∨
    ∃ fr1 v, compoundStep cfg k op r fr st = (none, fr1, exportIf fr.exportTop k v st)
      ∧ Frame.Ext fr fr1 := by
  unfold compoundStep
  split
  · split
    · exact Or.inl ⟨_, rfl⟩
    · exact Or.inr ⟨_, _, rfl, by split; exact .bind ..; exact .refl fr⟩
    · exact Or.inl ⟨_, rfl⟩
  · split <;> exact Or.inl ⟨_, rfl⟩
  · exact Or.inl ⟨_, rfl⟩

theorem eff_compoundStep {k : Name} {op : COp} {r : Rhs} {fr fr' : Frame} {s s' : St} {e : Option Err}
    (h : compoundStep cfg k op r fr s = (e, fr', s')) (hW : fr.exportTop = true → W k) :
    Eff cfg fs rec W s s' ∧ Frame.Ext fr fr' := by
  rcases compoundStep_spec cfg k op r fr s with ⟨e1, heq⟩ | ⟨fr1, v, heq, hfr⟩
  · rw [heq] at h; cases h; exact ⟨.refl s, .refl fr⟩
  · rw [heq] at h; cases h; exact ⟨.exportIf hW v s, hfr⟩

theorem eff_compoundLoop {k : Name} {op : COp} {r : Rhs} (n : Nat) :
    ∀ {fr fr' : Frame} {s s' : St} {e : Option Err},
    compoundLoop cfg k op r n fr s = (e, fr', s') → (fr.exportTop = true → W k) →
    Eff cfg fs rec W s s' ∧ Frame.Ext fr fr' := by
  induction n with
  | zero => intro fr fr' s s' e h _; cases h; exact ⟨.refl s, .refl fr⟩
  | succ n ih =>
    intro fr fr' s s' e h hW
    unfold compoundLoop at h
    split at h
    · next hc => cases h; exact eff_compoundStep hc hW
    · next hc =>
      obtain ⟨e1, ht1⟩ := eff_compoundStep (fs := fs) (rec := rec) hc hW
      obtain ⟨e2, ht2⟩ := ih h (fun h => hW (ht1.exportTop ▸ h))
      exact ⟨e1.trans e2, ht1.trans ht2⟩

theorem eff_execAct {a : Act} {fr fr' : Frame} {s s' : St} {r : Option Err}
    (h : execAct cfg fs rec a fr s = some (r, fr', s'))
    (hW : ∀ k, touches cfg.exportAlias cfg.exportStrAlias fr.exportTop k a = true → W k) :
    Eff cfg fs rec W s s' ∧ Frame.Ext fr fr' := by
  cases a with
  | print mk => cases h; exact ⟨.emit _ s rfl, .refl fr⟩
  | export_ k v => cases h; exact ⟨.setData k _ s (hW k (beq_name k)), .bind ..⟩
  | assign k v =>
    cases h; exact ⟨.exportIf (fun het => hW k (and_beq_name k het)) _ s, .bind ..⟩
  | exportId k src =>
    simp only [execAct] at h
    split at h
    · cases h; exact ⟨.refl s, .refl fr⟩
    · cases h; exact ⟨.setData k _ s (hW k (beq_name k)), .bind ..⟩
  | «show» mk k =>
    simp only [execAct] at h
    split at h
    · cases h; exact ⟨.refl s, .refl fr⟩
    · cases h; exact ⟨.emit _ s rfl, .refl fr⟩
  | importMods items =>
    exact eff_importItems items h (fun it hit k het hk =>
      hW k (by simp only [touches, het, Bool.true_and, List.any_eq_true]; exact ⟨it, hit, by simp [hk]⟩))
  | fromImport m items =>
    simp only [execAct] at h
    split at h
    · cases h
    · next hir => cases h; exact ⟨eff_importRoot hir, .refl fr⟩
    · next mv s1 hir =>
      simp only [Option.some.injEq] at h
      obtain ⟨e, ht⟩ := eff_fromItems (cfg := cfg) (fs := fs) (rec := rec) _ _ mv items h (fun it hit k het hk =>
        hW k (by simp only [touches, het, Bool.true_and, List.any_eq_true]; exact ⟨it, hit, by simp [hk]⟩))
      exact ⟨(eff_importRoot hir).trans e, ht⟩
  | fromAll m =>
    simp only [execAct] at h
    split at h
    · cases h
    · next hir => cases h; exact ⟨eff_wildRoot hir, .refl fr⟩
    · next mv s1 hir =>
      split at h
      · cases h; exact ⟨eff_wildRoot hir, .addWild ..⟩
      · next het _ =>
        cases h
        exact ⟨(eff_wildRoot hir).trans (.exportAll (fun k => hW k (by simp [touches, het])) _ s1), .addWild ..⟩
      · cases h; exact ⟨eff_wildRoot hir, .addWild ..⟩
  | tryImport m mk =>
    simp only [execAct] at h
    split at h
    · cases h
    · next hir => cases h; exact ⟨(Eff.runImport hir).trans (.emit _ _ rfl), .refl fr⟩
    · next hir => cases h; exact ⟨.runImport hir, .refl fr⟩
  | tryShow mk k =>
    simp only [execAct] at h
    split at h <;> cases h <;> exact ⟨.emit _ s rfl, .refl fr⟩
  | fail mk => cases h; exact ⟨.refl s, .refl fr⟩
  | assignPat exp targets rhs =>
    simp only [execAct] at h
    split at h
    · cases h; exact ⟨.refl s, .refl fr⟩
    · simp only [Option.some.injEq] at h
      exact eff_bindTargets _ targets h (fun k hk hb => hW k (by simp [touches, hb, hk]))
  | compound k op r =>
    simp only [execAct, Option.some.injEq] at h
    exact eff_compoundStep h (fun het => hW k (and_beq_name k het))
  | loopCompound n k op r =>
    simp only [execAct] at h
    split at h
    · next hc => cases h; exact eff_compoundLoop n hc (fun het => hW k (by simp [touches, het]))
    · next fr1 s1 hc =>
      cases h
      obtain ⟨e, ht⟩ := eff_compoundLoop (fs := fs) (rec := rec) n hc (fun het => hW k (by simp [touches, het]))
      exact ⟨e.trans (.exportIf (fun het => hW loopVar (by simp [touches, ← ht.exportTop, het])) _ s1),
        ht.trans (.bind ..)⟩
  | cbExport last k =>
    cases h
    refine ⟨?_, .refl fr⟩
    split
    · exact .refl s
    · exact .setData k _ s (hW k (beq_name k))
  | condAssign form k v =>
    simp only [execAct] at h
    split at h
    · cases h; exact ⟨.refl s, by split; exact .refl fr; exact .bind ..⟩
    · cases h; exact ⟨.exportIf (fun het => hW k (and_beq_name k het)) _ s, .bind ..⟩

theorem eff_execActs (acts : List Act) : ∀ {fr fr' : Frame} {s s' : St} {r : Option Err},
    execActs cfg fs rec acts fr s = some (r, fr', s') →
    (∀ a ∈ acts, ∀ k, touches cfg.exportAlias cfg.exportStrAlias fr.exportTop k a = true → W k) →
    Eff cfg fs rec W s s' ∧ Frame.Ext fr fr' := by
  induction acts with
  | nil => intro fr fr' s s' r h _; cases h; exact ⟨.refl s, .refl fr⟩
  | cons a rest ih =>
    intro fr fr' s s' r h hW
    unfold execActs at h
    split at h
    · cases h
    · next ha => cases h; exact eff_execAct ha (hW a List.mem_cons_self)
    · next fr1 s1 ha =>
      obtain ⟨e1, ht1⟩ := eff_execAct ha (hW a List.mem_cons_self)
      obtain ⟨e2, ht2⟩ := ih h (fun b hb => ht1.exportTop ▸ hW b (List.mem_cons_of_mem _ hb))
      exact ⟨e1.trans e2, ht1.trans ht2⟩

/-! from here on a called function may export anything: all keys count as written -/

theorem eff_runFn {c : Closure} {s s' : St} {r : Option Err} (h : runFn cfg fs rec c s = some (r, s')) :
    Eff cfg fs rec (fun _ => True) s s' := by
  unfold runFn at h
  split at h
  · cases h
  · next ha => cases h; exact (eff_execActs _ ha (fun _ _ _ _ => trivial)).1

theorem eff_callValue {v : V} {s s' : St} {r : Option Err} (h : callValue cfg fs rec v s = some (r, s')) :
    Eff cfg fs rec (fun _ => True) s s' := by
  unfold callValue at h
  split at h
  · split at h
    · cases h; exact .refl s
    · split at h
      · cases h
      · next ha => cases h; exact (eff_execActs _ ha (fun _ _ _ _ => trivial)).1
  · cases h; exact .refl s

theorem eff_execTAct {a : TAct} {fr fr' : Frame} {s s' : St} {r : Option Err}
    (h : execTAct cfg fs rec a fr s = some (r, fr', s'))
    (hW : ∀ k, touchesT cfg.exportAlias cfg.exportStrAlias fr.exportTop k a = true → W k) :
    Eff cfg fs rec W s s' ∧ Frame.Ext fr fr' := by
  cases a with
  | act a => exact eff_execAct h hW
  | exportFn k mk body =>
    cases h
    exact ⟨.trans (.define s { s.exports with fns := Modules.insert k (mkClosure cfg.importCaptures fr mk body) s.exports.fns } rfl)
      (.setData k _ _ (hW k (beq_name k))), .bind ..⟩
  | callMember m k =>
    simp only [execTAct] at h
    split at h
    · cases h; exact ⟨.refl s, .refl fr⟩
    · split at h
      · cases h; exact ⟨.refl s, .refl fr⟩
      · split at h
        · cases h
        · next hc => cases h; exact ⟨(eff_callValue hc).mono (fun k _ => hW k rfl), .refl fr⟩
  | call k =>
    simp only [execTAct] at h
    split at h
    · cases h; exact ⟨.refl s, .refl fr⟩
    · split at h
      · cases h
      · next hc => cases h; exact ⟨(eff_callValue hc).mono (fun k _ => hW k rfl), .refl fr⟩
  | defMain mk body => cases h; exact ⟨.define s _ rfl, .refl fr⟩
  | defTest n mk body => cases h; exact ⟨.define s _ rfl, .refl fr⟩

theorem eff_execTActs (acts : List TAct) : ∀ {fr fr' : Frame} {s s' : St} {r : Option Err},
    execTActs cfg fs rec acts fr s = some (r, fr', s') →
    (∀ a ∈ acts, ∀ k, touchesT cfg.exportAlias cfg.exportStrAlias fr.exportTop k a = true → W k) →
    Eff cfg fs rec W s s' ∧ Frame.Ext fr fr' := by
  induction acts with
  | nil => intro fr fr' s s' r h _; cases h; exact ⟨.refl s, .refl fr⟩
  | cons a rest ih =>
    intro fr fr' s s' r h hW
    unfold execTActs at h
    split at h
    · cases h
    · next ha => cases h; exact eff_execTAct ha (hW a List.mem_cons_self)
    · next fr1 s1 ha =>
      obtain ⟨e1, ht1⟩ := eff_execTAct ha (hW a List.mem_cons_self)
      obtain ⟨e2, ht2⟩ := ih h (fun b hb => ht1.exportTop ▸ hW b (List.mem_cons_of_mem _ hb))
      exact ⟨e1.trans e2, ht1.trans ht2⟩

theorem eff_runTests (ts : List (Name × Closure)) : ∀ {s s' : St} {r : Option Err},
    runTests cfg fs rec ts s = some (r, s') → Eff cfg fs rec (fun _ => True) s s' := by
  induction ts with
  | nil => intro s s' r h; cases h; exact .refl s
  | cons t rest ih =>
    intro s s' r h
    unfold runTests at h
    split at h
    · cases h
    · next ha => cases h; exact eff_runFn ha
    · next ha => exact (eff_runFn ha).trans (ih h)

theorem eff_runMain {s s' : St} {r : Option Err} (h : runMain cfg fs rec s = some (r, s')) :
    Eff cfg fs rec (fun _ => True) s s' := by
  unfold runMain at h
  split at h
  · cases h; exact .refl s
  · exact eff_runFn h

theorem eff_afterTop {tests : Bool} {s s' : St} {r : Option Err}
    (h : afterTop cfg fs rec tests s = some (r, s')) : Eff cfg fs rec (fun _ => True) s s' := by
  have htests : ∀ {r1 : Option Err} {s1 : St},
      (if tests = true then runTests cfg fs rec s.exports.tests s else some (none, s)) = some (r1, s1) →
      Eff cfg fs rec (fun _ => True) s s1 := by
    intro r1 s1 hh
    split at hh
    · exact eff_runTests _ hh
    · cases hh; exact .refl s
  unfold afterTop at h
  split at h
  · cases h
  · next ht => cases h; exact htests ht
  · next ht => exact (htests ht).trans (eff_runMain h)

theorem eff_runBody {tests : Bool} {fr : Frame} {body : List TAct} {s s' : St} {r : Option Err}
    (h : runBody cfg fs rec tests fr body s = some (r, s')) : Eff cfg fs rec (fun _ => True) s s' := by
  unfold runBody at h
  split at h
  · cases h
  · next ha => cases h; exact (eff_execTActs _ ha (fun _ _ _ _ => trivial)).1
  · next ha => exact (eff_execTActs _ ha (fun _ _ _ _ => trivial)).1.trans (eff_afterTop h)

end

theorem recSound_runUnit (cfg : Cfg) (fs : FS) : ∀ fuel, RecSound (runUnit cfg fs fuel) := by
  intro fuel
  induction fuel with
  | zero => intro self dir body s r s' h; simp [runUnit] at h
  | succ n ih =>
    intro self dir body s r s' h
    simp only [runUnit] at h
    exact (eff_runBody h).sound ih

theorem sound_hostRun {cfg : Cfg} {fs : FS} {fuel : Nat} {op : Op} {s s' : St} {r : Option Err}
    (h : hostRun cfg fs fuel op s = some (r, s')) : Sound s s' :=
  (eff_runBody h).sound (recSound_runUnit cfg fs fuel)

theorem sound_finalSt {cfg : Cfg} {fs : FS} {fuel : Nat} (ops : List Op) : ∀ {s s' : St},
    finalSt cfg fs fuel ops s = some s' → Sound s s' := by
  induction ops with
  | nil => intro s s' h; cases h; exact Sound.refl s
  | cons op rest ih =>
    intro s s' h
    unfold finalSt at h
    split at h
    · cases h
    · next hh => exact (sound_hostRun hh).trans (ih h)

theorem execTActs_ext {cfg : Cfg} {fs : FS} {rec : Runner} (acts : List TAct) {fr fr' : Frame}
    {s s' : St} {r : Option Err} (h : execTActs cfg fs rec acts fr s = some (r, fr', s')) :
    Frame.Ext fr fr' :=
  (eff_execTActs (W := fun _ => True) acts h (fun _ _ _ _ => trivial)).2

theorem execTActs_append {cfg : Cfg} {fs : FS} {rec : Runner} (xs ys : List TAct) :
    ∀ {fr fr' : Frame} {s s' : St},
    execTActs cfg fs rec (xs ++ ys) fr s = some (none, fr', s') →
    ∃ fr1 s1, execTActs cfg fs rec xs fr s = some (none, fr1, s1) ∧
      execTActs cfg fs rec ys fr1 s1 = some (none, fr', s') := by
  induction xs with
  | nil => intro fr fr' s s' h; exact ⟨fr, s, rfl, h⟩
  | cons a rest ih =>
    intro fr fr' s s' h
    simp only [List.cons_append] at h
    unfold execTActs at h
    split at h
    · cases h
    · simp at h
    · next fr1 s1 ha =>
      obtain ⟨fr2, s2, h1, h2⟩ := ih h
      refine ⟨fr2, s2, ?_, h2⟩
      unfold execTActs
      rw [ha]; exact h1

theorem addWild_wild (b : Bool) (mv : V) (fr : Frame) :
    mv ∈ (addWild b mv fr).wild ∧ (mv ∉ fr.wild → (addWild b mv fr).wild = fr.wild ++ [mv])
      ∧ ∀ w ∈ (addWild b mv fr).wild, w ∈ fr.wild ∨ w = mv := by
  unfold addWild
  by_cases hc : fr.wild.contains mv = true
  · have hmem : mv ∈ fr.wild := by simpa using hc
    rw [if_pos hc]
    split
    · refine ⟨by simp, fun hn => absurd hmem hn, fun w hw => ?_⟩
      rcases List.mem_append.mp hw with hw | hw
      · exact Or.inl (List.mem_of_mem_erase hw)
      · exact Or.inr (List.mem_singleton.mp hw)
    · exact ⟨hmem, fun hn => absurd hmem hn, fun w hw => Or.inl hw⟩
  · rw [if_neg hc]
    exact ⟨by simp, fun _ => rfl, fun w hw => by simpa using hw⟩

theorem execAct_fromAll {cfg : Cfg} {fs : FS} {rec : Runner} {m : Ref} {fr fr' : Frame} {s s' : St}
    (h : execAct cfg fs rec (.fromAll m) fr s = some (none, fr', s')) :
    ∃ mv s1, wildRoot cfg fs rec fr m s = some (.ok mv, s1) ∧ fr' = addWild cfg.wildRefresh mv fr := by
  simp only [execAct] at h
  split at h
  · cases h
  · cases h
  · next hir => split at h <;> cases h <;> exact ⟨_, _, hir, rfl⟩

theorem execAct_importMods_one {cfg : Cfg} {fs : FS} {rec : Runner} {it : Item} {fr fr' : Frame} {s s' : St}
    (h : execAct cfg fs rec (.importMods [it]) fr s = some (none, fr', s')) :
    ∃ v s1, importRoot cfg fs rec fr it.toRef s = some (.ok v, s1) ∧ fr' = bindItem it v fr
      ∧ s' = exportItem fr.exportTop cfg.exportAlias cfg.exportStrAlias it v s1 := by
  simp only [execAct, importItems] at h
  split at h
  · cases h
  · cases h
  · next hir => cases h; exact ⟨_, _, hir, rfl, rfl⟩

/-! ### exported (multi-)assignments with patterns: locals and exports entries move in lock-step -/

def AgreeAt (k : Name) (fr : Frame) (s : St) : Prop :=
  ∃ v, lookup k fr.locals = some v ∧ lookup k s.exports.data = some v

theorem agreeAt_step (k n : Name) (v : V) (fr : Frame) (s : St) (h : k = n ∨ AgreeAt k fr s) :
    AgreeAt k (Modules.bind n v fr) (exportIf true n v s) := by
  by_cases hk : k = n
  · subst hk
    exact ⟨v, bind_lookup_self k v fr, exportIf_lookup_self rfl k v s⟩
  · rcases h with h | ⟨v', h1, h2⟩
    · exact absurd h hk
    · refine ⟨v', ?_, ?_⟩
      · simp only [Modules.bind]; rw [lookup_insert_ne _ _ _ _ hk]; exact h1
      · simp only [exportIf, if_true, setData]; rw [lookup_insert_ne _ _ _ _ hk]; exact h2

theorem bindEntries_agree (mv : V) (k : Name) (es : List PEntry) :
    ∀ {fr fr' : Frame} {s s' : St}, bindEntries true mv es fr s = (none, fr', s') →
    (k ∈ es.filterMap PEntry.target ∨ AgreeAt k fr s) → AgreeAt k fr' s' := by
  induction es with
  | nil =>
    intro fr fr' s s' h hk
    simp only [bindEntries, Prod.mk.injEq, true_and] at h
    rw [← h.1, ← h.2]
    rcases hk with hk | hk
    · simp at hk
    · exact hk
  | cons e rest ih =>
    intro fr fr' s s' h hk
    unfold bindEntries at h
    split at h
    · simp at h
    · rename_i v _
      split at h
      · rename_i n hn
        apply ih h
        rcases hk with hk | hk
        · simp only [List.filterMap_cons, hn, List.mem_cons] at hk
          rcases hk with hk | hk
          · exact Or.inr (agreeAt_step k n v fr s (Or.inl hk))
          · exact Or.inl hk
        · exact Or.inr (agreeAt_step k n v fr s (Or.inr hk))
      · rename_i hn
        apply ih h
        rcases hk with hk | hk
        · simp only [List.filterMap_cons, hn] at hk; exact Or.inl hk
        · exact Or.inr hk

theorem bindTargets_agree (k : Name) (ts : List Target) :
    ∀ {vs : List V} {fr fr' : Frame} {s s' : St}, bindTargets true ts vs fr s = (none, fr', s') →
    (k ∈ boundIds ts ∨ AgreeAt k fr s) → AgreeAt k fr' s' := by
  induction ts with
  | nil =>
    intro vs fr fr' s s' h hk
    simp only [bindTargets, Prod.mk.injEq, true_and] at h
    rw [← h.1, ← h.2]
    rcases hk with hk | hk
    · simp [boundIds] at hk
    · exact hk
  | cons t rest ih =>
    intro vs fr fr' s s' h hk
    have hk' : k ∈ Target.bound t ∨ k ∈ boundIds rest ∨ AgreeAt k fr s := by
      rcases hk with hk | hk
      · simp only [boundIds, List.flatMap_cons, List.mem_append] at hk
        rcases hk with hk | hk
        · exact Or.inl hk
        · exact Or.inr (Or.inl hk)
      · exact Or.inr (Or.inr hk)
    cases t with
    | id k' =>
      simp only [bindTargets] at h
      apply ih h
      rcases hk' with hk' | hk' | hk'
      · simp only [Target.bound, List.mem_singleton] at hk'
        exact Or.inr (agreeAt_step k k' _ fr s (Or.inl hk'))
      · exact Or.inl hk'
      · exact Or.inr (agreeAt_step k k' _ fr s (Or.inr hk'))
    | ignored =>
      simp only [bindTargets] at h
      apply ih h
      rcases hk' with hk' | hk' | hk'
      · simp [Target.bound] at hk'
      · exact Or.inl hk'
      · exact Or.inr hk'
    | mapPat es =>
      simp only [bindTargets] at h
      split at h
      · simp at h
      · rename_i fr1 s1 hb
        apply ih h
        rcases hk' with hk' | hk' | hk'
        · exact Or.inr (bindEntries_agree _ k es hb (Or.inl hk'))
        · exact Or.inl hk'
        · exact Or.inr (bindEntries_agree _ k es hb (Or.inr hk'))

end KotoVerif.C18L
