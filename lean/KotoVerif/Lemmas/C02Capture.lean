/-
Closures (C02): the witness scripts, lookups in a capture environment, and the proof that the
parser's capture analysis (`pe`, `accessed`) records every declaratively free name (`fv`,
`freeVars`). A frame is followed through one expression list with a relation saying that no
recorded access is lost and every read of an unbound name gets recorded: `Step` for a piece without
assignment or function literal, in an arbitrary frame; `G` for the full syntax, in a frame that
agrees with the bound names.
-/
import KotoVerif.Model.Capture

namespace KotoVerif.C02
open KotoVerif.Capture

def asInt : Except EErr V → Except EErr Int
  | .ok (.int n) => .ok n
  | .ok _ => .error .type
  | .error e => .error e

/-- body of the F-C02-1 witness: `a = (if c then 2 else 3) - a` ⏎ `a` (a = 1, c = 2) -/
def f27Body : List Ex :=
  [.assign 1 (.sub (.paren (.ite (.var 2) (.lit 2) (.lit 3))) (.var 1)), .var 1]

/-- `a = 1; c = 0 < 1; f = || …; f()` -/
def f27Script : List Ex :=
  [.assign 1 (.lit 1), .assign 2 (.lt (.lit 0) (.lit 1)), .assign 3 (.fn [] f27Body), .call 3 []]

/-- F-C02-2's mechanism in one line: `x + (x = 3)` -/
def erasedBody : List Ex := [.add (.var 1) (.paren (.assign 1 (.lit 3)))]

/-- guide: `x = 1; f = |n| n + x; x = 100; f(2)` -/
def guideCopyScript : List Ex :=
  [.assign 1 (.lit 1), .assign 2 (.fn [3] [.add (.var 3) (.var 1)]), .assign 1 (.lit 100), .call 2 [.lit 2]]

/-- guide: `x = 99; f = || x = x + 1; f() + f() + f()` (same starting value in every call) -/
def guideSameStartScript : List Ex :=
  [.assign 1 (.lit 99), .assign 2 (.fn [] [.assign 1 (.add (.var 1) (.lit 1))]),
   .add (.call 2 []) (.add (.call 2 []) (.call 2 []))]

/-- recursion through the deferred self capture: `f = |n| if n < 1 then 0 else n + f(n - 1)` -/
def recScript : List Ex :=
  [.assign 1 (.fn [2] [.ite (.lt (.var 2) (.lit 1)) (.lit 0) (.add (.var 2) (.call 1 [.sub (.var 2) (.lit 1)]))]),
   .call 1 [.lit 4]]

/-! ### capture environments -/

theorem lookup_captureEnv (names : List Name) (env : Env) (x : Name) :
    lookup x (captureEnv names env) = if names.contains x then lookup x env else none := by
  induction names with
  | nil => simp [captureEnv, lookup]
  | cons n ns ih =>
    unfold captureEnv at ih ⊢
    simp only [List.filterMap_cons]
    cases hn : lookup n env with
    | none =>
      simp only [Option.map_none]
      rw [ih]
      by_cases hx : x = n
      · subst hx; simp [hn]
      · simp [hx]
    | some v =>
      simp only [Option.map_some, lookup]
      by_cases hx : x = n
      · subst hx; simp [hn]
      · have h1 : (x == n) = false := by simp [hx]
        simp only [h1]
        rw [ih]
        simp [hx]

theorem slookup_sCapture (names : List Name) (env : SEnv) (x : Name) :
    slookup x (sCapture names env) = if names.contains x then slookup x env else none := by
  induction names with
  | nil => simp [sCapture, slookup]
  | cons n ns ih =>
    unfold sCapture at ih ⊢
    simp only [List.filterMap_cons]
    cases hn : slookup n env with
    | none =>
      simp only [Option.map_none]
      rw [ih]
      by_cases hx : x = n
      · subst hx; simp [hn]
      · simp [hx]
    | some v =>
      simp only [Option.map_some, slookup]
      by_cases hx : x = n
      · subst hx; simp [hn]
      · have h1 : (x == n) = false := by simp [hx]
        simp only [h1]
        rw [ih]
        simp [hx]

theorem lookup_update (x y : Name) (v : V) (env : Env) :
    lookup x (update y v env) = if x = y then some v else lookup x env := by
  induction env with
  | nil => simp [update, lookup]
  | cons p env ih =>
    obtain ⟨z, w⟩ := p
    by_cases hz : y = z
    · subst hz
      by_cases hx : x = y <;> simp [update, lookup, hx]
    · by_cases hx : x = y
      · subst hx; simp [update, lookup, hz, ih]
      · simp [update, lookup, hz, hx, ih]

theorem lookup_update_ne (x y : Name) (v : V) (env : Env) (h : x ≠ y) :
    lookup x (update y v env) = lookup x env := by
  rw [lookup_update, if_neg h]

theorem lookup_update_same (x : Name) (v : V) (env : Env) : lookup x (update x v env) = some v := by
  rw [lookup_update, if_pos rfl]

theorem slookup_supdate_ne (x y : Name) (v : SVal) (env : SEnv) (h : x ≠ y) :
    slookup x (supdate y v env) = slookup x env := by
  induction env with
  | nil => simp [supdate, slookup, h]
  | cons p env ih =>
    obtain ⟨z, w⟩ := p
    unfold supdate
    by_cases hz : y = z
    · subst hz; simp [slookup, h]
    · have : (y == z) = false := by simp [hz]
      simp only [this]
      simp [slookup, ih]

/-! ### name sets -/

theorem mem_ins (x y : Name) (xs : List Name) : y ∈ ins x xs ↔ y = x ∨ y ∈ xs := by
  unfold ins
  by_cases h : xs.contains x = true
  · simp only [h, if_true]
    constructor
    · exact Or.inr
    · rintro (rfl | h')
      · simpa using h
      · exact h'
  · simp only [h]
    simp [or_comm]

theorem mem_union (xs ys : List Name) (y : Name) : y ∈ union xs ys ↔ y ∈ xs ∨ y ∈ ys := by
  unfold union
  induction ys generalizing xs with
  | nil => simp
  | cons z zs ih =>
    simp only [List.foldl_cons]
    rw [ih, mem_ins]
    simp only [List.mem_cons]
    constructor
    · rintro ((rfl | h) | h)
      · exact Or.inr (Or.inl rfl)
      · exact Or.inl h
      · exact Or.inr (Or.inr h)
    · rintro (h | rfl | h)
      · exact Or.inl (Or.inr h)
      · exact Or.inl (Or.inl rfl)
      · exact Or.inr h

theorem union_nil (xs : List Name) : union xs [] = xs := rfl

theorem mem_erase_append_self (l : List Name) (x y : Name) : y ∈ (l ++ [x]).erase x ↔ y ∈ l := by
  rw [((List.perm_append_singleton x l).erase x).mem_iff, List.erase_cons_head]

theorem mem_unbound (bd : List Name) (x y : Name) :
    y ∈ (if bd.contains x then [] else [x]) ↔ y = x ∧ x ∉ bd := by
  rw [List.mem_ite_nil_left, List.mem_singleton, List.contains_iff_mem, and_comm]

/-! ### pieces with inline `if` and calls (no assignment, no function literal)

`Step f f' rd`: what parsing a piece of an expression list does to the parser's frame, stated for the
names that are not pending assignment targets at entry: recorded non-local accesses are never lost
and every read in `rd` of a name that is not yet assigned gets recorded. -/

/-- `y` is recorded (or will be at the next finalize) as a non-local access -/
def Recd (f : PFrame) (y : Name) : Prop := y ∈ f.nonLocals ∨ (y ∈ f.pendAcc ∧ y ∉ f.assigned)

theorem Recd.access {f : PFrame} {y : Name} (x : Name) (h : Recd f y) : Recd (f.access x) y :=
  h.imp_right fun ⟨h1, h2⟩ => ⟨List.mem_append.mpr (Or.inl h1), h2⟩

theorem Recd.access_self {f : PFrame} {x : Name} (h : x ∉ f.assigned) : Recd (f.access x) x :=
  Or.inr ⟨List.mem_append.mpr (Or.inr (List.mem_singleton.mpr rfl)), h⟩

theorem Recd.finalize {f : PFrame} {y : Name} (h : Recd f y) : y ∈ f.finalize.nonLocals := by
  simp only [PFrame.finalize, mem_union, List.mem_filter]
  exact h.imp_right fun ⟨h1, h2⟩ => ⟨h1, by simpa using h2⟩

structure Step (f f' : PFrame) (rd : List Name) : Prop where
  asg_sub : ∀ y, y ∈ f'.assigned → y ∈ f.assigned ∨ y ∈ f.pendAsg
  asg_mono : ∀ y, y ∈ f.assigned → y ∈ f'.assigned
  pasg_sub : ∀ y, y ∈ f'.pendAsg → y ∈ f.pendAsg
  all_keep : ∀ y, (y ∈ f.assigned ∨ y ∈ f.pendAsg) → (y ∈ f'.assigned ∨ y ∈ f'.pendAsg)
  rec_keep : ∀ y, y ∉ f.pendAsg → Recd f y → Recd f' y
  rec_new : ∀ y, y ∉ f.pendAsg → y ∈ rd → y ∉ f.assigned → Recd f' y
  nl_mono : ∀ y, y ∈ f.nonLocals → y ∈ f'.nonLocals

theorem Step.refl (f : PFrame) : Step f f [] :=
  ⟨fun _ h => Or.inl h, fun _ h => h, fun _ h => h, fun _ h => h, fun _ _ h => h,
   fun _ _ h => (by cases h), fun _ h => h⟩

theorem Step.trans {f f1 f2 : PFrame} {r1 r2 : List Name} (s1 : Step f f1 r1) (s2 : Step f1 f2 r2) :
    Step f f2 (r1 ++ r2) where
  asg_sub y h := by
    rcases s2.asg_sub y h with h | h
    · exact s1.asg_sub y h
    · exact Or.inr (s1.pasg_sub y h)
  asg_mono y h := s2.asg_mono y (s1.asg_mono y h)
  pasg_sub y h := s1.pasg_sub y (s2.pasg_sub y h)
  all_keep y h := s2.all_keep y (s1.all_keep y h)
  rec_keep y hp h := s2.rec_keep y (fun hh => hp (s1.pasg_sub y hh)) (s1.rec_keep y hp h)
  rec_new y hp hr ha := by
    have hp1 : y ∉ f1.pendAsg := fun hh => hp (s1.pasg_sub y hh)
    rcases List.mem_append.mp hr with hr | hr
    · exact s2.rec_keep y hp1 (s1.rec_new y hp hr ha)
    · refine s2.rec_new y hp1 hr (fun hh => ?_)
      rcases s1.asg_sub y hh with h | h
      · exact ha h
      · exact hp h
  nl_mono y h := s2.nl_mono y (s1.nl_mono y h)

theorem Step.access (f : PFrame) (x : Name) : Step f (f.access x) [x] where
  asg_sub _ h := Or.inl h
  asg_mono _ h := h
  pasg_sub _ h := h
  all_keep _ h := h
  rec_keep _ _ h := Recd.access x h
  rec_new y _ hr ha := by
    cases List.mem_singleton.mp hr
    exact Recd.access_self ha
  nl_mono _ h := h

theorem Step.finalize (f : PFrame) : Step f f.finalize [] where
  asg_sub y h := by simpa [PFrame.finalize, mem_union] using h
  asg_mono y h := by simp only [PFrame.finalize, mem_union]; exact Or.inl h
  pasg_sub y h := by simp [PFrame.finalize] at h
  all_keep y h := by simp only [PFrame.finalize, mem_union]; exact Or.inl h
  rec_keep _ _ h := Or.inl (Recd.finalize h)
  rec_new _ _ h := by cases h
  nl_mono _ h := Recd.finalize (Or.inl h)

mutual
/-- expressions with inline `if` and calls, without assignment and without function literal -/
def s0 : Ex → Bool
  | .lit _ => true
  | .var _ => true
  | .add a b => s0 a && s0 b
  | .sub a b => s0 a && s0 b
  | .lt a b => s0 a && s0 b
  | .paren e => s0 e
  | .ite c t e => s0 c && s0 t && s0 e
  | .assign _ _ => false
  | .fn _ _ => false
  | .call _ args => s0Args args
def s0Args : List Ex → Bool
  | [] => true
  | e :: es => s0 e && s0Args es
end

mutual
/-- the names read by an `s0` expression, in order -/
def reads : Ex → List Name
  | .lit _ => []
  | .var x => [x]
  | .add a b => reads a ++ reads b
  | .sub a b => reads a ++ reads b
  | .lt a b => reads a ++ reads b
  | .paren e => reads e
  | .ite c t e => reads c ++ (reads t ++ reads e)
  | .assign _ _ => []
  | .fn _ _ => []
  | .call g args => g :: readsArgs args
def readsArgs : List Ex → List Name
  | [] => []
  | e :: es => reads e ++ readsArgs es
end

theorem Step.weaken {f f' : PFrame} {r r' : List Name} (s : Step f f' r) (h : ∀ y, y ∈ r' → y ∈ r) :
    Step f f' r' :=
  ⟨s.asg_sub, s.asg_mono, s.pasg_sub, s.all_keep, s.rec_keep, fun y hp hr ha => s.rec_new y hp (h y hr) ha, s.nl_mono⟩

mutual
theorem pe_s0 : ∀ (e : Ex) (f : PFrame), s0 e = true → Step f (pe e f) (reads e)
  | .lit _, f, _ => by simpa [pe, reads] using Step.refl f
  | .var x, f, _ => by simpa [pe, reads] using Step.access f x
  | .add a b, f, h | .sub a b, f, h | .lt a b, f, h => by
    simp only [s0, Bool.and_eq_true] at h
    simpa [pe, reads] using (pe_s0 a f h.1).trans (pe_s0 b (pe a f) h.2)
  | .paren e, f, h => by
    simp only [s0] at h
    simpa [pe, reads] using pe_s0 e f h
  | .ite c t e, f, h => by
    simp only [s0, Bool.and_eq_true] at h
    have s1 := pe_s0 c f h.1.1
    have s2 := (pe_s0 t (pe c f) h.1.2).trans (Step.finalize _)
    have s3 := (pe_s0 e (pe t (pe c f)).finalize h.2).trans (Step.finalize _)
    have := s1.trans (s2.trans s3)
    simpa [pe, reads] using this
  | .assign _ _, _, h | .fn _ _, _, h => by simp [s0] at h
  | .call g args, f, h => by
    simp only [s0] at h
    have := (Step.access f g).trans (peArgs_s0 args (f.access g) h)
    simpa [pe, reads] using this
theorem peArgs_s0 : ∀ (es : List Ex) (f : PFrame), s0Args es = true → Step f (peArgs es f) (readsArgs es)
  | [], f, _ => by simpa [peArgs, readsArgs] using Step.refl f
  | e :: es, f, h => by
    simp only [s0Args, Bool.and_eq_true] at h
    simpa [peArgs, readsArgs] using (pe_s0 e f h.1).trans (peArgs_s0 es (pe e f) h.2)
end

mutual
theorem fv_s0 : ∀ (e : Ex) (bd : List Name), s0 e = true →
    (fv e bd).2 = bd ∧ ∀ y, y ∈ (fv e bd).1 → (y ∈ reads e ∧ y ∉ bd)
  | .lit _, bd, _ => by simp [fv, reads]
  | .var x, bd, _ => by
    simp only [fv, reads, true_and]
    intro y hy
    obtain ⟨rfl, hb⟩ := (mem_unbound bd x y).mp hy
    exact ⟨List.mem_singleton.mpr rfl, hb⟩
  | .add a b, bd, h | .sub a b, bd, h | .lt a b, bd, h => by
    simp only [s0, Bool.and_eq_true] at h
    obtain ⟨a1, a2⟩ := fv_s0 a bd h.1
    obtain ⟨b1, b2⟩ := fv_s0 b bd h.2
    simp only [fv, reads]
    rw [a1] at *
    refine ⟨b1, fun y hy => ?_⟩
    rw [mem_union] at hy
    rcases hy with hy | hy
    · exact ⟨List.mem_append.mpr (Or.inl (a2 y hy).1), (a2 y hy).2⟩
    · exact ⟨List.mem_append.mpr (Or.inr (b2 y hy).1), (b2 y hy).2⟩
  | .paren e, bd, h => by
    simp only [s0] at h
    simpa [fv, reads] using fv_s0 e bd h
  | .ite c t e, bd, h => by
    simp only [s0, Bool.and_eq_true] at h
    obtain ⟨c1, c2⟩ := fv_s0 c bd h.1.1
    obtain ⟨t1, t2⟩ := fv_s0 t bd h.1.2
    obtain ⟨e1, e2⟩ := fv_s0 e bd h.2
    simp only [fv, reads]
    rw [c1] at *
    rw [t1] at *
    refine ⟨e1, fun y hy => ?_⟩
    rw [mem_union, mem_union] at hy
    rcases hy with (hy | hy) | hy
    · exact ⟨List.mem_append.mpr (Or.inl (c2 y hy).1), (c2 y hy).2⟩
    · exact ⟨List.mem_append.mpr (Or.inr (List.mem_append.mpr (Or.inl (t2 y hy).1))), (t2 y hy).2⟩
    · exact ⟨List.mem_append.mpr (Or.inr (List.mem_append.mpr (Or.inr (e2 y hy).1))), (e2 y hy).2⟩
  | .assign _ _, _, h | .fn _ _, _, h => by simp [s0] at h
  | .call g args, bd, h => by
    simp only [s0] at h
    obtain ⟨a1, a2⟩ := fvArgs_s0 args bd h
    simp only [fv, reads]
    refine ⟨a1, fun y hy => ?_⟩
    rw [mem_union] at hy
    rcases hy with hy | hy
    · obtain ⟨rfl, hb⟩ := (mem_unbound bd g y).mp hy
      exact ⟨List.mem_cons_self, hb⟩
    · exact ⟨List.mem_cons_of_mem _ (a2 y hy).1, (a2 y hy).2⟩
theorem fvArgs_s0 : ∀ (es : List Ex) (bd : List Name), s0Args es = true →
    (fvArgs es bd).2 = bd ∧ ∀ y, y ∈ (fvArgs es bd).1 → (y ∈ readsArgs es ∧ y ∉ bd)
  | [], bd, _ => by simp [fvArgs, readsArgs]
  | e :: es, bd, h => by
    simp only [s0Args, Bool.and_eq_true] at h
    obtain ⟨a1, a2⟩ := fv_s0 e bd h.1
    obtain ⟨b1, b2⟩ := fvArgs_s0 es bd h.2
    simp only [fvArgs, readsArgs]
    rw [a1] at *
    refine ⟨b1, fun y hy => ?_⟩
    rw [mem_union] at hy
    rcases hy with hy | hy
    · exact ⟨List.mem_append.mpr (Or.inl (a2 y hy).1), (a2 y hy).2⟩
    · exact ⟨List.mem_append.mpr (Or.inr (b2 y hy).1), (b2 y hy).2⟩
end

/-! ### the general case: assignments nested in expressions, nested function literals

The only exclusion (`okBlock`): a function literal must not have an *in-progress assignment target*
among its declaratively free names — except the function that is itself the right-hand side of
`x = |…| …`, whose `x` is the deferred self reference. Inside the right-hand side of `x = e` the
parser leaves every nested function's `x` to that deferred capture (known finding F-C02-8). -/

/-- the full-strength statement: every declaratively free variable of every function is in the
parser's `accessed_non_locals` -/
def CaptureComplete : Prop :=
  ∀ (ps : List Name) (body : List Ex) (x : Name), x ∈ freeVars ps body → x ∈ accessed ps body

def noFree (T ps : List Name) (body : List Ex) : Bool :=
  T.all (fun z => !(freeVars ps body).contains z)

mutual
/-- `T` = assignment targets whose right-hand side is being parsed -/
def okE (T : List Name) : Ex → Bool
  | .lit _ => true
  | .var _ => true
  | .add a b => okE T a && okE T b
  | .sub a b => okE T a && okE T b
  | .lt a b => okE T a && okE T b
  | .paren e => okE T e
  | .ite c t e => okE T c && okE T t && okE T e
  | .assign _ (.fn ps body) => noFree T ps body && okBlock body
  | .assign x e => okE (x :: T) e
  | .fn ps body => noFree T ps body && okBlock body
  | .call _ args => okArgs T args
def okArgs (T : List Name) : List Ex → Bool
  | [] => true
  | e :: es => okE T e && okArgs T es
def okBlock : List Ex → Bool
  | [] => true
  | e :: es => okE [] e && okBlock es
end

theorem okBlock_mem : ∀ (es : List Ex), okBlock es = true → ∀ e, e ∈ es → okE [] e = true
  | [], _, _, h => by cases h
  | e :: es, h, e', he => by
    simp only [okBlock, Bool.and_eq_true] at h
    rcases List.mem_cons.mp he with rfl | he
    · exact h.1
    · exact okBlock_mem es h.2 e' he

def Sim (f : PFrame) (bd : List Name) : Prop := f.pendAsg = [] ∧ ∀ y, y ∈ f.assigned ↔ y ∈ bd

/-- effect of parsing a piece with declaratively free names `fr`, bound names `bd ↦ bd'` -/
structure G (f f' : PFrame) (bd' fr : List Name) : Prop where
  sim : Sim f' bd'
  keep : ∀ y, Recd f y → Recd f' y
  new : ∀ y, y ∈ fr → Recd f' y
  prog : ∀ z, z ∈ f'.inProg → z ∈ f.inProg

theorem G.refl (f : PFrame) (bd : List Name) (h : Sim f bd) : G f f bd [] :=
  ⟨h, fun _ h => h, fun _ h => (by cases h), fun _ h => h⟩

theorem G.trans {f f1 f2 : PFrame} {b1 b2 r1 r2 : List Name} (g1 : G f f1 b1 r1) (g2 : G f1 f2 b2 r2) :
    G f f2 b2 (union r1 r2) :=
  ⟨g2.sim, fun y h => g2.keep y (g1.keep y h),
   fun y h => by
     rcases (mem_union r1 r2 y).mp h with h | h
     · exact g2.keep y (g1.new y h)
     · exact g2.new y h,
   fun z h => g1.prog z (g2.prog z h)⟩

theorem G.weaken {f f' : PFrame} {b r r' : List Name} (g : G f f' b r) (h : ∀ y, y ∈ r' → y ∈ r) :
    G f f' b r' :=
  ⟨g.sim, g.keep, fun y hy => g.new y (h y hy), g.prog⟩

theorem G.access (f : PFrame) (bd : List Name) (x : Name) (h : Sim f bd) :
    G f (f.access x) bd (if bd.contains x then [] else [x]) where
  sim := h
  keep _ hy := Recd.access x hy
  new y hy := by
    obtain ⟨rfl, hb⟩ := (mem_unbound bd x y).mp hy
    exact Recd.access_self fun hh => hb ((h.2 y).mp hh)
  prog _ hz := hz

theorem G.finalize (f : PFrame) (bd : List Name) (h : Sim f bd) : G f f.finalize bd [] where
  sim := by
    refine ⟨rfl, fun y => ?_⟩
    simp only [PFrame.finalize, h.1, mem_union]
    rw [← h.2 y]; simp
  keep _ hy := Or.inl (Recd.finalize hy)
  new _ hy := by cases hy
  prog _ hz := hz

theorem addNested_spec (ns : List Name) : ∀ (g : PFrame), g.pendAsg = [] →
    (g.addNested ns).assigned = g.assigned ∧ (g.addNested ns).nonLocals = g.nonLocals
    ∧ (g.addNested ns).pendAsg = [] ∧ (g.addNested ns).inProg = g.inProg
    ∧ (∀ y, y ∈ g.pendAcc → y ∈ (g.addNested ns).pendAcc)
    ∧ (∀ y, y ∈ ns → y ∉ g.inProg → y ∈ (g.addNested ns).pendAcc) := by
  induction ns with
  | nil => intro g hg; simp [PFrame.addNested, hg]
  | cons n ns ih =>
    intro g hg
    have hstep : g.addNested (n :: ns)
        = (if g.pendAsg.contains n || g.inProg.contains n then g else g.access n).addNested ns := by
      simp [PFrame.addNested]
    rw [hstep]
    by_cases hc : (g.pendAsg.contains n || g.inProg.contains n) = true
    · rw [if_pos hc]
      obtain ⟨a1, a2, a3, a4, a5, a6⟩ := ih g hg
      refine ⟨a1, a2, a3, a4, a5, fun y hy hni => ?_⟩
      rcases List.mem_cons.mp hy with rfl | hy
      · exfalso
        simp only [hg, List.contains_nil, Bool.false_or] at hc
        exact hni (by simpa using hc)
      · exact a6 y hy hni
    · rw [if_neg hc]
      obtain ⟨a1, a2, a3, a4, a5, a6⟩ := ih (g.access n) hg
      refine ⟨a1, a2, a3, a4, fun y hy => a5 y (List.mem_append.mpr (Or.inl hy)), fun y hy hni => ?_⟩
      rcases List.mem_cons.mp hy with rfl | hy
      · exact a5 y (List.mem_append.mpr (Or.inr (List.mem_singleton.mpr rfl)))
      · exact a6 y hy hni

theorem Recd.addNested {g : PFrame} {y : Name} (ns : List Name) (hg : g.pendAsg = []) (h : Recd g y) :
    Recd (g.addNested ns) y := by
  obtain ⟨a1, a2, _, _, a5, _⟩ := addNested_spec ns g hg
  rw [Recd, a1, a2]
  exact h.imp_right fun ⟨h1, h2⟩ => ⟨a5 y h1, h2⟩

theorem G.nested (f : PFrame) (bd acc fr : List Name) (h : Sim f bd)
    (hacc : ∀ y, y ∈ fr → y ∈ acc) (hprog : ∀ y, y ∈ fr → y ∉ f.inProg)
    (hbd : ∀ y, y ∈ fr → y ∉ bd) :
    G f (f.addNested acc) bd fr := by
  obtain ⟨a1, _, a3, a4, _, a6⟩ := addNested_spec acc f h.1
  refine ⟨⟨a3, fun y => by rw [a1]; exact h.2 y⟩, fun y hy => Recd.addNested acc h.1 hy, fun y hy => ?_,
    fun z hz => by rw [a4] at hz; exact hz⟩
  exact Or.inr ⟨a6 y (hacc y hy) (hprog y hy), by rw [a1]; exact fun hh => hbd y hy ((h.2 y).mp hh)⟩

def rhsFrame (f : PFrame) (x : Name) : PFrame := ((f.access x).assignId x).beginRhs

theorem pendAsg_assignId (f : PFrame) (x : Name) (hf : f.pendAsg = []) :
    ((f.access x).assignId x).pendAsg = [x] := by
  simp [PFrame.access, PFrame.assignId, hf, ins]

theorem pe_assign (x : Name) (e : Ex) (f : PFrame) (hf : f.pendAsg = []) :
    pe (.assign x e) f = ((pe e (rhsFrame f x)).finalize).endRhs [x] := by
  simp only [pe, pendAsg_assignId f x hf, rhsFrame]

theorem Recd.rhsFrame {f : PFrame} {y : Name} (x : Name) (h : Recd f y) : Recd (rhsFrame f x) y :=
  h.imp_right fun ⟨h1, h2⟩ => ⟨(mem_erase_append_self f.pendAcc x y).mpr h1, h2⟩

theorem rhsFrame_spec (f : PFrame) (bd : List Name) (x : Name) (h : Sim f bd) :
    Sim (rhsFrame f x) bd ∧ (∀ z, z ∈ (rhsFrame f x).inProg → z ∈ f.inProg ∨ z = x) := by
  refine ⟨⟨rfl, h.2⟩, fun z hz => ?_⟩
  have : z ∈ union f.inProg ((f.access x).assignId x).pendAsg := hz
  rw [pendAsg_assignId f x h.1, mem_union] at this
  exact this.imp_right List.mem_singleton.mp

theorem G.assign (f g : PFrame) (bd bd1 fr : List Name) (x : Name) (h : Sim f bd)
    (hg : G (rhsFrame f x) g bd1 fr) :
    G f (g.finalize.endRhs [x]) (ins x bd1) fr := by
  obtain ⟨_, s4⟩ := rhsFrame_spec f bd x h
  have gf := G.finalize g bd1 hg.sim
  refine ⟨⟨rfl, fun y => ?_⟩, fun y hy => ?_, fun y hy => ?_, fun z hz => ?_⟩
  · simp only [PFrame.endRhs, mem_union, mem_ins, List.mem_singleton]
    rw [gf.sim.2 y]
    exact or_comm
  · exact Or.inl (Recd.finalize (hg.keep y (Recd.rhsFrame x hy)))
  · exact Or.inl (Recd.finalize (hg.new y hy))
  · have hz' : z ∈ g.finalize.inProg ∧ z ≠ x := by
      have : z ∈ g.finalize.inProg.filter (fun w => !([x] : List Name).contains w) := hz
      rw [List.mem_filter] at this
      exact ⟨this.1, by simpa using this.2⟩
    rcases s4 z (hg.prog z (gf.prog z hz'.1)) with h1 | h1
    · exact h1
    · exact absurd h1 hz'.2

theorem inProg_sub_cons {f : PFrame} {T : List Name} {x : Name}
    (hT : ∀ z, z ∈ f.inProg → z ∈ T) (z : Name) (hz : z ∈ f.inProg ∨ z = x) : z ∈ x :: T := by
  rcases hz with hz | rfl
  · exact List.mem_cons_of_mem _ (hT z hz)
  · exact List.mem_cons_self

theorem noFree_spec {T ps : List Name} {body : List Ex} (h : noFree T ps body = true)
    (y : Name) (hy : y ∈ freeVars ps body) : y ∉ T := by
  intro hT
  have := List.all_eq_true.mp h y hT
  simp at this
  exact this hy

theorem assign_nonfn (x : Name) (e : Ex) (f : PFrame) (bd : List Name)
    (hfv : fv (.assign x e) bd = ((fv e bd).1, ins x (fv e bd).2)) (hs : Sim f bd)
    (ih : G (rhsFrame f x) (pe e (rhsFrame f x)) (fv e bd).2 (fv e bd).1) :
    G f (pe (.assign x e) f) (fv (.assign x e) bd).2 (fv (.assign x e) bd).1 := by
  rw [pe_assign x e f hs.1, hfv]
  exact G.assign f _ bd _ _ x hs ih

mutual
theorem pe_ok : ∀ (e : Ex) (T : List Name) (f : PFrame) (bd : List Name),
    okE T e = true → Sim f bd → (∀ z, z ∈ f.inProg → z ∈ T) →
    G f (pe e f) (fv e bd).2 (fv e bd).1
  | .lit _, _, f, bd, _, hs, _ => by simp only [pe, fv]; exact G.refl f bd hs
  | .var x, _, f, bd, _, hs, _ => by simp only [pe, fv]; exact G.access f bd x hs
  | .add a b, T, f, bd, ho, hs, hT | .sub a b, T, f, bd, ho, hs, hT | .lt a b, T, f, bd, ho, hs, hT => by
    simp only [okE, Bool.and_eq_true] at ho
    have g1 := pe_ok a T f bd ho.1 hs hT
    have g2 := pe_ok b T (pe a f) (fv a bd).2 ho.2 g1.sim (fun z hz => hT z (g1.prog z hz))
    simp only [pe, fv]; exact g1.trans g2
  | .paren e, T, f, bd, ho, hs, hT => by
    simp only [okE] at ho
    simp only [pe, fv]; exact pe_ok e T f bd ho hs hT
  | .ite c t e, T, f, bd, ho, hs, hT => by
    simp only [okE, Bool.and_eq_true] at ho
    have g1 := pe_ok c T f bd ho.1.1 hs hT
    have gt := pe_ok t T (pe c f) (fv c bd).2 ho.1.2 g1.sim (fun z hz => hT z (g1.prog z hz))
    have g2 := gt.trans (G.finalize _ _ gt.sim)
    have ge := pe_ok e T (pe t (pe c f)).finalize (fv t (fv c bd).2).2 ho.2 g2.sim
      (fun z hz => hT z (g1.prog z (g2.prog z hz)))
    have g3 := ge.trans (G.finalize _ _ ge.sim)
    have := (g1.trans (g2.trans g3)).weaken (r' := union (union (fv c bd).1 (fv t (fv c bd).2).1) (fv e (fv t (fv c bd).2).2).1)
      (fun y hy => by
        simp only [mem_union] at hy
        rcases hy with (h | h) | h <;> simp [mem_union, h])
    simp only [pe, fv]; exact this
  | .assign x e, T, f, bd, ho, hs, hT => by
    cases e with
    | fn ps body =>
        simp only [okE, Bool.and_eq_true] at ho
        obtain ⟨s1, s4⟩ := rhsFrame_spec f bd x hs
        have hb := (peBlock_ok body [] { assigned := ps } ps (okBlock_mem body ho.2) ⟨rfl, fun _ => Iff.rfl⟩ nofun).2
        have hfv : fv (.assign x (.fn ps body)) bd
            = (((fvBlock body ps).1.filter (fun y => !bd.contains y)).filter (· != x), ins x bd) := by
          simp [fv]
        have gn : G (rhsFrame f x) ((rhsFrame f x).addNested (accessed ps body)) bd
            (((fvBlock body ps).1.filter (fun y => !bd.contains y)).filter (· != x)) := by
          refine G.nested _ bd _ _ s1 (fun y hy => ?_) (fun y hy hin => ?_) (fun y hy => ?_)
          · simp only [List.mem_filter] at hy
            exact hb y hy.1.1
          · simp only [List.mem_filter] at hy
            rcases s4 y hin with h1 | h1
            · exact noFree_spec ho.1 y hy.1.1 (hT y h1)
            · simp [h1] at hy
          · simp only [List.mem_filter] at hy
            simpa using hy.1.2
        have hpe : pe (.fn ps body) (rhsFrame f x) = (rhsFrame f x).addNested (accessed ps body) := by
          simp [pe, accessed]
        rw [pe_assign x _ f hs.1, hfv, hpe]
        exact G.assign f _ bd bd _ x hs gn
    | _ =>
      -- the right-hand side is no function literal: it is parsed in `rhsFrame`, with `x` in progress
      exact assign_nonfn x _ f bd rfl hs
        (pe_ok _ (x :: T) (rhsFrame f x) bd ho (rhsFrame_spec f bd x hs).1
          (fun z hz => inProg_sub_cons hT z ((rhsFrame_spec f bd x hs).2 z hz)))
  | .fn ps body, T, f, bd, ho, hs, hT => by
    simp only [okE, Bool.and_eq_true] at ho
    have hb := (peBlock_ok body [] { assigned := ps } ps (okBlock_mem body ho.2) ⟨rfl, fun _ => Iff.rfl⟩ nofun).2
    have hfv : fv (.fn ps body) bd = ((fvBlock body ps).1.filter (fun y => !bd.contains y), bd) := by
      simp [fv]
    have hpe : pe (.fn ps body) f = f.addNested (accessed ps body) := by simp [pe, accessed]
    rw [hfv, hpe]
    refine G.nested f bd _ _ hs (fun y hy => ?_) (fun y hy hin => ?_) (fun y hy => ?_)
    · simp only [List.mem_filter] at hy
      exact hb y hy.1
    · simp only [List.mem_filter] at hy
      exact noFree_spec ho.1 y hy.1 (hT y hin)
    · simp only [List.mem_filter] at hy
      simpa using hy.2
  | .call g args, T, f, bd, ho, hs, hT => by
    simp only [okE] at ho
    have g1 := G.access f bd g hs
    have g2 := peArgs_ok args T (f.access g) bd ho g1.sim (fun z hz => hT z (g1.prog z hz))
    simp only [pe, fv]; exact g1.trans g2
theorem peArgs_ok : ∀ (es : List Ex) (T : List Name) (f : PFrame) (bd : List Name),
    okArgs T es = true → Sim f bd → (∀ z, z ∈ f.inProg → z ∈ T) →
    G f (peArgs es f) (fvArgs es bd).2 (fvArgs es bd).1
  | [], _, f, bd, _, hs, _ => by simpa [peArgs, fvArgs] using G.refl f bd hs
  | e :: es, T, f, bd, ho, hs, hT => by
    simp only [okArgs, Bool.and_eq_true] at ho
    have g1 := pe_ok e T f bd ho.1 hs hT
    have g2 := peArgs_ok es T (pe e f) (fv e bd).2 ho.2 g1.sim (fun z hz => hT z (g1.prog z hz))
    simpa [peArgs, fvArgs] using g1.trans g2
/-- a block parsed while the targets `T` are in progress -/
theorem peBlock_ok : ∀ (es : List Ex) (T : List Name) (f : PFrame) (bd : List Name),
    (∀ e, e ∈ es → okE T e = true) → Sim f bd → (∀ z, z ∈ f.inProg → z ∈ T) →
    (∀ y, y ∈ f.nonLocals → y ∈ (peBlock es f).nonLocals)
    ∧ (∀ y, y ∈ (fvBlock es bd).1 → y ∈ (peBlock es f).nonLocals)
  | [], _, f, bd, _, _, _ => by simp [peBlock, fvBlock]
  | e :: es, T, f, bd, ho, hs, hT => by
    have g := pe_ok e T f bd (ho e List.mem_cons_self) hs hT
    obtain ⟨r1, r2⟩ := peBlock_ok es T (pe e f).finalize (fv e bd).2
      (fun e' h => ho e' (List.mem_cons_of_mem _ h)) (G.finalize _ _ g.sim).sim
      (fun z hz => hT z (g.prog z hz))
    simp only [peBlock, fvBlock]
    refine ⟨fun y hy => r1 y (Recd.finalize (g.keep y (Or.inl hy))), fun y hy => ?_⟩
    rcases (mem_union _ _ y).mp hy with hy | hy
    · exact r1 y (Recd.finalize (g.new y hy))
    · exact r2 y hy
end

/-! ### lines without function literals are admissible whatever is in progress -/

/-- a line of a body with inline `if`s and calls: an `s0` expression, or `x = e` with `e` an `s0`
expression (which may read `x` anywhere, also after nested expression lists) -/
def iteLine : Ex → Bool
  | .assign _ e => s0 e
  | e => s0 e

def iteBlock : List Ex → Bool
  | [] => true
  | l :: ls => iteLine l && iteBlock ls

mutual
theorem s0_okE : ∀ (e : Ex) (T : List Name), s0 e = true → okE T e = true
  | .lit _, _, _ | .var _, _, _ => rfl
  | .add a b, T, h | .sub a b, T, h | .lt a b, T, h => by
    simp only [s0, Bool.and_eq_true] at h
    simp only [okE, s0_okE a T h.1, s0_okE b T h.2, Bool.and_self]
  | .paren e, T, h => by
    simp only [s0] at h
    simpa only [okE] using s0_okE e T h
  | .ite c t e, T, h => by
    simp only [s0, Bool.and_eq_true] at h
    simp only [okE, s0_okE c T h.1.1, s0_okE t T h.1.2, s0_okE e T h.2, Bool.and_self]
  | .assign _ _, _, h | .fn _ _, _, h => by simp [s0] at h
  | .call _ args, T, h => by
    simp only [s0] at h
    simpa only [okE] using s0Args_okArgs args T h
theorem s0Args_okArgs : ∀ (es : List Ex) (T : List Name), s0Args es = true → okArgs T es = true
  | [], _, _ => rfl
  | e :: es, T, h => by
    simp only [s0Args, Bool.and_eq_true] at h
    simp only [okArgs, s0_okE e T h.1, s0Args_okArgs es T h.2, Bool.and_self]
end

theorem iteLine_okE (l : Ex) (T : List Name) (h : iteLine l = true) : okE T l = true := by
  cases l with
  | assign x e =>
    have hs : s0 e = true := h
    cases e <;> first | exact s0_okE _ (x :: T) hs | simp [s0] at hs
  | fn _ _ => simp [iteLine, s0] at h
  | _ => exact s0_okE _ T h

theorem iteBlock_mem : ∀ (ls : List Ex), iteBlock ls = true → ∀ l, l ∈ ls → iteLine l = true
  | [], _, _, h => by cases h
  | l :: ls, h, l', hl => by
    simp only [iteBlock, Bool.and_eq_true] at h
    rcases List.mem_cons.mp hl with rfl | hl
    · exact h.1
    · exact iteBlock_mem ls h.2 l' hl

/-- state of the parser's frame at a line boundary, related to the bound names of the declarative
definition: `Sim f bd` and no access pending -/
def LineInv (f : PFrame) (bd : List Name) : Prop :=
  f.pendAcc = [] ∧ f.pendAsg = [] ∧ ∀ y, y ∈ f.assigned ↔ y ∈ bd

theorem iteBlock_complete : ∀ (ls : List Ex) (f : PFrame) (bd : List Name),
    iteBlock ls = true → LineInv f bd →
    (∀ y, y ∈ f.nonLocals → y ∈ (peBlock ls f).nonLocals)
    ∧ (∀ y, y ∈ (fvBlock ls bd).1 → y ∈ (peBlock ls f).nonLocals)
  | ls, f, bd, h, inv =>
    -- `inv.1` is not needed: accesses pending at entry are finalized with the first line
    peBlock_ok ls f.inProg f bd (fun l hl => iteLine_okE l _ (iteBlock_mem ls h l hl))
      ⟨inv.2.1, inv.2.2⟩ (fun _ h => h)

end KotoVerif.C02
