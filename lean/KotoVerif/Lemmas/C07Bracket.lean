/-
Lemmas for C07: the bracket invariant of `Model/Unwind.lean`.

While a host entry bracket opened in state `s0` is running, the pending callers are `Y ++ s0.conts`
and the call stack is the caller's frames with, on top, the frames of the loops in `Y`: every loop
owns the frames down to and including its barrier frame (`Owns`). All of those frames lie above the
registers and builders the bracket found (`FrameOk`), and the barrier frame of the bracket's own loop
records the builder counts of the entry, so that `pop_frame` truncates the builder stacks to them
(fix 97373d1). This is an invariant of *every* event (`step_bracket`), in particular of unwinding
across any number of nested re-entries, including nested entries whose result register wrapped.
-/
import KotoVerif.Lemmas.C07

namespace KotoVerif.Unwind

/-- bounds of one bracket: registers / sequence builders / string builders at the entry (`r0 q t`)
and the lower bounds claimed for the builder stacks inside (`ql tl`: `0 0` or `q t`) -/
structure Bnd where
  r0 : Nat
  q : Nat
  t : Nat
  ql : Nat
  tl : Nat

/-- a frame with an open `try` has `min_frame_registers ≥ r0` (in every real execution such a frame
has executed its `NewFrame`, so `min_frame_registers = base + required ≥ base ≥ r0`; the hypothesis
matters only for event lists in which a frame executes `TryStart` before its `NewFrame`, while
`min_frame_registers` still holds the *caller's* value). Needed since fix 8f4d2e4: the catch point
resizes the value stack to exactly `min_frame_registers`. Trivial for `r0 = 0`. -/
def TryOk (B : Bnd) (vm : VM) : Prop :=
  ∀ f rest, vm.stack = f :: rest → f.catches ≠ [] → B.r0 ≤ vm.minRegs

/-- the event does not pop a builder at or below the claimed lower bound, and the state it meets
satisfies `TryOk` -/
def SafeEv (B : Bnd) (ev : Ev) (st : St) : Prop :=
  (ev = .seqEnd → st.vm.seq ≠ 0 → B.ql < st.vm.seq) ∧
  (ev = .strEnd → st.vm.str ≠ 0 → B.tl < st.vm.str) ∧
  TryOk B st.vm

/-- `SafeEv` at every event of the bracket -/
def SafeUntil (B : Bnd) (d : Nat) : List Ev → St → Prop
  | [], _ => True
  | ev :: rest, st =>
    if st.conts.length ≤ d then True else SafeEv B ev st ∧ SafeUntil B d rest (step ev st)

/-- `SequenceToList` / `StringFinish` is executed only while the *current frame* has a builder of
its own open (relative depth ≥ 1): the trace-level reading of C05's `wf_sound_balance` (in a chunk
accepted by `wfChunk` no builder instruction finds the frame unit's builder stack empty). -/
def FrameSafeEv (ev : Ev) (st : St) : Prop :=
  (ev = .seqEnd → ∀ f rest, st.vm.stack = f :: rest → f.seq0 < st.vm.seq) ∧
  (ev = .strEnd → ∀ f rest, st.vm.stack = f :: rest → f.str0 < st.vm.str) ∧
  -- a frame with an open `try` has executed its `NewFrame` (fix 8f4d2e4: the catch point resizes
  -- the value stack to `min_frame_registers`)
  (∀ f rest, st.vm.stack = f :: rest → f.catches ≠ [] → st.vm.base ≤ st.vm.minRegs)

def FrameSafeUntil (d : Nat) : List Ev → St → Prop
  | [], _ => True
  | ev :: rest, st =>
    if st.conts.length ≤ d then True else FrameSafeEv ev st ∧ FrameSafeUntil d rest (step ev st)

/-! ### frames owned by the bracket -/

def hasLoop (Y : List Cont) : Bool := Y.any isLoop

theorem hasLoop_of_getLast {Y : List Cont} {e : Cont} (h : Y.getLast? = some e)
    (he : isLoop e = true) : hasLoop Y = true :=
  List.any_eq_true.mpr ⟨e, List.mem_of_getLast? h, he⟩

def FrameOk (B : Bnd) (f : Frame) : Prop :=
  B.r0 ≤ f.base ∧ B.ql ≤ f.seq0 ∧ B.tl ≤ f.str0 ∧
  ∀ c ∈ f.catches, B.ql ≤ c.2.2.1 ∧ B.tl ≤ c.2.2.2

theorem pushed_ok (B : Bnd) (base fb seq str : Nat) (barrier : Bool) (hb : B.r0 ≤ base)
    (hq : B.ql ≤ seq) (ht : B.tl ≤ str) :
    FrameOk B { base := base + fb, barrier := barrier, seq0 := seq, str0 := str } :=
  ⟨Nat.le_add_right_of_le hb, hq, ht, fun _ hc => nomatch hc⟩

/-- `Owns B S Y fs`: the call stack `fs` is the caller's frames `S` below the frames of the loops of
`Y`, innermost first; each loop owns its non-barrier frames and, below them, its barrier frame. The
barrier frame of the outermost loop carries the builder counts of the entry. -/
inductive Owns (B : Bnd) (S : List Frame) : List Cont → List Frame → Prop
  | nil : Owns B S [] S
  | host {k Y fs} : isLoop k = false → Owns B S Y fs → Owns B S (k :: Y) fs
  | inner {x Y f fs} : f.barrier = false → FrameOk B f → Owns B S (.loop x :: Y) fs →
      Owns B S (.loop x :: Y) (f :: fs)
  | barrier {x Y f fs} : f.barrier = true → FrameOk B f →
      (Y = [] → f.seq0 = B.q ∧ f.str0 = B.t) → Owns B S Y fs → Owns B S (.loop x :: Y) (f :: fs)

variable {B : Bnd} {S fs : List Frame} {Y : List Cont}

theorem Owns.of_nil (h : Owns B S [] fs) : fs = S := by
  cases h; rfl

theorem Owns.of_host {k : Cont} (h : Owns B S (k :: Y) fs) (hk : isLoop k = false) : Owns B S Y fs := by
  cases h with
  | host _ h => exact h
  | inner => cases hk
  | barrier => cases hk

theorem Owns.loop_cons {x : Exit} {f : Frame} (h : Owns B S (.loop x :: Y) (f :: fs)) :
    FrameOk B f ∧ (f.barrier = false → Owns B S (.loop x :: Y) fs) := by
  cases h with
  | host hk _ => cases hk
  | inner _ hok hrest => exact ⟨hok, fun _ => hrest⟩
  | barrier hb hok _ _ => exact ⟨hok, fun h => by rw [hb] at h; cases h⟩

theorem Owns.eq_of_noLoop (h : Owns B S Y fs) (hl : hasLoop Y = false) : fs = S := by
  induction h with
  | nil => rfl
  | host hk _ ih => exact ih (by simpa [hasLoop, hk] using hl)
  | inner => simp [hasLoop, isLoop] at hl
  | barrier => simp [hasLoop, isLoop] at hl

theorem Owns.top (h : Owns B S Y fs) (hl : hasLoop Y = true) :
    ∃ f rest, fs = f :: rest ∧ FrameOk B f := by
  induction h with
  | nil => cases hl
  | host hk _ ih => exact ih (by simpa [hasLoop, hk] using hl)
  | inner _ hok _ => exact ⟨_, _, rfl, hok⟩
  | barrier _ hok _ _ => exact ⟨_, _, rfl, hok⟩

theorem Owns.le_topBase (h : Owns B S Y fs) (hS : hasLoop Y = false → B.r0 ≤ topBase S) :
    B.r0 ≤ topBase fs := by
  cases hl : hasLoop Y with
  | false => rw [h.eq_of_noLoop hl]; exact hS hl
  | true => obtain ⟨f, rest, hfs, hok⟩ := h.top hl; rw [hfs]; exact hok.1

/-- `frame_mut()` keeps the ownership when it keeps what `FrameOk` and `pop_frame` look at -/
theorem Owns.modTop {x : Exit} {f f' : Frame} (h : Owns B S (.loop x :: Y) (f :: fs))
    (hok : FrameOk B f → FrameOk B f') (hb : f'.barrier = f.barrier) (hq : f'.seq0 = f.seq0)
    (ht : f'.str0 = f.str0) : Owns B S (.loop x :: Y) (f' :: fs) := by
  cases h with
  | host hk _ => cases hk
  | inner hbar hf h => exact .inner (hb.trans hbar) (hok hf) h
  | barrier hbar hf hbot h => exact .barrier (hb.trans hbar) (hok hf) (by rw [hq, ht]; exact hbot) h

/-! ### the invariant -/

/-- What is known when the bracket's own continuation `e` has been popped: an entry that ends with
`truncate_registers(rr)` leaves at most `register_base + rr` registers and at least the claimed
lower bound (or all it is allowed to keep), and its barrier frame has cut the builder stacks to at
most the counts of the entry. -/
def ExitOk (e : Cont) (B : Bnd) (vm : VM) : Prop :=
  match e with
  | .loop (.truncate rr) =>
    vm.regs ≤ vm.base + rr ∧ min B.r0 (vm.base + rr) ≤ vm.regs ∧ vm.seq ≤ B.q ∧ vm.str ≤ B.t ∧
    min B.ql B.q ≤ vm.seq ∧ min B.tl B.t ≤ vm.str
  | _ => True

theorem min_le_min_right {a b : Nat} (h : a ≤ b) (c : Nat) : min a c ≤ min b c :=
  Nat.le_min.mpr ⟨Nat.le_trans (Nat.min_le_left a c) h, Nat.min_le_right a c⟩

/-- The setting of a bracket: opened by native/host code in a consistent state `s0`; its own
continuation is `e`; the bounds `B` claimed inside. A bracket that is not itself a loop (a native
callee) has no frame of its own between the caller's frames and those of nested entries, so its
register bound cannot exceed the caller's `register_base`. -/
structure Setting (s0 : St) (e : Cont) (B : Bnd) : Prop where
  host : inLoop s0 = false
  cons : Consistent s0.vm
  low : isLoop e = false → B.r0 ≤ s0.vm.base

/-- the state `⟨vm, Y ++ s0.conts⟩` inside the bracket (`Y ≠ []`) -/
structure Inside (s0 : St) (e : Cont) (B : Bnd) (vm : VM) (Y : List Cont) : Prop where
  owns : Owns B s0.vm.stack Y vm.stack
  base : vm.base = topBase vm.stack
  minr : hasLoop Y = false → vm.minRegs = s0.vm.minRegs
  ph : vm.placeholders = impMods Y ++ s0.vm.placeholders
  last : Y.getLast? = some e
  regs : B.r0 ≤ vm.regs
  seq : B.ql ≤ vm.seq
  str : B.tl ≤ vm.str

/-- the state `⟨vm, s0.conts⟩` after the bracket -/
structure Done (s0 : St) (e : Cont) (B : Bnd) (vm : VM) : Prop where
  stack : vm.stack = s0.vm.stack
  base : vm.base = s0.vm.base
  minRegs : vm.minRegs = s0.vm.minRegs
  ph : vm.placeholders = s0.vm.placeholders
  exit : ExitOk e B vm

inductive Bracket (s0 : St) (e : Cont) (B : Bnd) : St → Prop
  | inside {vm Y} : Inside s0 e B vm Y → Bracket s0 e B ⟨vm, Y ++ s0.conts⟩
  | done {vm} : Done s0 e B vm → Bracket s0 e B ⟨vm, s0.conts⟩

variable {s0 : St} {e : Cont} {vm : VM}

theorem Inside.ne_nil (h : Inside s0 e B vm Y) : Y ≠ [] := by
  intro hn; have := h.last; rw [hn] at this; cases this

theorem Inside.le_topBase (H : Setting s0 e B) {R : List Frame}
    (hl : Y.getLast? = some e) (h : Owns B s0.vm.stack Y R) : B.r0 ≤ topBase R := by
  refine h.le_topBase fun hn => ?_
  rw [← H.cons.base]
  refine H.low ?_
  cases he : isLoop e with
  | false => rfl
  | true => rw [hasLoop_of_getLast hl he] at hn; cases hn

theorem Inside.le_base (H : Setting s0 e B) (h : Inside s0 e B vm Y) : B.r0 ≤ vm.base := by
  rw [h.base]; exact Inside.le_topBase H h.last h.owns

theorem Inside.setRegs (h : Inside s0 e B vm Y) (r : Nat) (hr : B.r0 ≤ r) :
    Inside s0 e B { vm with regs := r } Y :=
  ⟨h.owns, h.base, h.minr, h.ph, h.last, hr, h.seq, h.str⟩

theorem Inside.pushHost (h : Inside s0 e B vm Y) (k : Cont) (hk : isLoop k = false)
    (hm : impMods [k] = []) : Inside s0 e B vm (k :: Y) := by
  refine ⟨.host hk h.owns, h.base, fun hl => h.minr ?_, ?_, ?_, h.regs, h.seq, h.str⟩
  · simpa [hasLoop, hk] using hl
  · rw [h.ph]; cases k <;> first | rfl | cases hm
  · rw [List.getLast?_cons, h.last]; rfl

theorem Inside.pushLoop (H : Setting s0 e B) (h : Inside s0 e B vm Y) (x : Exit) (fb a r : Nat) :
    Inside s0 e B (callKoto fb a true { vm with regs := r }) (.loop x :: Y) := by
  have hbase : B.r0 ≤ vm.base := h.le_base H
  have hb : B.r0 ≤ vm.base + fb + 1 + a :=
    Nat.le_add_right_of_le (Nat.le_add_right_of_le (Nat.le_add_right_of_le hbase))
  have hown : Owns B s0.vm.stack Y vm.stack := h.owns
  refine ⟨.barrier rfl (pushed_ok B _ _ _ _ _ hbase h.seq h.str) (fun hn => absurd hn h.ne_nil)
    hown, rfl, fun hl => by simp [hasLoop, isLoop] at hl, h.ph, ?_, hb, h.seq, h.str⟩
  rw [List.getLast?_cons, h.last]; rfl

/-! ### leaving a loop and unwinding -/

/-- `Return` from a frame with an execution barrier ends the loop: its caller runs the same epilogue
as after an error, minus the `pop_frame`, which `Return` has done itself. -/
theorem step_ret_barrier (vm : VM) (x : Exit) (cs : List Cont) (b : Frame) (R : List Frame)
    (hs : vm.stack = b :: R) (hb : b.barrier = true) :
    step .ret ⟨vm, .loop x :: cs⟩ = ⟨exitErr x vm, cs⟩ := by
  cases x <;> simp [step, inLoop, hs, popTo_barrier _ _ _ hb, exitErr, popFrameD, popFrame]

theorem step_ret_inner (vm : VM) (x : Exit) (cs : List Cont) (f r : Frame) (rs : List Frame)
    (hs : vm.stack = f :: r :: rs) (hb : f.barrier = false) :
    step .ret ⟨vm, .loop x :: cs⟩ = ⟨(popTo f (r :: rs) vm).1, .loop x :: cs⟩ := by
  simp [step, inLoop, hs, popTo_inner _ _ _ _ hb]

/-- The caller's epilogue of the loop `x` once only its barrier frame is left — after `Return` from
that frame or after an uncaught error — leaves the bracket, or continues in the caller of the loop. -/
theorem Inside.exit (H : Setting s0 e B) {x : Exit} {b : Frame} {R : List Frame}
    (h : Inside s0 e B vm (.loop x :: Y)) (hs : vm.stack = b :: R) (hb : b.barrier = true) :
    (Y = [] → Done s0 e B (exitErr x vm)) ∧
    (Y ≠ [] → Inside s0 e B (exitErr x vm) Y ∧ TryOk B (exitErr x vm)) := by
  have hown := h.owns
  rw [hs] at hown
  rw [exitErr_barrier x vm b R hs hb]
  cases hown with
  | host hk _ => cases hk
  | inner hbar _ _ => rw [hb] at hbar; cases hbar
  | barrier _ hok hbot hR =>
    have hregs := h.regs
    have hseq := h.seq
    have hstr := h.str
    have hq : B.ql ≤ min vm.seq b.seq0 := Nat.le_min.mpr ⟨hseq, hok.2.1⟩
    have ht : B.tl ≤ min vm.str b.str0 := Nat.le_min.mpr ⟨hstr, hok.2.2.1⟩
    have hlast := h.last
    constructor
    · intro hn
      subst hn
      cases hR
      have he : Cont.loop x = e := by simpa using hlast
      obtain ⟨hbq, hbt⟩ := hbot rfl
      refine ⟨rfl, H.cons.base.symm, H.cons.minr.symm, h.ph, ?_⟩
      rw [← he]
      cases x with
      | propagate => trivial
      | truncate rr =>
        simp only [ExitOk, hbq, hbt]
        -- each upper bound is the cut itself, each lower bound the claimed one cut the same way
        exact ⟨Nat.min_le_right _ _, min_le_min_right hregs _, Nat.min_le_right _ _,
          Nat.min_le_right _ _, min_le_min_right hseq _, min_le_min_right hstr _⟩
    · intro hne
      have hl : Y.getLast? = some e := (List.getLast?_cons_of_ne_nil hne).symm.trans hlast
      have hlow := Inside.le_topBase H hl hR
      refine ⟨⟨hR, rfl, fun hnl => ?_, h.ph, hl, ?_, hq, ht⟩, fun f rest hf _ => ?_⟩
      · show topMin R = _
        rw [hR.eq_of_noLoop hnl]; exact H.cons.minr.symm
      · cases x with
        | propagate => exact hregs
        | truncate rr => exact Nat.le_min.mpr ⟨hregs, Nat.le_add_right_of_le hlow⟩
      · have hf : R = f :: rest := hf
        rw [hf] at hlow
        show B.r0 ≤ topMin R
        rw [hf]
        exact Nat.le_add_right_of_le hlow

/-- `pop_call_stack_on_error` stays inside the frames of the running loop: it stops at a catch point
of one of them or with the loop's barrier frame on top, and keeps the bounds. -/
theorem unwindGo_inside (c : Bool) {x : Exit} (fs : List Frame) (vm : VM) (hs : vm.stack = fs)
    (h : Inside s0 e B vm (.loop x :: Y)) (htry : TryOk B vm) :
    Inside s0 e B (unwindGo c fs vm).1 (.loop x :: Y) ∧
    ((unwindGo c fs vm).2 = none →
      ∃ b R, (unwindGo c fs vm).1.stack = b :: R ∧ b.barrier = true) := by
  have hown := h.owns
  rw [hs] at hown
  fun_induction unwindGo c fs vm with
  | case1 => cases hown with | host hk _ => cases hk
  | case2 f rest vm cc tail hcat =>
    -- caught: the builders opened in the try block are discarded
    have hc := hown.loop_cons.1.2.2.2 cc (by rw [hcat]; exact List.mem_cons_self)
    exact ⟨⟨h.owns, h.base, h.minr, h.ph, h.last,
      htry f rest hs (by rw [hcat]; exact List.cons_ne_nil _ _),
      Nat.le_min.mpr ⟨h.seq, hc.1⟩, Nat.le_min.mpr ⟨h.str, hc.2⟩⟩, fun hn => nomatch hn⟩
  | case3 f rest vm hbar => exact ⟨h, fun _ => ⟨f, rest, hs, hbar⟩⟩
  | case4 f rest vm hbar _ ih =>
    have hbar : f.barrier = false := by simpa using hbar
    obtain ⟨hfok, hrest⟩ := hown.loop_cons
    obtain ⟨r, rs, hr, hrok⟩ := (hrest hbar).top rfl
    subst hr
    rw [popTo_inner f r rs vm hbar] at ih ⊢
    exact ih rfl
      ⟨hrest hbar, rfl, fun hl => by simp [hasLoop, isLoop] at hl, h.ph, h.last,
        Nat.le_add_right_of_le hrok.1, Nat.le_min.mpr ⟨h.seq, hfok.2.1⟩,
        Nat.le_min.mpr ⟨h.str, hfok.2.2.1⟩⟩
      (fun _ _ _ _ => Nat.le_add_right_of_le hrok.1) (hrest hbar)

/-- Raising an error anywhere inside the bracket keeps the invariant: unwinding pops exactly the
frames owned by the loops it terminates, never a frame of the bracket's caller. -/
theorem raiseGo_bracket (H : Setting s0 e B) : ∀ (Y : List Cont) (c : Bool) (vm : VM),
    Inside s0 e B vm Y → TryOk B vm → Bracket s0 e B (raiseGo (Y ++ s0.conts) c vm) := by
  intro Y
  induction Y with
  | nil => intro c vm h; exact absurd rfl h.ne_nil
  | cons k Y1 ih =>
    intro c vm h htry
    cases k with
    | native a b => rw [List.cons_append, raiseGo_cons_host _ _ rfl]; exact .inside h
    | importing a b => rw [List.cons_append, raiseGo_cons_host _ _ rfl]; exact .inside h
    | loop x =>
      rw [List.cons_append, raiseGo_loop]
      have hu := unwindGo_inside c vm.stack vm rfl h htry
      change Bracket s0 e B (match unwindGo c vm.stack vm with
        | (vm1, some _) => ⟨vm1, .loop x :: (Y1 ++ s0.conts)⟩
        | (vm1, none) => raiseGo (Y1 ++ s0.conts) true (exitErr x vm1))
      rcases hres : unwindGo c vm.stack vm with ⟨vm1, _ | cr⟩ <;> rw [hres] at hu
      · obtain ⟨b, R, hstk, hb⟩ := hu.2 rfl
        have hx := hu.1.exit H hstk hb
        cases Y1 with
        | nil =>
          show Bracket s0 e B (raiseGo s0.conts true _)
          rw [raiseGo_host s0 H.host]
          exact .done (hx.1 rfl)
        | cons k' Y2 =>
          have := hx.2 (List.cons_ne_nil _ _)
          exact ih true _ this.1 this.2
      · exact .inside hu.1

/-- After the head caller has returned the bracket is left or goes on in the caller below, and an
error handed to that caller keeps the invariant as well. -/
theorem Bracket.of_returned (H : Setting s0 e B)
    (hp : (Y = [] → Done s0 e B vm) ∧ (Y ≠ [] → Inside s0 e B vm Y ∧ TryOk B vm)) :
    Bracket s0 e B ⟨vm, Y ++ s0.conts⟩ ∧ Bracket s0 e B (raiseGo (Y ++ s0.conts) true vm) := by
  cases Y with
  | nil => exact ⟨.done (hp.1 rfl), raiseGo_host s0 H.host true _ ▸ .done (hp.1 rfl)⟩
  | cons y ys =>
    have := hp.2 (List.cons_ne_nil _ _)
    exact ⟨.inside this.1, raiseGo_bracket H _ true _ this.1 this.2⟩

/-! ### host entries and nested loops started inside the bracket -/

theorem enterWith_bracket (H : Setting s0 e B) (h : Inside s0 e B vm Y) (htry : TryOk B vm)
    (t : Bool) (pre args : Nat) (c : Callee) :
    Bracket s0 e B (enterWith t pre args c ⟨vm, Y ++ s0.conts⟩) := by
  have hr := h.regs
  have hb := h.le_base H
  have h2 : Inside s0 e B { vm with regs := vm.regs + pre + 1 + args } Y := h.setRegs _ (by omega)
  cases c with
  | koto a => exact .inside (h.pushLoop H _ _ _ _)
  | native => exact .inside (h2.pushHost _ rfl rfl)
  | fail =>
    cases t with
    | true =>
      exact raiseGo_bracket H Y true _ (h2.setRegs (min (vm.regs + pre + 1 + args)
        (vm.base + nextRegister vm)) (Nat.le_min.mpr ⟨by omega, by omega⟩)) htry
    | false => exact raiseGo_bracket H Y true _ h2 htry

theorem enterDirect_bracket (H : Setting s0 e B) (h : Inside s0 e B vm Y) (htry : TryOk B vm)
    (pre : Nat) (ok : Bool) : Bracket s0 e B (enterDirect pre ok ⟨vm, Y ++ s0.conts⟩) := by
  have hr := h.regs
  have hb := h.le_base H
  have h' := h.setRegs (min (vm.regs + pre) (vm.base + nextRegister vm)) (Nat.le_min.mpr ⟨by omega, by omega⟩)
  cases ok with
  | true => exact .inside h'
  | false => exact raiseGo_bracket H Y true _ h' htry

theorem nested_bracket (H : Setting s0 e B) (h : Inside s0 e B vm Y) (htry : TryOk B vm)
    (args a : Nat) : Bracket s0 e B (nested args a ⟨vm, Y ++ s0.conts⟩) := by
  show Bracket s0 e B (if vm.regs - vm.base > 255 then _ else _)
  split
  · exact raiseGo_bracket H Y true vm h htry
  · exact .inside (h.pushLoop H _ _ _ _)

/-! ### every event keeps the invariant -/

theorem entry_bracket (H : Setting s0 e B) (h : Inside s0 e B vm Y) (htry : TryOk B vm) :
    (∀ pre args c, Bracket s0 e B (enterChecked pre args c ⟨vm, Y ++ s0.conts⟩)) ∧
    (∀ pre args c, Bracket s0 e B (enterOpChecked pre args c ⟨vm, Y ++ s0.conts⟩)) ∧
    (∀ pre ok, Bracket s0 e B (enterDirectChecked pre ok ⟨vm, Y ++ s0.conts⟩)) := by
  have hfail := raiseGo_bracket H Y true vm h htry
  refine ⟨fun pre args c => ?_, fun pre args c => ?_, fun pre ok => ?_⟩
  · unfold enterChecked; split
    · exact enterWith_bracket H h htry true pre args c
    · exact hfail
  · unfold enterOpChecked; split
    · exact enterWith_bracket H h htry true pre args c
    · exact hfail
  · unfold enterDirectChecked; split
    · exact enterDirect_bracket H h htry pre ok
    · exact hfail

theorem step_bracket_loop (H : Setting s0 e B) {x : Exit} {Y1 : List Cont}
    (h : Inside s0 e B vm (.loop x :: Y1)) (ev : Ev)
    (hsafe : SafeEv B ev ⟨vm, .loop x :: Y1 ++ s0.conts⟩) :
    Bracket s0 e B (step ev ⟨vm, .loop x :: Y1 ++ s0.conts⟩) := by
  have htry : TryOk B vm := hsafe.2.2
  have hfail : ∀ c r, B.r0 ≤ r →
      Bracket s0 e B (raiseGo (.loop x :: Y1 ++ s0.conts) c { vm with regs := r }) :=
    fun c r hr => raiseGo_bracket H _ c _ (h.setRegs r hr) htry
  have hr := h.regs
  have hb := h.le_base H
  obtain ⟨f, rest, hs, hfok⟩ := h.owns.top rfl
  have hown := h.owns
  rw [hs] at hown
  have hbase : vm.base = f.base := by rw [h.base, hs]; rfl
  have hin : inLoop ⟨vm, .loop x :: Y1 ++ s0.conts⟩ = true := rfl
  -- an update of the current frame and of `registers.len()` / `min_frame_registers`
  have hmod : ∀ (g : Frame → Frame) (r m : Nat), (FrameOk B f → FrameOk B (g f)) →
      (g f).base = f.base → (g f).barrier = f.barrier → (g f).seq0 = f.seq0 →
      (g f).str0 = f.str0 → B.r0 ≤ r →
      Inside s0 e B { vm with stack := g f :: rest, regs := r, minRegs := m } (.loop x :: Y1) :=
    fun g r m hok h1 h2 h3 h4 hr =>
      ⟨hown.modTop hok h2 h3 h4, hbase.trans h1.symm, fun hl => by simp [hasLoop, isLoop] at hl,
        h.ph, h.last, hr, h.seq, h.str⟩
  cases ev with
  | enter pre args c => exact (entry_bracket H h htry).1 pre args c
  | enterOp pre args c => exact (entry_bracket H h htry).2.1 pre args c
  | enterDirect pre ok => exact (entry_bracket H h htry).2.2 pre ok
  | nested args a => exact nested_bracket H h htry args a
  | nativeRet ok => exact .inside h
  | importEnd ok => exact .inside h
  | newFrame n =>
    simp only [step, hin, if_true, modTop_cons _ vm f rest hs]
    exact .inside (hmod (fun f => { f with required := n }) _ _ id rfl rfl rfl rfl
      (Nat.le_add_right_of_le hb))
  | tryStart r ip =>
    simp only [step, hin, if_true, modTop_cons _ vm f rest hs]
    refine .inside (hmod (fun f => { f with catches := (r, ip, vm.seq, vm.str) :: f.catches }) _ _
      (fun hk => ⟨hk.1, hk.2.1, hk.2.2.1, fun c hc => ?_⟩) rfl rfl rfl rfl hr)
    cases List.mem_cons.mp hc with
    | inl h1 => rw [h1]; exact ⟨h.seq, h.str⟩
    | inr h1 => exact hk.2.2.2 c h1
  | tryEnd =>
    simp only [step, hin, if_true, modTop_cons _ vm f rest hs]
    exact .inside (hmod (fun f => { f with catches := f.catches.tail }) _ _
      (fun hk => ⟨hk.1, hk.2.1, hk.2.2.1, fun c hc => hk.2.2.2 c (List.mem_of_mem_tail hc)⟩)
      rfl rfl rfl rfl hr)
  | call fb a =>
    exact .inside ⟨.inner rfl (pushed_ok B _ _ _ _ _ hb h.seq h.str) h.owns, rfl,
      fun hl => by simp [hasLoop, isLoop] at hl, h.ph, h.last, by show B.r0 ≤ vm.base + fb + 1 + a; omega,
      h.seq, h.str⟩
  | callNative fb => exact .inside (h.pushHost (.native fb none) rfl rfl)
  | seqStart =>
    exact .inside ⟨h.owns, h.base, h.minr, h.ph, h.last, hr, Nat.le_succ_of_le h.seq, h.str⟩
  | strStart =>
    exact .inside ⟨h.owns, h.base, h.minr, h.ph, h.last, hr, h.seq, Nat.le_succ_of_le h.str⟩
  | exportVal k => exact .inside ⟨h.owns, h.base, h.minr, h.ph, h.last, hr, h.seq, h.str⟩
  | seqEnd =>
    simp only [step, hin, if_true]
    split
    · exact hfail true _ hr
    · rename_i hz
      exact .inside ⟨h.owns, h.base, h.minr, h.ph, h.last, hr, Nat.le_sub_one_of_lt (hsafe.1 rfl hz), h.str⟩
  | strEnd =>
    simp only [step, hin, if_true]
    split
    · exact hfail true _ hr
    · rename_i hz
      exact .inside ⟨h.owns, h.base, h.minr, h.ph, h.last, hr, h.seq, Nat.le_sub_one_of_lt (hsafe.2.1 rfl hz)⟩
  | raise c => exact hfail c _ hr
  | opSetupFail n => exact hfail true _ (Nat.le_add_right_of_le hr)
  | importBegin m =>
    simp only [step, hin, if_true]
    split
    · exact hfail true _ hr
    · split
      · exact .inside h
      · exact .inside (Y := .importing m vm.exports :: .loop x :: Y1)
          ⟨.host rfl h.owns, h.base, fun hl => by simp [hasLoop, isLoop] at hl,
            by show m :: vm.placeholders = _; rw [h.ph]; rfl, h.last, hr, h.seq, h.str⟩
  | ret =>
    cases hbar : f.barrier with
    | true =>
      rw [List.cons_append, step_ret_barrier vm x _ f rest hs hbar]
      exact (Bracket.of_returned H (h.exit H hs hbar)).1
    | false =>
      have hrest := hown.loop_cons.2 hbar
      obtain ⟨r, rs, hrs, hrok⟩ := hrest.top rfl
      subst hrs
      rw [List.cons_append, step_ret_inner vm x _ f r rs hs hbar, popTo_inner f r rs vm hbar]
      exact .inside (Y := .loop x :: Y1) ⟨hrest, rfl, fun hl => by simp [hasLoop, isLoop] at hl, h.ph,
        h.last, Nat.le_add_right_of_le hrok.1, Nat.le_min.mpr ⟨h.seq, hfok.2.1⟩,
        Nat.le_min.mpr ⟨h.str, hfok.2.2.1⟩⟩

theorem step_bracket_host (H : Setting s0 e B) {k : Cont} {Y1 : List Cont} (hk : isLoop k = false)
    (h : Inside s0 e B vm (k :: Y1)) (ev : Ev) (htry : TryOk B vm) :
    Bracket s0 e B (step ev ⟨vm, k :: Y1 ++ s0.conts⟩) := by
  have hr := h.regs
  have hb := h.le_base H
  -- the state after this pending caller has returned
  have hpop : ∀ vm' : VM, vm'.stack = vm.stack → vm'.base = vm.base → vm'.minRegs = vm.minRegs →
      vm'.placeholders = impMods Y1 ++ s0.vm.placeholders → B.r0 ≤ vm'.regs → vm'.seq = vm.seq →
      vm'.str = vm.str → (Y1 = [] → Done s0 e B vm') ∧ (Y1 ≠ [] → Inside s0 e B vm' Y1 ∧ TryOk B vm') := by
    intro vm' h1 h2 h3 h4 h5 h6 h7
    have hown : Owns B s0.vm.stack Y1 vm.stack := h.owns.of_host hk
    constructor
    · intro hn
      subst hn
      have hS := hown.of_nil
      have he : k = e := by simpa using h.last
      have hm : vm.minRegs = s0.vm.minRegs := h.minr (by simp [hasLoop, hk])
      refine ⟨h1.trans hS, h2.trans (h.base.trans (hS ▸ H.cons.base.symm)), h3.trans hm, h4, ?_⟩
      rw [← he]; cases k <;> first | trivial | cases hk
    · intro hne
      have hl : Y1.getLast? = some e := (List.getLast?_cons_of_ne_nil hne).symm.trans h.last
      refine ⟨⟨h1 ▸ hown, by rw [h1, h2]; exact h.base, fun hnl => ?_, h4, hl, h5, h6 ▸ h.seq,
        h7 ▸ h.str⟩, fun f rest hf hc => h3 ▸ htry f rest (h1 ▸ hf) hc⟩
      rw [h3]; exact h.minr (by simpa [hasLoop, hk] using hnl)
  rw [step_host ev _ (inLoop_cons vm k _ ▸ hk)]
  split
  · exact (entry_bracket H h htry).1 _ _ _
  · exact (entry_bracket H h htry).2.1 _ _ _
  · exact (entry_bracket H h htry).2.2 _ _
  · exact nested_bracket H h htry _ _
  · -- the native function returns
    cases k with
    | loop x => cases hk
    | importing m saved => exact .inside h
    | native fb host =>
      have hph : vm.placeholders = impMods Y1 ++ s0.vm.placeholders := h.ph
      obtain ⟨r, hn, hnr⟩ := nativeOk_eq fb vm
      have n5 : B.r0 ≤ r := Nat.le_trans (Nat.le_min.mpr ⟨hr, Nat.le_add_right_of_le hb⟩) hnr
      simp only [List.cons_append]
      rw [hn]
      split
      · split
        · rename_i rr
          exact (Bracket.of_returned H (hpop (truncate rr.1 { vm with regs := r }) rfl rfl rfl hph
            (Nat.le_min.mpr ⟨n5, Nat.le_add_right_of_le hb⟩) rfl rfl)).1
        · exact (Bracket.of_returned H (hpop { vm with regs := r } rfl rfl rfl hph n5 rfl rfl)).1
      · split
        · rename_i rr
          split
          · exact (Bracket.of_returned H (hpop (truncate rr.1 vm) rfl rfl rfl hph
              (Nat.le_min.mpr ⟨hr, Nat.le_add_right_of_le hb⟩) rfl rfl)).2
          · exact (Bracket.of_returned H (hpop vm rfl rfl rfl hph hr rfl rfl)).2
        · exact (Bracket.of_returned H (hpop vm rfl rfl rfl hph hr rfl rfl)).2
  · -- the closure of `run_import` ends
    cases k with
    | loop x => cases hk
    | native fb host => exact .inside h
    | importing m saved =>
      have hph : vm.placeholders.erase m = impMods Y1 ++ s0.vm.placeholders := by
        rw [h.ph]; exact List.erase_cons_head ..
      simp only [List.cons_append]
      split
      · exact (Bracket.of_returned H (hpop { vm with
          placeholders := vm.placeholders.erase m, cached := m :: vm.cached, exports := saved }
          rfl rfl rfl hph hr rfl rfl)).1
      · exact (Bracket.of_returned H (hpop { vm with
          placeholders := vm.placeholders.erase m, exports := saved }
          rfl rfl rfl hph hr rfl rfl)).2
  · exact .inside h

theorem step_bracket (H : Setting s0 e B) (h : Inside s0 e B vm Y) (ev : Ev)
    (hsafe : SafeEv B ev ⟨vm, Y ++ s0.conts⟩) : Bracket s0 e B (step ev ⟨vm, Y ++ s0.conts⟩) := by
  cases Y with
  | nil => exact absurd rfl h.ne_nil
  | cons k Y1 =>
    cases k with
    | loop x => exact step_bracket_loop H h ev hsafe
    | native fb host => exact step_bracket_host H rfl h ev hsafe.2.2
    | importing m saved => exact step_bracket_host H rfl h ev hsafe.2.2

theorem Bracket.exited {st : St} (h : Bracket s0 e B st) (hex : Exited s0 st) :
    Done s0 e B st.vm ∧ st.conts = s0.conts := by
  cases h with
  | done h => exact ⟨h, rfl⟩
  | inside h =>
    have := List.length_pos_iff.mpr h.ne_nil
    simp only [Exited, List.length_append] at hex
    omega

theorem runUntil_bracket (H : Setting s0 e B) : ∀ (evs : List Ev) (st : St),
    Bracket s0 e B st → SafeUntil B s0.conts.length evs st →
    Bracket s0 e B (runUntil s0.conts.length evs st) := by
  intro evs
  induction evs with
  | nil => intro st h _; exact h
  | cons ev rest ih =>
    intro st h hsafe
    simp only [runUntil]
    split
    · exact h
    · rename_i hlen
      simp only [SafeUntil, if_neg hlen] at hsafe
      cases h with
      | done _ => exact absurd (Nat.le_refl _) hlen
      | inside h => exact ih _ (step_bracket H h ev hsafe.1) hsafe.2

/-- The prologue of a host entry on a Koto callee opens a bracket: the barrier frame it pushes lies
above everything the entry found (its base is the frame base, after the result register and the
operands) and records the builder counts of the entry. `r0 ql tl` are the bounds claimed inside. -/
theorem enter_opens (s : St) (pre args a r0 ql tl : Nat) (hhost : inLoop s = false)
    (hc : Consistent s.vm) (hr0 : r0 ≤ s.vm.base + (s.vm.regs + pre - s.vm.base) % 256)
    (hql : ql ≤ s.vm.seq) (htl : tl ≤ s.vm.str) :
    Setting s (.loop (.truncate (nextRegister s.vm))) ⟨r0, s.vm.seq, s.vm.str, ql, tl⟩ ∧
    Bracket s (.loop (.truncate (nextRegister s.vm))) ⟨r0, s.vm.seq, s.vm.str, ql, tl⟩
      (enter pre args (.koto a) s) :=
  ⟨⟨hhost, hc, fun h => nomatch h⟩,
    .inside (Y := [.loop (.truncate (nextRegister s.vm))])
      ⟨.barrier rfl ⟨hr0, hql, htl, fun _ hc => nomatch hc⟩ (fun _ => ⟨rfl, rfl⟩) .nil, rfl,
        (fun hl => by cases hl), rfl, rfl, Nat.le_add_right_of_le (Nat.le_add_right_of_le hr0), hql,
        htl⟩⟩

/-! ### the hypothesis on the execution -/

theorem safeUntil_zero (B : Bnd) (hr : B.r0 = 0) (hq : B.ql = 0) (ht : B.tl = 0) (d : Nat) :
    ∀ (evs : List Ev) (st : St), SafeUntil B d evs st := by
  intro evs
  induction evs with
  | nil => intro st; trivial
  | cons ev rest ih =>
    intro st
    simp only [SafeUntil]
    split
    · trivial
    · exact ⟨⟨fun _ hz => by rw [hq]; omega, fun _ hz => by rw [ht]; omega,
        fun _ _ _ _ => by rw [hr]; exact Nat.zero_le _⟩, ih _⟩

/-- inside the bracket of a loop the per-frame condition implies the bracket-level one: the current
frame lies above the caller's frames, so its recorded counts are at least the entry's -/
theorem safeEv_of_frameSafe (H : Setting s0 e B) (he : isLoop e = true) (h : Inside s0 e B vm Y)
    (ev : Ev) (hf : FrameSafeEv ev ⟨vm, Y ++ s0.conts⟩) : SafeEv B ev ⟨vm, Y ++ s0.conts⟩ := by
  obtain ⟨f, rest, hs, hok⟩ := h.owns.top (hasLoop_of_getLast h.last he)
  exact ⟨fun hev _ => Nat.lt_of_le_of_lt hok.2.1 (hf.1 hev f rest hs),
    fun hev _ => Nat.lt_of_le_of_lt hok.2.2.1 (hf.2.1 hev f rest hs),
    fun g gs hg hc => Nat.le_trans (h.le_base H) (hf.2.2 g gs hg hc)⟩

theorem safeUntil_of_frameSafe (H : Setting s0 e B) (he : isLoop e = true) :
    ∀ (evs : List Ev) (st : St), Bracket s0 e B st → FrameSafeUntil s0.conts.length evs st →
    SafeUntil B s0.conts.length evs st := by
  intro evs
  induction evs with
  | nil => intro st _ _; trivial
  | cons ev rest ih =>
    intro st h hf
    simp only [SafeUntil, FrameSafeUntil] at hf ⊢
    split
    · trivial
    · rename_i hlen
      rw [if_neg hlen] at hf
      cases h with
      | done _ => exact absurd (Nat.le_refl _) hlen
      | inside h =>
        have hs := safeEv_of_frameSafe H he h ev hf.1
        exact ⟨hs, ih _ (step_bracket H h ev hs) hf.2⟩

end KotoVerif.Unwind
