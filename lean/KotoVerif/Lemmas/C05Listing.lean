/-
C05 `compile_wf`, byte level: the listing `lay` of an encoded instruction sequence is what `sweep`
reads back; `annotate` marks a listing reachable when every instruction is entered by fall-through or
by a forward edge (`CovU`).
-/
import KotoVerif.Lemmas.C05Codec
import KotoVerif.Lemmas.C05WF

namespace KotoVerif.Bytecode
open KotoVerif.Gen

def esize (i : Instr) : Nat := (encode i).length

def lay (d : Option Depth) : Nat → List Instr → List Ann
  | _, [] => []
  | pc, i :: is => ⟨pc, esize i, i, d⟩ :: lay d (pc + esize i) is

def esizes (is : List Instr) : Nat := (is.map esize).sum

theorem encode_cons (i : Instr) : encode i = i.op.code :: encodeFields i.fields i.args := rfl

theorem esize_pos (i : Instr) : 0 < esize i := by simp [esize, encode_cons]

/-- one step of `sweep` over an instruction that skips no nested unit -/
theorem sweep_step {fuel pc : Nat} {bs rest : List Nat} {i : Instr} {size : Nat}
    (hd : decode bs = .ok i size rest) (hsk : skipsUnit i rest = none) :
    sweep (fuel + 1) pc bs
      = (sweep fuel (pc + size) rest).map fun r => (⟨pc, size, i, none⟩ :: r.1, r.2) := by
  cases bs with
  | nil => cases hd
  | cons b bs =>
    simp only [sweep, hd, hsk]
    cases sweep fuel (pc + size) rest <;> rfl

theorem sweep_lay (is : List Instr) (hv : ∀ i ∈ is, i.valid = true) (hf : ∀ i ∈ is, i.op ≠ .Function)
    (hn : ∀ j ∈ is.tail, j.op ≠ .NewFrame) :
    ∀ pc fuel, is.length < fuel → sweep fuel pc (is.flatMap encode) = some (lay none pc is, []) := by
  induction is with
  | nil =>
    intro pc fuel hfu
    cases fuel with
    | zero => simp at hfu
    | succ f => simp [sweep, lay]
  | cons i rest ih =>
    intro pc fuel hfu
    cases fuel with
    | zero => simp at hfu
    | succ f =>
      have hsk : skipsUnit i (rest.flatMap encode) = none := by
        rw [skipsUnit, if_neg (hf i (by simp)), if_neg]
        rintro ⟨-, hh⟩
        cases rest with
        | nil => simp at hh
        | cons j rest' =>
          -- the next byte would be the opcode byte of `NewFrame`, and the code determines the opcode
          rw [List.flatMap_cons, encode_cons, List.cons_append, List.head?_cons, Option.some.injEq] at hh
          exact hn j (by simp) (Option.some.inj ((ofCode_code j.op).symm.trans (hh ▸ ofCode_code .NewFrame)))
      rw [List.flatMap_cons, sweep_step (decode_encode i _ (hv i (by simp))) hsk,
        ih (fun j hj => hv j (by simp [hj])) (fun j hj => hf j (by simp [hj]))
          (fun j hj => hn j (by simp; exact List.mem_of_mem_tail hj)) _ f (by simp at hfu; omega)]
      rfl

def Z : Depth := ⟨0, 0, 0⟩

def succsOf (a : Ann) : List Nat := (succPcs a).getD []

/-- the successors `annotate` records as pending forward edges -/
def fwdTgts (a : Ann) : List Nat :=
  (succsOf a).filter (fun p => a.next < p || (p == a.next && isTerminal a.ins.op))

/-- every instruction is entered by fall-through (`c`) or is the target of a forward edge of an
earlier instruction (`L`): what `annotate` needs to mark the whole listing reachable -/
def CovU : Bool → List Nat → List Ann → Prop
  | _, _, [] => True
  | c, L, a :: rest => (c = true ∨ a.pc ∈ L) ∧ CovU (!isTerminal a.ins.op) (fwdTgts a ++ L) rest

theorem annotate_cov (items : List Ann) :
    ∀ (lo : Nat) (cur : Option Depth) (pending : List (Nat × Depth)) (c : Bool) (L : List Nat),
      pcsFrom lo items = true → (∀ a ∈ items, ∀ d, applyEff a.ins.op d = some d) →
      (∀ e ∈ pending, e.2 = Z) → (cur = if c then some Z else none) →
      (∀ p, lo ≤ p → p ∈ L → ∃ e ∈ pending, e.1 = p) → CovU c L items →
      annotate cur pending items = items.map (fun a => { a with d := some Z }) := by
  induction items with
  | nil => intros; simp [annotate]
  | cons a rest ih =>
    intro lo cur pending c L hs hn hz hcur hcov hc
    simp only [pcsFrom, Bool.and_eq_true, decide_eq_true_eq] at hs
    obtain ⟨hentry, hrest⟩ := hc
    have heff := hn a (by simp) Z
    have hrec : annotate (if isTerminal a.ins.op then none else some Z)
        (List.map (fun x => (x, Z)) (fwdTgts a) ++ List.filter (fun x => x.fst != a.pc) pending) rest
        = rest.map (fun a => { a with d := some Z }) := by
      apply ih (a.pc + 1) _ _ (!isTerminal a.ins.op) (fwdTgts a ++ L) hs.2
        (fun b hb => hn b (by simp [hb]))
      · intro e he
        simp only [List.mem_append, List.mem_map, List.mem_filter] at he
        rcases he with ⟨p, _, rfl⟩ | ⟨he, _⟩
        · rfl
        · exact hz e he
      · cases isTerminal a.ins.op <;> simp
      · intro p hp hpl
        simp only [List.mem_append] at hpl
        rcases hpl with hpt | hpl
        · exact ⟨(p, Z), by simp; exact .inl hpt, rfl⟩
        · obtain ⟨e, he, hek⟩ := hcov p (by omega) hpl
          refine ⟨e, ?_, hek⟩
          simp only [List.mem_append, List.mem_filter]
          right
          refine ⟨he, ?_⟩
          simp [hek]; omega
      · exact hrest
    cases hf : pending.find? (fun x => x.1 == a.pc) with
    | some e =>
      obtain ⟨k, d⟩ := e
      have hd : d = Z := by
        have := hz _ (List.mem_of_find?_eq_some hf)
        simpa using this
      subst hd
      simp only [annotate, hf, heff, List.map_cons]
      congr 1
    | none =>
      have hcz : cur = some Z := by
        rcases hentry with hc1 | hmem
        · simp [hcur, hc1]
        · obtain ⟨e, he, hek⟩ := hcov a.pc hs.1 hmem
          have := List.find?_eq_none.mp hf e he
          simp [hek] at this
      subst hcz
      simp only [annotate, hf, heff, List.map_cons]
      congr 1

theorem lay_append (d : Option Depth) (A B : List Instr) :
    ∀ pc, lay d pc (A ++ B) = lay d pc A ++ lay d (pc + esizes A) B := by
  induction A with
  | nil => intro pc; simp [lay, esizes]
  | cons i rest ih =>
    intro pc
    simp only [List.cons_append, lay, ih]
    simp [esizes, Nat.add_assoc]

theorem pcsFrom_lay (d : Option Depth) (is : List Instr) :
    ∀ lo pc, lo ≤ pc → pcsFrom lo (lay d pc is) = true := by
  induction is with
  | nil => intros; rfl
  | cons i rest ih =>
    intro lo pc h
    simp only [lay, pcsFrom, Bool.and_eq_true, decide_eq_true_eq]
    exact ⟨h, ih _ _ (Nat.add_le_add_left (esize_pos i) pc)⟩

theorem lay_mem (d : Option Depth) (is : List Instr) : ∀ pc a, a ∈ lay d pc is → a.ins ∈ is ∧ a.d = d := by
  induction is with
  | nil => intro pc a h; simp [lay] at h
  | cons i rest ih =>
    intro pc a h
    simp only [lay, List.mem_cons] at h
    rcases h with rfl | h
    · simp
    · obtain ⟨h1, h2⟩ := ih _ _ h
      exact ⟨by simp [h1], h2⟩

theorem lay_map_d (d : Option Depth) (is : List Instr) :
    ∀ pc, (lay none pc is).map (fun a => { a with d := d }) = lay d pc is := by
  induction is with
  | nil => intro; rfl
  | cons i rest ih => intro pc; simp [lay, ih]

end KotoVerif.Bytecode
