/-
The evaluator of `Model/HintEval.lean` is built from a handful of combinators, so a property of its two
runs (checks enabled / disabled) that is closed under them (`Closed`) holds of all of its mutually
recursive functions (`allAt`, by induction on the fuel).  Two instances: the erasure invariant `GoodRuns`,
and, for code without `try`, that a failed assertion always surfaces in the result (`SurfRuns`).
Before that, the clauses of the evaluator that `Props/C16` reads hint positions off.
-/
import KotoVerif.Model.HintEval

namespace KotoVerif.C16
open KotoVerif.Types KotoVerif.HintEval

/-! ### The clauses of the evaluator that the property theorems speak of

Each holds by unfolding; stated once, so that a position theorem is its clause with the hypotheses put in. -/

theorem andThen_ok (v : V) (s : St) (k : V → St → Res × St) : andThen (.ok v, s) k = k v s := rfl

theorem andThen_err (e : Err) (s : St) (k : V → St → Res × St) : andThen (.err e, s) k = (.err e, s) := rfl

theorem assertHint_some (c : Bool) (h : Hint) (v : V) (s : St) :
    assertHint c (some h) v s =
      if c && !(check h.name h.opt v) then (.err (.type h (typeName v)), { s with fails := s.fails + 1 })
      else (.ok .null, s) := rfl

theorem assertHint_off (h : Option Hint) (v : V) (s : St) : assertHint false h v s = (.ok .null, s) := by
  cases h <;> rfl

theorem assertHint_eq (c : Bool) (h : Hint) (v : V) (s : St) (k : V → St → Res × St) :
    andThen (assertHint c (some h) v s) k =
      if c && !(check h.name h.opt v) then (.err (.type h (typeName v)), { s with fails := s.fails + 1 })
      else k .null s := by
  rw [assertHint_some]
  split <;> rfl

theorem eval_letH (c : Bool) (F : Funs) (n : Nat) (x : Option Var) (h : Option Hint) (e : Expr) (s : St) :
    eval c F (n + 1) (.letH x h e) s =
      andThen (eval c F n e s) fun v s1 =>
      andThen (assertHint c h v (s1.setOpt x v)) fun _ s2 => (.ok v, s2) := rfl

theorem eval_ret (c : Bool) (F : Funs) (n : Nat) (e : Expr) (s : St) :
    eval c F (n + 1) (.ret e) s =
      andThen (eval c F n e s) fun v s1 =>
      andThen (assertHint c s1.out v s1) fun _ s2 => (.ret v, s2) := rfl

theorem eval_letUnpack (c : Bool) (F : Funs) (n : Nat) (bs : List Binder) (e : Expr) (s : St) :
    eval c F (n + 1) (.letUnpack bs e) s =
      andThen (eval c F n e s) fun v s1 =>
        match v with
        | .gen i genv started pc =>
          andThen (unpackGen c F n bs i genv started pc s1) fun _ s2 => (.ok v, s2)
        | _ =>
          match items v with
          | some xs => andThen (bindMany c bs xs s1) fun _ s2 => (.ok v, s2)
          | none => (.stuck 4, s1) := rfl

theorem eval_tryC (c : Bool) (F : Funs) (n : Nat) (body : Expr) (typed : List CatchArm) (x : Option Var)
    (final : Expr) (s : St) :
    eval c F (n + 1) (.tryC body typed x final) s =
      bindR (eval c F n body s) fun r s1 =>
        match r with
        | .err e => bindR (selectCatch (catchVal e) typed x final s1) fun blk s2 => eval c F n blk s2
        | r => (r, s1) := rfl

theorem eval_call (c : Bool) (F : Funs) (n : Nat) (f : Expr) (args : List Expr) (s : St) :
    eval c F (n + 1) (.call f args) s =
      andThen (eval c F n f s) fun fv s1 =>
      andThen (evalArgs c F n args s1) fun av s2 =>
        match fv, av with
        | .fn i, .tuple vs =>
          match F[i]? with
          | some ⟨params, out, .plain body⟩ =>
            if params.length ≠ vs.length then (.stuck 3, s2)
            else
              restore s2 <|
                andThen (bindArgs c (n + 2) params vs { s2 with env := [], out := out }) fun _ s3 =>
                bindR (eval c F n body s3) (finishCall c out)
          | _ => (.stuck 3, s2)
        | .genFn i, .tuple vs =>
          match F[i]? with
          | some ⟨params, _, .gen _⟩ =>
            if params.length ≠ vs.length then (.stuck 3, s2)
            else (.ok (.gen i ((List.range vs.length).zip vs) false 0), s2)
          | _ => (.stuck 3, s2)
        | _, _ => (.stuck 3, s2) := rfl

theorem matchArms_cons (c : Bool) (F : Funs) (n : Nat) (vs : List V) (alts : List (List P)) (guard : Option Expr)
    (body : Expr) (rest : List Arm) (s : St) :
    matchArms c F (n + 1) vs (.mk alts guard body :: rest) s =
      bindR (armM n alts vs s) fun m s1 =>
        match m with
        | .yes =>
          match guard with
          | none => eval c F n body s1
          | some g =>
            andThen (eval c F n g s1) fun gv s2 =>
              if truthy gv then eval c F n body s2 else matchArms c F n vs rest s2
        | .no => matchArms c F n vs rest s1
        | .stuck => (.stuck 10, s1) := rfl

mutual
def noTryE : Expr → Bool
  | .lit _ => true
  | .var _ => true
  | .add a b => noTryE a && noTryE b
  | .lt a b => noTryE a && noTryE b
  | .typeOf e => noTryE e
  | .letH _ _ e => noTryE e
  | .letTemps _ es => noTryL es
  | .letUnpack _ e => noTryE e
  | .seq a b => noTryE a && noTryE b
  | .emit e => noTryE e
  | .ite c t e => noTryE c && noTryE t && noTryE e
  | .forIn _ it body => noTryE it && noTryE body
  | .call f args => noTryE f && noTryL args
  | .ret e => noTryE e
  | .throw e => noTryE e
  | .tryC _ _ _ _ => false
  | .matchE ss arms => noTryL ss && noTryA arms
def noTryL : List Expr → Bool
  | [] => true
  | e :: es => noTryE e && noTryL es
def noTryA : List Arm → Bool
  | [] => true
  | .mk _ none b :: r => noTryE b && noTryA r
  | .mk _ (some g) b :: r => noTryE g && noTryE b && noTryA r
end

def noTryS : GStmt → Bool
  | .yld e => noTryE e
  | .exec e => noTryE e

def noTryB : Body → Bool
  | .plain e => noTryE e
  | .gen ss => ss.all noTryS

def noTryF (F : Funs) : Bool := F.all fun fd => noTryB fd.body

/-- the result is a failed assertion (the type error) -/
def isFailRes (r : Res) : Prop := ∃ h t, r = .err (.type h t)

theorem noTryB_get (t : Bool) (F : Funs) (hF : (t || noTryF F) = true) (i : Nat) (fd : FunDef)
    (h : F[i]? = some fd) : (t || noTryB fd.body) = true := by
  cases t with
  | true => rfl
  | false => exact List.all_eq_true.mp hF fd (List.mem_of_getElem? h)

theorem noTryS_get (t : Bool) (ss : List GStmt) (h : (t || ss.all noTryS) = true) (pc : Nat) (st : GStmt)
    (hp : ss[pc]? = some st) : (t || noTryS st) = true := by
  cases t with
  | true => rfl
  | false => exact List.all_eq_true.mp h st (List.mem_of_getElem? hp)

theorem or_and_true {t a b : Bool} (h : (t || (a && b)) = true) : (t || a) = true ∧ (t || b) = true := by
  cases t <;> simp_all

def OnlyEnv (s s' : St) : Prop := s'.trace = s.trace ∧ s'.out = s.out ∧ s'.fails = s.fails

theorem OnlyEnv.refl (s : St) : OnlyEnv s s := ⟨rfl, rfl, rfl⟩

theorem OnlyEnv.trans {s s1 s2 : St} (h1 : OnlyEnv s s1) (h2 : OnlyEnv s1 s2) : OnlyEnv s s2 :=
  ⟨h2.1.trans h1.1, h2.2.1.trans h1.2.1, h2.2.2.trans h1.2.2⟩

theorem onlyEnv_setOpt (s : St) (x : Option Var) (v : V) : OnlyEnv s (s.setOpt x v) := by
  cases x <;> exact .refl _

theorem setOpt_fails (s : St) (x : Option Var) (v : V) : (s.setOpt x v).fails = s.fails :=
  (onlyEnv_setOpt s x v).2.2

/-- what a nested argument unpacks, a nested `match` pattern sizes -/
theorem sized_of_elems {v : V} {xs : List V} (h : elems v = some xs) : sized v = .elems xs := by
  cases v <;> cases h <;> rfl

theorem pat_onlyEnv : ∀ k,
    (∀ p v s, OnlyEnv s (patM k p v s).2) ∧ (∀ ps vs s, OnlyEnv s (patsM k ps vs s).2) := by
  intro k
  induction k with
  | zero => exact ⟨fun p v s => by simp only [patM]; exact .refl _, fun ps vs s => by simp only [patsM]; exact .refl _⟩
  | succ k ih =>
    constructor
    · intro p v s
      cases p with
      | b x h =>
        simp only [patM]
        split
        · exact onlyEnv_setOpt s x v
        · split
          · exact onlyEnv_setOpt s x v
          · exact .refl _
      | lit n => simp only [patM]; exact .refl _
      | tup ps =>
        simp only [patM]
        split
        · split
          · exact ih.2 _ _ _
          · exact .refl _
        · exact .refl _
        · exact .refl _
    · intro ps vs s
      cases ps with
      | nil => simp only [patsM]; exact .refl _
      | cons p ps =>
        simp only [patsM]
        have h1 := ih.1 p (vs.headD .null) s
        split
        · next s1 heq =>
          rw [heq] at h1
          exact h1.trans (ih.2 ps vs.tail s1)
        · exact h1

theorem altsM_onlyEnv (k : Nat) (alts : List (List P)) (vs : List V) : ∀ s, OnlyEnv s (altsM k alts vs s).2 := by
  induction alts with
  | nil => intro s; exact .refl _
  | cons alt alts ih =>
    intro s
    simp only [altsM]
    have h1 := (pat_onlyEnv k).2 alt vs s
    split
    · next s1 heq =>
      rw [heq] at h1
      exact h1.trans (ih s1)
    · exact h1

theorem armM_onlyEnv (k : Nat) (alts : List (List P)) (vs : List V) (s : St) : OnlyEnv s (armM k alts vs s).2 := by
  unfold armM
  split
  · exact .refl _
  · exact altsM_onlyEnv k alts vs s

theorem armM_fails (k : Nat) (alts : List (List P)) (vs : List V) (s : St) : (armM k alts vs s).2.fails = s.fails :=
  (armM_onlyEnv k alts vs s).2.2

theorem selectCatch_onlyEnv (cv : V) (typed : List CatchArm) (x : Option Var) (final : Expr) :
    ∀ s, OnlyEnv s (selectCatch cv typed x final s).2 := by
  induction typed with
  | nil => intro s; exact onlyEnv_setOpt s x cv
  | cons a rest ih =>
    intro s
    cases a with
    | mk y h body =>
      simp only [selectCatch]
      split
      · exact onlyEnv_setOpt s y cv
      · exact ih s

theorem selectCatch_fails (cv : V) (typed : List CatchArm) (x : Option Var) (final : Expr) (s : St) :
    (selectCatch cv typed x final s).2.fails = s.fails :=
  (selectCatch_onlyEnv cv typed x final s).2.2

theorem not_fail_ok (v : V) : ¬ isFailRes (.ok v) := by
  rintro ⟨h, t, e⟩; cases e

def PassesFail (k : Res → St → Res × St) : Prop := ∀ r s, isFailRes r → isFailRes (k r s).1

/-- `Q f n`: a property of the runs `f false`, `f true` of one computation from a state with `fails = n`,
closed under sequencing: with any continuation (`t = true`; what `try` needs), or only with
continuations that hand a failed assertion on (`t = false`; everything but `try` is of that kind). -/
structure Closed (t : Bool) (Q : (Bool → Res × St) → Nat → Prop) : Prop where
  const : ∀ x : Res × St, Q (fun _ => x) x.2.fails
  assert : ∀ (h : Option Hint) (v : V) (s : St), Q (fun c => assertHint c h v s) s.fails
  bind : ∀ {f : Bool → Res × St} {k : Bool → Res → St → Res × St} {n : Nat}, Q f n →
    (∀ r s, Q (fun c => k c r s) s.fails) → (t = false → PassesFail (k true)) →
    Q (fun c => bindR (f c) (k c)) n

theorem andThen_eq_bindR (x : Res × St) (k : V → St → Res × St) :
    andThen x k = bindR x fun r s => match r with | .ok v => k v s | r => (r, s) := by
  obtain ⟨r, s⟩ := x
  cases r <;> rfl

theorem passesFail_of_eq {k : Res → St → Res × St} (h : ∀ e s, k (.err e) s = (.err e, s)) : PassesFail k := by
  rintro _ s ⟨hh, ty, rfl⟩
  rw [h]
  exact ⟨hh, ty, rfl⟩

def Holds (Q : (Bool → Res × St) → Nat → Prop) (m : Bool → St → Res × St) : Prop :=
  ∀ s, Q (fun c => m c s) s.fails

section
variable {Q : (Bool → Res × St) → Nat → Prop}

theorem holds_pre {m : Bool → St → Res × St} (f : St → St) (hf : ∀ s, (f s).fails = s.fails) (hm : Holds Q m) :
    Holds Q (fun c s => m c (f s)) := by
  intro s
  have := hm (f s)
  rwa [hf s] at this

theorem holds_bindPure {α : Type} (g : St → α × St) (hg : ∀ s, (g s).2.fails = s.fails)
    {k : Bool → α → St → Res × St} (hk : ∀ a, Holds Q (fun c s => k c a s)) :
    Holds Q (fun c s => bindR (g s) (k c)) := by
  intro s
  have := hk (g s).1 (g s).2
  rwa [hg s] at this

variable {t : Bool} (hQ : Closed t Q)
include hQ

theorem holds_const (g : St → Res × St) (hg : ∀ s, (g s).2.fails = s.fails) : Holds Q (fun _ s => g s) := by
  intro s
  have := hQ.const (g s)
  rwa [hg s] at this

theorem holds_ret (r : Res) : Holds Q (fun _ s => (r, s)) := fun s => hQ.const (r, s)

theorem holds_bind {m : Bool → St → Res × St} {k : Bool → Res → St → Res × St} (hm : Holds Q m)
    (hk : ∀ r, Holds Q (fun c s => k c r s)) (hpass : t = false → PassesFail (k true)) :
    Holds Q (fun c s => bindR (m c s) (k c)) :=
  fun s => hQ.bind (hm s) (fun r s1 => hk r s1) hpass

theorem holds_andThen {m : Bool → St → Res × St} {k : Bool → V → St → Res × St} (hm : Holds Q m)
    (hk : ∀ v, Holds Q (fun c s => k c v s)) : Holds Q (fun c s => andThen (m c s) (k c)) := by
  simp only [andThen_eq_bindR]
  refine holds_bind hQ hm (fun r => ?_) (fun _ => passesFail_of_eq fun _ _ => rfl)
  cases r with
  | ok v => exact hk v
  | _ => exact fun s => hQ.const _

theorem holds_restore_self {m : Bool → St → Res × St} (hm : Holds Q m) : Holds Q (fun c s => restore s (m c s)) :=
  fun s => hQ.bind (k := fun _ r s1 => (r, { s1 with env := s.env, out := s.out })) (hm s)
    (fun _ _ => hQ.const _) (fun _ _ _ hr => hr)

theorem holds_assert (h : Option Hint) (v : V) : Holds Q (fun c s => assertHint c h v s) :=
  fun s => hQ.assert h v s

theorem holds_bindOne (b : Binder) (v : V) : Holds Q (fun c s => bindOne c b v s) :=
  holds_pre (fun s => s.setOpt b.1 v) (fun s => setOpt_fails s b.1 v) (holds_assert hQ b.2 v)

theorem holds_bindMany (bs : List Binder) : ∀ vs, Holds Q (fun c s => bindMany c bs vs s) := by
  induction bs with
  | nil => intro vs; exact holds_ret hQ _
  | cons b bs ih =>
    intro vs
    exact holds_andThen hQ (holds_bindOne hQ b _) (fun _ => ih _)

theorem holds_bindLoop (bs : List Binder) (item : V) : Holds Q (fun c s => bindLoop c bs item s) := by
  unfold bindLoop
  split
  · exact holds_ret hQ _
  · exact holds_bindOne hQ _ _
  · split
    · exact holds_bindMany hQ _ _
    · exact holds_ret hQ _

theorem holds_bindArg : ∀ k,
    (∀ p v, Holds Q (fun c s => bindArg c k p v s)) ∧ (∀ ps vs, Holds Q (fun c s => bindArgs c k ps vs s)) := by
  intro k
  induction k with
  | zero =>
    exact ⟨fun p v => holds_ret hQ _,
      fun ps vs => holds_ret hQ _⟩
  | succ k ih =>
    constructor
    · intro p v
      cases p with
      | b x h => exact holds_bindOne hQ _ _
      | lit n => exact holds_ret hQ _
      | tup ps =>
        simp only [bindArg]
        split
        · split
          · exact ih.2 _ _
          · exact holds_ret hQ _
        · exact holds_ret hQ _
    · intro ps vs
      cases ps with
      | nil => exact holds_ret hQ _
      | cons p ps =>
        exact holds_andThen hQ (ih.1 p _) (fun _ => ih.2 ps _)

theorem holds_finishCall (out : Option Hint) (r : Res) : Holds Q (fun c s => finishCall c out r s) := by
  unfold finishCall
  split
  · exact holds_andThen hQ (holds_assert hQ _ _) (fun _ => holds_ret hQ _)
  · exact holds_ret hQ _
  · exact holds_ret hQ _

end

/-! ### the walk through the evaluator

`t = true`: any code, for properties closed under sequencing with any continuation, as `try` needs;
`t = false`: code without `try`. -/

structure AllAt (Q : (Bool → Res × St) → Nat → Prop) (t : Bool) (F : Funs) (n : Nat) : Prop where
  eval : ∀ e, (t || noTryE e) = true → Holds Q (fun c s => eval c F n e s)
  args : ∀ es, (t || noTryL es) = true → Holds Q (fun c s => evalArgs c F n es s)
  forItems : ∀ bs xs body last, (t || noTryE body) = true → Holds Q (fun c s => forItems c F n bs xs body last s)
  forGen : ∀ bs i genv st pc body last, (t || noTryE body) = true →
    Holds Q (fun c s => forGen c F n bs i genv st pc body last s)
  genNext : ∀ i st pc, Holds Q (fun c s => genNext c F n i st pc s)
  matchArms : ∀ vs arms, (t || noTryA arms) = true → Holds Q (fun c s => matchArms c F n vs arms s)
  unpackGen : ∀ bs i genv st pc, Holds Q (fun c s => unpackGen c F n bs i genv st pc s)

section
variable {Q : (Bool → Res × St) → Nat → Prop} {t : Bool} (hQ : Closed t Q)
  (F : Funs) (hF : (t || noTryF F) = true)
include hQ

theorem allAt_zero : AllAt Q t F 0 where
  eval _ _ := holds_ret hQ (.stuck 0)
  args _ _ := holds_ret hQ (.stuck 0)
  forItems _ _ _ _ _ := holds_ret hQ (.stuck 0)
  forGen _ _ _ _ _ _ _ _ := holds_ret hQ (.stuck 0)
  genNext _ _ _ := holds_ret hQ (.stuck 0)
  matchArms _ _ _ := holds_ret hQ (.stuck 0)
  unpackGen _ _ _ _ _ := holds_ret hQ (.stuck 0)

include hF

theorem eval_succ (n : Nat) (ih : AllAt Q t F n) (e : Expr) (he : (t || noTryE e) = true) :
    Holds Q (fun c s => eval c F (n + 1) e s) := by
  -- every case follows the evaluator's clause, which unfolds by itself once the constructor is known
  cases e with
  | lit v => exact holds_ret hQ _
  | var x =>
    apply holds_const hQ
    intro s; split <;> rfl
  | add a b =>
    obtain ⟨ha, hb⟩ := or_and_true (by simpa only [noTryE] using he)
    refine holds_andThen hQ (ih.eval a ha) (fun va => holds_andThen hQ (ih.eval b hb) (fun vb => ?_))
    split <;> exact holds_ret hQ _
  | lt a b =>
    obtain ⟨ha, hb⟩ := or_and_true (by simpa only [noTryE] using he)
    refine holds_andThen hQ (ih.eval a ha) (fun va => holds_andThen hQ (ih.eval b hb) (fun vb => ?_))
    split <;> exact holds_ret hQ _
  | typeOf e =>
    exact holds_andThen hQ (ih.eval e he) (fun v => holds_ret hQ _)
  | letH x h e =>
    exact holds_andThen hQ (ih.eval e he) (fun v => holds_andThen hQ (holds_bindOne hQ (x, h) v) (fun _ => holds_ret hQ _))
  | letTemps bs es =>
    refine holds_andThen hQ (ih.args es he) (fun r => ?_)
    split
    · split
      · exact holds_ret hQ _
      · exact holds_andThen hQ (holds_bindMany hQ _ _) (fun _ => holds_ret hQ _)
    · exact holds_ret hQ _
  | letUnpack bs e =>
    refine holds_andThen hQ (ih.eval e he) (fun v => ?_)
    split
    · exact holds_andThen hQ (ih.unpackGen _ _ _ _ _) (fun _ => holds_ret hQ _)
    · split
      · exact holds_andThen hQ (holds_bindMany hQ _ _) (fun _ => holds_ret hQ _)
      · exact holds_ret hQ _
  | seq a b =>
    obtain ⟨ha, hb⟩ := or_and_true (by simpa only [noTryE] using he)
    exact holds_andThen hQ (ih.eval a ha) (fun _ => ih.eval b hb)
  | emit e =>
    exact holds_andThen hQ (ih.eval e he) (fun v => holds_const hQ _ (fun _ => rfl))
  | ite c t' e =>
    obtain ⟨hct, hb⟩ := or_and_true (by simpa only [noTryE] using he)
    obtain ⟨hc, ht⟩ := or_and_true hct
    refine holds_andThen hQ (ih.eval c hc) (fun cv => ?_)
    split
    · exact ih.eval t' ht
    · exact ih.eval e hb
  | forIn bs it body =>
    obtain ⟨hi, hb⟩ := or_and_true (by simpa only [noTryE] using he)
    refine holds_andThen hQ (ih.eval it hi) (fun iv => ?_)
    split
    · exact ih.forGen _ _ _ _ _ _ _ hb
    · split
      · exact ih.forItems _ _ _ _ hb
      · exact holds_ret hQ _
  | call f args =>
    obtain ⟨hf, ha⟩ := or_and_true (by simpa only [noTryE] using he)
    refine holds_andThen hQ (ih.eval f hf) (fun fv => holds_andThen hQ (ih.args args ha) (fun av => ?_))
    split
    · split
      · next i vs params out body hget =>
        have hb : (t || noTryE body) = true := noTryB_get t F hF _ _ hget
        split
        · exact holds_ret hQ _
        · apply holds_restore_self hQ
          refine holds_andThen hQ (holds_pre _ (fun _ => rfl) ((holds_bindArg hQ _).2 _ _)) (fun _ => ?_)
          exact holds_bind hQ (ih.eval _ hb) (fun r => holds_finishCall hQ _ r)
            (fun _ => passesFail_of_eq fun _ _ => rfl)
      · exact holds_ret hQ _
    · split
      · split <;> exact holds_ret hQ _
      · exact holds_ret hQ _
    · exact holds_ret hQ _
  | ret e =>
    exact holds_andThen hQ (ih.eval e he) (fun v => holds_andThen hQ (fun s => hQ.assert s.out v s) (fun _ => holds_ret hQ _))
  | throw e =>
    exact holds_andThen hQ (ih.eval e he) (fun v => holds_ret hQ _)
  | tryC body typed x final =>
    obtain rfl : t = true := by simpa [noTryE] using he
    refine holds_bind hQ (ih.eval body rfl) (fun r => ?_) nofun
    split
    · exact holds_bindPure _ (selectCatch_fails _ _ _ _) (fun blk => ih.eval blk rfl)
    · exact holds_ret hQ _
  | matchE scruts arms =>
    obtain ⟨hs, ha⟩ := or_and_true (by simpa only [noTryE] using he)
    refine holds_andThen hQ (ih.args scruts hs) (fun r => ?_)
    split
    · exact ih.matchArms _ _ ha
    · exact holds_ret hQ _

theorem allAt_succ (n : Nat) (ih : AllAt Q t F n) : AllAt Q t F (n + 1) := by
  constructor
  · exact eval_succ hQ F hF n ih
  · intro es hes
    cases es with
    | nil => exact holds_ret hQ _
    | cons e es =>
      obtain ⟨he, hes⟩ := or_and_true (by simpa only [noTryL] using hes)
      refine holds_andThen hQ (ih.eval e he) (fun v => holds_andThen hQ (ih.args es hes) (fun r => ?_))
      split <;> exact holds_ret hQ _
  · intro bs xs body last hb
    cases xs with
    | nil => exact holds_ret hQ _
    | cons v rest =>
      exact holds_andThen hQ (holds_bindLoop hQ bs v)
        (fun _ => holds_andThen hQ (ih.eval body hb) (fun w => ih.forItems _ _ _ _ hb))
  · intro bs i genv st pc body last hb
    simp only [forGen]
    refine holds_andThen hQ (holds_restore_self hQ (holds_pre _ (fun _ => rfl) (ih.genNext i st pc))) (fun r => ?_)
    split
    · exact holds_andThen hQ (holds_bindLoop hQ bs _)
        (fun _ => holds_andThen hQ (ih.eval body hb) (fun w => ih.forGen _ _ _ _ _ _ _ hb))
    · exact holds_ret hQ _
  · intro i st pc
    simp only [genNext]
    split
    · next params out ss hget =>
      have hst := noTryS_get t ss (noTryB_get t F hF _ _ hget)
      refine holds_andThen hQ ?_ (fun _ => ?_)
      · split
        · exact holds_ret hQ _
        · exact fun s => holds_pre (fun s' => { s' with env := [] }) (fun _ => rfl)
            ((holds_bindArg hQ _).2 _ (s.env.map (·.2))) s
      · split
        · exact holds_ret hQ _
        · next e hpc =>
          exact holds_andThen hQ (ih.eval _ (hst _ _ hpc))
            (fun v => holds_andThen hQ (holds_assert hQ _ _) (fun _ => holds_const hQ _ (fun _ => rfl)))
        · next e hpc =>
          refine holds_bind hQ (ih.eval _ (hst _ _ hpc)) (fun r => ?_) (fun _ => passesFail_of_eq fun _ _ => rfl)
          split
          · exact ih.genNext _ _ _
          · exact holds_ret hQ _
          · exact holds_ret hQ _
    · exact holds_ret hQ _
  · intro vs arms ha
    cases arms with
    | nil => exact holds_ret hQ _
    | cons arm rest =>
      cases arm with
      | mk alts guard body =>
        refine holds_bindPure _ (armM_fails n alts vs) (fun m => ?_)
        cases guard with
        | none =>
          obtain ⟨hb, hr⟩ := or_and_true (by simpa only [noTryA] using ha)
          cases m with
          | yes => exact ih.eval body hb
          | no => exact ih.matchArms _ _ hr
          | stuck => exact holds_ret hQ _
        | some g =>
          obtain ⟨hgb, hr⟩ := or_and_true (by simpa only [noTryA] using ha)
          obtain ⟨hg, hb⟩ := or_and_true hgb
          cases m with
          | yes =>
            refine holds_andThen hQ (ih.eval g hg) (fun gv => ?_)
            split
            · exact ih.eval body hb
            · exact ih.matchArms _ _ hr
          | no => exact ih.matchArms _ _ hr
          | stuck => exact holds_ret hQ _
  · intro bs i genv st pc
    cases bs with
    | nil => exact holds_ret hQ _
    | cons b bs =>
      refine holds_andThen hQ (holds_restore_self hQ (holds_pre _ (fun _ => rfl) (ih.genNext i st pc))) (fun r => ?_)
      split
      · exact holds_andThen hQ (holds_bindOne hQ b _) (fun _ => ih.unpackGen _ _ _ _ _)
      · exact holds_bindMany hQ _ _

theorem allAt : ∀ n, AllAt Q t F n
  | 0 => allAt_zero hQ F
  | n + 1 => allAt_succ hQ F hF n (allAt n)

end

/-- whole programs: `run` is `eval` followed by a continuation that hands a failed assertion on -/
theorem holds_run {Q : (Bool → Res × St) → Nat → Prop} {t : Bool} (hQ : Closed t Q) (p : Prog)
    (hF : (t || noTryF p.funs) = true) (he : (t || noTryE p.main) = true) (fuel : Nat) :
    Q (fun c => run c p fuel) 0 :=
  hQ.bind ((allAt hQ p.funs hF fuel).eval p.main he {}) (fun r s => by cases r <;> exact hQ.const _)
    fun _ => passesFail_of_eq fun _ _ => rfl

/-- A computation indexed by `checks` is *good* when, from every state, the run with checks enabled
never decreases the ghost counter of failed assertions, and — if that counter did not move, i.e. no
assertion failed — the run with checks disabled returns exactly the same result and state. -/
def Good {α : Type} (m : Bool → St → α × St) : Prop :=
  ∀ s, s.fails ≤ (m true s).2.fails ∧ ((m true s).2.fails = s.fails → m false s = m true s)

/-- `Good`, of the two runs from a state with `fails = n` -/
def GoodRuns (f : Bool → Res × St) (n : Nat) : Prop :=
  n ≤ (f true).2.fails ∧ ((f true).2.fails = n → f false = f true)

theorem GoodRuns.erase {f : Bool → Res × St} {n : Nat} {r : Res} {s' : St} (g : GoodRuns f n)
    (h : f true = (r, s')) (hf : s'.fails = n) : f false = (r, s') := by
  rw [g.2 (by rw [h]; exact hf), h]

theorem goodRuns_bindR {f : Bool → Res × St} {k : Bool → Res → St → Res × St} {n : Nat} (hf : GoodRuns f n)
    (hk : ∀ r s, GoodRuns (fun c => k c r s) s.fails) : GoodRuns (fun c => bindR (f c) (k c)) n := by
  have h2 := hk (f true).1 (f true).2
  simp only [bindR, GoodRuns] at *
  refine ⟨Nat.le_trans hf.1 h2.1, fun h => ?_⟩
  -- the counter only grows: if it has not moved at the end, it has not moved in between
  rw [hf.2 (by omega), h2.2 (by omega)]

theorem closed_goodRuns (t : Bool) : Closed t GoodRuns where
  const x := ⟨Nat.le_refl _, fun _ => rfl⟩
  assert h v s := by
    cases h with
    | none => exact ⟨Nat.le_refl _, fun _ => rfl⟩
    | some h =>
      simp only [GoodRuns, assertHint]
      cases check h.name h.opt v <;> simp
  bind hf hk _ := goodRuns_bindR hf hk

theorem good_restore {m : Bool → St → Res × St} (s0 : St) (hm : Good m) :
    Good (fun c s => restore s0 (m c s)) :=
  fun s => ⟨(hm s).1, fun e => by simp only [restore, (hm s).2 e]⟩

theorem goodAt (F : Funs) (n : Nat) : AllAt GoodRuns true F n :=
  allAt (closed_goodRuns true) F rfl n

/-- of the run with checks enabled from a state with `fails = n`: either no assertion failed, or the
result is the failure -/
def SurfRuns (f : Bool → Res × St) (n : Nat) : Prop :=
  (f true).2.fails = n ∨ isFailRes (f true).1

theorem closed_surfRuns : Closed false SurfRuns where
  const _ := .inl rfl
  assert h v s := by
    cases h with
    | none => exact .inl rfl
    | some h =>
      simp only [SurfRuns, assertHint]
      cases hc : check h.name h.opt v
      · exact .inr ⟨h, typeName v, by simp⟩
      · exact .inl (by simp)
  bind hf hk hpass := by
    rcases hf with h1 | h1
    · exact h1 ▸ hk _ _
    · exact .inr (hpass rfl _ _ h1)

theorem surfAt (F : Funs) (hF : noTryF F = true) (n : Nat) : AllAt SurfRuns false F n :=
  allAt closed_surfRuns F hF n

/-- where a failed assertion surfaces, erasure needs no look at the counter -/
theorem GoodRuns.erase_of_surf {f : Bool → Res × St} {n : Nat} {r : Res} {s' : St} (g : GoodRuns f n)
    (hs : SurfRuns f n) (h : f true = (r, s')) (hr : ¬ isFailRes r) : f false = (r, s') := by
  rw [SurfRuns, h] at hs
  exact g.erase h (hs.resolve_right hr)

end KotoVerif.C16
