/-
C14 — the number comparator of `sort` (`compare_values` on numbers = `<` on `KNumber`) is a total
preorder on numbers without NaN whose integers convert to `f64` strictly monotonically (for IEEE
doubles: |n| ≤ 2^53). Beyond that range it is *not* one: `2^53+1 ≤ 2^53.0 ≤ 2^53` but not
`2^53+1 ≤ 2^53` — such lists are outside the sort theorem (and outside the generated envelope).
-/
import KotoVerif.Model.Sort
import KotoVerif.Lemmas.C14Sort
import KotoVerif.Lemmas.C14Equal

namespace KotoVerif
namespace Equal
open Sorting

/-- the float facts the number order needs; `S` marks the integers that convert exactly -/
structure NumOrderLaws (F : FloatOps) (S : Int64 → Prop) : Prop where
  ofInt_notNaN : ∀ n, F.isNaN (F.ofInt n) = false
  lt_asymm : ∀ a b, F.lt a b = true → F.lt b a = false
  le_trans : ∀ a b c, F.isNaN a = false → F.isNaN b = false → F.isNaN c = false →
    F.lt b a = false → F.lt c b = false → F.lt c a = false
  ofInt_mono : ∀ x y : Int64, x ≤ y → F.lt (F.ofInt y) (F.ofInt x) = false
  ofInt_strict : ∀ x y : Int64, S x → S y → x < y → F.lt (F.ofInt x) (F.ofInt y) = true

/-- numbers a sort may contain: no NaN, integers exactly convertible -/
def GoodNum (F : FloatOps) (S : Int64 → Prop) : Type :=
  { n : Num // numIsNaN F n = false ∧ ∀ x, n = .i x → S x }

/-- on good numbers the comparison is the float comparison of the promoted operands: integers that
convert strictly monotonically compare as their images do -/
theorem numLt_toF {F : FloatOps} {S : Int64 → Prop} (hL : NumOrderLaws F S) (a b : GoodNum F S) :
    Num.lt F a.1 b.1 = F.lt (a.1.toF F) (b.1.toF F) := by
  obtain ⟨a, _, sa⟩ := a
  obtain ⟨b, _, sb⟩ := b
  cases a with
  | f x => rfl
  | i x =>
    cases b with
    | f y => rfl
    | i y =>
      show decide (x < y) = F.lt (F.ofInt x) (F.ofInt y)
      by_cases h : x < y
      · rw [hL.ofInt_strict x y (sa x rfl) (sb y rfl) h, decide_eq_true h]
      · rw [hL.ofInt_mono y x (Int64.not_lt.mp h), decide_eq_false h]

theorem num_total_preorder {F : FloatOps} {S : Int64 → Prop} (hL : NumOrderLaws F S) :
    TotalPreorder (fun (a b : GoodNum F S) => Num.lt F a.1 b.1) where
  asymm a b h := by
    rw [numLt_toF hL] at h ⊢
    exact hL.lt_asymm _ _ h
  le_trans a b c h1 h2 := by
    rw [numLt_toF hL] at h1 h2 ⊢
    have nn (x : GoodNum F S) := toF_notNaN hL.ofInt_notNaN x.1 x.2.1
    exact hL.le_trans _ _ _ (nn a) (nn b) (nn c) h1 h2

theorem shift_toNat (x : Int64) :
    ((x.toUInt64 + 9223372036854775808).toNat : Int) = x.toInt + 9223372036854775808 := by
  have h1 : x.toUInt64.toNat = x.toBitVec.toNat := by
    rw [← UInt64.toNat_toBitVec, Int64.toBitVec_toUInt64]
  have h2 : x.toInt = x.toBitVec.toInt := (Int64.toInt_toBitVec x).symm
  have h3 := BitVec.toInt_eq_toNat_cond x.toBitVec
  have h4 : x.toBitVec.toNat < 2 ^ 64 := x.toBitVec.isLt
  rw [UInt64.toNat_add, h1, h2, h3]
  have : (9223372036854775808 : UInt64).toNat = 9223372036854775808 := by decide
  rw [this]
  split <;> omega

theorem F0_numOrderLaws : NumOrderLaws F0 (fun _ => True) where
  ofInt_notNaN _ := rfl
  lt_asymm a b h := by
    simp only [F0, decide_eq_true_eq, decide_eq_false_iff_not, UInt64.lt_iff_toNat_lt] at *; omega
  le_trans a b c _ _ _ h1 h2 := by
    simp only [F0, decide_eq_false_iff_not, UInt64.lt_iff_toNat_lt] at *; omega
  ofInt_mono x y h := by
    have hx := shift_toNat x
    have hy := shift_toNat y
    have := Int64.le_iff_toInt_le.mp h
    simp only [F0, decide_eq_false_iff_not, UInt64.lt_iff_toNat_lt]
    omega
  ofInt_strict x y _ _ h := by
    have hx := shift_toNat x
    have hy := shift_toNat y
    have := Int64.lt_iff_toInt_lt.mp h
    simp only [F0, decide_eq_true_eq, UInt64.lt_iff_toNat_lt]
    omega

end Equal
end KotoVerif
