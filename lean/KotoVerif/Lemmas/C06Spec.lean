/-
The outcome specification (`Res.sat`) of every kernel of `Model/Guards.lean` that another kernel calls
or that several theorems speak of: under which condition it panics, under which it is an error, and what
it returns. The range kernels are specified in their flag-parametrised form (`…G fx`), so that the code
as it is (`Fx.none`) and the repaired code are instances of one statement.
-/
import KotoVerif.Lemmas.C06

namespace KotoVerif.C06
open KotoVerif.Guards

/-! ## KRange::as_bounded_range and the kernels built on it -/

theorem asBoundedRange_eq (r : KRange) :
    asBoundedRange r = (if r.triple.2.2 then ckI64 (r.triple.2.1 + 1) else .ok r.triple.2.1).bind
      fun e' => .ok (r.triple.1, max e' r.triple.1) := rfl

theorem endsAtMax_iff (r : KRange) :
    r.endsAtMax ↔ r.triple.2.1 = I64_MAX ∧ r.triple.2.2 = true := by
  obtain ⟨st, sp⟩ := r
  cases st <;> rcases sp with _ | ⟨e, i⟩ <;> simp [KRange.endsAtMax, KRange.triple]

theorem triple_start {r : KRange} {s : Int} (h : r.start = some s) : r.triple.1 = s := by
  obtain ⟨st, sp⟩ := r
  cases h
  rcases sp with _ | ⟨e, i⟩ <;> rfl

/-- the one overflow of `as_bounded_range`: the `+ 1` on an inclusive end, unless it saturates (fix-5) -/
def EndOverflows (fx : Fx) (r : KRange) : Prop :=
  fx.range = false ∧ r.triple.2.2 = true ∧ ¬ inI64 (r.triple.2.1 + 1)

theorem not_endOverflows_of_fixed {fx : Fx} (hf : fx.range = true) (r : KRange) : ¬ EndOverflows fx r :=
  fun h => Bool.noConfusion (hf.symm.trans h.1)

/-- for `i64` bounds the overflow happens at `..=i64::MAX` only -/
theorem not_endOverflows_of_guard (fx : Fx) {r : KRange} (h : KRange.wf r) (hg : ¬ r.endsAtMax) :
    ¬ EndOverflows fx r :=
  fun ho => ho.2.2 (inI64_succ (triple_wf r h).2 fun he => hg ((endsAtMax_iff r).2 ⟨he, ho.2.1⟩))

theorem endOverflows_of_endsAtMax {r : KRange} (h : r.endsAtMax) : EndOverflows Fx.none r := by
  obtain ⟨he, hi⟩ := (endsAtMax_iff r).1 h
  exact ⟨rfl, hi, by rw [he]; decide⟩

theorem endOverflows_none_iff {r : KRange} (h : KRange.wf r) : EndOverflows Fx.none r ↔ r.endsAtMax :=
  ⟨fun ho => Decidable.byContradiction fun hg => not_endOverflows_of_guard _ h hg ho,
    endOverflows_of_endsAtMax⟩

theorem asBoundedRangeG_spec (fx : Fx) (r : KRange) :
    Res.sat (EndOverflows fx r) False
      (fun se => ¬ EndOverflows fx r ∧ se.1 = r.triple.1 ∧ se.1 ≤ se.2 ∧
        (KRange.wf r → inI64 se.1 ∧ inI64 se.2))
      (asBoundedRangeG fx r) := by
  unfold asBoundedRangeG EndOverflows
  have hw := triple_wf r
  generalize r.triple = t at *
  obtain ⟨s, e, incl⟩ := t
  dsimp only
  have hq : ∀ e', (KRange.wf r → inI64 e') → s = s ∧ s ≤ max e' s ∧
      (KRange.wf r → inI64 s ∧ inI64 (max e' s)) :=
    fun e' he' => ⟨rfl, Int.le_max_right _ _, fun h => ⟨(hw h).1, inI64_max (he' h) (hw h).1⟩⟩
  cases incl
  · -- an exclusive end: nothing is added
    exact Res.sat.ok ⟨fun h => (nomatch h.2.1), hq e fun h => (hw h).2⟩
  · -- an inclusive end: the checked `+ 1` as it is, the saturating one with the repair
    cases hf : fx.range
    · rw [if_pos rfl, if_neg Bool.false_ne_true, sat_bind, sat_ckI64]
      split
      · rename_i he; exact ⟨fun h => h.2.2 he, hq _ fun _ => he⟩
      · rename_i he; exact ⟨rfl, rfl, he⟩
    · exact Res.sat.ok ⟨fun h => (nomatch h.1), hq _ fun h => by have := (hw h).2; arith⟩

theorem rangeSizeG_spec (fx : Fx) (r : KRange) {s e : Int} (hok : asBoundedRangeG fx r = .ok (s, e))
    (hle : s ≤ e) :
    Res.sat (r.isBounded = true ∧ fx.size = false ∧ ¬ inI64 (e - s)) False
      (fun sz => sz = (if r.isBounded then some (e - s) else none) ∧
        (r.isBounded = true → fx.size = false → inI64 (e - s)))
      (rangeSizeG fx r) := by
  unfold rangeSizeG
  by_cases hb : r.isBounded = true
  · simp only [hb, if_true, hok, bind_ok, Int.max_eq_left hle]
    cases fx.size
    · rw [if_neg Bool.false_ne_true, sat_bind, sat_ckI64]
      split
      · exact Res.sat.ok ⟨rfl, fun _ _ => ‹_›⟩
      · exact ⟨trivial, rfl, ‹_›⟩
    · exact Res.sat.ok ⟨rfl, fun _ h => nomatch h⟩
  · rw [if_neg hb, if_neg hb]
    exact Res.sat.ok ⟨rfl, fun h => absurd h hb⟩

theorem rangeContainsG_spec (fx : Fx) (r : KRange) (n : Int) :
    Res.sat (EndOverflows fx r) False (fun _ => True) (rangeContainsG fx r n) :=
  (asBoundedRangeG_spec fx r).bind fun _ _ => Res.sat.ok trivial

/-- how both arms of `run_temp_index` on a range end: `contains(v)`, then `v` or Null -/
theorem containsThen_ne_panic (fx : Fx) (r : KRange) (h : ¬ EndOverflows fx r) (v : Int) :
    (rangeContainsG fx r v).bind (fun c => Res.ok (if c then some v else none)) ≠ .panic :=
  Res.ne_panic_iff.2 <|
    ((rangeContainsG_spec fx r v).imp h False.elim).bind fun _ _ => Res.sat.ok trivial

/-- `indices(max_index)`: the two `clamp` calls have `min <= max` -/
theorem rangeIndicesG_spec (fx : Fx) (r : KRange) (m : Int) (hm : inLen m) :
    Res.sat (EndOverflows fx r) False (fun ab => 0 ≤ ab.1 ∧ ab.1 ≤ ab.2 ∧ ab.2 ≤ m)
      (rangeIndicesG fx r m) := by
  refine (asBoundedRangeG_spec fx r).bind fun ⟨s, e⟩ _ => ?_
  have h0 : 0 ≤ m := hm.1
  simp only [castI64_id hm.2, clamp_ok h0, bind_ok]
  rw [clamp_ok (by omega), bind_ok]
  exact Res.sat.ok (by dsimp only; omega)

theorem rangeIntersectionG_spec (fx : Fx) (a b : KRange) :
    Res.sat (EndOverflows fx a ∨ EndOverflows fx b) False (fun _ => True) (rangeIntersectionG fx a b) :=
  ((asBoundedRangeG_spec fx a).imp Or.inl id).bind fun ⟨s1, e1⟩ _ =>
    ((asBoundedRangeG_spec fx b).imp Or.inr id).bind fun ⟨s2, e2⟩ _ => by
      dsimp only; split <;> exact Res.sat.ok trivial

/-- `data[indices]`: the slice range that `indices` yields is valid -/
theorem runIndexSeqRangeG_spec (fx : Fx) (len : Int) (hl : inLen len) (r : KRange) :
    Res.sat (EndOverflows fx r) False (fun _ => True) (runIndexSeqRangeG fx len r) :=
  (rangeIndicesG_spec fx r len hl).bind fun ⟨a, b⟩ h => by
    dsimp only at h ⊢; rw [sliceRange, if_pos h]; exact Res.sat.ok trivial

/-- the loop of `run_index_assign` over the valid slice range `a ≤ i < b ≤ len` writes `data[i]`: its
last index exists -/
theorem indexAssignListRangeG_spec (fx : Fx) (len : Int) (hl : inLen len) (r : KRange) :
    Res.sat (EndOverflows fx r) False (fun _ => True) (indexAssignListRangeG fx len r) :=
  (rangeIndicesG_spec fx r len hl).bind fun ⟨a, b⟩ h => by
    dsimp only at h ⊢
    split
    · rw [sliceIndex, if_pos (by omega)]; exact Res.sat.ok trivial
    · exact Res.sat.ok trivial

/-! ## index arithmetic of the VM -/

/-- a negative index counts from the back, saturating at 0 -/
theorem signedIndexToUnsigned_spec (index size : Int) :
    Res.sat (¬ inUsize size) False
      (fun i => (index < 0 → i = size - min (-index) size) ∧ (0 ≤ index → i = index))
      (signedIndexToUnsigned index size) := by
  unfold signedIndexToUnsigned
  split
  · rename_i hneg
    rw [sat_ckUsize]
    split
    · exact ⟨fun _ => rfl, fun h => absurd hneg (Int.not_lt.mpr h)⟩
    · rename_i hbad; exact fun hs => hbad (by arith)
  · rename_i hpos; exact Res.sat.ok ⟨fun h => absurd h hpos, fun _ => rfl⟩

theorem validateIndex_spec (n : NumView) (size : Option Int) :
    Res.sat False True (fun i => i = n.usize ∧ ∀ sz, size = some sz → i < sz) (validateIndex n size) := by
  unfold validateIndex
  split
  · exact Res.sat.err trivial
  · split
    · split
      · exact Res.sat.err trivial
      · rename_i hlt; exact Res.sat.ok ⟨rfl, fun sz h => by cases h; exact Int.not_le.mp hlt⟩
    · exact Res.sat.ok ⟨rfl, fun _ h => nomatch h⟩

/-! ## KRange::pop_front -/

theorem popFront_spec (large : Bool) (s e : Int) (incl : Bool) :
    Res.sat (s < e ∧ ¬ if large then inI64 (s + 1) else inI32 (s + 1)) False
      (fun o => o = if s < e then (some s, s + 1, e, incl)
        else if s = e ∧ incl = true then (some s, s, e, false) else (none, s, e, incl))
      (popFront large s e incl) := by
  unfold popFront
  by_cases hlt : s < e
  · rw [if_pos hlt, if_pos hlt, sat_bind, sat_ckRepr]
    by_cases hr : if large then inI64 (s + 1) else inI32 (s + 1)
    · rw [if_pos hr]; exact Res.sat.ok rfl
    · rw [if_neg hr]; exact ⟨hlt, hr⟩
  · rw [if_neg hlt, if_neg hlt]
    by_cases he : s = e
    · cases incl <;> simp [he]
    · simp [he]

/-! ## `TupleSlice::with_bounds`, `StringSlice::with_bounds`, `KotoLexer::peek` -/

theorem withBounds_spec (dataLen selfStart bStart bEnd : Int) (ok : Bool) :
    Res.sat (¬ (inUsize (bStart + selfStart) ∧ inUsize (bEnd + selfStart))) False
      (fun v => ∀ a b, v = some (a, b) →
        a = bStart + selfStart ∧ b = bEnd + selfStart ∧ a ≤ b ∧ b ≤ dataLen)
      (withBounds dataLen selfStart bStart bEnd ok) := by
  unfold withBounds
  rw [sat_bind, sat_ckUsize]
  split
  · rw [sat_bind, sat_ckUsize]
    split
    · refine Res.sat.ok fun a b h => ?_
      split at h
      · rename_i hc; cases h; exact ⟨rfl, rfl, hc.1, hc.2.1⟩
      · cases h
    · exact fun h => absurd h.2 ‹_›
  · exact fun h => absurd h.1 ‹_›

/-- behind its guard `TupleSlice::with_bounds` returns: the sums are bounded by the slice's own end -/
theorem tupleWithBounds_spec (dataLen selfStart selfEnd bStart bEnd : Int)
    (hs : inUsize selfStart) (he : inUsize selfEnd) (ha : inUsize bStart) (hb : inUsize bEnd) :
    Res.sat False False
      (fun v => ∀ a b, v = some (a, b) → a = bStart + selfStart ∧ b = bEnd + selfStart ∧ a ≤ b ∧
        b ≤ dataLen ∧ bEnd ≤ max 0 (selfEnd - selfStart))
      (tupleWithBounds dataLen selfStart selfEnd bStart bEnd) := by
  unfold tupleWithBounds
  split
  · exact Res.sat.ok fun a b h => nomatch h
  · rename_i hg
    refine ((withBounds_spec dataLen selfStart bStart bEnd true).imp (fun h => h (by arith)) id).mono
      fun v hv a b h => ?_
    obtain ⟨h1, h2, h3, h4⟩ := hv a b h
    exact ⟨h1, h2, h3, h4, by omega⟩

theorem stringWithBounds_spec (dataLen selfStart selfEnd bStart bEnd : Int) (ok : Bool) :
    Res.sat (¬ (inUsize (selfEnd - selfStart) ∧ inUsize (bStart + selfStart) ∧ inUsize (bEnd + selfStart)))
      False
      (fun v => ∀ a b, v = some (a, b) → a = bStart + selfStart ∧ b = bEnd + selfStart ∧ a ≤ b ∧
        b ≤ dataLen ∧ bEnd ≤ selfEnd - selfStart)
      (stringWithBounds dataLen selfStart selfEnd bStart bEnd ok) := by
  unfold stringWithBounds
  rw [sat_bind, sat_ckUsize]
  split
  · split
    · exact Res.sat.ok fun a b h => nomatch h
    · rename_i hlen hg
      refine ((withBounds_spec dataLen selfStart bStart bEnd ok).imp (fun h h' => h h'.2) id).mono
        fun v hv a b h => ?_
      obtain ⟨h1, h2, h3, h4⟩ := hv a b h
      exact ⟨h1, h2, h3, h4, Int.not_lt.mp hg⟩
  · exact fun h => absurd h.1 ‹_›

theorem lexerPeek_spec (q n : Int) :
    Res.sat (¬ inUsize (n + 1)) False (fun k => inUsize (n + 1) ∧ k = max 0 (n + 1 - q))
      (lexerPeek q n) := by
  unfold lexerPeek
  rw [sat_bind, sat_ckUsize]
  split
  · exact Res.sat.ok ⟨‹_›, rfl⟩
  · assumption

/-! ## padding to a minimum width (run_string_push) -/

/-- the fill counts, with `len` the length that is subtracted from `min_width` -/
theorem padFill_spec (byteLen : Bool) (g b w : Int) (a : Align) (len : Int)
    (hlen : (if byteLen then b else g) = len) :
    Res.sat (g < w ∧ ¬ inUsize (w - len)) False
      (fun lr => (g < w → inUsize (w - len)) ∧ 0 ≤ lr.1 ∧ 0 ≤ lr.2 ∧
        lr.1 + lr.2 = if g < w then w - len else 0)
      (padFill byteLen g b w a) := by
  unfold padFill
  rw [hlen]
  by_cases hlt : g < w
  · simp only [hlt, if_true, sat_bind, sat_ckUsize, true_and, true_imp_iff]
    split
    · rename_i hf
      have h0 : 0 ≤ w - len := hf.1
      cases a with
      | default n =>
        cases n
        · exact Res.sat.ok ⟨hf, Int.le_refl _, h0, Int.zero_add _⟩
        · exact Res.sat.ok ⟨hf, h0, Int.le_refl _, Int.add_zero _⟩
      | left => exact Res.sat.ok ⟨hf, Int.le_refl _, h0, Int.zero_add _⟩
      | right => exact Res.sat.ok ⟨hf, h0, Int.le_refl _, Int.add_zero _⟩
      | center =>
        -- the two halves of `fill`
        have H : inUsize (w - len - (w - len) / 2) ∧ 0 ≤ (w - len) / 2 ∧
            (w - len) / 2 + (w - len - (w - len) / 2) = w - len := by arith
        simp only [sat_bind, sat_ckUsize, if_pos H.1, sat_ok]
        exact ⟨hf, H.2.1, H.1.1, H.2.2⟩
    · assumption
  · simp [hlt]

/-! ## shifts, abs -/

/-- the shape the shift kernels share, for any shifted value `v`; fix-6 adds `< 64` to the guard -/
theorem shiftShape_spec (fx : Fx) (b : NumView) (v : Int) :
    Res.sat (b.geZeroI = true ∧ 64 ≤ b.i64 ∧ fx.shift = false)
      (¬ (b.geZeroI = true ∧ (fx.shift = true → b.i64 < 64)))
      (fun x => x = v ∧ b.geZeroI = true ∧ b.i64 < 64)
      (if b.geZeroI ∧ (fx.shift = true → b.i64 < 64) then (if b.i64 < 64 then Res.ok v else .panic)
        else .err) := by
  split
  · rename_i hg
    split
    · exact Res.sat.ok ⟨rfl, hg.1, ‹_›⟩
    · rename_i h64
      exact ⟨hg.1, Int.not_lt.mp h64, Bool.eq_false_iff.2 fun hf => h64 (hg.2 hf)⟩
  · exact Res.sat.err ‹_›

theorem shiftLeft_eq_G (a : Int) (b : NumView) : shiftLeft a b = shiftLeftG Fx.none a b := by
  unfold shiftLeftG shiftLeft; simp [Fx.none]
theorem shiftRight_eq_G (a : Int) (b : NumView) : shiftRight a b = shiftRightG Fx.none a b := by
  unfold shiftRightG shiftRight; simp [Fx.none]

/-- the code as it is: only the guard `b >= 0` -/
theorem shiftLeft_spec (a : Int) (b : NumView) :
    Res.sat (b.geZeroI = true ∧ 64 ≤ b.i64) (¬ b.geZeroI = true)
      (fun x => x = wrap64 (a * 2 ^ b.i64.toNat) ∧ b.geZeroI = true ∧ b.i64 < 64) (shiftLeft a b) :=
  shiftLeft_eq_G a b ▸ (shiftShape_spec Fx.none b _).imp (fun h => ⟨h.1, h.2.1⟩)
    fun h hg => h ⟨hg, fun hf => nomatch hf⟩

theorem shiftRight_spec (a : Int) (b : NumView) :
    Res.sat (b.geZeroI = true ∧ 64 ≤ b.i64) (¬ b.geZeroI = true)
      (fun x => x = a / 2 ^ b.i64.toNat ∧ b.geZeroI = true ∧ b.i64 < 64) (shiftRight a b) :=
  shiftRight_eq_G a b ▸ (shiftShape_spec Fx.none b _).imp (fun h => ⟨h.1, h.2.1⟩)
    fun h hg => h ⟨hg, fun hf => nomatch hf⟩

/-- `KNumber::abs`: the only panic is an absolute value outside `i64` (that of `i64::MIN`) -/
theorem absInt_spec (a : Int) :
    Res.sat (¬ inI64 (iabs a)) False (fun v => v = iabs a ∧ inI64 v) (absInt a) := by
  unfold absInt
  rw [show (if a < 0 then -a else a) = iabs a from rfl, sat_ckI64]
  split
  · exact ⟨rfl, ‹_›⟩
  · assumption

/-! ## `IndexMap::swap_indices` -/

theorem swapIndices_spec (ks : List Nat) (i j : Nat) :
    Res.sat (¬ (i < ks.length ∧ j < ks.length)) False
      (fun ks' => (i < ks.length ∧ j < ks.length) ∧ ks'.length = ks.length) (swapIndices ks i j) := by
  unfold swapIndices
  split
  · rename_i hi hj
    exact Res.sat.ok ⟨⟨(List.getElem?_eq_some_iff.1 hi).1, (List.getElem?_eq_some_iff.1 hj).1⟩,
      by rw [List.length_set, List.length_set]⟩
  · rename_i hno
    exact fun h => hno _ _ (List.getElem?_eq_getElem h.1) (List.getElem?_eq_getElem h.2)

theorem swapIndices_total (ks : List Nat) (i j : Nat) (hi : i < ks.length) (hj : j < ks.length) :
    swapIndices ks i j ≠ .panic :=
  ((swapIndices_spec ks i j).imp (fun h => h ⟨hi, hj⟩) id).ne_panic

/-! ## host-started operations, `unpack_packed_arguments` -/

theorem nextRegister_spec (next : Int) :
    Res.sat False (next + 8 > 255) (fun r => ¬ next + 8 > 255 ∧ r = next) (nextRegister next) := by
  unfold nextRegister
  split
  · exact Res.sat.err ‹_›
  · exact Res.sat.ok ⟨‹_›, rfl⟩

/-- behind the headroom of `next_register` the operand registers fit the `u8` id -/
theorem hostOp_spec (next extra : Int) (hn : 0 ≤ next) (he : 0 ≤ extra ∧ extra ≤ 7) :
    Res.sat False (next + 8 > 255) (fun r => ¬ next + 8 > 255 ∧ r = next) (hostOp true next extra) := by
  unfold hostOp
  rw [if_pos rfl]
  refine (nextRegister_spec next).bind fun r hr => ?_
  obtain ⟨h, rfl⟩ := hr
  rw [ckU8_ok (by arith), bind_ok]
  exact Res.sat.ok ⟨h, rfl⟩

theorem unpackOne_spec (argCount len : Int) (hc : 1 ≤ argCount ∧ argCount ≤ 254) (hl : 0 ≤ len) :
    Res.sat False True (fun c => 0 ≤ c ∧ c ≤ 253 ∧ c = argCount - 1 + len)
      (unpackOne none argCount len) := by
  unfold unpackOne castU8
  -- what is left: the four `u8` checks, the last two behind the guard `len ≤ 255 - arg_count - 1`
  simp only [sat_bind, sat_ckU8, sat_ite, sat_err, if_false_right, implies_true, true_and]
  arith

end KotoVerif.C06
