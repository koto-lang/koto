/-
C14 — lemmas about `Model/Equal.lean`: float-law hypotheses, number and string trichotomy, rule
induction on key equality (`keyEq_rel`), the case analysis of the ordering operators
(`ordering_cases`), `!=` is the negation of `==`, symmetry of `==` on data without maps.
-/
import KotoVerif.Model.Equal

namespace KotoVerif
namespace Equal

/-- what the theorems assume about IEEE-754 comparison (checked for the driver's `Float` on the
value pool in every run; never about arithmetic) -/
structure FloatLaws (F : FloatOps) : Prop where
  eq_symm : ∀ a b, F.eq a b = F.eq b a
  eq_refl : ∀ a, F.isNaN a = false → F.eq a a = true
  ofInt_notNaN : ∀ n, F.isNaN (F.ofInt n) = false
  tri : ∀ a b, F.isNaN a = false → F.isNaN b = false →
    (F.lt a b = true ∧ F.eq a b = false ∧ F.lt b a = false) ∨
    (F.lt a b = false ∧ F.eq a b = true ∧ F.lt b a = false) ∨
    (F.lt a b = false ∧ F.eq a b = false ∧ F.lt b a = true)

/-- a toy instance (floats ordered as unsigned bit patterns, ints mapped order-preservingly) showing
that `FloatLaws` is satisfiable; used only for non-vacuity examples -/
def F0 : FloatOps where
  add a b := a + b
  sub a b := a - b
  mul a b := a * b
  div a b := a / b
  rem a b := a % b
  pow a _ := a
  neg a := a
  lt a b := decide (a < b)
  le a b := decide (a ≤ b)
  eq a b := a == b
  ofInt n := n.toUInt64 + 0x8000000000000000
  toInt b := (b - 0x8000000000000000).toInt64
  isNaN _ := false

theorem F0_laws : FloatLaws F0 where
  eq_symm a b := Bool.beq_comm
  eq_refl a _ := beq_self_eq_true a
  ofInt_notNaN _ := rfl
  tri a b _ _ := by
    simp only [F0, decide_eq_true_eq, decide_eq_false_iff_not, beq_iff_eq, beq_eq_false_iff_ne, ne_eq,
      UInt64.lt_iff_toNat_lt, ← UInt64.toNat_inj]
    omega

theorem toF_notNaN {F : FloatOps} (h0 : ∀ n, F.isNaN (F.ofInt n) = false) (a : Num)
    (h : numIsNaN F a = false) : F.isNaN (a.toF F) = false := by
  cases a with
  | i n => exact h0 n
  | f b => exact h

theorem int64_tri (a b : Int64) :
    (decide (a < b) = true ∧ (a == b) = false ∧ decide (b < a) = false) ∨
    (decide (a < b) = false ∧ (a == b) = true ∧ decide (b < a) = false) ∨
    (decide (a < b) = false ∧ (a == b) = false ∧ decide (b < a) = true) := by
  simp only [decide_eq_true_eq, decide_eq_false_iff_not, beq_iff_eq, beq_eq_false_iff_ne, ne_eq,
    Int64.lt_iff_toInt_lt, ← Int64.toInt_inj]
  omega

theorem num_eq_symm {F : FloatOps} (hF : FloatLaws F) (a b : Num) : Num.eq F a b = Num.eq F b a := by
  cases a <;> cases b <;> first | exact Bool.beq_comm | exact hF.eq_symm _ _

theorem num_tri_raw {F : FloatOps} (hF : FloatLaws F) (a b : Num)
    (ha : numIsNaN F a = false) (hb : numIsNaN F b = false) :
    (Num.lt F a b = true ∧ Num.eq F a b = false ∧ Num.lt F b a = false) ∨
    (Num.lt F a b = false ∧ Num.eq F a b = true ∧ Num.lt F b a = false) ∨
    (Num.lt F a b = false ∧ Num.eq F a b = false ∧ Num.lt F b a = true) := by
  have ha' := toF_notNaN hF.ofInt_notNaN a ha
  have hb' := toF_notNaN hF.ofInt_notNaN b hb
  cases a <;> cases b
  · exact int64_tri _ _
  all_goals exact hF.tri _ _ ha' hb'

/-- off NaN the VM's `<` (through `Ord for KNumber`) is the promoted comparison -/
theorem numLt_eq_lt (F : FloatOps) (a b : Num) (ha : numIsNaN F a = false) (hb : numIsNaN F b = false) :
    numLt F a b = Num.lt F a b := by
  unfold numLt numCmp
  cases h1 : Num.lt F a b
  · cases h2 : Num.lt F b a <;> cases h3 : Num.eq F a b <;> simp [ha, hb]
  · simp

/-- trichotomy off NaN for `<` as the VM applies it (`lt_total_num`) -/
theorem num_trichotomy {F : FloatOps} (hF : FloatLaws F) (a b : Num)
    (ha : numIsNaN F a = false) (hb : numIsNaN F b = false) :
    (numLt F a b = true ∧ Num.eq F a b = false ∧ numLt F b a = false) ∨
    (numLt F a b = false ∧ Num.eq F a b = true ∧ numLt F b a = false) ∨
    (numLt F a b = false ∧ Num.eq F a b = false ∧ numLt F b a = true) := by
  rw [numLt_eq_lt F a b ha hb, numLt_eq_lt F b a hb ha]
  exact num_tri_raw hF a b ha hb

theorem num_eq_refl {F : FloatOps} (hF : FloatLaws F) (a : Num) (h : numIsNaN F a = false) :
    Num.eq F a a = true := by
  cases a with
  | i n => simp [Num.eq]
  | f b => simpa [Num.eq, Num.toF] using hF.eq_refl b h

theorem bytesLt_iff (a b : List Nat) : bytesLt a b = true ↔ a < b := by
  induction a generalizing b with
  | nil => cases b <;> simp [bytesLt]
  | cons x xs ih =>
    cases b with
    | nil => simp [bytesLt]
    | cons y ys =>
      rw [bytesLt, List.cons_lt_cons_iff, ← ih]
      by_cases h1 : x < y
      · simp [h1]
      · by_cases h2 : y < x
        · simp [h1, h2]; omega
        · have : x = y := by omega
          simp [this]

theorem bytesLt_eq_false (a b : List Nat) : bytesLt a b = false ↔ b ≤ a := by
  rw [← List.not_lt, ← bytesLt_iff, Bool.not_eq_true]

theorem bytes_trichotomy (a b : List Nat) :
    (bytesLt a b = true ∧ a ≠ b ∧ bytesLt b a = false) ∨
    (bytesLt a b = false ∧ a = b ∧ bytesLt b a = false) ∨
    (bytesLt a b = false ∧ a ≠ b ∧ bytesLt b a = true) := by
  simp only [bytesLt_eq_false, bytesLt_iff]
  by_cases h1 : a < b
  · exact Or.inl ⟨h1, fun e => List.lt_irrefl b (e ▸ h1), List.not_lt.mp (List.lt_asymm h1)⟩
  · by_cases h2 : b < a
    · exact Or.inr (Or.inr ⟨List.not_lt.mp h1, fun e => List.lt_irrefl b (e ▸ h2), h2⟩)
    · exact Or.inr (Or.inl ⟨List.not_lt.mp h1, List.le_antisymm (List.not_lt.mp h2) (List.not_lt.mp h1),
        List.not_lt.mp h2⟩)

theorem bytesLt_asymm (a b : List Nat) (h : bytesLt a b = true) : bytesLt b a = false :=
  (bytesLt_eq_false b a).mpr (List.not_lt.mp (List.lt_asymm ((bytesLt_iff a b).mp h)))

theorem bytesLt_trans (a b c : List Nat) (h1 : bytesLt a b = true) (h2 : bytesLt b c = true) :
    bytesLt a c = true :=
  (bytesLt_iff a c).mpr (List.lt_trans ((bytesLt_iff a b).mp h1) ((bytesLt_iff b c).mp h2))

theorem bytesLe_trans (a b c : List Nat) (h1 : bytesLt b a = false) (h2 : bytesLt c b = false) :
    bytesLt c a = false :=
  (bytesLt_eq_false c a).mpr (List.le_trans ((bytesLt_eq_false b a).mp h1) ((bytesLt_eq_false c b).mp h2))

/-- `R` (with `RL` on element lists) is closed under the rules by which `ValueKey::eq` holds -/
structure KeyEqRules (F : FloatOps) (R : Val → Val → Prop) (RL : List Val → List Val → Prop) : Prop where
  null : R .null .null
  bool : ∀ x, R (.bool x) (.bool x)
  num : ∀ x y, Num.eq F x y = true → R (.num x) (.num y)
  str : ∀ s, R (.str s) (.str s)
  range : ∀ a b, R (.range a b) (.range a b)
  tuple : ∀ xs ys, RL xs ys → R (.tuple xs) (.tuple ys)
  nil : RL [] []
  cons : ∀ x y xs ys, R x y → RL xs ys → RL (x :: xs) (y :: ys)

mutual
/-- rule induction on key equality: equal keys are related by every relation closed under the rules.
(`keyEq` reduces on constructors, so a pair of different kinds is refuted by `cases e`.) -/
theorem keyEq_rel {F : FloatOps} {R : Val → Val → Prop} {RL : List Val → List Val → Prop}
    (h : KeyEqRules F R RL) : ∀ (a b : Val), keyEq F a b = true → R a b
  | .null, b, e => by cases b <;> first | exact h.null | cases e
  | .bool x, b, e => by
    cases b <;> first | cases e | skip
    cases eq_of_beq e
    exact h.bool x
  | .num x, b, e => by cases b <;> first | cases e | exact h.num x _ e
  | .str s, b, e => by
    cases b <;> first | cases e | skip
    cases eq_of_beq e
    exact h.str s
  | .range a b, c, e => by
    cases c <;> first | cases e | skip
    have e' := Bool.and_eq_true_iff.mp e
    cases eq_of_beq e'.1
    cases eq_of_beq e'.2
    exact h.range a b
  | .tuple xs, b, e => by cases b <;> first | cases e | exact h.tuple xs _ (keyEqList_rel h xs _ e)
  | .list _, b, e => by cases b <;> cases e
  | .map _, b, e => by cases b <;> cases e
theorem keyEqList_rel {F : FloatOps} {R : Val → Val → Prop} {RL : List Val → List Val → Prop}
    (h : KeyEqRules F R RL) : ∀ (xs ys : List Val), keyEqList F xs ys = true → RL xs ys
  | [], [], _ => h.nil
  | [], _ :: _, e => nomatch e
  | _ :: _, [], e => nomatch e
  | x :: xs, y :: ys, e =>
    have e' := Bool.and_eq_true_iff.mp e
    h.cons x y xs ys (keyEq_rel h x y e'.1) (keyEqList_rel h xs ys e'.2)
end

/-- the ordering operators are defined on two numbers and on two strings, and nowhere else -/
theorem ordering_cases (F : FloatOps) {motive : Val → Val → Prop}
    (num : ∀ x y, motive (.num x) (.num y)) (str : ∀ s t, motive (.str s) (.str t))
    (other : ∀ a b, vlt F a b = none → vgt F a b = none → vle F a b = none → vge F a b = none →
      motive a b) : ∀ a b, motive a b := by
  intro a b
  cases a <;> cases b <;> first | exact other _ _ rfl rfl rfl rfl | exact num _ _ | exact str _ _

theorem compareValues_num (F : FloatOps) (a b : Num) :
    compareValues F (.num a) (.num b) = some (numCmp F a b) := by
  simp only [compareValues, vlt, vgt, numLt, numGt]
  generalize numCmp F a b = o
  cases o <;> rfl

theorem compareValues_str (F : FloatOps) (a b : List Nat) :
    compareValues F (.str a) (.str b) = some (bytesCmp a b) := by
  simp only [compareValues, vlt, vgt, bytesCmp]
  cases bytesLt a b <;> cases bytesLt b a <;> rfl

theorem compareValues_none (F : FloatOps) (a b : Val) (h : vlt F a b = none) : compareValues F a b = none := by
  unfold compareValues
  rw [h]

theorem vne_eq_not_veq (F : FloatOps) (mech : Bool) (a b : Val) : vne F mech a b = !veq F mech a b := by
  cases a <;> cases b <;> rfl

mutual
def noNaN (F : FloatOps) : Val → Bool
  | .num n => !numIsNaN F n
  | .tuple xs => noNaNList F xs
  | .list xs => noNaNList F xs
  | .map es => noNaNEntries F es
  | _ => true
def noNaNList (F : FloatOps) : List Val → Bool
  | [] => true
  | x :: xs => noNaN F x && noNaNList F xs
def noNaNEntries (F : FloatOps) : List (Val × Val) → Bool
  | [] => true
  | (k, v) :: es => noNaN F k && noNaN F v && noNaNEntries F es
end

mutual
def mapFree : Val → Bool
  | .tuple xs => mapFreeList xs
  | .list xs => mapFreeList xs
  | .map _ => false
  | _ => true
def mapFreeList : List Val → Bool
  | [] => true
  | x :: xs => mapFree x && mapFreeList xs
end

mutual
theorem veq_symm_mapFree {F : FloatOps} (hF : FloatLaws F) (mech : Bool) :
    ∀ (a b : Val), mapFree a = true → veq F mech a b = veq F mech b a
  | .null, b, _ => by cases b <;> rfl
  | .bool _, b, _ => by cases b <;> first | rfl | exact Bool.beq_comm
  | .num x, b, _ => by cases b <;> first | rfl | exact num_eq_symm hF x _
  | .str _, b, _ => by cases b <;> first | rfl | exact Bool.beq_comm
  | .range x y, b, _ => by
    cases b <;> first | rfl | skip
    rename_i c d
    show (x == c && y == d) = (c == x && d == y)
    rw [Bool.beq_comm (a := x), Bool.beq_comm (a := y)]
  | .tuple xs, b, h => by cases b <;> first | rfl | exact veqList_symm_mapFree hF mech xs _ h
  | .list xs, b, h => by cases b <;> first | rfl | exact veqList_symm_mapFree hF mech xs _ h
  | .map _, _, h => nomatch h
theorem veqList_symm_mapFree {F : FloatOps} (hF : FloatLaws F) (mech : Bool) :
    ∀ (xs ys : List Val), mapFreeList xs = true → veqList F mech xs ys = veqList F mech ys xs
  | [], ys, _ => by cases ys <;> rfl
  | _ :: _, [], _ => rfl
  | x :: xs, y :: ys, h => by
    have h' := Bool.and_eq_true_iff.mp h
    show (veq F mech x y && veqList F mech xs ys) = (veq F mech y x && veqList F mech ys xs)
    rw [veq_symm_mapFree hF mech x y h'.1, veqList_symm_mapFree hF mech xs ys h'.2]
end

end Equal
end KotoVerif
