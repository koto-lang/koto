/-
C09: the contract of one call of `get_next_token` (`DecOk`: a non-error token passes over a prefix
of the remaining input with exact bytes and `TokPos` position, keeps the mode stack consistent with
what follows, and sets the indent only for leading whitespace), proved by one traversal of
`decideDefault` and one of `decideTok`.
-/
import KotoVerif.Lemmas.C09Scan

namespace KotoVerif.Lexer
open KotoVerif.Gen

/-! ### the mode stack -/

def isRawEnd : Mode → Bool
  | .rawEnd _ _ => true
  | _ => false

def NoRawEnd (modes : List Mode) : Prop := ∀ m ∈ modes, isRawEnd m = false

/-- `RawEnd` only ever sits on top of the mode stack, and then the end delimiter (a quote and the
hashes, all printable) follows in the input: this is what makes `consume_raw_string_end`'s blind
`advance_line(1 + hash_count)` correct. -/
def ModesOk (modes : List Mode) (rest : List Ch) : Prop :=
  NoRawEnd modes.tail ∧ ∀ q h, modes.head? = some (.rawEnd q h) → 1 + h ≤ countWhile printable rest

theorem ModesOk.of_noRawEnd {modes : List Mode} (h : NoRawEnd modes) (rest : List Ch) :
    ModesOk modes rest :=
  ⟨fun m hm => h m (List.mem_of_mem_tail hm), fun q n hh => by
    have := h _ (List.mem_of_mem_head? hh); cases this⟩

theorem NoRawEnd.pop {modes : List Mode} (h : NoRawEnd modes.tail) : NoRawEnd (popMode modes) := by
  rw [popMode, List.drop_one]; exact h

theorem NoRawEnd.cons {m : Mode} {modes : List Mode} (hm : isRawEnd m = false) (h : NoRawEnd modes) :
    NoRawEnd (m :: modes) := by
  intro x hx
  rcases List.mem_cons.mp hx with rfl | hx
  · exact hm
  · exact h x hx

theorem ModesOk.noRawEnd {modes : List Mode} {rest : List Ch} (h : ModesOk modes rest)
    (hh : ∀ m, modes.head? = some m → isRawEnd m = false) : NoRawEnd modes := by
  cases modes with
  | nil => intro m hm; cases hm
  | cons m ms => exact .cons (hh m rfl) h.1

/-- the string modes in which `get_next_token` uses the default dispatch -/
def defaultMode (modes : List Mode) : Bool :=
  match modes.head? with
  | none => true
  | some .templateExpr => true
  | some .templateInlineMap => true
  | _ => false

/-! ### the contract of one decision -/

/-- What `get_next_token` decides at position `p`, after the token `prevTok`, with mode stack
`modes`, looking at `c :: rest`. -/
structure DecOk (p : Pos) (prevTok : Option Token) (modes : List Mode) (c : Ch) (rest : List Ch)
    (d : Decision) : Prop where
  /-- the last conjunct: a `NewLine` token comes from the default dispatch, leaves the stack alone,
  and `t` ends with its line feed, at column 0 -/
  adv : d.tok ≠ .error → ∃ t rest' q, c :: rest = t ++ rest' ∧ d.move = .adv (byteLen t) q ∧
    TokPos d.tok p t q ∧ ModesOk d.modes rest' ∧
    (d.tok = .newLine → q.col = 0 ∧ (∃ a e, t = a ++ [e] ∧ e.cp = cpNL) ∧
      defaultMode modes = true ∧ d.modes = modes)
  /-- the indent is set exactly by whitespace met first on a line, in the default dispatch -/
  indent : d.setIndent =
    if (defaultMode modes && isWhitespace c.cp && (prevTok == some .newLine || prevTok == none)) = true
    then some (countWhile isWhitespace (c :: rest)) else none

section
variable {p : Pos} {prevTok : Option Token} {modes : List Mode} {c : Ch} {rest : List Ch} {d : Decision}

theorem DecOk.of_tokPos
    (hadv : d.tok ≠ .error → ∃ t rest' q, c :: rest = t ++ rest' ∧ d.move = .adv (byteLen t) q ∧
      TokPos d.tok p t q)
    (hnl : d.tok ≠ .newLine) (hm : NoRawEnd d.modes) (hi : d.setIndent = none)
    (hws : (defaultMode modes && isWhitespace c.cp) = false) : DecOk p prevTok modes c rest d where
  adv hne := by
    obtain ⟨t, rest', q, h1, h2, h3⟩ := hadv hne
    exact ⟨t, rest', q, h1, h2, h3, .of_noRawEnd hm _, fun h => absurd h hnl⟩
  indent := by rw [hi, hws]; rfl

theorem DecOk.scanned (h : Scanned (c :: rest) p (d.tok, d.move))
    (hm : NoRawEnd d.modes) (hi : d.setIndent = none)
    (hws : (defaultMode modes && isWhitespace c.cp) = false) : DecOk p prevTok modes c rest d := by
  rcases h with he | ⟨ho, t, rest', q, h1, h2, h3⟩
  · have he : d.tok = .error := he
    exact .of_tokPos (fun hne => absurd he hne) (by rw [he]; simp) hm hi hws
  · exact .of_tokPos (fun _ => ⟨t, rest', q, h1, h2, h3.tokPos (tokClean_of_ordinary ho t)⟩)
      (ne_newLine_of_ordinary ho) hm hi hws

theorem DecOk.ordinary (ho : d.tok.ordinary = true) (h : Advances (c :: rest) p d.move)
    (hm : NoRawEnd d.modes) (hi : d.setIndent = none)
    (hws : (defaultMode modes && isWhitespace c.cp) = false) : DecOk p prevTok modes c rest d :=
  .scanned (Or.inr ⟨ho, h⟩) hm hi hws

end

theorem decideDefault_ok (p : Pos) (prevTok : Option Token) (modes : List Mode) (c : Ch) (rest : List Ch)
    (ht : TableOk (c :: rest)) (hm : NoRawEnd modes) (hdm : defaultMode modes = true) :
    DecOk p prevTok modes c rest (decideDefault p prevTok modes c rest) := by
  simp only [decideDefault]
  refine ite_ind (fun h1 => ?_) (fun h1 => ?_)
  · obtain ⟨t, rest', e1, e2, e3⟩ := whitespace_spec p (c :: rest)
    exact ⟨fun _ => ⟨t, rest', _, e1, by rw [e2]; rfl, e3, .of_noRawEnd hm _, nofun⟩, by simp [hdm, h1]⟩
  have hws : (defaultMode modes && isWhitespace c.cp) = false := by simp [h1]
  refine ite_ind (fun _ => ?_) (fun _ => ?_)
  · rcases consumeNewline_spec p (c :: rest) with e | ⟨a, e, rest', e1, e2, e3, e4⟩
    · rw [e]
      exact .scanned (Or.inl rfl) hm rfl hws
    · rw [e4]
      exact ⟨fun _ => ⟨a ++ [e], rest', _, by simp [e1], rfl, (PosOk.ends_nl p e2 e3).tokPos rfl,
        .of_noRawEnd hm _, fun _ => ⟨rfl, ⟨a, e, rfl, e3⟩, hdm, rfl⟩⟩, by simp [h1]⟩
  refine ite_ind (fun h3 => ?_) (fun _ => ?_)
  · exact .scanned (consumeComment_spec p c rest h3) hm rfl hws
  refine ite_ind (fun h4 => ?_) (fun _ => ?_)
  · exact .ordinary rfl (advances_one p (by rw [h4]; decide)) (.cons rfl hm) rfl hws
  refine ite_ind (fun h5 => ?_) (fun _ => ?_)
  · exact .ordinary rfl (advances_one p (by rw [h5]; decide)) (.cons rfl hm) rfl hws
  refine ite_ind (fun _ => ?_) (fun _ => ?_)
  · exact .ordinary rfl (advances_run p (numberBytes_le _)) hm rfl hws
  refine ite_ind (fun h7 => ?_) (fun _ => ?_)
  · have := consumeIdOrKeyword_spec p prevTok c rest ht h7
    generalize consumeIdOrKeyword p prevTok (c :: rest) = r at this
    cases r with
    | tok t m => exact .of_tokPos (fun _ => this.2) this.1 hm rfl hws
    | raw q h m => exact .ordinary rfl this (.cons rfl hm) rfl hws
  refine ite_ind (fun h8 => ?_) (fun _ => ?_)
  · exact .scanned (consumeIgnored_spec p c rest ht h8) hm rfl hws
  cases heq : lookupSymbol (c :: rest) symbolTable with
  | none => exact .scanned (Or.inl rfl) hm rfl hws
  | some nsy =>
    refine .ordinary rfl (symbol_advances p heq) ?_ rfl hws
    refine ite_ind (fun _ => .cons rfl hm) (fun _ => ?_)
    refine ite_ind (fun _ => .cons rfl hm) (fun _ => ?_)
    exact ite_ind (fun _ => .pop (fun m hx => hm m (List.mem_of_mem_tail hx))) (fun _ => hm)

theorem decideTok_ok (p : Pos) (prevTok : Option Token) (modes : List Mode) (c : Ch) (rest : List Ch)
    (ht : TableOk (c :: rest)) (hmo : ModesOk modes (c :: rest)) :
    DecOk p prevTok modes c rest (decideTok p prevTok modes c rest) := by
  have hdef := decideDefault_ok p prevTok modes c rest ht
  have hws : defaultMode modes = false → (defaultMode modes && isWhitespace c.cp) = false :=
    fun h => by rw [h]; rfl
  simp only [decideTok]
  cases hmode : modes.head? with
  | none =>
    exact hdef (hmo.noRawEnd fun x hx => by rw [hmode] at hx; cases hx) (by simp [defaultMode, hmode])
  | some m =>
    have hh : isRawEnd m = false → NoRawEnd modes := fun hm =>
      hmo.noRawEnd (fun x hx => by rw [hmode] at hx; cases hx; exact hm)
    cases m with
    | literal q =>
      have hws := hws (by simp [defaultMode, hmode])
      simp only
      split
      · rename_i h1
        exact .ordinary rfl (advances_one p (isQuote_printable h1)) (.pop hmo.1) rfl hws
      split
      · rename_i h2
        exact .ordinary rfl (advances_one p (by rw [h2]; decide)) (.cons rfl (hh rfl)) rfl hws
      · exact .scanned (stringLiteralLoop_spec q (c :: rest) p) (hh rfl) rfl hws
    | templateExpr =>
      exact hdef (hh rfl) (by simp [defaultMode, hmode])
    | templateInlineMap =>
      exact hdef (hh rfl) (by simp [defaultMode, hmode])
    | templateFormat =>
      refine .scanned (consumeFormatOptions_spec p (c :: rest)) ?_ rfl
        (hws (by simp [defaultMode, hmode]))
      exact ite_ind (fun _ => .pop hmo.1) (fun _ => hh rfl)
    | rawStart q h =>
      have hws := hws (by simp [defaultMode, hmode])
      have hspec := rawContentsLoop_spec q h (c :: rest) p
      simp only
      split
      · exact .scanned (Or.inl rfl) (hh rfl) rfl hws
      · rename_i bytes pos heq
        rw [heq] at hspec
        obtain ⟨t, rest', h1, rfl, h3, h4⟩ := hspec
        exact ⟨fun _ => ⟨t, rest', pos, h1, rfl, h3.tokPos rfl,
          ⟨.pop hmo.1, fun q' h' e => by cases e; exact h4⟩, nofun⟩, by rw [hws]; rfl⟩
    | rawEnd q h =>
      exact .ordinary rfl (advances_run p (hmo.2 q h hmode)) (.pop hmo.1) rfl
        (hws (by simp [defaultMode, hmode]))

end KotoVerif.Lexer
