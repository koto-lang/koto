/-
C13: what a running iterator denotes.

`Fwd c s xs`: from state `s` the iterator `c` yields exactly `xs` and then `None` for ever, so reuse of
an exhausted iterator is covered. `Deq c s xs`: it answers every interleaving of `next` / `next_back`
like the ideal double-ended sequence `xs`. `Den b c s xs` is what an iterator with
`is_bidirectional() = b` promises: `Fwd`, and `Deq` when `b`. The lemmas about sources and adaptors
are instances of the coinduction principles.
-/
import KotoVerif.Model.Iter

namespace KotoVerif.Iter

def outs (c : Co) : Nat → c.σ → List (Option Val)
  | 0, _ => []
  | n + 1, s => (c.next s).out :: outs c n (c.next s).st

def ideal : Nat → List Val → List (Option Val)
  | 0, _ => []
  | n + 1, [] => none :: ideal n []
  | n + 1, x :: xs => some x :: ideal n xs

def Fwd (c : Co) (s : c.σ) (xs : List Val) : Prop := ∀ n, outs c n s = ideal n xs

theorem outs_succ (c : Co) (n : Nat) (s : c.σ) :
    outs c (n + 1) s = (c.next s).out :: outs c n (c.next s).st := rfl

theorem ideal_succ (n : Nat) (xs : List Val) : ideal (n + 1) xs = xs.head? :: ideal n xs.tail := by
  cases xs <;> rfl

theorem fwd_iff {c : Co} {s : c.σ} {xs : List Val} :
    Fwd c s xs ↔ (c.next s).out = xs.head? ∧ Fwd c (c.next s).st xs.tail := by
  constructor
  · intro h
    have hn (n : Nat) := List.cons.inj ((h (n + 1)).trans (ideal_succ n xs))
    exact ⟨(hn 0).1, fun n => (hn n).2⟩
  · intro ⟨h1, h2⟩ n
    cases n with
    | zero => rfl
    | succ n => rw [ideal_succ, ← h1, ← h2 n]; rfl

theorem fwd_head {c : Co} {s : c.σ} {xs : List Val} (h : Fwd c s xs) : (c.next s).out = xs.head? :=
  (fwd_iff.mp h).1

theorem fwd_tail {c : Co} {s : c.σ} {xs : List Val} (h : Fwd c s xs) : Fwd c (c.next s).st xs.tail :=
  (fwd_iff.mp h).2

theorem fwd_coind {c : Co} (R : c.σ → List Val → Prop)
    (step : ∀ s xs, R s xs → (c.next s).out = xs.head? ∧ R (c.next s).st xs.tail)
    {s : c.σ} {xs : List Val} (h : R s xs) : Fwd c s xs := by
  intro n
  induction n generalizing s xs with
  | zero => rfl
  | succ n ih =>
    have ⟨h1, h2⟩ := step s xs h
    rw [ideal_succ, ← h1, ← ih h2]; rfl

theorem fwd_unique {c : Co} {s : c.σ} {xs ys : List Val} (h1 : Fwd c s xs) (h2 : Fwd c s ys) : xs = ys := by
  induction xs generalizing s ys with
  | nil =>
    cases ys with
    | nil => rfl
    | cons y ys => cases (fwd_head h1).symm.trans (fwd_head h2)
  | cons x xs ih =>
    cases ys with
    | nil => cases (fwd_head h1).symm.trans (fwd_head h2)
    | cons y ys =>
      cases (fwd_head h1).symm.trans (fwd_head h2)
      exact congrArg _ (ih (fwd_tail h1) (fwd_tail h2))

/-! ### both ends -/

/-- outputs of a sequence of calls (`true` = `next`, `false` = `next_back`) -/
def outsD (c : Co) : List Bool → c.σ → List (Option Val)
  | [], _ => []
  | true :: ds, s => (c.next s).out :: outsD c ds (c.next s).st
  | false :: ds, s => (c.back s).out :: outsD c ds (c.back s).st

def idealD : List Bool → List Val → List (Option Val)
  | [], _ => []
  | true :: ds, xs => xs.head? :: idealD ds xs.tail
  | false :: ds, xs => xs.getLast? :: idealD ds xs.dropLast

def Deq (c : Co) (s : c.σ) (xs : List Val) : Prop := ∀ ds, outsD c ds s = idealD ds xs

theorem deq_iff {c : Co} {s : c.σ} {xs : List Val} :
    Deq c s xs ↔ ((c.next s).out = xs.head? ∧ Deq c (c.next s).st xs.tail) ∧
      ((c.back s).out = xs.getLast? ∧ Deq c (c.back s).st xs.dropLast) := by
  constructor
  · intro h
    have hn (ds : List Bool) := List.cons.inj (h (true :: ds))
    have hb (ds : List Bool) := List.cons.inj (h (false :: ds))
    exact ⟨⟨(hn []).1, fun ds => (hn ds).2⟩, (hb []).1, fun ds => (hb ds).2⟩
  · intro ⟨⟨a1, a2⟩, b1, b2⟩ ds
    match ds with
    | [] => rfl
    | true :: ds => exact congr (congrArg _ a1) (a2 ds)
    | false :: ds => exact congr (congrArg _ b1) (b2 ds)

theorem deq_coind {c : Co} (R : c.σ → List Val → Prop)
    (step : ∀ s xs, R s xs → ((c.next s).out = xs.head? ∧ R (c.next s).st xs.tail) ∧
      ((c.back s).out = xs.getLast? ∧ R (c.back s).st xs.dropLast))
    {s : c.σ} {xs : List Val} (h : R s xs) : Deq c s xs := by
  intro ds
  induction ds generalizing s xs with
  | nil => rfl
  | cons d ds ih =>
    have ⟨⟨a1, a2⟩, b1, b2⟩ := step s xs h
    cases d with
    | true => exact congr (congrArg _ a1) (ih a2)
    | false => exact congr (congrArg _ b1) (ih b2)

theorem deq_fwd {c : Co} {s : c.σ} {xs : List Val} (h : Deq c s xs) : Fwd c s xs :=
  fwd_coind (Deq c) (fun _ _ h => (deq_iff.mp h).1) h

/-! ### the promise of an iterator that may or may not be bidirectional -/

def Den (b : Bool) (c : Co) (s : c.σ) (xs : List Val) : Prop := Fwd c s xs ∧ (b = true → Deq c s xs)

theorem Den.fwd {b : Bool} {c : Co} {s : c.σ} {xs : List Val} (h : Den b c s xs) : Fwd c s xs := h.1

theorem Den.deq {c : Co} {s : c.σ} {xs : List Val} (h : Den true c s xs) : Deq c s xs := h.2 rfl

theorem Fwd.toDen {c : Co} {s : c.σ} {xs : List Val} (h : Fwd c s xs) : Den false c s xs := ⟨h, nofun⟩

theorem Deq.toDen {b : Bool} {c : Co} {s : c.σ} {xs : List Val} (h : Deq c s xs) : Den b c s xs :=
  ⟨deq_fwd h, fun _ => h⟩

theorem Den.next {b : Bool} {c : Co} {s : c.σ} {xs : List Val} (h : Den b c s xs) :
    (c.next s).out = xs.head? ∧ Den b c (c.next s).st xs.tail :=
  ⟨fwd_head h.1, fwd_tail h.1, fun hb => (deq_iff.mp (h.2 hb)).1.2⟩

theorem Den.back {c : Co} {s : c.σ} {xs : List Val} (h : Den true c s xs) :
    (c.back s).out = xs.getLast? ∧ Den true c (c.back s).st xs.dropLast :=
  ⟨(deq_iff.mp h.deq).2.1, (deq_iff.mp h.deq).2.2.toDen⟩

theorem den_coind {b : Bool} {c : Co} (R : c.σ → List Val → Prop)
    (next : ∀ s xs, R s xs → (c.next s).out = xs.head? ∧ R (c.next s).st xs.tail)
    (back : b = true → ∀ s xs, R s xs → (c.back s).out = xs.getLast? ∧ R (c.back s).st xs.dropLast)
    {s : c.σ} {xs : List Val} (h : R s xs) : Den b c s xs :=
  ⟨fwd_coind R next h, fun hb => deq_coind R (fun s xs h => ⟨next s xs h, back hb s xs h⟩) h⟩

end KotoVerif.Iter
