/-
C12 — lemmas behind `Props/C12*.lean`. `pushAll` is `compress`; `lookup` finds the last entry with
`ip ≤ query`; the span-stack `compile` records the lexically scoped `annot`, whose ips increase
strictly (`Asc`); the unwinding loop in closed form (`unwindGo_eq`) and what it gives on the stack a
call chain builds (`predict_complete`, `predictSegs_complete`); the five branches of `excerpt`. The
fixtures of the non-vacuity examples are at the end.
-/
import KotoVerif.Model.SrcMap
import KotoVerif.Model.Excerpt
import KotoVerif.Model.Trace

namespace KotoVerif.C12L
open KotoVerif.SrcMap KotoVerif.Excerpt KotoVerif.Trace

theorem foldl_push (es m : List Entry) :
    es.foldl (fun m e => push m e.1 e.2) m
      = m ++ compressFrom (m.getLast?.map (·.2)) es := by
  induction es generalizing m with
  | nil => simp [compressFrom]
  | cons e rest ih =>
    obtain ⟨i, s⟩ := e
    rw [List.foldl_cons, ih]
    cases hm : m.getLast? with
    | none =>
      have hnil : m = [] := List.getLast?_eq_none_iff.mp hm
      subst hnil
      simp [push, compressFrom]
    | some l =>
      by_cases hl : l.2 = s
      · simp [push, hm, hl, compressFrom]
      · simp [push, hm, hl, compressFrom]

theorem pushAll_eq_compress (es : List Entry) : pushAll es = compress es := by
  unfold pushAll compress
  rw [foldl_push]
  rfl

theorem compressFrom_sublist (last : Option Span) (es : List Entry) :
    (compressFrom last es).Sublist es := by
  induction es generalizing last with
  | nil => exact List.Sublist.refl _
  | cons x rest ih =>
    obtain ⟨i, s⟩ := x
    simp only [compressFrom]
    split
    · exact (ih _).cons _
    · exact (ih _).cons_cons _

/-- the running result of the scan is only a default -/
theorem lookupGo_or (m : List Entry) (q : Nat) (r : Option Span) :
    lookupGo m q r = (lookup m q).or r := by
  induction m generalizing r with
  | nil => rfl
  | cons x rest ih =>
    obtain ⟨i, s⟩ := x
    unfold lookup
    simp only [lookupGo]
    split
    · rw [ih (some s)]
      cases lookup rest q <;> rfl
    · rfl

theorem lookup_cons_le {i q : Nat} (s : Span) (rest : List Entry) (h : i ≤ q) :
    lookup ((i, s) :: rest) q = (lookup rest q).or (some s) := by
  rw [lookup, lookupGo, if_pos h, lookupGo_or]

theorem lookup_cons_gt {i q : Nat} (s : Span) (rest : List Entry) (h : q < i) :
    lookup ((i, s) :: rest) q = none := by
  rw [lookup, lookupGo, if_neg (Nat.not_le.mpr h)]

theorem lookup_of_lt (xs : List Entry) (q : Nat) (h : ∀ e ∈ xs, q < e.1) : lookup xs q = none := by
  cases xs with
  | nil => rfl
  | cons e rest => exact lookup_cons_gt _ _ (h e List.mem_cons_self)

/-- Merging loses nothing: a dropped entry carries the span `last` stands for. -/
theorem lookup_compressFrom (es : List Entry) (q : Nat) (h : es.Pairwise (fun a b => a.1 ≤ b.1)) :
    ∀ last : Option Span, (lookup (compressFrom last es) q).or last = (lookup es q).or last := by
  induction es with
  | nil => intro _; rfl
  | cons x rest ih =>
    obtain ⟨i, s⟩ := x
    intro last
    have hs' := List.pairwise_cons.mp h
    unfold compressFrom
    split
    · rename_i hl
      rw [ih hs'.2 last]
      rcases Nat.lt_or_ge q i with hq | hq
      · rw [lookup_cons_gt _ _ hq, lookup_of_lt rest q fun e he => Nat.lt_of_lt_of_le hq (hs'.1 e he)]
      · rw [lookup_cons_le _ _ hq, hl]
        cases lookup rest q <;> rfl
    · rcases Nat.lt_or_ge q i with hq | hq
      · rw [lookup_cons_gt _ _ hq, lookup_cons_gt _ _ hq]
      · rw [lookup_cons_le _ _ hq, lookup_cons_le _ _ hq, ih hs'.2 (some s)]

theorem lookup_spec (m : List Entry) (h : m.Pairwise (fun a b => a.1 ≤ b.1)) (q : Nat) :
    lookup m q = ((m.filter (fun e => decide (e.1 ≤ q))).getLast?).map (·.2) := by
  induction m with
  | nil => rfl
  | cons x rest ih =>
    obtain ⟨i, s⟩ := x
    have hs' := List.pairwise_cons.mp h
    by_cases hq : i ≤ q
    · rw [lookup_cons_le s rest hq, ih hs'.2, List.filter_cons_of_pos (by simpa using hq),
        List.getLast?_cons]
      cases (List.filter (fun e : Entry => decide (e.1 ≤ q)) rest).getLast? <;> rfl
    · rw [lookup_cons_gt s rest (Nat.not_le.mp hq), List.filter_eq_nil_iff.mpr]
      · rfl
      · intro a ha
        have : i ≤ a.1 := by
          rcases List.mem_cons.mp ha with rfl | ha
          · exact Nat.le_refl _
          · exact hs'.1 a ha
        simp only [decide_eq_true_eq]
        omega

theorem lookup_hit (m : List Entry) (q : Nat) (sp : Span)
    (h : m.Pairwise (fun a b => a.1 < b.1)) (hm : (q, sp) ∈ m) : lookup m q = some sp := by
  induction m with
  | nil => simp at hm
  | cons x rest ih =>
    obtain ⟨i, s⟩ := x
    have hs' := List.pairwise_cons.mp h
    rcases List.mem_cons.mp hm with hx | hx
    · cases hx
      rw [lookup_cons_le _ _ (Nat.le_refl _), lookup_of_lt rest q hs'.1]
      rfl
    · rw [lookup_cons_le _ _ (Nat.le_of_lt (hs'.1 _ hx)), ih hs'.2 hx]
      rfl

theorem lookup_nospan (m : List Entry) (p q : Nat) (hpq : p ≤ q)
    (hnone : ∀ e ∈ m, ¬ (p < e.1 ∧ e.1 ≤ q)) : lookup m q = lookup m p := by
  induction m with
  | nil => rfl
  | cons x rest ih =>
    obtain ⟨i, s⟩ := x
    have hx := hnone (i, s) List.mem_cons_self
    simp only at hx
    by_cases hp : i ≤ p
    · rw [lookup_cons_le _ _ hp, lookup_cons_le _ _ (Nat.le_trans hp hpq),
        ih fun e he => hnone e (List.mem_cons_of_mem _ he)]
    · rw [lookup_cons_gt _ _ (Nat.not_le.mp hp), lookup_cons_gt _ _ (by omega)]

theorem compile_stack (t : Steps) (s : CState) : (compile t s).stack = s.stack := by
  induction t generalizing s with
  | done => rfl
  | op n rest ih =>
    simp only [compile]
    rw [ih]
    split <;> rfl
  | opNoSpan n rest ih =>
    simp only [compile]
    rw [ih]
  | node sp body rest ihb ihr =>
    simp only [compile]
    rw [ihr]
    simp [ihb]

theorem annot_op (n : Nat) (rest : Steps) (cur : Span) (ip : Nat) :
    annot (.op n rest) cur ip
      = ((ip, cur) :: (annot rest cur (ip + n)).1, (annot rest cur (ip + n)).2) := rfl

theorem annot_opNoSpan (n : Nat) (rest : Steps) (cur : Span) (ip : Nat) :
    annot (.opNoSpan n rest) cur ip = annot rest cur (ip + n) := rfl

theorem annot_node (sp : Span) (body rest : Steps) (cur : Span) (ip : Nat) :
    annot (.node sp body rest) cur ip
      = ((annot body sp ip).1 ++ (annot rest cur (annot body sp ip).2).1,
         (annot rest cur (annot body sp ip).2).2) := rfl

theorem compile_annot (t : Steps) :
    ∀ (cur : Span) (stk : List Span) (ip : Nat) (es : List Entry) (ins : List (Nat × Option Span)),
      (compile t { ip := ip, stack := cur :: stk, entries := es, instrs := ins }).entries
          = es ++ (annot t cur ip).1 ∧
      (compile t { ip := ip, stack := cur :: stk, entries := es, instrs := ins }).ip
          = (annot t cur ip).2 := by
  induction t with
  | done => intros; simp [compile, annot]
  | op n rest ih =>
    intro cur stk ip es ins
    have := ih cur stk (ip + n) (es ++ [(ip, cur)]) (ins ++ [(ip, some cur)])
    simp only [compile, CState.span, List.head?_cons, annot_op]
    rw [this.1, this.2]
    simp
  | opNoSpan n rest ih =>
    intro cur stk ip es ins
    have := ih cur stk (ip + n) es (ins ++ [(ip, none)])
    simp only [compile, annot_opNoSpan]
    exact this
  | node sp body rest ihb ihr =>
    intro cur stk ip es ins
    have hb := ihb sp (cur :: stk) ip es ins
    have hst := compile_stack body { ip := ip, stack := sp :: cur :: stk, entries := es, instrs := ins }
    simp only at hst
    simp only [compile, annot_node]
    rw [hst, List.tail_cons]
    have hr := ihr cur stk
      (compile body { ip := ip, stack := sp :: cur :: stk, entries := es, instrs := ins }).ip
      (compile body { ip := ip, stack := sp :: cur :: stk, entries := es, instrs := ins }).entries
      (compile body { ip := ip, stack := sp :: cur :: stk, entries := es, instrs := ins }).instrs
    rw [hr.1, hr.2, hb.1, hb.2]
    simp

/-- the entries of `l` have strictly increasing ips, all within `[lo, hi)` -/
def Asc (lo hi : Nat) (l : List Entry) : Prop :=
  lo ≤ hi ∧ l.Pairwise (fun a b => a.1 < b.1) ∧ ∀ e ∈ l, lo ≤ e.1 ∧ e.1 < hi

theorem Asc.nil {lo hi : Nat} (h : lo ≤ hi) : Asc lo hi [] :=
  ⟨h, List.Pairwise.nil, fun _ he => nomatch he⟩

theorem Asc.append {lo mid hi : Nat} {a b : List Entry} (ha : Asc lo mid a) (hb : Asc mid hi b) :
    Asc lo hi (a ++ b) := by
  obtain ⟨h1, pa, ba⟩ := ha
  obtain ⟨h2, pb, bb⟩ := hb
  refine ⟨Nat.le_trans h1 h2, List.pairwise_append.mpr ⟨pa, pb, fun x hx y hy => ?_⟩, fun e he => ?_⟩
  · exact Nat.lt_of_lt_of_le (ba x hx).2 (bb y hy).1
  · rcases List.mem_append.mp he with he | he
    · exact ⟨(ba e he).1, Nat.lt_of_lt_of_le (ba e he).2 h2⟩
    · exact ⟨Nat.le_trans h1 (bb e he).1, (bb e he).2⟩

theorem Asc.cons {ip n hi : Nat} {s : Span} {l : List Entry} (hn : 0 < n) (h : Asc (ip + n) hi l) :
    Asc ip hi ((ip, s) :: l) :=
  Asc.append (a := [(ip, s)])
    ⟨Nat.le_add_right _ _, List.pairwise_singleton _ _,
      fun e he => by cases List.mem_singleton.mp he; exact ⟨Nat.le_refl _, Nat.lt_add_of_pos_right hn⟩⟩ h

theorem Asc.skip {ip n hi : Nat} {l : List Entry} (h : Asc (ip + n) hi l) : Asc ip hi l :=
  Asc.append (Asc.nil (Nat.le_add_right ip n)) h

/-- `Asc` from the start ip to the next free ip is the invariant of `annot`: each kind of step is one
rule of `Asc`. -/
theorem annot_asc (t : Steps) (h : t.sizesPos = true) :
    ∀ (cur : Span) (ip : Nat), Asc ip (annot t cur ip).2 (annot t cur ip).1 := by
  induction t with
  | done => exact fun _ ip => Asc.nil (Nat.le_refl ip)
  | op n rest ih =>
    simp only [Steps.sizesPos, Bool.and_eq_true, decide_eq_true_eq] at h
    exact fun cur ip => Asc.cons h.1 (ih h.2 cur (ip + n))
  | opNoSpan n rest ih =>
    simp only [Steps.sizesPos, Bool.and_eq_true, decide_eq_true_eq] at h
    exact fun cur ip => Asc.skip (ih h.2 cur (ip + n))
  | node sp body rest ihb ihr =>
    simp only [Steps.sizesPos, Bool.and_eq_true] at h
    exact fun cur ip => Asc.append (ihb h.1 sp ip) (ihr h.2 cur _)

theorem annot_strict (t : Steps) (h : t.sizesPos = true) (cur : Span) (ip : Nat) :
    (annot t cur ip).1.Pairwise (fun a b => a.1 < b.1) :=
  (annot_asc t h cur ip).2.1

theorem lookup_pushAll (es : List Entry) (h : es.Pairwise (fun a b => a.1 ≤ b.1)) (q : Nat) :
    lookup (pushAll es) q = lookup es q := by
  rw [pushAll_eq_compress, compress, ← Option.or_none (o := lookup (compressFrom none es) q),
    lookup_compressFrom es q h none, Option.or_none]

theorem compile_entries_root (root : Span) (t : Steps) :
    (compile t { stack := [root] }).entries = (annot t root 0).1 := by
  simpa using (compile_annot t root [] 0 [] []).1

/-- Looking up in the finished debug info is looking up in the lexically scoped annotation: the
span stack and the merge of equal neighbours are both invisible. -/
theorem lookup_debugInfoOf (root : Span) (t : Steps) (h : t.sizesPos = true) (q : Nat) :
    lookup (debugInfoOf root t) q = lookup (annot t root 0).1 q := by
  unfold debugInfoOf
  rw [compile_entries_root, lookup_pushAll _ ((annot_strict t h root 0).imp Nat.le_of_lt)]

theorem instr_span (root : Span) (t : Steps) (h : t.sizesPos = true) :
    ∀ e ∈ (annot t root 0).1, lookup (debugInfoOf root t) e.1 = some e.2 := by
  intro e he
  rw [lookup_debugInfoOf root t h]
  exact lookup_hit _ e.1 e.2 (annot_strict t h root 0) he

/-! ### the unwinding loop in closed form -/

/-- the frames the loop of `pop_call_stack_on_error` visits when nothing is caught: from the top down
to and including the first barrier frame -/
def visited : List Frame → List Frame
  | [] => []
  | f :: rest => f :: (if f.barrier then [] else visited rest)

theorem visited_append (fs rest : List Frame) (h : ∀ f ∈ fs, f.barrier = false) :
    visited (fs ++ rest) = fs ++ visited rest := by
  induction fs with
  | nil => rfl
  | cons f fs ih =>
    rw [List.cons_append, visited, h f List.mem_cons_self,
      ih fun x hx => h x (List.mem_cons_of_mem _ hx)]
    rfl

theorem visited_barrier (b : Frame) (below : List Frame) (h : b.barrier = true) :
    visited (b :: below) = [b] := by
  rw [visited, h]
  rfl

theorem visited_singleton (b : Frame) : visited [b] = [b] := by
  cases h : b.barrier <;> simp [visited, h]

/-- `unwindGo` in closed form: the error is caught iff a visited frame has an (allowed) catch entry;
otherwise every visited frame but the first contributes its call site. -/
theorem unwindGo_eq (allow : Bool) (st : List Frame) (tr : List IFrame) :
    unwindGo allow st tr =
      if (visited st).any (fun f => f.hasCatch && allow) then .caught
      else .uncaught (tr ++ (visited st).tail.map (fun g => ⟨g.chunk, g.retIp⟩)) := by
  induction st generalizing tr with
  | nil => simp [unwindGo, visited]
  | cons f rest ih =>
    cases rest with
    | nil => cases h : f.hasCatch && allow <;> simp [unwindGo, visited_singleton, h]
    | cons g r =>
      -- all that matters of `visited (g :: r)` is that it starts with `g`
      obtain ⟨w, hw⟩ : ∃ w, visited (g :: r) = g :: w := ⟨_, rfl⟩
      have hv : visited (f :: g :: r) = f :: (if f.barrier then [] else visited (g :: r)) := rfl
      rw [unwindGo, ih, hv, hw, List.any_cons (a := f)]
      cases f.hasCatch && allow
      · cases f.barrier
        · simp
        · simp
      · rfl

theorem unwind_frames (allow : Bool) (fs : List Frame) (b : Frame) (below : List Frame)
    (tr : List IFrame)
    (hfs : ∀ f ∈ fs, f.barrier = false ∧ (f.hasCatch && allow) = false)
    (hb : b.barrier = true ∧ (b.hasCatch && allow) = false) :
    unwindGo allow (fs ++ b :: below) tr
      = .uncaught (tr ++ ((fs ++ [b]).drop 1).map (fun g => (⟨g.chunk, g.retIp⟩ : IFrame))) := by
  rw [unwindGo_eq, visited_append _ _ fun f hf => (hfs f hf).1, visited_barrier _ _ hb.1, if_neg,
    List.drop_one]
  rw [Bool.not_eq_true, List.any_eq_false]
  intro f hf
  rcases List.mem_append.mp hf with hf | hf
  · exact Bool.not_eq_true _ ▸ (hfs f hf).2
  · cases List.mem_singleton.mp hf
    exact Bool.not_eq_true _ ▸ hb.2

/-! ### the stack a call chain builds -/

/-- the frames below the final top frame, bottom first -/
def mids : Frame → List Call → List Frame
  | _, [] => []
  | top, c :: rest =>
    { top with retIp := c.ip, hasCatch := c.inTry } :: mids { chunk := c.callee } rest

def finalTop : Frame → List Call → Frame
  | top, [] => top
  | _, c :: rest => finalTop { chunk := c.callee } rest

theorem callAll_stack (calls : List Call) :
    ∀ (top : Frame) (below : List Frame) (ch ip : Nat),
      ((⟨top :: below, ch, ip⟩ : VM).callAll calls).stack
        = finalTop top calls :: ((mids top calls).reverse ++ below) := by
  induction calls with
  | nil => intros; simp [VM.callAll, mids, finalTop]
  | cons c rest ih =>
    intro top below ch ip
    simp only [VM.callAll, VM.call, mids, finalTop]
    rw [ih]
    simp

theorem call_chunk (vm : VM) (c : Call) : (vm.call c).chunk = c.callee := by
  unfold VM.call
  split <;> rfl

theorem callAll_chunk (calls : List Call) :
    ∀ vm : VM, (vm.callAll calls).chunk = lastChunk vm.chunk calls := by
  induction calls with
  | nil => intro vm; rfl
  | cons c rest ih =>
    intro vm
    simp only [VM.callAll, lastChunk]
    rw [ih, call_chunk]

theorem at_of_stack (vm : VM) (f : Frame) (rest : List Frame) (ip : Nat) (ft : Bool)
    (h : vm.stack = f :: rest) :
    vm.at ip ft = ⟨{ f with hasCatch := ft } :: rest, vm.chunk, ip⟩ := by
  unfold VM.at
  rw [h]

/-- the frame `KotoVm::run(0)` starts with -/
def runFrame : Frame := { chunk := 0, barrier := true }

theorem vmAt_eq (calls : List Call) (fault : Nat) (ft : Bool) :
    ((VM.run 0).callAll calls).at fault ft
      = ⟨{ finalTop runFrame calls with hasCatch := ft } :: (mids runFrame calls).reverse,
          lastChunk 0 calls, fault⟩ := by
  have hs := callAll_stack calls runFrame [] 0 0
  have hc := callAll_chunk calls (VM.run 0)
  rw [List.append_nil] at hs
  have hrun : VM.run 0 = ⟨[runFrame], 0, 0⟩ := rfl
  rw [at_of_stack _ _ _ fault ft (hrun ▸ hs), hc]
  rfl

theorem mids_barrier (calls : List Call) :
    ∀ top : Frame, top.barrier = false → ∀ f ∈ mids top calls, f.barrier = false := by
  induction calls with
  | nil => intro top _ f hf; simp [mids] at hf
  | cons c rest ih =>
    intro top ht f hf
    simp only [mids, List.mem_cons] at hf
    rcases hf with hf | hf
    · subst hf; exact ht
    · exact ih _ rfl f hf

theorem finalTop_barrier (calls : List Call) :
    ∀ top : Frame, top.barrier = false → (finalTop top calls).barrier = false := by
  induction calls with
  | nil => intro top ht; exact ht
  | cons c rest ih => intro top _; exact ih _ rfl

theorem mids_sites (calls : List Call) :
    ∀ top : Frame, (mids top calls).map (fun g => (⟨g.chunk, g.retIp⟩ : IFrame))
      = callSites top.chunk calls := by
  induction calls with
  | nil => intro top; rfl
  | cons c rest ih =>
    intro top
    simp only [mids, callSites, List.map_cons]
    rw [ih]

theorem mids_any (calls : List Call) :
    ∀ top : Frame, (mids top calls).any (·.hasCatch) = calls.any (·.inTry) := by
  induction calls with
  | nil => intro top; rfl
  | cons c rest ih =>
    intro top
    simp only [mids, List.any_cons]
    rw [ih]

/-- the stack of a call chain has its only barrier at the bottom: every frame is visited -/
theorem visited_chain (calls : List Call) (ft : Bool) :
    visited ({ finalTop runFrame calls with hasCatch := ft } :: (mids runFrame calls).reverse)
      = { finalTop runFrame calls with hasCatch := ft } :: (mids runFrame calls).reverse := by
  cases calls with
  | nil => exact visited_singleton _
  | cons c rest =>
    rw [mids, List.reverse_cons, ← List.cons_append, visited_append, visited_singleton]
    intro f hf
    rcases List.mem_cons.mp hf with hf | hf
    · subst hf
      exact finalTop_barrier rest _ rfl
    · exact mids_barrier rest _ rfl f (List.mem_reverse.mp hf)

/-- unwinding the stack a call chain builds (`vmAt_eq`), from any trace so far -/
theorem unwind_chain (calls : List Call) (ft : Bool) (tr : List IFrame) :
    unwindGo true ({ finalTop runFrame calls with hasCatch := ft } :: (mids runFrame calls).reverse) tr
      = if ft = true ∨ ∃ c ∈ calls, c.inTry = true then .caught
        else .uncaught (tr ++ (callSites 0 calls).reverse) := by
  rw [unwindGo_eq, visited_chain]
  simp only [List.tail_cons, List.map_reverse, mids_sites, List.any_cons, List.any_reverse, mids_any,
    Bool.and_true, Bool.or_eq_true, List.any_eq_true]
  rfl

/-- Complete, unconditional description of `predict`: caught iff a `try` is involved, otherwise
the failing instruction first and then every call site, innermost first. -/
theorem predict_complete (calls : List Call) (fault : Nat) (ft : Bool) :
    predict calls fault ft =
      if ft = true ∨ ∃ c ∈ calls, c.inTry = true then .caught
      else .uncaught (⟨lastChunk 0 calls, fault⟩ :: (callSites 0 calls).reverse) := by
  unfold predict unwind
  rw [vmAt_eq]
  exact unwind_chain calls ft _

theorem trace_order (calls : List Call) (fault : Nat) (h : ∀ c ∈ calls, c.inTry = false) :
    predict calls fault false
      = .uncaught (⟨lastChunk 0 calls, fault⟩ :: (callSites 0 calls).reverse) := by
  rw [predict_complete, if_neg]
  rintro (hf | ⟨c, hc, ht⟩)
  · cases hf
  · rw [h c hc] at ht
    cases ht

theorem trace_caught_iff (calls : List Call) (fault : Nat) (ft : Bool) :
    predict calls fault ft = .caught ↔ (ft = true ∨ ∃ c ∈ calls, c.inTry = true) := by
  rw [predict_complete]
  split <;> simp [*]

/-! ### errors that cross native re-entries -/

/-- what one interpreter entry does with the trace handed over by the entry nested inside it -/
theorem predictSegs_cons (s : Seg) (rest : List Seg) (tr : List IFrame) :
    predictSegs (s :: rest) tr =
      if s.failInTry = true ∨ ∃ c ∈ s.calls, c.inTry = true then .caught
      else predictSegs rest (tr ++ segFrames s) := by
  simp only [predictSegs]
  rw [vmAt_eq, unwind_chain]
  by_cases hs : s.failInTry = true ∨ ∃ c ∈ s.calls, c.inTry = true
  · rw [if_pos hs, if_pos hs]
  · rw [if_neg hs, if_neg hs]
    simp only [segFrames, VM.instructionFrame]
    cases s.adaptorIp <;> simp only [List.append_assoc, List.nil_append, List.cons_append]

theorem predictSegs_complete (segs : List Seg) (tr : List IFrame) :
    predictSegs segs tr =
      if ∃ s ∈ segs, s.failInTry = true ∨ ∃ c ∈ s.calls, c.inTry = true then .caught
      else .uncaught (tr ++ (segs.map segFrames).flatten) := by
  induction segs generalizing tr with
  | nil => simp [predictSegs]
  | cons s rest ih =>
    rw [predictSegs_cons, ih]
    by_cases hs : s.failInTry = true ∨ ∃ c ∈ s.calls, c.inTry = true
    · rw [if_pos hs, if_pos ⟨s, List.mem_cons_self, hs⟩]
    · simp only [hs, if_false, List.mem_cons, or_and_right, exists_or, exists_eq_left, false_or,
        List.map_cons, List.flatten_cons, List.append_assoc]

theorem trace_order_native (segs : List Seg) (tr : List IFrame)
    (h : ∀ s ∈ segs, s.failInTry = false ∧ ∀ c ∈ s.calls, c.inTry = false) :
    predictSegs segs tr = .uncaught (tr ++ (segs.map segFrames).flatten) := by
  rw [predictSegs_complete, if_neg]
  rintro ⟨s, hs, hf | ⟨c, hc, ht⟩⟩
  · rw [(h s hs).1] at hf
    cases hf
  · rw [(h s hs).2 c hc] at ht
    cases ht

theorem native_reentry_same_stack (allow : Bool) (fs gs : List Frame) (b root : Frame)
    (below : List Frame) (tr : List IFrame)
    (hfs : ∀ f ∈ fs, f.barrier = false ∧ (f.hasCatch && allow) = false)
    (hb : b.barrier = true ∧ (b.hasCatch && allow) = false)
    (hgs : ∀ f ∈ gs, f.barrier = false ∧ (f.hasCatch && allow) = false)
    (hr : root.barrier = true ∧ (root.hasCatch && allow) = false) :
    ∃ t1, unwindGo allow (fs ++ b :: (gs ++ root :: below)) tr = .uncaught t1 ∧
      t1 = tr ++ ((fs ++ [b]).drop 1).map (fun g => (⟨g.chunk, g.retIp⟩ : IFrame)) ∧
      (match gs ++ [root] with
        | [] => True
        | g :: rest =>
          unwindGo allow (g :: (rest ++ below)) (t1 ++ [⟨g.chunk, g.retIp⟩])
            = .uncaught (tr ++ ((fs ++ b :: (gs ++ [root])).drop 1).map
                (fun g => (⟨g.chunk, g.retIp⟩ : IFrame)))) ∧
      unwindGo allow (fs ++ { b with barrier := false } :: (gs ++ root :: below)) tr
        = .uncaught (tr ++ ((fs ++ b :: (gs ++ [root])).drop 1).map
            (fun g => (⟨g.chunk, g.retIp⟩ : IFrame))) := by
  refine ⟨_, unwind_frames allow fs b _ tr hfs hb, rfl, ?_, ?_⟩
  · -- the stack left for the second stage is `gs ++ root :: below` again, whatever its first frame
    generalize hl : gs ++ [root] = l
    cases l with
    | nil => trivial
    | cons g rest =>
      have hst : g :: (rest ++ below) = gs ++ root :: below := by
        rw [← List.cons_append, ← hl, List.append_assoc, List.singleton_append]
      show unwindGo allow (g :: (rest ++ below)) _ = _
      rw [hst, unwind_frames allow gs root below _ hgs hr, hl]
      cases fs <;> simp
  · have := unwind_frames allow (fs ++ { b with barrier := false } :: gs) root below tr
      (by
        intro f hf
        rcases List.mem_append.mp hf with hf | hf
        · exact hfs f hf
        · rcases List.mem_cons.mp hf with hf | hf
          · subst hf; exact ⟨rfl, hb.2⟩
          · exact hgs f hf) hr
    rw [List.append_assoc, List.cons_append] at this
    rw [this]
    congr 2
    cases fs <;> simp

/-- what is returned for a span within one line -/
def singleOut (sp : Span) : Out :=
  { header := (sp.start.line + 1, sp.start.col + 1), numberWidth := digits (sp.stop.line + 1),
    quoted := [(sp.start.line + 1, sp.start.line)],
    underline := some (sp.start.col + 1, sp.stop.col - sp.start.col) }

/-- what is returned for a span over several lines of a text with `n` lines -/
def multiOut (n : Nat) (sp : Span) : Out :=
  { header := (sp.start.line + 1, sp.start.col + 1), numberWidth := digits (sp.stop.line + 1),
    quoted := (List.range (min (sp.stop.line - sp.start.line + 1) (n - sp.start.line))).map
      (fun k => (sp.start.line + k + 1, sp.start.line + k)),
    underline := none }

theorem excerpt_lineUnderflow {n : Nat} {sp : Span} (h : sp.stop.line < sp.start.line) :
    excerpt n sp = .panic .lineUnderflow := by
  simp only [excerpt, if_pos h]

theorem excerpt_noSuchLine {n : Nat} {sp : Span} (hl : sp.start.line = sp.stop.line)
    (hn : n ≤ sp.start.line) : excerpt n sp = .panic .noSuchLine := by
  simp only [excerpt, if_neg (Nat.not_lt.mpr (Nat.le_of_eq hl)), if_pos hl, if_pos hn]

theorem excerpt_colUnderflow {n : Nat} {sp : Span} (hl : sp.start.line = sp.stop.line)
    (hn : sp.start.line < n) (hc : sp.stop.col < sp.start.col) : excerpt n sp = .panic .colUnderflow := by
  simp only [excerpt, if_neg (Nat.not_lt.mpr (Nat.le_of_eq hl)), if_pos hl, if_neg (Nat.not_le.mpr hn), if_pos hc]

theorem excerpt_single {n : Nat} {sp : Span} (hl : sp.start.line = sp.stop.line)
    (hn : sp.start.line < n) (hc : sp.start.col ≤ sp.stop.col) : excerpt n sp = .ok (singleOut sp) := by
  simp only [excerpt, if_neg (Nat.not_lt.mpr (Nat.le_of_eq hl)), if_pos hl, if_neg (Nat.not_le.mpr hn),
    if_neg (Nat.not_lt.mpr hc), singleOut]

theorem excerpt_multi {n : Nat} {sp : Span} (hl : sp.start.line < sp.stop.line) :
    excerpt n sp = .ok (multiOut n sp) := by
  simp only [excerpt, if_neg (Nat.lt_asymm hl), if_neg (Nat.ne_of_lt hl), multiOut]

theorem excerpt_ok_cases {n : Nat} {sp : Span} {o : Out} (h : excerpt n sp = .ok o) :
    (sp.start.line = sp.stop.line ∧ sp.start.line < n ∧ sp.start.col ≤ sp.stop.col ∧ o = singleOut sp) ∨
    (sp.start.line < sp.stop.line ∧ o = multiOut n sp) := by
  rcases Nat.lt_trichotomy sp.start.line sp.stop.line with hl | hl | hl
  · rw [excerpt_multi hl] at h
    exact Or.inr ⟨hl, (Res.ok.inj h).symm⟩
  · rcases Nat.lt_or_ge sp.start.line n with hn | hn
    · rcases Nat.lt_or_ge sp.stop.col sp.start.col with hc | hc
      · rw [excerpt_colUnderflow hl hn hc] at h; cases h
      · rw [excerpt_single hl hn hc] at h
        exact Or.inl ⟨hl, hn, hc, (Res.ok.inj h).symm⟩
    · rw [excerpt_noSuchLine hl hn] at h; cases h
  · rw [excerpt_lineUnderflow hl] at h; cases h

theorem excerpt_total (n : Nat) (sp : Span) (h : Guard n sp) : ∃ o, excerpt n sp = .ok o := by
  obtain ⟨h1, hl | ⟨hl, hc⟩⟩ := h
  · exact ⟨_, excerpt_multi hl⟩
  · exact ⟨_, excerpt_single hl h1 hc⟩

theorem map_snd_quoted (s k : Nat) :
    ((List.range k).map (fun j => (s + j + 1, s + j))).map (·.2) = List.range' s k := by
  rw [List.map_map, List.range'_eq_map_range]
  rfl

/-- `avail` of `excerpt`: a text that has the span's last line has all of its lines -/
theorem avail_of_lt {a b n : Nat} (hl : a < b) (he : b < n) : min (b - a + 1) (n - a) = b - a + 1 :=
  Nat.min_eq_left (by omega)

theorem excerpt_exact (n : Nat) (sp : Span) (h : Guard n sp) (he : sp.stop.line < n) :
    ∃ o, excerpt n sp = .ok o ∧
      o.quoted.map (·.2) = List.range' sp.start.line (sp.stop.line - sp.start.line + 1) ∧
      (∀ p ∈ o.quoted, p.1 = p.2 + 1) ∧
      o.header = (sp.start.line + 1, sp.start.col + 1) ∧
      (sp.start.line = sp.stop.line →
        o.underline = some (sp.start.col + 1, sp.stop.col - sp.start.col)) := by
  obtain ⟨h1, hl | ⟨hl, hc⟩⟩ := h
  · refine ⟨_, excerpt_multi hl, ?_, ?_, rfl, fun hh => absurd hh (Nat.ne_of_lt hl)⟩
    · rw [multiOut, map_snd_quoted, avail_of_lt hl he]
    · intro p hp
      obtain ⟨k, _, rfl⟩ := List.mem_map.mp hp
      rfl
  · refine ⟨_, excerpt_single hl h1 hc, ?_, ?_, rfl, fun _ => rfl⟩
    · rw [← hl, Nat.sub_self]
      rfl
    · intro p hp
      cases List.mem_singleton.mp hp
      rfl

theorem excerpt_panic_iff (n : Nat) (sp : Span) :
    (∃ p, excerpt n sp = .panic p) ↔
      (sp.stop.line < sp.start.line ∨
        (sp.start.line = sp.stop.line ∧ (n ≤ sp.start.line ∨ sp.stop.col < sp.start.col))) := by
  constructor
  · rintro ⟨p, hp⟩
    rcases Nat.lt_trichotomy sp.start.line sp.stop.line with hl | hl | hl
    · rw [excerpt_multi hl] at hp; cases hp
    · refine Or.inr ⟨hl, ?_⟩
      rcases Nat.lt_or_ge sp.start.line n with hn | hn
      · rcases Nat.lt_or_ge sp.stop.col sp.start.col with hc | hc
        · exact Or.inr hc
        · rw [excerpt_single hl hn hc] at hp; cases hp
      · exact Or.inl hn
    · exact Or.inl hl
  · rintro (hl | ⟨hl, hn | hc⟩)
    · exact ⟨_, excerpt_lineUnderflow hl⟩
    · exact ⟨_, excerpt_noSuchLine hl hn⟩
    · rcases Nat.lt_or_ge sp.start.line n with hn | hn
      · exact ⟨_, excerpt_colUnderflow hl hn hc⟩
      · exact ⟨_, excerpt_noSuchLine hl hn⟩

/-! ### fixtures of the non-vacuity examples -/

def spA : Span := ⟨⟨0, 0⟩, ⟨4, 1⟩⟩
def spB : Span := ⟨⟨1, 2⟩, ⟨1, 9⟩⟩
def spR : Span := ⟨⟨0, 0⟩, ⟨6, 0⟩⟩

/-- pushes in ip order, with equal neighbouring spans (dropped by `push`) and a span that comes
back after a different one (kept) -/
def exPushes : List Entry := [(0, spA), (2, spA), (5, spB), (7, spB), (9, spA)]

/-- root `spR` { node `spA` { op 2; op 3; node `spB` { op 1; opNoSpan 3 }; op 4 }; op 1 } — the
`op 4` after the child node is the one that gets the child's span when `pop_span` is missing -/
def exTree : Steps :=
  .node spA (.op 2 (.op 3 (.node spB (.op 1 (.opNoSpan 3 .done)) (.op 4 .done)))) (.op 1 .done)

/-- `f` calls `g` at ip 3, `g` calls `h` at ip 7, `h` calls `k` at ip 4 -/
def exCalls : List Call := [⟨3, 1, false⟩, ⟨7, 2, false⟩, ⟨4, 3, false⟩]

end KotoVerif.C12L
