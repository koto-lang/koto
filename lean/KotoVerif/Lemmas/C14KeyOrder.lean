/-
C14 — `ValueKey::partial_cmp` (since fix abae06d) is a total order on keys that is consistent with key
equality: antisymmetric (`keyCmp_swap`), transitive (`keyCmp_le_trans`), and `Equal` exactly on equal
keys (`keyCmp_eq_iff`). The order is lexicographic — kind first, then the value, a tuple by length and
then element by element — and each law is passed through `Ordering.then`. The case structure of `keyCmp`
is met once, in `keyPair_rec`; the three laws are tables of `KeyPairRules`. The number arm is a hypothesis
(`NumCmpLaws`), derived from the float laws in `numCmp_laws`.
-/
import KotoVerif.Model.Equal
import KotoVerif.Lemmas.C14Equal
import KotoVerif.Lemmas.C14NumOrder

namespace KotoVerif
namespace Equal

/-! ### three-way comparisons that fit together -/

/-- what the comparisons of `a b`, `b c` and `a c` satisfy in a total preorder: `≤` is transitive,
and `a ≤ b ≤ c` with `a ~ c` forces `a ~ b ~ c`. The second half is what lets the property pass to a
lexicographic combination without looking at the components again. -/
def Compat (c₁ c₂ c₃ : Ordering) : Prop :=
  c₁ ≠ .gt → c₂ ≠ .gt → c₃ ≠ .gt ∧ (c₃ = .eq → c₁ = .eq ∧ c₂ = .eq)

theorem Compat.then {c₁ c₂ c₃ d₁ d₂ d₃ : Ordering} (hc : Compat c₁ c₂ c₃)
    (hd : c₁ = .eq → c₂ = .eq → Compat d₁ d₂ d₃) :
    Compat (c₁.then d₁) (c₂.then d₂) (c₃.then d₃) := by
  intro h1 h2
  have a1 : c₁ ≠ .gt := fun e => h1 (by rw [e]; rfl)
  have a2 : c₂ ≠ .gt := fun e => h2 (by rw [e]; rfl)
  obtain ⟨t, sq⟩ := hc a1 a2
  cases c₃ with
  | lt => exact ⟨nofun, nofun⟩
  | gt => exact absurd rfl t
  | eq =>
    obtain ⟨rfl, rfl⟩ := sq rfl
    exact hd rfl rfl h1 h2

theorem eq_of_ne_gt_of_swap_ne_gt {o : Ordering} (h1 : o ≠ .gt) (h2 : o.swap ≠ .gt) : o = .eq :=
  Ordering.eq_eq_of_isLE_of_isLE_swap (Ordering.ne_gt_iff_isLE.mp h1) (Ordering.ne_gt_iff_isLE.mp h2)

theorem Compat.of_swap_trans {α : Type} {cmp : α → α → Ordering} {P : α → Prop}
    (swap : ∀ a b, P a → P b → cmp b a = (cmp a b).swap)
    (trans : ∀ a b c, P a → P b → P c → cmp a b ≠ .gt → cmp b c ≠ .gt → cmp a c ≠ .gt)
    {a b c : α} (ha : P a) (hb : P b) (hc : P c) : Compat (cmp a b) (cmp b c) (cmp a c) := by
  intro h1 h2
  refine ⟨trans a b c ha hb hc h1 h2, fun e => ?_⟩
  have hca : cmp c a ≠ .gt := by rw [swap a c ha hc, e]; nofun
  have hba := trans b c a hb hc ha h2 hca
  have hcb := trans c a b hc ha hb hca h1
  rw [swap a b ha hb] at hba
  rw [swap b c hb hc] at hcb
  exact ⟨eq_of_ne_gt_of_swap_ne_gt h1 hba, eq_of_ne_gt_of_swap_ne_gt h2 hcb⟩

theorem intCmp_eq_compare (x y : Int) : intCmp x y = compare x y := (Int.compare_eq_ite_lt x y).symm

theorem intCmp_swap (x y : Int) : intCmp y x = (intCmp x y).swap := by
  rw [intCmp_eq_compare, intCmp_eq_compare, Int.compare_swap]

theorem intCmp_ne_gt (x y : Int) : intCmp x y ≠ .gt ↔ x ≤ y :=
  intCmp_eq_compare x y ▸ Int.compare_ne_gt

theorem intCmp_eq (x y : Int) : intCmp x y = .eq ↔ x = y :=
  intCmp_eq_compare x y ▸ Int.compare_eq_eq

theorem intCmp_lt (x y : Int) : intCmp x y = .lt ↔ x < y :=
  intCmp_eq_compare x y ▸ Int.compare_eq_lt

theorem intCmp_compat (x y z : Int) : Compat (intCmp x y) (intCmp y z) (intCmp x z) :=
  Compat.of_swap_trans (P := fun _ => True) (fun a b _ _ => intCmp_swap a b)
    (fun a b c _ _ _ h1 h2 =>
      (intCmp_ne_gt a c).mpr (Int.le_trans ((intCmp_ne_gt a b).mp h1) ((intCmp_ne_gt b c).mp h2)))
    trivial trivial trivial

theorem bytesCmp_swap (a b : List Nat) : bytesCmp b a = (bytesCmp a b).swap := by
  unfold bytesCmp
  rcases bytes_trichotomy a b with ⟨h1, _, h3⟩ | ⟨h1, _, h3⟩ | ⟨h1, _, h3⟩ <;> simp [h1, h3]

theorem bytesCmp_ne_gt (a b : List Nat) : bytesCmp a b ≠ .gt ↔ bytesLt b a = false := by
  unfold bytesCmp
  rcases bytes_trichotomy a b with ⟨h1, _, h3⟩ | ⟨h1, _, h3⟩ | ⟨h1, _, h3⟩ <;> simp [h1, h3]

theorem bytesCmp_eq (a b : List Nat) : bytesCmp a b = .eq ↔ a = b := by
  unfold bytesCmp
  rcases bytes_trichotomy a b with ⟨h1, h2, h3⟩ | ⟨h1, h2, h3⟩ | ⟨h1, h2, h3⟩
  · simp [h1, h2]
  · subst h2; simp [h1]
  · simp [h1, h3, h2]

theorem bytesCmp_compat (a b c : List Nat) : Compat (bytesCmp a b) (bytesCmp b c) (bytesCmp a c) :=
  Compat.of_swap_trans (P := fun _ => True) (fun a b _ _ => bytesCmp_swap a b)
    (fun a b c _ _ _ h1 h2 =>
      (bytesCmp_ne_gt a c).mpr (bytesLe_trans a b c ((bytesCmp_ne_gt a b).mp h1) ((bytesCmp_ne_gt b c).mp h2)))
    trivial trivial trivial

/-- a bound of a range as `rangeCode` counts it: absent first, then the `i64` values in order -/
def boundCode (a : Option Int64) : Int :=
  (match a with | none => -18446744073709551616 | some x => x.toInt) + 18446744073709551616

def inclCode (b : Option (Int64 × Bool)) : Int := match b with | some (_, true) => 1 | _ => 0

theorem rangeCode_eq (a : Option Int64) (b : Option (Int64 × Bool)) :
    rangeCode a b =
      boundCode a * 1180591620717411303424 + (boundCode (b.map Prod.fst) * 2 + inclCode b) := by
  rcases b with _ | ⟨x, i⟩ <;> exact Int.add_assoc _ _ _

theorem boundCode_bounds (a : Option Int64) : 0 ≤ boundCode a ∧ boundCode a < 36893488147419103232 := by
  unfold boundCode
  cases a with
  | none => simp only; omega
  | some x => have := Int64.le_toInt x; have := Int64.toInt_lt x; simp only; omega

theorem boundCode_inj (a c : Option Int64) (h : boundCode a = boundCode c) : a = c := by
  unfold boundCode at h
  cases a <;> cases c <;> simp only at h
  · rfl
  · rename_i z; have := Int64.le_toInt z; omega
  · rename_i w; have := Int64.le_toInt w; omega
  · exact congrArg some (Int64.toInt_inj.mp (by omega))

theorem inclCode_bounds (b : Option (Int64 × Bool)) : inclCode b = 0 ∨ inclCode b = 1 := by
  rcases b with _ | ⟨_, _ | _⟩ <;> simp [inclCode]

theorem rangeEnd_ext (b d : Option (Int64 × Bool)) (h1 : b.map Prod.fst = d.map Prod.fst)
    (h2 : inclCode b = inclCode d) : b = d := by
  rcases b with _ | ⟨x, i⟩ <;> rcases d with _ | ⟨y, j⟩
  · rfl
  · cases h1
  · cases h1
  · cases h1
    cases i <;> cases j <;> first | rfl | cases h2

/-- `rangeCode` is the base-`2^70` / base-2 numeral with digits start, end, inclusive -/
theorem rangeCode_inj (a c : Option Int64) (b d : Option (Int64 × Bool))
    (h : rangeCode a b = rangeCode c d) : a = c ∧ b = d := by
  rw [rangeCode_eq, rangeCode_eq] at h
  have := boundCode_bounds (b.map Prod.fst)
  have := boundCode_bounds (d.map Prod.fst)
  have := inclCode_bounds b
  have := inclCode_bounds d
  have ⟨e1, e⟩ : boundCode a = boundCode c ∧
      boundCode (b.map Prod.fst) * 2 + inclCode b = boundCode (d.map Prod.fst) * 2 + inclCode d := by omega
  have ⟨e2, e3⟩ : boundCode (b.map Prod.fst) = boundCode (d.map Prod.fst) ∧ inclCode b = inclCode d := by
    omega
  exact ⟨boundCode_inj a c e1, rangeEnd_ext b d (boundCode_inj _ _ e2) e3⟩

theorem keyEqList_length (F : FloatOps) : ∀ (xs ys : List Val), keyEqList F xs ys = true → xs.length = ys.length
  | [], [], _ => rfl
  | [], _ :: _, e => nomatch e
  | _ :: _, [], e => nomatch e
  | _ :: xs, _ :: ys, e => congrArg (· + 1) (keyEqList_length F xs ys (Bool.and_eq_true_iff.mp e).2)

/-- what the key order needs from the number comparator on the numbers `Pn` admits -/
structure NumCmpLaws (F : FloatOps) (Pn : Num → Prop) : Prop where
  swap : ∀ a b, Pn a → Pn b → numCmp F b a = (numCmp F a b).swap
  le_trans : ∀ a b c, Pn a → Pn b → Pn c → numCmp F a b ≠ .gt → numCmp F b c ≠ .gt → numCmp F a c ≠ .gt
  eq_iff : ∀ a b, Pn a → Pn b → (numCmp F a b = .eq ↔ Num.eq F a b = true)

mutual
/-- a key (hashable value) all of whose numbers are admitted by `Pn` -/
def goodKey (Pn : Num → Prop) : Val → Prop
  | .null => True
  | .bool _ => True
  | .num n => Pn n
  | .str _ => True
  | .range _ _ => True
  | .tuple xs => goodKeys Pn xs
  | .list _ => False
  | .map _ => False
def goodKeys (Pn : Num → Prop) : List Val → Prop
  | [] => True
  | x :: xs => goodKey Pn x ∧ goodKeys Pn xs
end

theorem goodKeys_mem {Pn : Num → Prop} (xs : List Val) (h : goodKeys Pn xs) : ∀ x ∈ xs, goodKey Pn x := by
  induction xs with
  | nil => intro x hx; cases hx
  | cons y ys ih =>
    simp only [goodKeys] at h
    exact List.forall_mem_cons.mpr ⟨h.1, ih h.2⟩

/-- what a statement about two keys has to provide: the six pairs of one kind, and every pair of
different kinds -/
structure KeyPairRules (Pn : Num → Prop) (M : Val → Val → Prop) (ML : List Val → List Val → Prop) :
    Prop where
  null : M .null .null
  bool : ∀ x y, M (.bool x) (.bool y)
  num : ∀ x y, Pn x → Pn y → M (.num x) (.num y)
  str : ∀ s t, M (.str s) (.str t)
  range : ∀ a b c d, M (.range a b) (.range c d)
  tuple : ∀ xs ys, ML xs ys → M (.tuple xs) (.tuple ys)
  diff : ∀ a b, kindRank a ≠ kindRank b → M a b
  nil : ML [] []
  nil_cons : ∀ y ys, ML [] (y :: ys)
  cons_nil : ∀ x xs, ML (x :: xs) []
  cons : ∀ x y xs ys, M x y → ML xs ys → ML (x :: xs) (y :: ys)

mutual
/-- induction over pairs of good keys. (`kindRank` reduces on constructors, so `cases e` refutes
`kindRank a = kindRank b` for two different kinds and fails — leaving the row of that kind — for one.) -/
theorem keyPair_rec {Pn : Num → Prop} {M : Val → Val → Prop} {ML : List Val → List Val → Prop}
    (h : KeyPairRules Pn M ML) : ∀ (a b : Val), goodKey Pn a → goodKey Pn b → M a b
  | .null, b, _, _ => by
    cases b <;> first | (apply h.diff; intro e; cases e; done) | exact h.null
  | .bool x, b, _, _ => by
    cases b <;> first | (apply h.diff; intro e; cases e; done) | exact h.bool x _
  | .num x, b, ha, hb => by
    cases b <;> first | (apply h.diff; intro e; cases e; done) | exact h.num x _ ha hb
  | .str s, b, _, _ => by
    cases b <;> first | (apply h.diff; intro e; cases e; done) | exact h.str s _
  | .range a c, b, _, _ => by
    cases b <;> first | (apply h.diff; intro e; cases e; done) | exact h.range a c _ _
  | .tuple xs, b, ha, hb => by
    cases b <;>
      first | (apply h.diff; intro e; cases e; done) | exact h.tuple xs _ (keyPairList_rec h xs _ ha hb)
  | .list _, _, ha, _ => ha.elim
  | .map _, _, ha, _ => ha.elim
theorem keyPairList_rec {Pn : Num → Prop} {M : Val → Val → Prop} {ML : List Val → List Val → Prop}
    (h : KeyPairRules Pn M ML) : ∀ (xs ys : List Val), goodKeys Pn xs → goodKeys Pn ys → ML xs ys
  | [], [], _, _ => h.nil
  | [], y :: ys, _, _ => h.nil_cons y ys
  | x :: xs, [], _, _ => h.cons_nil x xs
  | x :: xs, y :: ys, ha, hb =>
    h.cons x y xs ys (keyPair_rec h x y ha.1 hb.1) (keyPairList_rec h xs ys ha.2 hb.2)
end

theorem keyCmp_of_rank_ne (F : FloatOps) {a b : Val} (h : kindRank a ≠ kindRank b) :
    keyCmp F a b = intCmp (kindRank a) (kindRank b) := by
  cases a <;> cases b <;> first | rfl | exact absurd rfl h

theorem keyCmp_eq_then (F : FloatOps) (a b : Val) :
    keyCmp F a b = (intCmp (kindRank a) (kindRank b)).then (keyCmp F a b) := by
  by_cases h : kindRank a = kindRank b
  · rw [(intCmp_eq _ _).mpr h]; rfl
  · rw [keyCmp_of_rank_ne F h]
    cases hi : intCmp (kindRank a) (kindRank b) <;> first | rfl | exact absurd ((intCmp_eq _ _).mp hi) h

theorem keyCmp_tuple (F : FloatOps) (xs ys : List Val) :
    keyCmp F (.tuple xs) (.tuple ys) = (intCmp xs.length ys.length).then (keyCmpList F xs ys) := by
  show (if xs.length < ys.length then Ordering.lt else if ys.length < xs.length then .gt
    else keyCmpList F xs ys) = _
  unfold intCmp
  simp only [Int.ofNat_lt]
  split
  · rfl
  · split <;> rfl

theorem keyCmpList_cons (F : FloatOps) (x y : Val) (xs ys : List Val) :
    keyCmpList F (x :: xs) (y :: ys) = (keyCmp F x y).then (keyCmpList F xs ys) := by
  show (match keyCmp F x y with | .eq => keyCmpList F xs ys | o => o) = _
  cases keyCmp F x y <;> rfl

theorem keyEq_rank_rules (F : FloatOps) :
    KeyEqRules F (fun a b => kindRank a = kindRank b) (fun _ _ => True) where
  null := rfl
  bool _ := rfl
  num _ _ _ := rfl
  str _ := rfl
  range _ _ := rfl
  tuple _ _ _ := rfl
  nil := trivial
  cons _ _ _ _ _ _ := trivial

theorem keyCmp_swap_rules {F : FloatOps} {Pn : Num → Prop} (hN : NumCmpLaws F Pn) :
    KeyPairRules Pn (fun a b => keyCmp F b a = (keyCmp F a b).swap)
      (fun xs ys => keyCmpList F ys xs = (keyCmpList F xs ys).swap) where
  null := rfl
  bool _ _ := intCmp_swap _ _
  num x y hx hy := hN.swap x y hx hy
  str s t := bytesCmp_swap s t
  range _ _ _ _ := intCmp_swap _ _
  tuple xs ys ih := by rw [keyCmp_tuple, keyCmp_tuple, Ordering.swap_then, ← intCmp_swap, ← ih]
  diff a b e := by rw [keyCmp_of_rank_ne F e, keyCmp_of_rank_ne F (Ne.symm e), intCmp_swap]
  nil := rfl
  nil_cons _ _ := rfl
  cons_nil _ _ := rfl
  cons x y xs ys h1 h2 := by rw [keyCmpList_cons, keyCmpList_cons, Ordering.swap_then, ← h1, ← h2]

theorem keyCmp_swap {F : FloatOps} {Pn : Num → Prop} (hN : NumCmpLaws F Pn) :
    ∀ (a b : Val), goodKey Pn a → goodKey Pn b → keyCmp F b a = (keyCmp F a b).swap :=
  keyPair_rec (keyCmp_swap_rules hN)

theorem keyCmpList_swap {F : FloatOps} {Pn : Num → Prop} (hN : NumCmpLaws F Pn) :
    ∀ (xs ys : List Val), goodKeys Pn xs → goodKeys Pn ys → keyCmpList F ys xs = (keyCmpList F xs ys).swap :=
  keyPairList_rec (keyCmp_swap_rules hN)

theorem boolCmp_eq (a b : Bool) : intCmp a.toNat b.toNat = .eq ↔ (a == b) = true := by
  cases a <;> cases b <;> decide

theorem keyCmp_eq_iff_rules {F : FloatOps} {Pn : Num → Prop} (hN : NumCmpLaws F Pn) :
    KeyPairRules Pn (fun a b => keyCmp F a b = .eq ↔ keyEq F a b = true)
      (fun xs ys => xs.length = ys.length → (keyCmpList F xs ys = .eq ↔ keyEqList F xs ys = true)) where
  null := iff_of_true rfl rfl
  bool x y := boolCmp_eq x y
  num x y hx hy := hN.eq_iff x y hx hy
  str s t := (bytesCmp_eq s t).trans beq_iff_eq.symm
  range a b c d := by
    show intCmp (rangeCode a b) (rangeCode c d) = .eq ↔ (a == c && b == d) = true
    rw [intCmp_eq, Bool.and_eq_true, beq_iff_eq, beq_iff_eq]
    exact ⟨rangeCode_inj a c b d, fun h => by rw [h.1, h.2]⟩
  tuple xs ys ih := by
    rw [keyCmp_tuple, Ordering.then_eq_eq, intCmp_eq, Int.ofNat_inj]
    exact ⟨fun h => (ih h.1).mp h.2,
      fun h => ⟨keyEqList_length F xs ys h, (ih (keyEqList_length F xs ys h)).mpr h⟩⟩
  diff a b e := by
    rw [keyCmp_of_rank_ne F e, intCmp_eq]
    exact iff_of_false e (fun h => e (keyEq_rel (keyEq_rank_rules F) a b h))
  nil _ := iff_of_true rfl rfl
  nil_cons _ _ hl := nomatch hl
  cons_nil _ _ hl := nomatch hl
  cons x y xs ys h1 h2 hl := by
    rw [keyCmpList_cons, Ordering.then_eq_eq, h1, h2 (Nat.succ.inj hl)]
    exact Bool.and_eq_true_iff.symm

theorem keyCmp_eq_iff {F : FloatOps} {Pn : Num → Prop} (hN : NumCmpLaws F Pn) :
    ∀ (a b : Val), goodKey Pn a → goodKey Pn b → (keyCmp F a b = .eq ↔ keyEq F a b = true) :=
  keyPair_rec (keyCmp_eq_iff_rules hN)

theorem keyCmpList_eq_iff {F : FloatOps} {Pn : Num → Prop} (hN : NumCmpLaws F Pn) :
    ∀ (xs ys : List Val), xs.length = ys.length → goodKeys Pn xs → goodKeys Pn ys →
      (keyCmpList F xs ys = .eq ↔ keyEqList F xs ys = true) :=
  fun xs ys hl ha hb => keyPairList_rec (keyCmp_eq_iff_rules hN) xs ys ha hb hl

theorem compat_of_kind (F : FloatOps) (a b c : Val)
    (h : kindRank a = kindRank b → kindRank b = kindRank c →
      Compat (keyCmp F a b) (keyCmp F b c) (keyCmp F a c)) :
    Compat (keyCmp F a b) (keyCmp F b c) (keyCmp F a c) := by
  rw [keyCmp_eq_then F a b, keyCmp_eq_then F b c, keyCmp_eq_then F a c]
  exact Compat.then (intCmp_compat _ _ _) (fun e1 e2 => h ((intCmp_eq _ _).mp e1) ((intCmp_eq _ _).mp e2))

/-- the third key is of the kind of the other two, so one `cases c` per row finds it -/
theorem keyCmp_compat_rules {F : FloatOps} {Pn : Num → Prop} (hN : NumCmpLaws F Pn) :
    KeyPairRules Pn
      (fun a b => ∀ c, goodKey Pn c → kindRank a = kindRank b → kindRank b = kindRank c →
        Compat (keyCmp F a b) (keyCmp F b c) (keyCmp F a c))
      (fun xs ys => ∀ zs, goodKeys Pn zs → xs.length = ys.length → ys.length = zs.length →
        Compat (keyCmpList F xs ys) (keyCmpList F ys zs) (keyCmpList F xs zs)) where
  null c _ _ e := by
    cases c <;> first | (cases e; done) | exact fun _ _ => ⟨nofun, fun _ => ⟨rfl, rfl⟩⟩
  bool _ _ c _ _ e := by cases c <;> first | (cases e; done) | exact intCmp_compat _ _ _
  num x y hx hy c hc _ e := by
    cases c <;> first | (cases e; done) | exact Compat.of_swap_trans hN.swap hN.le_trans hx hy hc
  str _ _ c _ _ e := by cases c <;> first | (cases e; done) | exact bytesCmp_compat _ _ _
  range _ _ _ _ c _ _ e := by cases c <;> first | (cases e; done) | exact intCmp_compat _ _ _
  tuple xs ys ih c hc _ e := by
    cases c <;> first | (cases e; done) | skip
    rw [keyCmp_tuple, keyCmp_tuple, keyCmp_tuple]
    exact Compat.then (intCmp_compat _ _ _) (fun l1 l2 =>
      ih _ hc (Int.ofNat_inj.mp ((intCmp_eq _ _).mp l1)) (Int.ofNat_inj.mp ((intCmp_eq _ _).mp l2)))
  diff _ _ e _ _ e1 _ := absurd e1 e
  nil zs _ _ l2 := by
    cases zs <;> first | (cases l2; done) | exact fun _ _ => ⟨nofun, fun _ => ⟨rfl, rfl⟩⟩
  nil_cons _ _ _ _ l1 := nomatch l1
  cons_nil _ _ _ _ l1 := nomatch l1
  cons x y xs ys h1 h2 zs hz l1 l2 := by
    cases zs with
    | nil => cases l2
    | cons z zs =>
      rw [keyCmpList_cons, keyCmpList_cons, keyCmpList_cons]
      exact Compat.then (compat_of_kind F x y z (h1 z hz.1))
        (fun _ _ => h2 zs hz.2 (Nat.succ.inj l1) (Nat.succ.inj l2))

theorem keyCmp_le_trans {F : FloatOps} {Pn : Num → Prop} (hN : NumCmpLaws F Pn) (a b c : Val)
    (ga : goodKey Pn a) (gb : goodKey Pn b) (gc : goodKey Pn c)
    (h1 : keyCmp F a b ≠ .gt) (h2 : keyCmp F b c ≠ .gt) : keyCmp F a c ≠ .gt :=
  (compat_of_kind F a b c (keyPair_rec (keyCmp_compat_rules hN) a b ga gb c gc) h1 h2).1

/-! ### the number arm from the float hypotheses, and the comparator of `map.sort()` as a total preorder -/

open Sorting

/-- numbers a key may contain: no NaN, integers exactly convertible -/
def goodNum (F : FloatOps) (S : Int64 → Prop) (n : Num) : Prop :=
  numIsNaN F n = false ∧ ∀ x, n = .i x → S x

theorem numCmp_of_tri {F : FloatOps} (hF : FloatLaws F) (a b : Num)
    (ha : numIsNaN F a = false) (hb : numIsNaN F b = false) :
    numCmp F a b = if Num.lt F a b then .lt else if Num.lt F b a then .gt else .eq := by
  unfold numCmp
  rcases num_tri_raw hF a b ha hb with ⟨h1, h2, h3⟩ | ⟨h1, h2, h3⟩ | ⟨h1, h2, h3⟩ <;> simp [h1, h2, h3]

theorem numCmp_laws {F : FloatOps} {S : Int64 → Prop} (hF : FloatLaws F) (hL : NumOrderLaws F S) :
    NumCmpLaws F (goodNum F S) where
  swap a b ha hb := by
    rw [numCmp_of_tri hF a b ha.1 hb.1, numCmp_of_tri hF b a hb.1 ha.1]
    rcases num_tri_raw hF a b ha.1 hb.1 with ⟨h1, _, h3⟩ | ⟨h1, _, h3⟩ | ⟨h1, _, h3⟩ <;> simp [h1, h3]
  eq_iff a b ha hb := by
    rw [numCmp_of_tri hF a b ha.1 hb.1]
    rcases num_tri_raw hF a b ha.1 hb.1 with ⟨h1, h2, h3⟩ | ⟨h1, h2, h3⟩ | ⟨h1, h2, h3⟩ <;> simp [h1, h2, h3]
  le_trans a b c ha hb hc h1 h2 := by
    have key : ∀ x y : Num, numIsNaN F x = false → numIsNaN F y = false →
        (numCmp F x y ≠ .gt ↔ Num.lt F y x = false) := by
      intro x y hx hy
      rw [numCmp_of_tri hF x y hx hy]
      rcases num_tri_raw hF x y hx hy with ⟨h1, _, h3⟩ | ⟨h1, _, h3⟩ | ⟨h1, _, h3⟩ <;> simp [h1, h3]
    rw [key a b ha.1 hb.1] at h1
    rw [key b c hb.1 hc.1] at h2
    rw [key a c ha.1 hc.1]
    -- `GoodNum F S` (C14NumOrder) is the subtype of `goodNum F S`, so `⟨a, ha⟩` is one of its members
    exact (num_total_preorder hL).le_trans ⟨a, ha⟩ ⟨b, hb⟩ ⟨c, hc⟩ h1 h2

def GoodKey (F : FloatOps) (S : Int64 → Prop) : Type := { k : Val // goodKey (goodNum F S) k }

/-- the comparator of `map.sort()` is a total preorder on keys of every kind (numbers: `goodNum`) -/
theorem keyCmp_total_preorder {F : FloatOps} {S : Int64 → Prop} (hF : FloatLaws F) (hL : NumOrderLaws F S) :
    TotalPreorder (fun (a b : GoodKey F S) => keyCmp F a.1 b.1 == .lt) where
  asymm a b h := by
    have hN := numCmp_laws hF hL
    have sw := keyCmp_swap hN a.1 b.1 a.2 b.2
    simp only [beq_iff_eq] at h
    rw [sw, h]
    rfl
  le_trans a b c h1 h2 := by
    have hN := numCmp_laws hF hL
    -- ¬ b < a, ¬ c < b ⊢ ¬ c < a ; in terms of `≠ gt` on the swapped comparisons
    have conv : ∀ x y : GoodKey F S, ((keyCmp F y.1 x.1 == .lt) = false) ↔ keyCmp F x.1 y.1 ≠ .gt := by
      intro x y
      rw [keyCmp_swap hN x.1 y.1 x.2 y.2]
      cases keyCmp F x.1 y.1 <;> simp
    rw [conv] at h1 h2 ⊢
    exact keyCmp_le_trans hN a.1 b.1 c.1 a.2 b.2 c.2 h1 h2

end Equal
end KotoVerif
