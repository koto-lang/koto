/-
C14 — `keyEq` is a partial equivalence whenever number equality is transitive (true for IEEE doubles
as long as no integer lies beyond ±2^53; true outright for the toy instance `F0`).
-/
import KotoVerif.Model.Equal
import KotoVerif.Lemmas.C14Equal
import KotoVerif.Lemmas.C14Map

namespace KotoVerif
namespace Equal
open OMap

theorem keyEq_symm_rules {F : FloatOps} (hF : FloatLaws F) :
    KeyEqRules F (fun a b => keyEq F b a = true) (fun xs ys => keyEqList F ys xs = true) where
  null := rfl
  bool x := beq_self_eq_true x
  num x y e := (num_eq_symm hF y x).trans e
  str s := beq_self_eq_true s
  range a b := Bool.and_eq_true_iff.mpr ⟨beq_self_eq_true a, beq_self_eq_true b⟩
  tuple _ _ e := e
  nil := rfl
  cons _ _ _ _ e1 e2 := Bool.and_eq_true_iff.mpr ⟨e1, e2⟩

theorem keyEq_symm {F : FloatOps} (hF : FloatLaws F) (a b : Val) : keyEq F a b = keyEq F b a :=
  Bool.eq_iff_iff.mpr ⟨keyEq_rel (keyEq_symm_rules hF) a b, keyEq_rel (keyEq_symm_rules hF) b a⟩

theorem keyEqList_symm {F : FloatOps} (hF : FloatLaws F) : ∀ (xs ys : List Val), keyEqList F xs ys = keyEqList F ys xs :=
  fun xs ys =>
    Bool.eq_iff_iff.mpr ⟨keyEqList_rel (keyEq_symm_rules hF) xs ys, keyEqList_rel (keyEq_symm_rules hF) ys xs⟩

theorem keyEq_trans_rules {F : FloatOps}
    (hn : ∀ a b c : Num, Num.eq F a b = true → Num.eq F b c = true → Num.eq F a c = true) :
    KeyEqRules F (fun a b => ∀ c, keyEq F b c = true → keyEq F a c = true)
      (fun xs ys => ∀ zs, keyEqList F ys zs = true → keyEqList F xs zs = true) where
  null _ e := e
  bool _ _ e := e
  num x y e1 c e2 := by cases c <;> first | cases e2 | exact hn x y _ e1 e2
  str _ _ e := e
  range _ _ _ e := e
  tuple xs ys ih c e := by cases c <;> first | cases e | exact ih _ e
  nil _ e := e
  cons x y xs ys h1 h2 zs e := by
    cases zs with
    | nil => cases e
    | cons z zs =>
      have e' := Bool.and_eq_true_iff.mp e
      exact Bool.and_eq_true_iff.mpr ⟨h1 z e'.1, h2 zs e'.2⟩

theorem keyEq_trans {F : FloatOps}
    (hn : ∀ a b c : Num, Num.eq F a b = true → Num.eq F b c = true → Num.eq F a c = true)
    (a b c : Val) (h1 : keyEq F a b = true) (h2 : keyEq F b c = true) : keyEq F a c = true :=
  keyEq_rel (keyEq_trans_rules hn) a b h1 c h2

theorem keyEqList_trans {F : FloatOps}
    (hn : ∀ a b c : Num, Num.eq F a b = true → Num.eq F b c = true → Num.eq F a c = true) :
    ∀ (xs ys zs : List Val), keyEqList F xs ys = true → keyEqList F ys zs = true → keyEqList F xs zs = true :=
  fun xs ys zs h1 h2 => keyEqList_rel (keyEq_trans_rules hn) xs ys h1 zs h2

theorem keyEq_per {F : FloatOps} (hF : FloatLaws F)
    (hn : ∀ a b c : Num, Num.eq F a b = true → Num.eq F b c = true → Num.eq F a c = true) :
    KeyPER (keyEq F) := ⟨keyEq_symm hF, keyEq_trans hn⟩

theorem F0_ofInt_inj (a b : Int64) (h : F0.ofInt a = F0.ofInt b) : a = b := by
  have h' : a.toUInt64 = b.toUInt64 := by
    have := congrArg (· - 9223372036854775808) h
    simpa [F0] using this
  cases a; cases b; simp_all

theorem F0_numEq (a b : Num) : Num.eq F0 a b = (a.toF F0 == b.toF F0) := by
  cases a with
  | f x => rfl
  | i x =>
    cases b with
    | f y => rfl
    | i y =>
      show (x == y) = (F0.ofInt x == F0.ofInt y)
      rw [Bool.eq_iff_iff, beq_iff_eq, beq_iff_eq]
      exact ⟨congrArg F0.ofInt, F0_ofInt_inj x y⟩

theorem F0_num_trans : ∀ a b c : Num, Num.eq F0 a b = true → Num.eq F0 b c = true → Num.eq F0 a c = true := by
  intro a b c h1 h2
  rw [F0_numEq] at h1 h2 ⊢
  rw [eq_of_beq h1]
  exact h2

theorem F0_keyPER : KeyPER (keyEq F0) := keyEq_per F0_laws F0_num_trans

end Equal
end KotoVerif
