/-
Helper lemmas for C15: search, split/join, lines, the decomposition into characters, grapheme
segmentation relative to an oracle. Core Lean only.
-/
import KotoVerif.Lemmas.C15Slice

namespace KotoVerif.Str
open KotoVerif.Utf8

/-! ### find -/

theorem prefix_split {pat s : Bytes} (h : pat.isPrefixOf s = true) : s = pat ++ s.drop pat.length :=
  (List.prefix_iff_eq_append.mp (List.isPrefixOf_iff_prefix.mp h)).symm

theorem findAt_prefix {pat : Bytes} : ∀ {s : Bytes} {e : Nat}, findAt pat s = some e →
    e ≤ s.length ∧ pat.isPrefixOf (s.drop e) = true
  | [], e, h => by
    simp only [findAt] at h
    split at h
    · rename_i hp
      cases h
      rw [List.isEmpty_iff.mp hp]
      exact ⟨Nat.le_refl _, rfl⟩
    · cases h
  | b :: bs, e, h => by
    simp only [findAt] at h
    split at h
    · rename_i hp
      cases h
      exact ⟨Nat.zero_le _, hp⟩
    · obtain ⟨e', hr, rfl⟩ := Option.map_eq_some_iff.mp h
      exact ⟨Nat.succ_le_succ (findAt_prefix hr).1, (findAt_prefix hr).2⟩

theorem drop_of_findAt {pat s : Bytes} {e : Nat} (h : findAt pat s = some e) :
    s.drop e = pat ++ s.drop (e + pat.length) := by
  rw [← List.drop_drop]
  exact prefix_split (findAt_prefix h).2

theorem findAt_some {pat s : Bytes} {e : Nat} (h : findAt pat s = some e) :
    s = s.take e ++ pat ++ s.drop (e + pat.length) := by
  rw [List.append_assoc, ← drop_of_findAt h, List.take_append_drop]

theorem findAt_some_le {pat s : Bytes} {e : Nat} (h : findAt pat s = some e) : e + pat.length ≤ s.length := by
  have h1 := (List.isPrefixOf_iff_prefix.mp (findAt_prefix h).2).length_le
  have h2 := (findAt_prefix h).1
  rw [List.length_drop] at h1
  omega

/-- the measure of the `split` and `replace` loops -/
theorem length_drop_findAt_lt {pat s : Bytes} {e : Nat} (hp : pat ≠ []) (h : findAt pat s = some e) :
    (s.drop (e + pat.length)).length < s.length := by
  have := findAt_some_le h
  have := List.length_pos_iff.mpr hp
  rw [List.length_drop]; omega

theorem findAt_zero_of_prefix {pat s : Bytes} (h : pat.isPrefixOf s = true) : findAt pat s = some 0 := by
  cases s with
  | nil =>
    have : pat = [] := by
      rw [List.isPrefixOf_iff_prefix] at h; exact List.prefix_nil.mp h
    simp [findAt, this]
  | cons b bs => simp [findAt, h]

theorem findByte_eq_none {x : Nat} : ∀ {s : Bytes}, (∀ b ∈ s, b ≠ x) → findByte x s = none
  | [], _ => rfl
  | c :: r, h => by
    rw [findByte, if_neg (h c (.head _)), findByte_eq_none fun b hb => h b (.tail _ hb)]; rfl

theorem findByte_append {x : Nat} : ∀ {pre : Bytes} (post : Bytes), (∀ b ∈ pre, b ≠ x) →
    findByte x (pre ++ x :: post) = some pre.length
  | [], _, _ => by rw [List.nil_append, findByte, if_pos rfl]; rfl
  | c :: r, post, h => by
    rw [List.cons_append, findByte, if_neg (h c (.head _)), findByte_append post fun b hb => h b (.tail _ hb)]; rfl

/-! ### split / join -/

theorem splitNE_ne_nil (pat : Bytes) : ∀ {fuel : Nat}, 0 < fuel → ∀ rest : Bytes, splitNE pat fuel rest ≠ []
  | _ + 1, _, rest => by
    simp only [splitNE]
    split <;> simp

theorem joinWith_cons (sep x : Bytes) {xs : List Bytes} (h : xs ≠ []) :
    joinWith sep (x :: xs) = x ++ sep ++ joinWith sep xs := by
  cases xs with
  | nil => exact absurd rfl h
  | cons y r => rfl

theorem joinWith_nil : ∀ (xs : List Bytes), joinWith [] xs = xs.flatten
  | [] => rfl
  | [x] => (List.append_nil x).symm
  | x :: y :: r => by
    rw [joinWith, joinWith_nil (y :: r), List.append_nil]
    rfl

theorem splitB_of_ne_nil {pat : Bytes} (hp : pat ≠ []) (fuel : Nat) (s : Bytes) :
    splitB pat fuel s = splitNE pat fuel s := if_neg (by simpa using hp)

theorem replaceB_of_ne_nil {pat : Bytes} (hp : pat ≠ []) (to bs : Bytes) :
    replaceB pat to bs = replaceNE pat to (bs.length + 1) bs := if_neg (by simpa using hp)

/-- induction over the pieces of a split by a non-empty pattern, the fuel sufficing -/
theorem splitNE_induct {pat : Bytes} (hp : pat ≠ []) {P : Bytes → List Bytes → Prop}
    (last : ∀ s, findAt pat s = none → P s [s])
    (cons : ∀ s e xs, findAt pat s = some e → xs ≠ [] → P (s.drop (e + pat.length)) xs → P s (s.take e :: xs)) :
    ∀ (fuel : Nat) (s : Bytes), s.length < fuel → P s (splitNE pat fuel s)
  | 0, _, h => absurd h (Nat.not_lt_zero _)
  | fuel + 1, s, h => by
    simp only [splitNE]
    cases hf : findAt pat s with
    | none => exact last s hf
    | some e =>
      have hlt := Nat.lt_of_lt_of_le (length_drop_findAt_lt hp hf) (Nat.le_of_lt_succ h)
      exact cons s e _ hf (splitNE_ne_nil pat (Nat.zero_lt_of_lt hlt) _) (splitNE_induct hp last cons fuel _ hlt)

/-- **split then join**: for a non-empty pattern the pieces, re-joined with the pattern, are the input -/
theorem splitNE_join {pat : Bytes} (hp : pat ≠ []) : ∀ (fuel : Nat) (rest : Bytes), rest.length < fuel →
    joinWith pat (splitNE pat fuel rest) = rest :=
  splitNE_induct hp (P := fun s xs => joinWith pat xs = s) (fun _ _ => rfl)
    fun s e xs hf hne ih => by rw [joinWith_cons _ _ hne, ih]; exact (findAt_some hf).symm

/-- the loop of `replace` yields the pieces of the loop of `split`, joined with the replacement -/
theorem replaceNE_eq_join_splitNE {pat : Bytes} (hp : pat ≠ []) (to : Bytes) (fuel : Nat) (rest : Bytes)
    (h : rest.length < fuel) : replaceNE pat to fuel rest = joinWith to (splitNE pat fuel rest) :=
  splitNE_induct hp (P := fun s xs => ∀ fuel, s.length < fuel → replaceNE pat to fuel s = joinWith to xs)
    (fun s hf fuel h => by
      obtain ⟨k, rfl⟩ : ∃ k, fuel = k + 1 := ⟨fuel - 1, by omega⟩
      simp only [replaceNE, hf, joinWith])
    (fun s e xs hf hne ih fuel h => by
      obtain ⟨k, rfl⟩ : ∃ k, fuel = k + 1 := ⟨fuel - 1, by omega⟩
      simp only [replaceNE, hf]
      rw [joinWith_cons _ _ hne, ih k (Nat.lt_of_lt_of_le (length_drop_findAt_lt hp hf) (Nat.le_of_lt_succ h))])
    fuel rest h fuel h

/-! ### lines -/

theorem linesB_append : ∀ (pre rest cur : Bytes), (∀ b ∈ pre, b ≠ 10) →
    linesB (pre ++ rest) cur = linesB rest (cur ++ pre)
  | [], rest, cur, _ => by rw [List.nil_append, List.append_nil]
  | b :: r, rest, cur, h => by
    rw [List.cons_append, linesB, if_neg (h b (.head _)), linesB_append r rest _ fun x hx => h x (.tail _ hx),
      List.append_assoc, List.singleton_append]

theorem linesB_no_lf (pre : Bytes) (h : ∀ b ∈ pre, b ≠ 10) :
    linesB pre [] = if pre.isEmpty then [] else [pre] := by
  have := linesB_append pre [] [] h
  rwa [List.append_nil] at this

theorem linesB_unfold (pre post : Bytes) (h : ∀ b ∈ pre, b ≠ 10) :
    linesB (pre ++ 10 :: post) [] = stripCR pre :: linesB post [] := by
  rw [linesB_append pre _ [] h, linesB, if_pos rfl]; rfl

theorem stripCR_no_lf {l : Bytes} (h : ∀ b ∈ l, b ≠ 10) : ∀ b ∈ stripCR l, b ≠ 10 := by
  intro b hb
  simp only [stripCR] at hb
  split at hb
  · exact h b (List.dropLast_subset _ hb)
  · exact h b hb

theorem stripCR_append (l : Bytes) : ∃ cr, l = stripCR l ++ cr := by
  unfold stripCR
  split
  · obtain ⟨t, ht⟩ := List.dropLast_prefix l
    exact ⟨t, ht.symm⟩
  · exact ⟨[], (List.append_nil l).symm⟩

/-- the offsets `Lines::next` computes around a line feed (end of the line, length of the line break), in terms
of `stripCR` of the text before the line feed -/
theorem lines_cut (start : Nat) (line post : Bytes) :
    (if line.length > 0 ∧ (line ++ 10 :: post)[line.length - 1]? = some 13 then (start + line.length - 1, 2)
      else (start + line.length, 1)) = (start + (stripCR line).length, line.length + 1 - (stripCR line).length) := by
  rcases List.eq_nil_or_concat line with rfl | ⟨l, c, rfl⟩
  · rw [if_neg (fun h => Nat.lt_irrefl 0 h.1)]; rfl
  · -- the byte in front of the line feed is the last byte `c` of the line
    by_cases hc : c = 13 <;> simp [stripCR, hc] <;> omega

theorem split_first_lf (s : Bytes) : (∀ b ∈ s, b ≠ 10) ∨
    ∃ pre post, s = pre ++ 10 :: post ∧ (∀ b ∈ pre, b ≠ 10) := by
  have hpre : ∀ b ∈ s.takeWhile (· != 10), b ≠ 10 := fun b hb =>
    bne_iff_ne.mp (List.all_eq_true.mp List.all_takeWhile b hb)
  have hd := List.head?_dropWhile_not (· != 10) s
  -- the longest prefix without a line feed; what follows is empty or starts with one
  rw [← List.takeWhile_append_dropWhile (p := (· != 10)) (l := s)]
  match s.dropWhile (· != 10), hd with
  | [], _ => exact .inl (by rwa [List.append_nil])
  | c :: post, hd => exact .inr ⟨_, post, by rw [bne_eq_false_iff_eq.mp hd], hpre⟩

/-- induction over the lines of a text -/
theorem linesB_induct {P : Bytes → List Bytes → Prop}
    (last : ∀ pre, (∀ b ∈ pre, b ≠ 10) → P pre (if pre.isEmpty then [] else [pre]))
    (cons : ∀ pre post xs, (∀ b ∈ pre, b ≠ 10) → P post xs → P (pre ++ 10 :: post) (stripCR pre :: xs)) :
    ∀ s, P s (linesB s []) := by
  intro s
  generalize hn : s.length = n
  induction n using Nat.strongRecOn generalizing s with
  | _ n ih =>
    rcases split_first_lf s with h | ⟨pre, post, rfl, hp⟩
    · rw [linesB_no_lf s h]; exact last s h
    · rw [linesB_unfold pre post hp]
      exact cons pre post _ hp (ih post.length (by rw [← hn, List.length_append, List.length_cons]; omega) post rfl)

theorem linesB_lines_no_lf : ∀ (s : Bytes), ∀ l ∈ linesB s [], ∀ b ∈ l, b ≠ 10 :=
  linesB_induct (P := fun _ xs => ∀ l ∈ xs, ∀ b ∈ l, b ≠ 10)
    (fun pre h => by
      split
      · exact nofun
      · exact List.forall_mem_singleton.mpr h)
    fun _ _ _ h ih => List.forall_mem_cons.mpr ⟨stripCR_no_lf h, ih⟩

/-! ### characters -/

/-- the equation of `charsOf`: a byte and the continuation bytes that follow it form a group -/
theorem charsOf_cons (b : Nat) (bs : Bytes) :
    charsOf (b :: bs) = (b :: bs.takeWhile isCont) :: charsOf (bs.dropWhile isCont) := by
  induction bs generalizing b with
  | nil => rfl
  | cons c r ih =>
    rw [charsOf, ih c, List.takeWhile_cons, List.dropWhile_cons]
    cases hc : isCont c
    · simp only [hc, Bool.false_eq_true, if_false]; rw [ih c]
    · simp only [hc, if_true]

theorem cons_eq_group_append (b : Nat) (bs : Bytes) :
    b :: bs = (b :: bs.takeWhile isCont) ++ bs.dropWhile isCont := by
  rw [List.cons_append, List.takeWhile_append_dropWhile]

theorem gFirstChar_cons (b : Nat) (bs : Bytes) : gFirstChar (b :: bs) = (b :: bs.takeWhile isCont).length := by
  simp only [gFirstChar, charsOf_cons, List.head?_cons, Option.map_some, Option.getD_some]

theorem take_gFirstChar (b : Nat) (bs : Bytes) :
    (b :: bs).take (gFirstChar (b :: bs)) = b :: bs.takeWhile isCont := by
  rw [gFirstChar_cons]; conv => lhs; arg 2; rw [cons_eq_group_append]
  exact List.take_left

theorem drop_gFirstChar (b : Nat) (bs : Bytes) :
    (b :: bs).drop (gFirstChar (b :: bs)) = bs.dropWhile isCont := by
  rw [gFirstChar_cons]; conv => lhs; arg 2; rw [cons_eq_group_append]
  exact List.drop_left

/-! ### grapheme segmentation relative to an oracle -/

/-- the oracle makes progress and stays inside the string -/
def Progress (g : Bytes → Nat) : Prop := ∀ s : Bytes, s ≠ [] → 0 < g s ∧ g s ≤ s.length

/-- the oracle cuts at character boundaries -/
def CutsAtBoundaries (g : Bytes → Nat) : Prop := ∀ s : Bytes, s ≠ [] → isBoundary s (g s) = true

/-- the measure of the segmentation loops -/
theorem Progress.drop_lt {g : Bytes → Nat} (hp : Progress g) {s : Bytes} (hs : s ≠ []) :
    (s.drop (g s)).length < s.length := by
  have := hp s hs
  have := List.length_pos_iff.mpr hs
  rw [List.length_drop]; omega

/-- induction over the clusters of a string, the fuel sufficing for all of them -/
theorem segs_induct {g : Bytes → Nat} (hp : Progress g) {P : Bytes → List Bytes → Prop} (nil : P [] [])
    (cons : ∀ s xs, s ≠ [] → P (s.drop (g s)) xs → P s (s.take (g s) :: xs)) :
    ∀ (fuel : Nat) (s : Bytes), s.length ≤ fuel → P s (segs g fuel s)
  | 0, [], _ => nil
  | _ + 1, [], _ => nil
  | 0, _ :: _, h => absurd h (Nat.not_succ_le_zero _)
  | fuel + 1, b :: bs, h =>
    cons _ _ (List.cons_ne_nil b bs) (segs_induct hp nil cons fuel _
      (Nat.le_of_lt_succ (Nat.lt_of_lt_of_le (hp.drop_lt (List.cons_ne_nil b bs)) h)))

theorem segs_flatten {g : Bytes → Nat} (hp : Progress g) : ∀ (fuel : Nat) (s : Bytes), s.length ≤ fuel →
    (segs g fuel s).flatten = s :=
  segs_induct hp (P := fun s xs => xs.flatten = s) rfl
    fun s xs _ ih => by rw [List.flatten_cons, ih, List.take_append_drop]

theorem segs_valid {g : Bytes → Nat} (hp : Progress g) (hb : CutsAtBoundaries g) :
    ∀ (fuel : Nat) (s : Bytes), s.length ≤ fuel → validUtf8 s = true → ∀ p ∈ segs g fuel s, validUtf8 p = true :=
  segs_induct hp (P := fun s xs => validUtf8 s = true → ∀ p ∈ xs, validUtf8 p = true) (fun _ => nofun)
    fun s _ hs ih hv => List.forall_mem_cons.mpr ⟨(valid_split hv (hb s hs)).1, ih (valid_split hv (hb s hs)).2⟩

theorem segs_nonempty {g : Bytes → Nat} (hp : Progress g) :
    ∀ (fuel : Nat) (s : Bytes), s.length ≤ fuel → ∀ p ∈ segs g fuel s, p ≠ [] :=
  segs_induct hp (P := fun _ xs => ∀ p ∈ xs, p ≠ []) nofun
    fun s _ hs ih => List.forall_mem_cons.mpr ⟨fun h => by
      rcases List.take_eq_nil_iff.mp h with h0 | h0
      · exact absurd h0 (Nat.ne_of_gt (hp s hs).1)
      · exact hs h0, ih⟩

theorem segs_fuel_irrelevant {g : Bytes → Nat} (hp : Progress g) (fuel fuel' : Nat) (s : Bytes)
    (h : s.length ≤ fuel) (h' : s.length ≤ fuel') : segs g fuel s = segs g fuel' s :=
  segs_induct hp (P := fun s xs => ∀ fuel', s.length ≤ fuel' → xs = segs g fuel' s)
    (fun fuel' _ => by cases fuel' <;> rfl)
    (fun s xs hs ih fuel' h' => by
      match s, fuel' with
      | [], _ => exact absurd rfl hs
      | _ :: _, 0 => exact absurd h' (Nat.not_succ_le_zero _)
      | b :: bs, f + 1 =>
        rw [segs, ← ih f (Nat.le_of_lt_succ (Nat.lt_of_lt_of_le (hp.drop_lt hs) h'))])
    fuel s h fuel' h'

theorem segs_length_le {g : Bytes → Nat} (hp : Progress g) : ∀ (fuel : Nat) (s : Bytes), s.length ≤ fuel →
    (segs g fuel s).length ≤ s.length :=
  segs_induct hp (P := fun s xs => xs.length ≤ s.length) (Nat.le_refl _)
    fun s xs hs ih => by have := hp.drop_lt hs; rw [List.length_cons]; omega

theorem rsegs_flatten {g : Bytes → Nat} (hp : Progress g) : ∀ (fuel : Nat) (s : Bytes), s.length < fuel →
    (rsegs g fuel s).reverse.flatten = s
  | 0, _, h => by omega
  | fuel + 1, s, h => by
    simp only [rsegs]
    split
    · rename_i he
      rw [List.isEmpty_iff.mp he]; rfl
    · rename_i hne
      have hne' : s ≠ [] := fun h => hne (List.isEmpty_iff.mpr h)
      obtain ⟨h0, h1⟩ := hp s hne'
      have hl : 0 < s.length := List.length_pos_iff.mpr hne'
      simp only [List.reverse_cons, List.flatten_append, List.flatten_cons, List.flatten_nil, List.append_nil]
      rw [rsegs_flatten hp fuel _ (by simp only [List.length_take]; omega)]
      exact List.take_append_drop _ _

/-! ### the one-character oracle -/

theorem progress_gFirstChar : Progress gFirstChar := by
  intro s hs
  cases s with
  | nil => exact absurd rfl hs
  | cons b bs =>
    rw [gFirstChar_cons]
    exact ⟨Nat.succ_pos _, Nat.succ_le_succ (List.takeWhile_sublist _).length_le⟩

theorem cuts_gFirstChar : CutsAtBoundaries gFirstChar := by
  intro s hs
  cases s with
  | nil => exact absurd rfl hs
  | cons b bs =>
    rw [gFirstChar_cons]
    conv => lhs; arg 1; rw [cons_eq_group_append]
    -- the rest after the group is empty or starts with a non-continuation byte
    have hd := List.head?_dropWhile_not isCont bs
    cases hdw : bs.dropWhile isCont with
    | nil => rw [List.append_nil]; exact isBoundary_length _
    | cons c r =>
      rw [hdw] at hd
      exact isBoundary_append_noncont _ r (by simpa using hd)

theorem boundary_between_groups : ∀ {xs : List Bytes} {s : Bytes} {ys : List Bytes}, charsOf s = xs ++ ys →
    isBoundary s xs.flatten.length = true
  | [], _, _, _ => rfl
  | x :: xr, [], _, h => nomatch h
  | x :: xr, b :: bs, ys, h => by
    rw [charsOf_cons, List.cons_append] at h
    obtain ⟨rfl, h'⟩ := List.cons.inj h
    have ih := boundary_between_groups h'
    rw [← drop_gFirstChar, isBoundary_drop (cuts_gFirstChar _ (List.cons_ne_nil b bs)), gFirstChar_cons] at ih
    rwa [List.flatten_cons, List.length_append]

theorem segs_gFirstChar_eq : ∀ (fuel : Nat) (s : Bytes), s.length ≤ fuel → segs gFirstChar fuel s = charsOf s :=
  segs_induct progress_gFirstChar (P := fun s xs => xs = charsOf s) rfl fun s xs hs ih => by
    obtain ⟨b, bs, rfl⟩ := List.exists_cons_of_ne_nil hs
    rw [take_gFirstChar, charsOf_cons, ih, drop_gFirstChar]

theorem charsOf_flatten (s : Bytes) : (charsOf s).flatten = s := by
  rw [← segs_gFirstChar_eq s.length s (Nat.le_refl _)]
  exact segs_flatten progress_gFirstChar _ s (Nat.le_refl _)

theorem charsOf_valid {s : Bytes} (hv : validUtf8 s = true) : ∀ c ∈ charsOf s, validUtf8 c = true := by
  rw [← segs_gFirstChar_eq s.length s (Nat.le_refl _)]
  exact segs_valid progress_gFirstChar cuts_gFirstChar _ s (Nat.le_refl _) hv

/-! ### char_indices -/

/-- the ranges produced by `char_indices` are consecutive, start at `idx` and end at the length -/
def Tiles : List (Nat × Nat) → Nat → Nat → Prop
  | [], a, n => a = n
  | (x, y) :: r, a, n => x = a ∧ x < y ∧ Tiles r y n

theorem charIndices_tiles {U : UFacts} (hp : Progress U.gFirst) (bs : Bytes) :
    ∀ (fuel idx : Nat), idx ≤ bs.length → bs.length - idx < fuel →
      Tiles (charIndicesLoop U bs fuel idx) idx bs.length
  | 0, idx, _, h => by omega
  | fuel + 1, idx, hle, h => by
    simp only [charIndicesLoop]
    cases hd : bs.drop idx with
    | nil =>
      simp only [Tiles]
      have := List.drop_eq_nil_iff.mp hd
      omega
    | cons b r =>
      simp only [Tiles]
      obtain ⟨h0, h1⟩ := hp (b :: r) (by simp)
      have hl : (b :: r).length = bs.length - idx := by rw [← hd]; simp
      refine ⟨trivial, by omega, ?_⟩
      exact charIndices_tiles hp bs fuel (idx + U.gFirst (b :: r)) (by omega) (by omega)

end KotoVerif.Str
