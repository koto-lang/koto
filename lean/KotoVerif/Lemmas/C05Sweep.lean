/-
Helper lemmas for C05: a unit's listing is the decoding of the unit's bytes at the listed positions.
-/
import KotoVerif.Lemmas.C05Codec
import KotoVerif.Model.WF

namespace KotoVerif.Bytecode
open KotoVerif.Gen

theorem sweep_decodes (fuel pc : Nat) (bs : List Nat) (items : List Ann) (subs : List Sub)
    (h : sweep fuel pc bs = some (items, subs)) :
    ∀ a ∈ items, pc ≤ a.pc ∧ ∃ rest, decode (bs.drop (a.pc - pc)) = .ok a.ins a.size rest := by
  induction fuel generalizing pc bs items subs with
  | zero => simp [sweep] at h
  | succ fuel ih =>
    cases bs with
    | nil =>
      simp [sweep] at h
      obtain ⟨rfl, _⟩ := h
      intro a ha; simp at ha
    | cons b0 bs0 =>
      simp only [sweep] at h
      split at h
      · rename_i i size rest hd
        obtain ⟨_, hlen, hrest⟩ := decode_len _ _ _ _ hd
        -- the entry just decoded, then those of the recursive call `z` bytes further on (`z = 0`: no skipped unit)
        have step : ∀ z items' subs', sweep fuel (pc + size + z) (rest.drop z) = some (items', subs') →
            ∀ a ∈ (⟨pc, size, i, none⟩ : Ann) :: items',
              pc ≤ a.pc ∧ ∃ r, decode ((b0 :: bs0).drop (a.pc - pc)) = .ok a.ins a.size r := by
          intro z items' subs' hrec a ha
          rcases List.mem_cons.1 ha with rfl | ha
          · exact ⟨Nat.le_refl _, rest, by simpa using hd⟩
          · obtain ⟨hge, r', hdec⟩ := ih _ _ _ _ hrec a ha
            refine ⟨by omega, r', ?_⟩
            rw [hrest, List.drop_drop, List.drop_drop] at hdec
            have : size + (z + (a.pc - (pc + size + z))) = a.pc - pc := by omega
            rw [← this]
            exact hdec
        split at h
        · rename_i z need hsk
          split at h
          · split at h
            · rename_i items' subs' hrec
              simp at h
              obtain ⟨rfl, _⟩ := h
              exact step z items' _ hrec
            · simp at h
          · simp at h
        · split at h
          · rename_i items' subs' hrec
            simp at h
            obtain ⟨rfl, _⟩ := h
            exact step 0 items' _ hrec
          · simp at h
      · simp at h

theorem annotate_fields (cur : Option Depth) (pend : List (Nat × Depth)) (items : List Ann) :
    (annotate cur pend items).map (fun a => (a.pc, a.size, a.ins))
      = items.map (fun a => (a.pc, a.size, a.ins)) := by
  induction items generalizing cur pend with
  | nil => simp [annotate]
  | cons a rest ih =>
    simp only [annotate]
    split
    · simp [ih]
    · split
      · simp [ih]
      · simp [ih]

theorem annotate_mem (cur : Option Depth) (pend : List (Nat × Depth)) (items : List Ann) (a : Ann)
    (h : a ∈ annotate cur pend items) : ∃ a0 ∈ items, a0.pc = a.pc ∧ a0.size = a.size ∧ a0.ins = a.ins := by
  have hm : (a.pc, a.size, a.ins) ∈ (annotate cur pend items).map (fun a => (a.pc, a.size, a.ins)) :=
    List.mem_map.mpr ⟨a, h, rfl⟩
  rw [annotate_fields] at hm
  obtain ⟨a0, h0, he⟩ := List.mem_map.mp hm
  simp at he
  exact ⟨a0, h0, he.1, he.2.1, he.2.2⟩

theorem unitListing_decodes (base : Nat) (bs : List Nat) (anns : List Ann) (subs : List Sub)
    (h : unitListing base bs = some (anns, subs)) :
    ∀ a ∈ anns, base ≤ a.pc ∧ ∃ rest, decode (bs.drop (a.pc - base)) = .ok a.ins a.size rest := by
  unfold unitListing at h
  split at h
  · rename_i items subs' hs
    simp at h
    obtain ⟨rfl, _⟩ := h
    intro a ha
    obtain ⟨a0, h0, hpc, hsz, hins⟩ := annotate_mem _ _ _ a ha
    have := sweep_decodes _ _ _ _ _ hs a0 h0
    rw [hpc, hsz, hins] at this
    exact this
  · simp at h

end KotoVerif.Bytecode
