/-
C13: consumers and call counting. The generic consumer loop over an iterator that denotes `xs` computes
the early-exit fold over the list `xs`, for every fuel larger than its length (`foldIt_spec`).
`pullN c m s`, "m consecutive `next` calls" (final state, all events), is the measure of how often an
adaptor asks its input: `Iterator::nth(k)` with `k` successful skips is `pullN (k + 1)`, and the logging
sources log `pull i, pull (i+1), …` under it.
-/
import KotoVerif.Lemmas.C13Refine

namespace KotoVerif.Iter

/-! ### consumers -/

theorem foldIt_spec {α : Type} (f : α → Val → List Ev × Sum α Ans) (fin : α → Ans)
    (xs : List Val) (fuel : Nat) (it : It) (a : α) (h : Fwd it.c it.s xs) (hl : xs.length < fuel) :
    (foldIt f fin fuel it a).1 = foldSpec f fin xs a := by
  induction xs generalizing fuel it a with
  | nil =>
    cases fuel with
    | zero => cases hl
    | succ fuel => simp only [foldIt, foldSpec, (fwd_head h :), List.head?_nil]
  | cons x xs ih =>
    cases fuel with
    | zero => cases hl
    | succ fuel =>
      simp only [foldIt, foldSpec, (fwd_head h :), List.head?_cons]
      cases hfx : f a x with
      | mk e y =>
        cases y with
        | inr ans => rfl
        | inl a' => exact ih fuel ⟨it.c, (it.c.next it.s).st⟩ a' (fwd_tail h) (Nat.lt_of_succ_lt_succ hl)

theorem listIt_fwd (xs : List Val) : Fwd (listIt xs).c (listIt xs).s xs := deq_fwd (seq_deq xs)

theorem foldIt_list {α : Type} (f : α → Val → List Ev × Sum α Ans) (fin : α → Ans) {fuel : Nat} {it : It}
    {xs : List Val} (a : α) (h : Fwd it.c it.s xs) (hl : xs.length < fuel) :
    (foldIt f fin fuel it a).1 = (foldIt f fin (xs.length + 1) (listIt xs) a).1 :=
  (foldIt_spec f fin xs fuel it a h hl).trans
    (foldIt_spec f fin xs _ (listIt xs) a (listIt_fwd xs) (Nat.lt_succ_self _)).symm

theorem runLoop_spec (c : Cons) (fuel : Nat) (it : It) (xs : List Val)
    (h : Fwd it.c it.s xs) (hl : xs.length < fuel) :
    (runLoop fuel it c).1 = (runLoop (xs.length + 1) (listIt xs) c).1 := by
  cases c <;> first | exact foldIt_list _ _ _ h hl | rfl

theorem drain_list (xs acc : List Val) :
    foldSpec (fun (acc : List Val) v => cont (acc ++ [v]))
      (fun acc => .ok (.list acc)) xs acc = .ok (.list (acc ++ xs)) := by
  induction xs generalizing acc with
  | nil => rw [List.append_nil]; rfl
  | cons x xs ih => exact (ih (acc ++ [x])).trans (by rw [List.append_assoc]; rfl)

theorem drain_spec {fuel : Nat} {it : It} {xs : List Val} (h : Fwd it.c it.s xs) (hl : xs.length < fuel) :
    (drain fuel it).1 = .ok (.list xs) :=
  (foldIt_spec _ _ xs fuel it [] h hl).trans (drain_list xs [])

theorem count_list (xs : List Val) (n : Nat) :
    foldSpec (fun (n : Nat) (_ : Val) => cont (n + 1))
      (fun n => .ok (Val.int n)) xs n = .ok (Val.int ((n + xs.length : Nat) : Int)) := by
  induction xs generalizing n with
  | nil => rfl
  | cons x xs ih => exact (ih (n + 1)).trans (by rw [List.length_cons, Nat.add_assoc, Nat.add_comm 1])

theorem runCalls_outs (ds : List Bool) (it : It) :
    (runCalls ds it).1 = (outsD it.c ds it.s).map (fun o => o.getD endMarker) := by
  induction ds generalizing it with
  | nil => rfl
  | cons d ds ih =>
    cases d with
    | true => exact congrArg _ (ih ⟨it.c, (it.c.next it.s).st⟩)
    | false => exact congrArg _ (ih ⟨it.c, (it.c.back it.s).st⟩)

theorem runCalls_next (k : Nat) (it : It) :
    (runCalls (List.replicate k true) it).2.1 = ⟨it.c, (pullN it.c k it.s).1⟩ := by
  induction k generalizing it with
  | zero => rfl
  | succ k ih => exact ih ⟨it.c, (it.c.next it.s).st⟩

/-! ### consecutive calls -/

theorem pullN_succ (c : Co) (n : Nat) (s : c.σ) :
    pullN c (n + 1) s = ((pullN c n (c.next s).st).1, (c.next s).ev ++ (pullN c n (c.next s).st).2) := rfl

theorem pullN_add (c : Co) (m n : Nat) (s : c.σ) :
    pullN c (m + n) s = ((pullN c n (pullN c m s).1).1, (pullN c m s).2 ++ (pullN c n (pullN c m s).1).2) := by
  induction m generalizing s with
  | zero => rw [Nat.zero_add]; rfl
  | succ m ih => rw [Nat.add_right_comm, pullN_succ, pullN_succ, ih, List.append_assoc]

/-- `takeUpTo` is `pullN` stopped after the first `None`: one call per value taken, and the failing
one if it stopped early -/
theorem takeUpTo_eq_pullN (c : Co) (n : Nat) (s : c.σ) :
    (takeUpTo c n s).2 = pullN c (min n ((takeUpTo c n s).1.length + 1)) s := by
  induction n generalizing s with
  | zero => rw [Nat.zero_min]; rfl
  | succ n ih =>
    cases h : (c.next s).out with
    | none =>
      rw [takeUpTo_none n h]
      show _ = pullN c (min (n + 1) (0 + 1)) s
      rw [Nat.succ_min_succ, Nat.min_zero]
      exact congrArg (Prod.mk _) (List.append_nil _).symm
    | some v => rw [takeUpTo_some n h, List.length_cons, Nat.succ_min_succ, pullN_succ, ← ih]

theorem nth_eq_pullN (c : Co) (k : Nat) (s : c.σ) (hok : (advance c k s).1 = true) :
    (nth c k s).st = (pullN c (k + 1) s).1 ∧ (nth c k s).ev = (pullN c (k + 1) s).2 := by
  rw [advance_eq_takeUpTo] at hok
  have e := takeUpTo_eq_pullN c k s
  rw [of_decide_eq_true hok, Nat.min_eq_left (Nat.le_succ k)] at e
  simp only [nth, advance_eq_takeUpTo, hok, if_true]
  rw [pullN_add c k 1 s, ← e]
  exact ⟨rfl, congrArg _ (List.append_nil _).symm⟩

/-! ### pull order of the logging sources -/

/-- the event-side counterpart of `cursor_fwd` -/
theorem cursor_pulls {c : Co} (k len : Nat) (pos : c.σ → Nat)
    (h : ∀ s, pos s < len → (c.next s).ev = [Ev.pull k (pos s)] ∧ pos (c.next s).st = pos s + 1) :
    ∀ (m : Nat) (s : c.σ), pos s + m ≤ len →
      (pullN c m s).2 = (List.range m).map (fun j => Ev.pull k (pos s + j)) := by
  intro m
  induction m with
  | zero => intro s _; rfl
  | succ m ih =>
    intro s hi
    have ⟨e1, e2⟩ := h s (Nat.lt_of_lt_of_le (Nat.lt_add_of_pos_right (Nat.succ_pos m)) hi)
    rw [map_range_succ_shift (Ev.pull k) (pos s) m, pullN_succ, e1, ← e2,
      ih _ (by rw [e2, Nat.add_assoc, Nat.add_comm 1 m]; exact hi)]
    rfl

end KotoVerif.Iter
