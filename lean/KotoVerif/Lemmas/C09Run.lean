/-
C09: lexer runs.  The run invariant `Inv`, what one step says about its token and the text it passes
over (`Step`, from the decision contract `DecOk`), and the two principles for runs built on them:
induction over the run (`lexFuel_induct`) and invariants of the reachable states
(`lexAll_invariant`); with them the pairwise order and the texts of the tokens of a run.
-/
import KotoVerif.Lemmas.C09Decide

namespace KotoVerif.Lexer
open KotoVerif.Gen

/-! ### one step of the lexer -/

@[simp] theorem resetIndent_span (s : St) : (resetIndent s).span = s.span := by
  unfold resetIndent; split <;> rfl
@[simp] theorem resetIndent_prevTok (s : St) : (resetIndent s).prevTok = s.prevTok := by
  unfold resetIndent; split <;> rfl
@[simp] theorem resetIndent_modes (s : St) : (resetIndent s).modes = s.modes := by
  unfold resetIndent; split <;> rfl
@[simp] theorem resetIndent_cur (s : St) : (resetIndent s).cur = s.cur := by
  unfold resetIndent; split <;> rfl

theorem applyDecision_adv {s : St} {d : Decision} {n : Nat} {q : Pos} (h : d.move = .adv n q) :
    applyDecision s d =
      { cur := s.cur + n, prev := s.cur, prevTok := some d.tok, span := ⟨s.span.stop, q⟩,
        indent := d.setIndent.getD s.indent, modes := d.modes } := by
  simp [applyDecision, applyMove, h]

theorem stepD_eq {src pre post : List Ch} {s s' : St} {d : Decision} (hsrc : src = pre ++ post)
    (hcur : byteLen pre = s.cur) (hstep : stepD src s = some (d, s')) :
    ∃ c rest, post = c :: rest ∧ d = decideTok s.span.stop s.prevTok s.modes c rest ∧
      s' = applyDecision (resetIndent s) d := by
  unfold stepD at hstep
  rw [hsrc, ← hcur, dropBytes_append] at hstep
  cases post with
  | nil => cases hstep
  | cons c rest =>
    simp only [Option.some.injEq, Prod.mk.injEq, resetIndent_span, resetIndent_prevTok,
      resetIndent_modes] at hstep
    exact ⟨c, rest, rfl, hstep.1.symm, by rw [← hstep.2, hstep.1]⟩

structure Inv (src pre post : List Ch) (s : St) : Prop where
  src_eq : src = pre ++ post
  cur : byteLen pre = s.cur
  line : s.span.stop.line = nlCount pre
  modes : ModesOk s.modes post

theorem inv_init (src : List Ch) : Inv src [] src {} :=
  ⟨rfl, rfl, rfl, .of_noRawEnd (fun _ h => absurd h List.not_mem_nil) _⟩

theorem Inv.prefixAt {src pre post : List Ch} {s : St} (h : Inv src pre post s) :
    prefixAt s.cur src = some pre :=
  prefixAt_eq_some_iff.mpr ⟨post, h.src_eq, h.cur⟩

/-- at the start of input or just after a `NewLine` token, in the default dispatch -/
def Fresh (s : St) : Prop :=
  ((s.prevTok = none ∧ s.indent = 0) ∨ s.prevTok = some .newLine) ∧ defaultMode s.modes = true

theorem fresh_init : Fresh ({} : St) := ⟨Or.inl ⟨rfl, rfl⟩, rfl⟩

/-- What one step with the non-error token `l` does: it passes from the boundary after `pre` over
the text `t`, leaving `post`. -/
structure Step (src pre t post : List Ch) (s : St) (l : Lexed) (s' : St) : Prop where
  before : Inv src pre (t ++ post) s
  after : Inv src (pre ++ t) post s'
  tok_ne : l.tok ≠ .error
  startByte : l.startByte = byteLen pre
  endByte : l.endByte = byteLen pre + byteLen t
  start : l.span.start = s.span.stop
  stop : l.span.stop = s'.span.stop
  indent : l.indent = s'.indent
  prevTok : s'.prevTok = some l.tok
  pos : TokPos l.tok s.span.stop t s'.span.stop
  newline : l.tok = .newLine → s'.span.stop.col = 0 ∧ (∃ a e, t = a ++ [e] ∧ e.cp = cpNL) ∧ Fresh s'
  indent_keep : s.prevTok ≠ none → s.prevTok ≠ some .newLine → s'.indent = s.indent
  indent_set : Fresh s → s'.indent = countWhile isWhitespace (t ++ post)

section
variable {src pre t post : List Ch} {s s' : St} {l : Lexed} (h : Step src pre t post s l s')
include h

theorem Step.prefix_start : prefixAt l.startByte src = some pre := by
  rw [h.startByte, h.before.cur]; exact h.before.prefixAt

theorem Step.prefix_end : prefixAt l.endByte src = some (pre ++ t) := by
  rw [h.endByte, ← byteLen_append, h.after.cur]; exact h.after.prefixAt

theorem Step.text : textOf src l.startByte l.endByte = some t := by
  rw [h.startByte, h.endByte, h.before.src_eq]; exact textOf_mid pre t post

theorem Step.start_le_end : l.startByte ≤ l.endByte := by
  rw [h.startByte, h.endByte]; exact Nat.le_add_right _ _

theorem Step.startLine : l.span.start.line = nlCount pre := by rw [h.start, h.before.line]

theorem Step.stopLine : l.span.stop.line = nlCount pre + nlCount t := by
  rw [h.stop, h.after.line, nlCount_append]

end

theorem stepD_inv {src pre post : List Ch} {s s' : St} {d : Decision} (ht : TableOk src)
    (hinv : Inv src pre post s) (hstep : stepD src s = some (d, s')) (hne : d.tok ≠ .error) :
    ∃ t post', post = t ++ post' ∧ Step src pre t post' s (lexedOf d s') s' := by
  obtain ⟨c, rest, rfl, hd, rfl⟩ := stepD_eq hinv.src_eq hinv.cur hstep
  have hok := decideTok_ok s.span.stop s.prevTok s.modes c rest
    (hinv.src_eq ▸ ht).of_append_right hinv.modes
  rw [← hd] at hok
  obtain ⟨t, post', q, e1, e2, e3, e4, e5⟩ := hok.adv hne
  rw [applyDecision_adv e2, resetIndent_cur, resetIndent_span]
  refine ⟨t, post', e1, e1 ▸ hinv, ⟨by rw [hinv.src_eq, e1, List.append_assoc], ?_, ?_, e4⟩, hne,
    hinv.cur.symm, congrArg (· + byteLen t) hinv.cur.symm, rfl, rfl, rfl, rfl, e3,
    fun hnl => ?_, fun h1 h2 => ?_, fun hf => ?_⟩
  -- left over: `after.cur`, `after.line`, and the fields `newline`, `indent_keep`, `indent_set`
  · simp [hinv.cur]
  · simp only [nlCount_append, ← hinv.line]; exact e3.line
  · obtain ⟨n1, n2, n3, n4⟩ := e5 hnl
    exact ⟨n1, n2, Or.inr (congrArg some hnl), by show defaultMode d.modes = true; rw [n4]; exact n3⟩
  · have hr : resetIndent s = s := by unfold resetIndent; simp [h2]
    have : d.setIndent = none := by
      rw [hok.indent]
      cases hp : s.prevTok with
      | none => exact absurd hp h1
      | some tk =>
        have : tk ≠ .newLine := fun h => h2 (by rw [hp, h])
        simp [this]
    show d.setIndent.getD (resetIndent s).indent = s.indent
    rw [this, hr]; rfl
  · obtain ⟨hp, hm⟩ := hf
    have h0 : (resetIndent s).indent = 0 := by
      unfold resetIndent
      rcases hp with ⟨hp, hi⟩ | hp
      · simp [hp, hi]
      · simp [hp]
    have hc : (s.prevTok == some Token.newLine || s.prevTok == none) = true := by
      rcases hp with ⟨hp, _⟩ | hp <;> rw [hp] <;> rfl
    show d.setIndent.getD (resetIndent s).indent = _
    rw [hok.indent, h0, hm, hc, ← e1]
    by_cases hw : isWhitespace c.cp = true
    · simp [hw]
    · simp [hw, countWhile]

/-! ### runs -/

theorem lexFuel_induct {src : List Ch} (ht : TableOk src)
    {motive : List Ch → List Ch → St → List Lexed → Prop}
    (stop : ∀ pre post s, Inv src pre post s → motive pre post s [])
    (error : ∀ pre post s l, Inv src pre post s → l.tok = .error → motive pre post s [l])
    (step : ∀ pre t post s l s' ls, Step src pre t post s l s' → motive (pre ++ t) post s' ls →
      motive pre (t ++ post) s (l :: ls)) :
    ∀ fuel pre post s, Inv src pre post s → motive pre post s (lexFuel src fuel s) := by
  intro fuel pre post s
  -- the cases of `lexFuel`: no fuel, end of stream, an `Error` token, a token and the rest of the run
  fun_induction lexFuel src fuel s generalizing pre post with
  | case1 => exact stop pre post _
  | case2 => exact stop pre post _
  | case3 fuel s d s' _ _ he => exact fun hinv => error pre post s _ hinv he
  | case4 fuel s d s' hstep _ he ih =>
    intro hinv
    obtain ⟨t, post', rfl, hst⟩ := stepD_inv ht hinv hstep he
    exact step pre t post' s _ s' _ hst (ih _ _ hst.after)

/-- The texts of an error-free initial segment `toks` of a run concatenate to the text passed over:
each step's token has the text `t` by which the invariant's prefix grows. -/
theorem lexFuel_texts {src : List Ch} (ht : TableOk src) : ∀ fuel pre post s, Inv src pre post s →
    ∀ toks rest, lexFuel src fuel s = toks ++ rest → (∀ l ∈ toks, l.tok ≠ .error) →
    ∃ ts : List (List Ch), toks.map (fun l => textOf src l.startByte l.endByte) = ts.map some ∧
      prefixAt (toks.foldl (fun _ l => l.endByte) (byteLen pre)) src = some (pre ++ ts.flatten) := by
  have nil : ∀ {pre post s}, Inv src pre post s →
      prefixAt (byteLen pre) src = some (pre ++ ([] : List (List Ch)).flatten) :=
    fun hinv => by rw [List.flatten_nil, List.append_nil, hinv.cur]; exact hinv.prefixAt
  refine lexFuel_induct ht (motive := fun pre _ _ ls => ∀ toks rest, ls = toks ++ rest →
      (∀ l ∈ toks, l.tok ≠ .error) →
      ∃ ts : List (List Ch), toks.map (fun l => textOf src l.startByte l.endByte) = ts.map some ∧
        prefixAt (toks.foldl (fun _ l => l.endByte) (byteLen pre)) src = some (pre ++ ts.flatten)) ?_ ?_ ?_
  · intro pre post s hinv toks rest h _
    cases (List.append_eq_nil_iff.mp h.symm).1
    exact ⟨[], rfl, nil hinv⟩
  · intro pre post s l hinv he toks rest h hne
    cases toks with
    | nil => exact ⟨[], rfl, nil hinv⟩
    | cons l' toks => cases (List.cons.inj h).1; exact absurd he (hne _ List.mem_cons_self)
  · intro pre t post s l s' ls hst ih toks rest h hne
    cases toks with
    | nil => exact ⟨[], rfl, nil hst.before⟩
    | cons l' toks =>
      obtain ⟨hl, h'⟩ := List.cons.inj h
      subst hl
      obtain ⟨ts, h1, h2⟩ := ih toks rest h' (fun x hx => hne x (List.mem_cons_of_mem _ hx))
      refine ⟨t :: ts, ?_, ?_⟩
      · simp only [List.map_cons, h1, hst.text]
      · rw [List.foldl_cons, hst.endByte, ← byteLen_append, h2, List.flatten_cons, List.append_assoc]

/-- pairwise order of a run from a reachable state, whose tokens lie at or after its cursor -/
theorem lexFuel_pairwise {src : List Ch} (ht : TableOk src) : ∀ fuel pre post s, Inv src pre post s →
    List.Pairwise (fun a b : Lexed => a.tok ≠ .error → b.tok ≠ .error → a.endByte ≤ b.startByte)
      (lexFuel src fuel s) ∧
    ∀ l ∈ lexFuel src fuel s, l.tok ≠ .error → byteLen pre ≤ l.startByte := by
  refine lexFuel_induct ht (motive := fun pre _ _ ls =>
      List.Pairwise (fun a b : Lexed => a.tok ≠ .error → b.tok ≠ .error → a.endByte ≤ b.startByte) ls ∧
      ∀ l ∈ ls, l.tok ≠ .error → byteLen pre ≤ l.startByte)
    (fun _ _ _ _ => ⟨.nil, fun l hl => absurd hl List.not_mem_nil⟩) ?_ ?_
  · intro pre post s l _ he
    exact ⟨List.pairwise_singleton _ _, fun l' hl hne => absurd (List.mem_singleton.mp hl ▸ he) hne⟩
  · intro pre t post s l s' ls hst ih
    have hb : ∀ b ∈ ls, b.tok ≠ .error → l.endByte ≤ b.startByte := fun b hb hbne => by
      rw [hst.endByte, ← byteLen_append]; exact ih.2 b hb hbne
    refine ⟨.cons (fun b hb' _ hbne => hb b hb' hbne) ih.1, fun l' hl hne => ?_⟩
    rcases List.mem_cons.mp hl with rfl | hl
    · exact Nat.le_of_eq hst.startByte.symm
    · have := hb l' hl hne
      have := hst.endByte
      omega

theorem lexAll_apart {src : List Ch} (ht : TableOk src) {a b : Lexed} (ha : a ∈ lexAll src)
    (hb : b ∈ lexAll src) (hae : a.tok ≠ .error) (hbe : b.tok ≠ .error) :
    a = b ∨ a.endByte ≤ b.startByte ∨ b.endByte ≤ a.startByte := by
  have hp : List.Pairwise _ (lexAll src) := (lexFuel_pairwise ht _ _ _ _ (inv_init src)).1
  exact List.Pairwise.forall_of_forall_of_flip
    (R := fun a b : Lexed => a.tok ≠ .error → b.tok ≠ .error →
      a = b ∨ a.endByte ≤ b.startByte ∨ b.endByte ≤ a.startByte)
    (fun _ _ _ _ => Or.inl rfl) (hp.imp fun h x y => Or.inr (Or.inl (h x y)))
    (hp.imp fun h x y => Or.inr (Or.inr (h y x))) ha hb hae hbe

/-- Invariants of the reachable states.  Unlike the motive of `lexFuel_induct`, `P` may speak of
`lexAll src` as a whole (the tokens earlier on the line, the `NewLine` token that began it): `step`
is asked only of tokens of `lexAll src`. -/
theorem lexAll_invariant {src : List Ch} (ht : TableOk src) {P : List Ch → St → Prop} {Q : Lexed → Prop}
    (init : P [] {})
    (step : ∀ pre t post s l s', Step src pre t post s l s' → l ∈ lexAll src → P pre s → P (pre ++ t) s')
    (tok : ∀ pre t post s l s', Step src pre t post s l s' → P pre s → P (pre ++ t) s' → Q l) :
    ∀ l ∈ lexAll src, l.tok ≠ .error → Q l := by
  -- generalised to a run whose tokens are the rest of `lexAll src` after the tokens `done`
  refine lexFuel_induct ht (motive := fun pre _ s ls => ∀ done, lexAll src = done ++ ls → P pre s →
      ∀ l ∈ ls, l.tok ≠ .error → Q l)
    (fun _ _ _ _ _ _ _ l hl => absurd hl List.not_mem_nil) ?_ ?_ _ _ _ _ (inv_init src) [] rfl init
  · intro pre post s l _ he done _ _ l' hl hne
    exact absurd (List.mem_singleton.mp hl ▸ he) hne
  · intro pre t post s l s' ls hst ih done hall hP l' hl hne
    have hP' := step pre t post s l s' hst (by rw [hall]; simp) hP
    rcases List.mem_cons.mp hl with rfl | hl
    · exact tok pre t post s _ s' hst hP hP'
    · exact ih (done ++ [l]) (by rw [hall]; simp) hP' l' hl hne

theorem lexAll_forall {src : List Ch} (ht : TableOk src) {Q : Lexed → Prop}
    (h : ∀ pre t post s l s', Step src pre t post s l s' → Q l) :
    ∀ l ∈ lexAll src, l.tok ≠ .error → Q l :=
  lexAll_invariant ht (P := fun _ _ => True) trivial (fun _ _ _ _ _ _ _ _ _ => trivial)
    (fun pre t post s l s' hst _ _ => h pre t post s l s' hst)

end KotoVerif.Lexer
