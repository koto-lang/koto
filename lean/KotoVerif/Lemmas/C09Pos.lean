/-
C09: positions — display-width sums, the column after a character list, the last line of a prefix
(specification vocabulary for exact columns), and `PosOk`, the relation between a text and what the
lexer's `advance_line*` bookkeeping makes of it.
-/
import KotoVerif.Lemmas.C09Text

namespace KotoVerif.Lexer

/-! ### display widths and columns -/

/-- printable ASCII (space .. `~`): the characters the real width table gives width 1 -/
def printable (cp : Nat) : Bool := 32 ≤ cp && cp < 127

/-- Assumption on the supplied width table: printable ASCII characters have display width 1
(true of `unicode_width`; checked per character like `TableOk`). -/
def WidthOk (cs : List Ch) : Prop := ∀ c ∈ cs, printable c.cp = true → c.width = 1

theorem WidthOk.of_append_right {a b : List Ch} (h : WidthOk (a ++ b)) : WidthOk b :=
  fun d hd => h d (by simp [hd])

theorem WidthOk.of_append_left {a b : List Ch} (h : WidthOk (a ++ b)) : WidthOk a :=
  fun d hd => h d (by simp [hd])

theorem printable_plain {cp : Nat} (h : printable cp = true) : plain cp = true := by
  simp [printable] at h
  simp [plain, cpNL]; omega

def widthSum : List Ch → Nat
  | [] => 0
  | c :: cs => c.width + widthSum cs

@[simp] theorem widthSum_nil : widthSum [] = 0 := rfl
@[simp] theorem widthSum_cons (c : Ch) (cs : List Ch) : widthSum (c :: cs) = c.width + widthSum cs := rfl
theorem widthSum_eq_sum (cs : List Ch) : widthSum cs = (cs.map (·.width)).sum := by
  induction cs with
  | nil => rfl
  | cons c cs ih => rw [widthSum_cons, ih, List.map_cons, List.sum_cons]

@[simp] theorem widthSum_append (a b : List Ch) : widthSum (a ++ b) = widthSum a + widthSum b := by
  simp only [widthSum_eq_sum, List.map_append, List.sum_append_nat]

theorem widthSum_eq_length {t : List Ch} (h : ∀ c ∈ t, c.width = 1) : widthSum t = t.length := by
  rw [widthSum_eq_sum, List.map_congr_left h, List.map_const', List.sum_replicate_nat, Nat.mul_one]

/-- the display column reached from column `col` after the given characters -/
def colFrom (col : Nat) : List Ch → Nat
  | [] => col
  | c :: cs => colFrom (if c.cp = cpNL then 0 else col + c.width) cs

@[simp] theorem colFrom_nil (x : Nat) : colFrom x [] = x := rfl

theorem colFrom_append (x : Nat) (a b : List Ch) : colFrom x (a ++ b) = colFrom (colFrom x a) b := by
  induction a generalizing x with
  | nil => simp
  | cons c cs ih => simp only [List.cons_append, colFrom]; exact ih _

theorem colFrom_noNL : ∀ (cs : List Ch) (x : Nat), nlCount cs = 0 → colFrom x cs = x + widthSum cs := by
  intro cs
  induction cs with
  | nil => intro x _; simp
  | cons c cs ih =>
    intro x h
    rw [nlCount_cons] at h
    by_cases hc : c.cp = cpNL
    · simp [hc] at h
    · simp only [hc, if_false] at h
      simp only [colFrom, hc, if_false, widthSum_cons]
      rw [ih _ (by omega)]; omega

theorem colFrom_nl : ∀ (cs : List Ch) (x y : Nat), nlCount cs ≠ 0 → colFrom x cs = colFrom y cs := by
  intro cs
  induction cs with
  | nil => intro x y h; simp at h
  | cons c cs ih =>
    intro x y h
    simp only [colFrom]
    by_cases hc : c.cp = cpNL
    · simp [hc]
    · simp only [hc, if_false]
      apply ih
      rw [nlCount_cons] at h
      simpa [hc] using h

theorem posAfter_eq : ∀ (cs : List Ch) (p : Pos), posAfter p cs = ⟨p.line + nlCount cs, colFrom p.col cs⟩ := by
  intro cs
  induction cs with
  | nil => intro p; simp [posAfter]
  | cons c cs ih =>
    intro p
    simp only [posAfter, colFrom]
    rw [ih]
    by_cases h : c.cp = cpNL
    · simp [h, nlCount_cons]; omega
    · simp [h, nlCount_cons]

theorem posAfter_nil (p : Pos) : posAfter p [] = p := rfl

theorem posAfter_cons_nl (p : Pos) (c : Ch) (cs : List Ch) (h : c.cp = cpNL) :
    posAfter p (c :: cs) = posAfter ⟨p.line + 1, 0⟩ cs := by
  simp [posAfter, h]

/-! ### the last line of a prefix (specification vocabulary) -/

/-- the characters after the last line feed of `pre` (all of `pre` when it has none) -/
def lastLine (pre : List Ch) : List Ch := (pre.reverse.takeWhile (fun c => c.cp != cpNL)).reverse

/-- display column of the point after `pre` -/
def colAt (pre : List Ch) : Nat := widthSum (lastLine pre)

/-- byte offset at which the last line of `pre` starts (just after its last line feed; 0 if none) -/
def lineStartByte (pre : List Ch) : Nat := byteLen pre - byteLen (lastLine pre)

theorem lastLine_snoc (a : List Ch) (c : Ch) :
    lastLine (a ++ [c]) = if c.cp = cpNL then [] else lastLine a ++ [c] := by
  unfold lastLine
  simp only [List.reverse_append, List.reverse_cons, List.reverse_nil, List.nil_append,
    List.cons_append, List.takeWhile_cons]
  by_cases h : c.cp = cpNL <;> simp [h]

theorem lastLine_nil : lastLine [] = [] := rfl

/-- the last line is what follows the last line feed -/
theorem lastLine_suffix (pre : List Ch) : lastLine pre <:+ pre := by
  have := List.reverse_suffix.mpr (List.takeWhile_prefix (l := pre.reverse) (fun c => c.cp != cpNL))
  rwa [List.reverse_reverse] at this

theorem nlCount_lastLine (pre : List Ch) : nlCount (lastLine pre) = 0 :=
  nlCount_eq_zero_iff.mpr fun c hc => by
    simpa using List.all_eq_true.mp (List.all_takeWhile (p := fun c : Ch => c.cp != cpNL)) c
      (List.mem_reverse.mp (show c ∈ (pre.reverse.takeWhile _).reverse from hc))

theorem lastLine_append_noNL (a t : List Ch) (h : nlCount t = 0) :
    lastLine (a ++ t) = lastLine a ++ t := by
  unfold lastLine
  rw [List.reverse_append, List.takeWhile_append_of_pos fun c hc =>
      bne_iff_ne.mpr (nlCount_eq_zero_iff.mp h c (List.mem_reverse.mp hc)),
    List.reverse_append, List.reverse_reverse]

theorem lastLine_append_nl (a t : List Ch) (h : nlCount t ≠ 0) : lastLine (a ++ t) = lastLine t := by
  unfold lastLine
  rw [List.reverse_append, List.takeWhile_append, if_neg]
  -- otherwise `takeWhile` keeps all of `t.reverse`, and `t` is its own last line
  intro hl
  have := (List.takeWhile_prefix (l := t.reverse) (fun c => c.cp != cpNL)).eq_of_length hl
  exact h (by rw [← List.reverse_reverse t, ← this]; exact nlCount_lastLine t)

theorem colAt_eq_colFrom (pre : List Ch) : colAt pre = colFrom 0 pre := by
  suffices H : ∀ l : List Ch, colAt l.reverse = colFrom 0 l.reverse by
    have := H pre.reverse; simpa using this
  intro l
  induction l with
  | nil => rfl
  | cons c l ih =>
    simp only [List.reverse_cons]
    rw [colFrom_append, ← ih, colAt, lastLine_snoc]
    by_cases hc : c.cp = cpNL
    · simp [hc, colFrom]
    · simp [hc, colFrom, colAt]

theorem colAt_nil : colAt [] = 0 := rfl

theorem colAt_append (pre t : List Ch) : colAt (pre ++ t) = colFrom (colAt pre) t := by
  rw [colAt_eq_colFrom, colFrom_append, ← colAt_eq_colFrom]

theorem byteLen_lastLine_le (pre : List Ch) : byteLen (lastLine pre) ≤ byteLen pre := by
  obtain ⟨a, e⟩ := lastLine_suffix pre
  have := congrArg byteLen e
  rw [byteLen_append] at this
  omega

theorem lineStartByte_le (pre : List Ch) : lineStartByte pre ≤ byteLen pre := by
  unfold lineStartByte; omega

theorem lineStartByte_append_noNL (pre t : List Ch) (h : nlCount t = 0) :
    lineStartByte (pre ++ t) = lineStartByte pre := by
  unfold lineStartByte
  rw [lastLine_append_noNL _ _ h]
  have := byteLen_lastLine_le pre
  simp only [byteLen_append]; omega

theorem byteLen_lastLine_lt (t : List Ch) (h : nlCount t ≠ 0) : byteLen (lastLine t) < byteLen t := by
  obtain ⟨a, e⟩ := lastLine_suffix t
  have e1 := congrArg byteLen e
  have e2 := congrArg nlCount e
  rw [byteLen_append] at e1
  rw [nlCount_append, nlCount_lastLine] at e2
  cases a with
  | nil => exact absurd e2.symm h
  | cons c a => have := c.len_pos; rw [byteLen_cons] at e1; omega

theorem lineStartByte_append_nl (pre t : List Ch) (h : nlCount t ≠ 0) :
    byteLen pre < lineStartByte (pre ++ t) := by
  unfold lineStartByte
  rw [lastLine_append_nl _ _ h]
  have := byteLen_lastLine_lt t h
  simp only [byteLen_append]; omega

theorem lineStartByte_mono (pre t : List Ch) : lineStartByte pre ≤ lineStartByte (pre ++ t) := by
  by_cases h : nlCount t = 0
  · rw [lineStartByte_append_noNL _ _ h]; exact Nat.le_refl _
  · have := lineStartByte_append_nl pre t h
    have := lineStartByte_le pre
    omega

theorem lastLine_of_ends_nl (a : List Ch) (c : Ch) (h : c.cp = cpNL) : lastLine (a ++ [c]) = [] := by
  rw [lastLine_snoc]; simp [h]

theorem lineStartByte_of_ends_nl (a : List Ch) (e : Ch) (h : e.cp = cpNL) :
    lineStartByte (a ++ [e]) = byteLen (a ++ [e]) := by
  unfold lineStartByte
  rw [lastLine_of_ends_nl a e h]; simp

/-! ### what the lexer's position bookkeeping computes -/

/-- `q` is an admissible result of the lexer's position bookkeeping from `p` over the text `t`: the
line is exact, and the column is exact as soon as printable ASCII has display width 1 in `t`
(`advance_line` counts such characters as one column each, the loops add display widths). -/
structure PosOk (p : Pos) (t : List Ch) (q : Pos) : Prop where
  line : q.line = p.line + nlCount t
  col : WidthOk t → q.col = colFrom p.col t

theorem PosOk.nil (p : Pos) : PosOk p [] p := ⟨by simp, fun _ => rfl⟩

theorem PosOk.exact (p : Pos) (t : List Ch) : PosOk p t (posAfter p t) := by
  rw [posAfter_eq]; exact ⟨rfl, fun _ => rfl⟩

theorem PosOk.append {p q r : Pos} {a b : List Ch} (h1 : PosOk p a q) (h2 : PosOk q b r) :
    PosOk p (a ++ b) r := by
  refine ⟨by rw [h2.line, h1.line, nlCount_append, Nat.add_assoc], fun hw => ?_⟩
  rw [h2.col hw.of_append_right, h1.col hw.of_append_left, colFrom_append]

/-- `advance_line_utf8` over a text without line break: the summed display widths -/
theorem PosOk.width (p : Pos) {t : List Ch} (h : nlCount t = 0) :
    PosOk p t ⟨p.line, p.col + widthSum t⟩ :=
  ⟨by simp [h], fun _ => (colFrom_noNL t _ h).symm⟩

/-- `advance_line(k)` over `k` printable characters -/
theorem PosOk.run (p : Pos) {cs : List Ch} {k : Nat} (h : k ≤ countWhile printable cs) :
    PosOk p (cs.take k) ⟨p.line, p.col + k⟩ := by
  obtain ⟨hl, _, hn⟩ := take_plain (fun _ => printable_plain) h
  refine ⟨by simp [hn], fun hw => ?_⟩
  rw [colFrom_noNL _ _ hn, widthSum_eq_length (fun c hc => hw c hc (mem_take_countWhile h c hc)), hl]

theorem PosOk.char (p : Pos) {c : Ch} (h : ¬ c.cp = cpNL) : PosOk p [c] ⟨p.line, p.col + c.width⟩ := by
  have := PosOk.width p (t := [c]) (by simp [nlCount_cons, h])
  simpa using this

theorem PosOk.ascii (p : Pos) {c : Ch} (h : printable c.cp = true) : PosOk p [c] ⟨p.line, p.col + 1⟩ :=
  PosOk.run p (cs := [c]) (k := 1) (by simp [countWhile, h])

theorem PosOk.ends_nl (p : Pos) {a : List Ch} {e : Ch} (ha : nlCount a = 0) (he : e.cp = cpNL) :
    PosOk p (a ++ [e]) ⟨p.line + 1, 0⟩ :=
  ⟨by simp [nlCount_cons, ha, he], fun _ => by simp [colFrom_append, colFrom, he]⟩

theorem PosOk.cons_run {p q : Pos} {c : Ch} {cs : List Ch} {extra : Nat} (h : PosOk p [c] q)
    (hrun : extra ≤ countWhile printable cs) :
    byteLen (c :: cs.take extra) = c.len + extra ∧ PosOk p (c :: cs.take extra) ⟨q.line, q.col + extra⟩ :=
  ⟨by simp [(take_plain (fun _ => printable_plain) hrun).2.1], h.append (PosOk.run q hrun)⟩

theorem countWhileUtf8_eq (q : Ch → Bool) (cs : List Ch) :
    countWhileUtf8 q cs = (byteLen (cs.takeWhile q), widthSum (cs.takeWhile q)) := by
  induction cs with
  | nil => rfl
  | cons c cs ih =>
    simp only [countWhileUtf8, List.takeWhile_cons]
    split
    · simp [ih]
    · rfl

end KotoVerif.Lexer
