/-
C16 — type hints check exactly as documented; disabling them changes nothing else.

Property theorems about `Model/Types.lean` (= `compare_value_type`, `type_as_string`, …) and
`Model/HintEval.lean` (the evaluator with hints at every position and the switch `checks`).
-/
import KotoVerif.Lemmas.C16
import KotoVerif.Lemmas.C16Types
import KotoVerif.Lemmas.C16Graph

namespace KotoVerif.C16
open KotoVerif.Types KotoVerif.HintEval KotoVerif.Gen.TypeNames

/-! ## The names are the documented ones (generated tables, re-checked against the source) -/

/-- The special hint names of `compare_value_type` are exactly the four of the language guide, each
selecting the documented predicate: `Any`, `Callable`, `Indexable`, `Iterable`. -/
theorem special_names_documented :
    specialTable =
      [([65, 110, 121], .always),                                   -- "Any"
       ([67, 97, 108, 108, 97, 98, 108, 101], .callable),           -- "Callable"
       ([73, 110, 100, 101, 120, 97, 98, 108, 101], .indexable),    -- "Indexable"
       ([73, 116, 101, 114, 97, 98, 108, 101], .iterable)] :=       -- "Iterable"
  rfl

/-- Built-in type names of `type_as_string`, as documented (`koto.type`). -/
theorem builtin_names_documented :
    kindName .null = [78, 117, 108, 108] ∧ kindName .bool = [66, 111, 111, 108] ∧
    kindName .number = [78, 117, 109, 98, 101, 114] ∧ kindName .list = [76, 105, 115, 116] ∧
    kindName .range = [82, 97, 110, 103, 101] ∧ kindName .map = [77, 97, 112] ∧
    kindName .str = [83, 116, 114, 105, 110, 103] ∧ kindName .tuple = [84, 117, 112, 108, 101] ∧
    kindName .generator = [71, 101, 110, 101, 114, 97, 116, 111, 114] ∧
    kindName .function = [70, 117, 110, 99, 116, 105, 111, 110] ∧ kindName .native = kindName .function ∧
    kindName .iterator = [73, 116, 101, 114, 97, 116, 111, 114] ∧ objectName = [79, 98, 106, 101, 99, 116] :=
  ⟨rfl, rfl, rfl, rfl, rfl, rfl, rfl, rfl, rfl, rfl, rfl, rfl, rfl⟩

/-! ## `check` is exactly the documented comparison -/

/-- **check_spec.** `compare_value_type` accepts `v` for hint `h` (with `?` = `n`) exactly in the
documented cases; for an ordinary name: when some value on `v`'s `@base` chain (at any depth `k ≥ 0`,
`v` itself included) has type name `h`. -/
theorem check_spec (h : TyName) (n : Bool) (v : V) :
    check h n v = true ↔
      (n = true ∧ v = V.null) ∨ h = name_always ∨ (h = name_callable ∧ callableHint v = true) ∨
      (h = name_indexable ∧ indexable v = true) ∨ (h = name_iterable ∧ iterableHint v = true) ∨
      (¬ isSpecial h ∧ ∃ k w, V.baseIter k v = some w ∧ typeName w = h) := by
  unfold check
  by_cases hn : (n && v.isNull) = true
  · simp only [hn, if_true, true_iff]
    simp only [Bool.and_eq_true, isNull_iff] at hn
    exact Or.inl hn
  · simp only [hn]
    have hn' : ¬ (n = true ∧ v = V.null) := by
      simpa only [Bool.and_eq_true, isNull_iff] using hn
    have d12 : name_always ≠ name_callable := by decide
    have d13 : name_always ≠ name_indexable := by decide
    have d14 : name_always ≠ name_iterable := by decide
    have d23 : name_callable ≠ name_indexable := by decide
    have d24 : name_callable ≠ name_iterable := by decide
    have d34 : name_indexable ≠ name_iterable := by decide
    rcases special_cases h with ⟨hl, he⟩ | ⟨hl, he⟩ | ⟨hl, he⟩ | ⟨hl, he⟩ | ⟨hl, hs⟩
    · rw [hl]; simp [holds, he]
    · rw [hl]; subst he
      simp [holds, hn', isSpecial, d12.symm, d23, d24]
    · rw [hl]; subst he
      simp [holds, hn', isSpecial, d13.symm, d23.symm, d34]
    · rw [hl]; subst he
      simp [holds, hn', isSpecial, d14.symm, d24.symm, d34.symm]
    · rw [hl]
      have n1 : h ≠ name_always := fun e => hs (Or.inl e)
      have n2 : h ≠ name_callable := fun e => hs (Or.inr (Or.inl e))
      have n3 : h ≠ name_indexable := fun e => hs (Or.inr (Or.inr (Or.inl e)))
      have n4 : h ≠ name_iterable := fun e => hs (Or.inr (Or.inr (Or.inr e)))
      show (typeName v == h || baseChain h v) = true ↔ _
      rw [typeName_or_baseChain_iff]
      simp [hn', n1, n2, n3, n4, hs]

/-- hypotheses of `check_spec` are satisfiable at depth 3 of a `@base` chain (and the check sees it) -/
example :
    check [70, 111, 111] false
      (.obj (.str [66]) {} [] (some (.obj .absent {} [] (some (.obj (.str [67]) {} [] (some (.obj (.str [70, 111, 111]) {} [] none))))))) = true := by
  decide

/-- `?` admits null for every name, and only adds null -/
theorem optional_admits_null (h : TyName) : check h true .null = true := by
  simp [check, V.isNull]

theorem optional_only_adds_null (h : TyName) (v : V) (hv : v ≠ .null) : check h true v = check h false v := by
  have : v.isNull = false := Bool.eq_false_iff.mpr (mt (isNull_iff v).mp hv)
  simp [check, this]

/-- the `@base` chain is followed to any depth -/
theorem base_chain_any_depth (h : TyName) (v w : V) (k : Nat) (hs : ¬ isSpecial h)
    (hk : V.baseIter k v = some w) (hw : typeName w = h) : check h false v = true :=
  (check_spec h false v).mpr (Or.inr (Or.inr (Or.inr (Or.inr (Or.inr ⟨hs, k, w, hk, hw⟩)))))

/-- What a loop over a map hands to its arguments — one argument or several, named or wildcard — is
a `Tuple` per entry: the internal temporary tuple of the runtime is not a value of the language and
no hint can observe it. -/
theorem map_iteration_yields_tuples (es : List (Nat × V)) :
    ∀ e ∈ HintEval.entryPairs es, typeName e = kindName .tuple ∧ indexable e = indexableKind .tuple ∧
      iterable e = iterableKind .tuple := by
  intro e he
  simp only [HintEval.entryPairs, List.mem_map] at he
  obtain ⟨p, _, rfl⟩ := he
  exact ⟨rfl, rfl, rfl⟩

/-- no value of the model is of the runtime's internal `TemporaryTuple` variant -/
theorem temporary_tuple_not_a_value (v : V) (k : Kind) (hk : plainKind v = some k) : k ≠ .temporaryTuple := by
  cases v <;> simp [plainKind] at hk <;> subst hk <;> decide

/-! ## Possibly cyclic `@base` chains (graph model; /repo fix 76738c2 for F-C16-1, F-C16-2) -/

/-- **base_walk_total.** On *every* graph of maps — cyclic or not — the loop of `compare_value_type`
(with its visited list) answers within `g.length + 1` steps, from every node and for every hint. -/
theorem base_walk_total (g : Graph) (h : TyName) (n : Nat) :
    ∃ r, walkG g h (g.length + 1) [] n = some r :=
  walkG_total g h (g.length + 1) [] n (by rw [unvisited_nil]; exact Nat.lt_succ_self _)

/-- the same for `KMap::meta_type`, hence for `type_as_string` -/
theorem meta_type_walk_total (g : Graph) (n : Nat) :
    ∃ r, metaTypeG g (g.length + 1) [] n = some r :=
  metaTypeG_total g (g.length + 1) [] n rfl (by rw [unvisited_nil]; exact Nat.lt_succ_self _)

/-- a positive answer of the walk is backed by a map that is really on the chain -/
theorem base_walk_sound (g : Graph) (h : TyName) (n : Nat) (hw : walkG g h (g.length + 1) [] n = some true) :
    ∃ k b, reachesG g (k + 1) n b ∧ typeNameG g b = h :=
  walkG_sound g h _ _ n hw

/-- the witnesses of F-C16-1 / F-C16-2 and a two-cycle: the walks answer -/
example :
    -- a map whose `@base` is itself, no `@type`: type name `Object`, hint `Foo` does not match
    typeNameG [⟨.absent, some 0⟩] 0 = objectName ∧ checkG [⟨.absent, some 0⟩] [70, 111, 111] false 0 = false ∧
    -- the same with `@type: 'Bar'`
    typeNameG [⟨.str [66, 97, 114], some 0⟩] 0 = [66, 97, 114] ∧
    checkG [⟨.str [66, 97, 114], some 0⟩] [70, 111, 111] false 0 = false ∧
    -- two maps that are each other's base, the second one is a `Foo`
    checkG [⟨.str [66, 97, 114], some 1⟩, ⟨.str [70, 111, 111], some 0⟩] [70, 111, 111] false 0 = true ∧
    checkG [⟨.str [66, 97, 114], some 1⟩, ⟨.str [70, 111, 111], some 0⟩] [66, 97, 122] false 0 = false := by
  decide

/-! ## Assertions: the single helper, and every position that uses it -/

/-- **assert_positions.** The helper every assert position goes through: with checks enabled it raises
`unexpected_type` exactly when `compare_value_type` rejects the value and otherwise goes on; with checks
disabled it always goes on, the state untouched. -/
theorem assert_positions (h : Hint) (v : V) (s : St) :
    ((assertHint true (some h) v s).1 = .err (.type h (typeName v)) ↔ check h.name h.opt v = false) ∧
    ((assertHint true (some h) v s).1 = .ok .null ↔ check h.name h.opt v = true) ∧
    assertHint false (some h) v s = (.ok .null, s) := by
  simp only [assertHint_some]
  cases check h.name h.opt v <;> simp

theorem assert_let (c : Bool) (F : Funs) (n : Nat) (x : Option Var) (h : Hint) (e : Expr) (s s1 : St) (v : V)
    (he : eval c F n e s = (.ok v, s1)) :
    eval c F (n + 1) (.letH x (some h) e) s =
      if c && !(check h.name h.opt v) then
        (.err (.type h (typeName v)), { (s1.setOpt x v) with fails := (s1.setOpt x v).fails + 1 })
      else (.ok v, s1.setOpt x v) := by
  rw [eval_letH, he, andThen_ok, assertHint_eq]

theorem assert_for (c : Bool) (F : Funs) (n : Nat) (x : Option Var) (h : Hint) (v : V) (rest : List V)
    (body : Expr) (last : V) (s : St) :
    forItems c F (n + 1) [(x, some h)] (v :: rest) body last s =
      if c && !(check h.name h.opt v) then
        (.err (.type h (typeName v)), { (s.setOpt x v) with fails := (s.setOpt x v).fails + 1 })
      else
        andThen (eval c F n body (s.setOpt x v)) fun w s2 => forItems c F n [(x, some h)] rest body w s2 := by
  simp only [forItems, bindLoop, bindOne, assertHint_eq]

theorem assert_return (c : Bool) (F : Funs) (n : Nat) (h : Hint) (e : Expr) (s s1 : St) (v : V)
    (he : eval c F n e s = (.ok v, s1)) (ho : s1.out = some h) :
    eval c F (n + 1) (.ret e) s =
      if c && !(check h.name h.opt v) then (.err (.type h (typeName v)), { s1 with fails := s1.fails + 1 })
      else (.ret v, s1) := by
  rw [eval_ret, he, andThen_ok]
  simp only [ho, assertHint_eq]

/-- position: function argument — named (`x = some _`) or wildcard (`x = none`: `_: T`, `_x: T`) —
and what follows (the body, then the implicit return value against `-> R`) -/
theorem assert_arg_and_result (c : Bool) (F : Funs) (n i : Nat) (f a : Expr) (x : Option Var) (ha : Hint) (out : Option Hint)
    (body : Expr) (s s1 s2 : St) (v : V)
    (hF : F[i]? = some ⟨[.b x (some ha)], out, .plain body⟩)
    (hf : eval c F n f s = (.ok (.fn i), s1))
    (hargs : evalArgs c F n [a] s1 = (.ok (.tuple [v]), s2)) :
    eval c F (n + 1) (.call f [a]) s =
      if c && !(check ha.name ha.opt v) then
        (.err (.type ha (typeName v)), { s2 with fails := s2.fails + 1 })
      else
        restore s2 <|
          bindR (eval c F n body (St.setOpt { s2 with env := [], out := out } x v)) (finishCall c out) := by
  rw [eval_call, hf, andThen_ok, hargs, andThen_ok]
  simp only [hF, List.length, ne_eq, not_true_eq_false, if_false, bindArgs, bindArg, bindOne, List.headD, assertHint_eq]
  split
  · cases x <;> rfl
  · rfl

/-- position: an argument inside a nested `(p, q)` argument is asserted like a top-level one -/
theorem assert_nested_arg (c : Bool) (k : Nat) (x : Option Var) (h : Hint) (v : V) (s : St) :
    bindArg c (k + 3) (.tup [.b x (some h)]) (.tuple [v]) s =
      if c && !(check h.name h.opt v) then
        (.err (.type h (typeName v)), { (s.setOpt x v) with fails := (s.setOpt x v).fails + 1 })
      else (.ok .null, s.setOpt x v) := by
  simp only [bindArg, elems, List.length, if_true, bindArgs, List.headD, bindOne, assertHint_eq]

/-- position `yield e` in a generator with output hint `T` (statement `pc` of generator `i`) -/
theorem assert_yield (c : Bool) (F : Funs) (n i pc : Nat) (params : List P) (h : Hint)
    (ss : List GStmt) (e : Expr) (s s1 : St) (v : V)
    (hF : F[i]? = some ⟨params, some h, .gen ss⟩) (hpc : ss[pc]? = some (.yld e))
    (he : eval c F n e s = (.ok v, s1)) :
    genNext c F (n + 1) i true pc s =
      if c && !(check h.name h.opt v) then (.err (.type h (typeName v)), { s1 with fails := s1.fails + 1 })
      else (.ok (.tuple [v, .gen i s1.env true (pc + 1)]), s1) := by
  simp only [genNext, hF, hpc, if_true, andThen_ok, he, assertHint_eq]

/-- position: a target of a multi-assignment (`let a: T, … = …`, either right-hand-side form) and of
a `for` with several arguments: bound, then asserted, then the remaining targets get the remaining
values -/
theorem assert_multi_target (c : Bool) (x : Option Var) (h : Hint) (bs : List Binder) (v : V) (vs : List V) (s : St) :
    bindMany c ((x, some h) :: bs) (v :: vs) s =
      if c && !(check h.name h.opt v) then
        (.err (.type h (typeName v)), { (s.setOpt x v) with fails := (s.setOpt x v).fails + 1 })
      else bindMany c bs vs (s.setOpt x v) := by
  simp only [bindMany, List.headD, bindOne, assertHint_eq, List.tail]

/-- **A wildcard target still consumes its value**, hinted or not, in both modes: the targets after
`_` / `_: T` / `_x: T` receive the values after the one the wildcard stands for. (With checks
disabled `_: T` is just `_`.) -/
theorem wildcard_still_consumes (h : Option Hint) (bs : List Binder) (v : V) (vs : List V) (s : St) :
    bindMany false ((none, h) :: bs) (v :: vs) s = bindMany false bs vs s ∧
    (∀ c, bindMany c ((none, none) :: bs) (v :: vs) s = bindMany c bs vs s) := by
  constructor
  · simp only [bindMany, List.headD, bindOne, assertHint_off, andThen_ok, St.setOpt, List.tail]
  · intro c
    simp only [bindMany, bindOne, assertHint, andThen_ok, St.setOpt, List.tail]

/-- `let … = iterable` (list, tuple, range, string, iterator): the targets take the elements in
order, the expression's value is the iterable -/
theorem multi_let_unpacks_in_order (c : Bool) (F : Funs) (n : Nat) (bs : List Binder) (e : Expr) (s s1 : St)
    (v : V) (xs : List V) (he : eval c F n e s = (.ok v, s1)) (hv : items v = some xs)
    (hg : ∀ i g st pc, v ≠ .gen i g st pc) :
    eval c F (n + 1) (.letUnpack bs e) s = andThen (bindMany c bs xs s1) fun _ s2 => (.ok v, s2) := by
  rw [eval_letUnpack, he, andThen_ok]
  split
  · exact absurd rfl (hg _ _ _ _)
  · rw [hv]

/-! ## `match` arms and typed `catch`: a mismatch selects the next alternative -/

/-- **match_hint_falls_through.** A typed pattern — named `x: T` or wildcard `_: T` (`x = none`) —
whose check fails answers "no" instead of raising, and leaves the variable untouched. -/
theorem match_hint_falls_through (k : Nat) (v : V) (x : Option Var) (h : Hint) (s : St)
    (hc : check h.name h.opt v = false) :
    patM (k + 1) (.b x (some h)) v s = (.no, s) := by
  simp [patM, hc]

theorem match_hint_selects (k : Nat) (v : V) (x : Option Var) (h : Hint) (s : St)
    (hc : check h.name h.opt v = true) :
    patM (k + 1) (.b x (some h)) v s = (.yes, s.setOpt x v) := by
  simp [patM, hc]

/-- a mismatch anywhere inside an alternative (several subjects, nested patterns) fails that
alternative only: **the next `or` alternative is tried** … -/
theorem or_alternative_falls_to_next (k : Nat) (alt : List P) (alts : List (List P)) (vs : List V) (s s1 : St)
    (h : patsM k alt vs s = (.no, s1)) :
    altsM k (alt :: alts) vs s = altsM k alts vs s1 := by
  simp [altsM, h]

/-- … and an alternative that matches selects the arm, whatever its position. -/
theorem or_alternative_selects (k : Nat) (alt : List P) (alts : List (List P)) (vs : List V) (s s1 : St)
    (h : patsM k alt vs s = (.yes, s1)) :
    altsM k (alt :: alts) vs s = (.yes, s1) := by
  simp [altsM, h]

/-- patterns of one alternative are tried left to right; the first "no" ends the alternative -/
theorem patterns_left_to_right (k : Nat) (p : P) (ps : List P) (v : V) (vs : List V) (s s1 : St) :
    (patM k p v s = (.yes, s1) → patsM (k + 1) (p :: ps) (v :: vs) s = patsM k ps vs s1) ∧
    (patM k p v s = (.no, s1) → patsM (k + 1) (p :: ps) (v :: vs) s = (.no, s1)) := by
  constructor <;> intro h <;> simp [patsM, h]

/-- the arm whose patterns all fail passes on to the next arm; no arm at all: null -/
theorem arm_falls_to_next_arm (c : Bool) (F : Funs) (n : Nat) (vs : List V) (alts : List (List P))
    (g : Option Expr) (body : Expr) (rest : List Arm) (s s1 : St) (h : armM n alts vs s = (.no, s1)) :
    matchArms c F (n + 1) vs (.mk alts g body :: rest) s = matchArms c F n vs rest s1 := by
  rw [matchArms_cons, h]
  rfl

theorem match_without_selection (c : Bool) (F : Funs) (n : Nat) (vs : List V) (s : St) :
    matchArms c F (n + 1) vs [] s = (.ok .null, s) := by
  simp [matchArms]

/-- a selected arm without guard runs its body; with a guard, a false guard passes on to the next
*arm* (not to the next alternative) -/
theorem arm_selected (c : Bool) (F : Funs) (n : Nat) (vs : List V) (alts : List (List P))
    (body : Expr) (rest : List Arm) (s s1 : St) (h : armM n alts vs s = (.yes, s1)) :
    matchArms c F (n + 1) vs (.mk alts none body :: rest) s = eval c F n body s1 := by
  rw [matchArms_cons, h]
  rfl

theorem arm_guard (c : Bool) (F : Funs) (n : Nat) (vs : List V) (alts : List (List P))
    (g body : Expr) (rest : List Arm) (s s1 s2 : St) (gv : V) (h : armM n alts vs s = (.yes, s1))
    (hg : eval c F n g s1 = (.ok gv, s2)) :
    matchArms c F (n + 1) vs (.mk alts (some g) body :: rest) s =
      if truthy gv then eval c F n body s2 else matchArms c F n vs rest s2 := by
  rw [matchArms_cons, h]
  simp only [bindR, hg, andThen_ok]

/-- **catch_hint_falls_through.** A typed `catch x: T` whose check fails passes the error on to the
next catch block (and does not bind `x`). -/
theorem catch_hint_falls_through (cv : V) (y : Option Var) (h : Hint) (body : Expr) (rest : List CatchArm)
    (x : Option Var) (final : Expr) (s : St) (hc : check h.name h.opt cv = false) :
    selectCatch cv (.mk y h body :: rest) x final s = selectCatch cv rest x final s := by
  simp [selectCatch, hc]

theorem catch_hint_selects (cv : V) (y : Option Var) (h : Hint) (body : Expr) (rest : List CatchArm)
    (x : Option Var) (final : Expr) (s : St) (hc : check h.name h.opt cv = true) :
    selectCatch cv (.mk y h body :: rest) x final s = (body, s.setOpt y cv) := by
  simp [selectCatch, hc]

/-- the final untyped `catch` takes whatever the typed ones did not -/
theorem catch_final (cv : V) (x : Option Var) (final : Expr) (s : St) :
    selectCatch cv [] x final s = (final, s.setOpt x cv) := rfl

/-! ## Disabling type checks -/

/-- **patterns_keep_selecting.** In *both* modes (`c` arbitrary) a `match` arm is taken or passed by
according to `armM` (patterns: `patM`/`patsM`/`altsM`) and `try` runs the catch block chosen by
`selectCatch`; none of these has a `checks` parameter, so type patterns keep selecting when type
checks are disabled. -/
theorem patterns_keep_selecting (c : Bool) (F : Funs) (n : Nat) (s s1 : St) :
    (∀ vs alts g body rest, armM n alts vs s = (.no, s1) →
      matchArms c F (n + 1) vs (.mk alts g body :: rest) s = matchArms c F n vs rest s1) ∧
    (∀ vs alts body rest, armM n alts vs s = (.yes, s1) →
      matchArms c F (n + 1) vs (.mk alts none body :: rest) s = eval c F n body s1) ∧
    (∀ body typed x final e, eval c F n body s = (.err e, s1) →
      eval c F (n + 1) (.tryC body typed x final) s =
        eval c F n (selectCatch (catchVal e) typed x final s1).1 (selectCatch (catchVal e) typed x final s1).2) ∧
    (∀ body typed x final r, eval c F n body s = (r, s1) → (∀ e, r ≠ .err e) →
      eval c F (n + 1) (.tryC body typed x final) s = (r, s1)) := by
  refine ⟨?_, ?_, ?_, ?_⟩
  · intro vs alts g body rest h
    exact arm_falls_to_next_arm c F n vs alts g body rest s s1 h
  · intro vs alts body rest h
    exact arm_selected c F n vs alts body rest s s1 h
  · intro body typed x final e hb
    rw [eval_tryC, hb]
    rfl
  · intro body typed x final r hb hr
    rw [eval_tryC, hb]
    cases r with
    | err e => exact absurd rfl (hr e)
    | _ => rfl

/-- **erasure.** If the run with type checks enabled ends in `(r, s')` and no assertion failed on the
way (`fails` did not move), then the run with type checks disabled ends in exactly the same `(r, s')` —
same result (value, `return`, thrown error, …), same variables, same output trace. -/
theorem erasure (F : Funs) (fuel : Nat) (e : Expr) (s s' : St) (r : Res)
    (h : eval true F fuel e s = (r, s')) (hf : s'.fails = s.fails) :
    eval false F fuel e s = (r, s') :=
  ((goodAt F fuel).eval e rfl s).erase h hf

/-- the same for loops and generator resumption (other entry points of the evaluator) -/
theorem erasure_forItems (F : Funs) (fuel : Nat) (bs : List Binder) (xs : List V) (body : Expr) (last : V)
    (s s' : St) (r : Res) (h : forItems true F fuel bs xs body last s = (r, s')) (hf : s'.fails = s.fails) :
    forItems false F fuel bs xs body last s = (r, s') :=
  ((goodAt F fuel).forItems bs xs body last rfl s).erase h hf

theorem erasure_genNext (F : Funs) (fuel i pc : Nat) (st : Bool) (s s' : St) (r : Res)
    (h : genNext true F fuel i st pc s = (r, s')) (hf : s'.fails = s.fails) :
    genNext false F fuel i st pc s = (r, s') :=
  ((goodAt F fuel).genNext i st pc s).erase h hf

theorem fails_monotone (F : Funs) (fuel : Nat) (e : Expr) (s : St) :
    s.fails ≤ (eval true F fuel e s).2.fails :=
  ((goodAt F fuel).eval e rfl s).1

/-- **erasure**, for whole programs: every program all of whose checks pass (no assertion failed,
`fails = 0` at the end) behaves identically when compiled with type checks disabled. -/
theorem erasure_run (p : Prog) (fuel : Nat) (r : Res) (s' : St)
    (h : run true p fuel = (r, s')) (hf : s'.fails = 0) : run false p fuel = (r, s') :=
  (holds_run (closed_goodRuns true) p rfl rfl fuel).erase h hf

/-- The side condition of `erasure` cannot be dropped when the program can catch: a failed
assertion that is caught inside the program makes the two modes differ. -/
theorem erasure_needs_no_caught_failure :
    ∃ p : Prog, (run true p 10).1 = .ok (.int 2) ∧ (run false p 10).1 = .ok (.int 1) ∧ (run true p 10).2.fails = 1 :=
  ⟨{ funs := [],
     main := .tryC (.letH (some 0) (some ⟨kindName .str, false⟩) (.lit (.int 1))) [] none (.lit (.int 2)) },
   rfl, rfl, rfl⟩

/-- In code without `try` (neither in the expression nor in any function of the table) a failed
assertion cannot be swallowed: either none failed or the result is the failure itself. -/
theorem failure_surfaces (F : Funs) (hF : noTryF F = true) (fuel : Nat) (e : Expr) (he : noTryE e = true) (s : St) :
    (eval true F fuel e s).2.fails = s.fails ∨ isFailRes (eval true F fuel e s).1 :=
  (surfAt F hF fuel).eval e he s

/-- **erasure, unconditional form** for `try`-free code: *every* run with type checks enabled whose
outcome is not itself a failed assertion (a value, `return`, a thrown value, …) is reproduced exactly
with type checks disabled. -/
theorem erasure_tryfree (F : Funs) (hF : noTryF F = true) (fuel : Nat) (e : Expr) (he : noTryE e = true)
    (s s' : St) (r : Res) (h : eval true F fuel e s = (r, s')) (hr : ¬ isFailRes r) :
    eval false F fuel e s = (r, s') :=
  ((goodAt F fuel).eval e rfl s).erase_of_surf ((surfAt F hF fuel).eval e he s) h hr

theorem erasure_ok (F : Funs) (hF : noTryF F = true) (fuel : Nat) (e : Expr) (he : noTryE e = true)
    (s s' : St) (v : V) (h : eval true F fuel e s = (.ok v, s')) :
    eval false F fuel e s = (.ok v, s') :=
  erasure_tryfree F hF fuel e he s s' (.ok v) h (not_fail_ok v)

theorem erasure_run_ok (p : Prog) (hF : noTryF p.funs = true) (he : noTryE p.main = true) (fuel : Nat)
    (v : V) (s' : St) (h : run true p fuel = (.ok v, s')) : run false p fuel = (.ok v, s') :=
  (holds_run (closed_goodRuns true) p rfl rfl fuel).erase_of_surf (holds_run closed_surfRuns p hF he fuel) h
    (not_fail_ok v)

/-! ## Non-vacuity: a program with hints at several positions whose checks all pass -/

/-- `f0 = |v0: Number, (_: Any, v1: String)| -> String (koto.type v0)`;
`let v0: Number, _: String, v3: Number = [3, 'x', 4]`; a typed `for`; a `match` on `f0(v0, (1, 'a'))`
whose first arm falls through and whose second arm is selected by its *second* `or` alternative, a
hinted wildcard, and passes its guard. -/
def demo : Prog :=
  { funs := [⟨[.b (some 0) (some ⟨kindName .number, false⟩),
               .tup [.b none (some ⟨name_always, false⟩), .b (some 1) (some ⟨kindName .str, false⟩)]],
              some ⟨kindName .str, false⟩, .plain (.typeOf (.var 0))⟩],
    main :=
      .seq (.letUnpack [(some 0, some ⟨kindName .number, false⟩), (none, some ⟨kindName .str, false⟩),
                        (some 3, some ⟨kindName .number, false⟩)]
              (.lit (.list [.int 3, .str [120], .int 4])))
        (.seq (.forIn [(some 2, some ⟨name_always, true⟩)] (.lit (.list [.int 1, .null])) (.emit (.var 2)))
          (.matchE [.call (.lit (.fn 0)) [.var 0, .lit (.tuple [.int 1, .str [97]])]]
            [.mk [[.b (some 1) (some ⟨kindName .number, false⟩)]] none (.lit (.int 0)),
             .mk [[.b none (some ⟨kindName .bool, false⟩)], [.b none (some ⟨kindName .str, false⟩)]]
                 (some (.lt (.var 0) (.var 3))) (.typeOf (.var 0))])) }

example : (run true demo 20).1 = .ok (.str (kindName .number)) ∧ (run true demo 20).2.fails = 0 ∧
    (run true demo 20).2.trace = [.null, .int 1] := ⟨rfl, rfl, rfl⟩

example : noTryF demo.funs = true ∧ noTryE demo.main = true := ⟨rfl, rfl⟩

/-- the hypotheses of `erasure_run` hold for `demo`, and so does its conclusion -/
example : run false demo 20 = run true demo 20 :=
  erasure_run demo 20 _ _ rfl rfl

/-- a program whose assertion fails with checks enabled and that runs through with checks disabled -/
example :
    let p : Prog := { funs := [], main := .letH (some 0) (some ⟨kindName .str, false⟩) (.lit (.int 1)) }
    (run true p 5).1 = .err (.type ⟨kindName .str, false⟩ (kindName .number)) ∧ (run false p 5).1 = .ok (.int 1) :=
  ⟨rfl, rfl⟩

end KotoVerif.C16
