/-
C17 — end-to-end statements connecting the arithmetic decision list's two ways into the right
operand ("the left operand lacks the operator" vs "it threw koto.unimplemented"), for map objects
and host objects alike; per-method "not implemented ⇒ error" for host objects; no dispatch at all
on primitive operands / on maps without comparison metakeys.
-/
import KotoVerif.Model.Meta
import KotoVerif.Lemmas.C17

namespace KotoVerif.C17Ext2
open KotoVerif.Meta KotoVerif.Gen KotoVerif.C17L

/-- the stage after "unimplemented": the earlier trace is kept as a prefix and nothing else of it
matters -/
theorem rhsAfterUnimpl_pre (op : ArithOp) (lhs rhs : Opd) (pre : List Ev) :
    rhsAfterUnimpl op lhs rhs pre
      = ⟨pre ++ (rhsAfterUnimpl op lhs rhs []).trace, (rhsAfterUnimpl op lhs rhs []).res⟩ := by
  rw [rhsAfterUnimpl_trace op lhs rhs [], List.nil_append]
  exact rhsAfterUnimpl_eq op lhs rhs pre

/-- "lacks the operator" and "threw koto.unimplemented" reach the same right-operand decisions,
except in one place: `map + map` with no `@r+` on the right merges only in the first case -/
theorem rhsAfterUnimpl_eq_rhsDirect (op : ArithOp) (m : MapD) (rhs : Opd)
    (hx : ∀ m2, rhs = .map m2 → m2.metaGet op.rkey = none → op ≠ .add) :
    rhsAfterUnimpl op (.map m) rhs [] = rhsDirect op (.map m) rhs := by
  rcases rhsDirect_eq op (.map m) rhs with e | ⟨_, ho, _, m2, _, hr, hk⟩
  · exact e.symm
  · exact absurd ho (hx m2 hr hk)

/-- MAP OBJECTS. An `@op` entry that throws `koto.unimplemented` makes the whole operation behave
exactly as for the same map without that entry — same further callees with the same operands, same
result — preceded by the one recorded call of `@op` with `(self := lhs, arg := rhs)`. -/
theorem unimpl_same_as_missing (op : ArithOp) (m m0 : MapD) (rhs : Opd) (tag : Name)
    (hn : m.top.name = m0.top.name)
    (hk : m.metaGet op.key = some (tag, .fn .unimpl))
    (h0 : m0.metaGet op.key = none)
    (hx : ∀ m2, rhs = .map m2 → m2.metaGet op.rkey = none → op ≠ .add) :
    arith op (.map m) rhs =
      ⟨⟨tag, .mk op.key, m.av, [rhs.av]⟩ :: (arith op (.map m0) rhs).trace,
       (arith op (.map m0) rhs).res⟩ := by
  have hav : (Opd.map m).av = (Opd.map m0).av := by simp [Opd.av, MapD.av, hn]
  have e0 : arith op (.map m0) rhs = rhsAfterUnimpl op (.map m0) rhs [] := by
    rw [rhsAfterUnimpl_eq_rhsDirect op m0 rhs hx]; simp [arith, h0]
  have e1 : arith op (.map m) rhs
      = rhsAfterUnimpl op (.map m) rhs [⟨tag, .mk op.key, m.av, [rhs.av]⟩] := by
    simp [arith, hk, invoke_fn, Beh.run, Beh.runAt, Opd.av]
  rw [e1, e0, rhsAfterUnimpl_pre, rhsAfterUnimpl_lhs_av op (.map m) (.map m0) rhs [] hav]
  simp

example : (⟨⟨1, [], .own ⟨7, [(.Add, .fn .unimpl)], [], .none, false⟩⟩, []⟩ : MapD).metaGet
    ArithOp.add.key = some (7, .fn .unimpl) := by decide

/-- the excluded corner is a real difference of the decision list: with a plain map on the right,
`+` merges when `@+` is absent but is an error when `@+` threw `koto.unimplemented` -/
example :
    (arith .add (.map ⟨⟨1, [], .own ⟨7, [(.Add, .fn .unimpl)], [], .none, false⟩⟩, []⟩)
        (.map ⟨⟨2, [], .none⟩, []⟩)).res = .err (.binop .Add) ∧
    (arith .add (.map ⟨⟨1, [], .own ⟨7, [], [], .none, false⟩⟩, []⟩)
        (.map ⟨⟨2, [], .none⟩, []⟩)).res = .ok .builtin := by decide

/-- HOST OBJECTS obey the same rule, with no exception: a method returning
`ErrorKind::Unimplemented` ≡ the method not overridden, plus the one recorded call. -/
theorem host_unimpl_same_as_missing (op : ArithOp) (h h0 : HostD) (rhs : Opd)
    (hn : h.name = h0.name) (hg : h.gen = h0.gen)
    (hk : h.impl.lookup op.hm = some .unimpl)
    (h0k : h0.impl.lookup op.hm = none) :
    arith op (.host h) rhs =
      ⟨⟨h.name, .host op.hm, h.av, [rhs.av]⟩ :: (arith op (.host h0) rhs).trace,
       (arith op (.host h0) rhs).res⟩ := by
  have hav : (Opd.host h).av = (Opd.host h0).av := by simp [Opd.av, HostD.av, hn, hg]
  have e0 : arith op (.host h0) rhs = rhsAfterUnimpl op (.host h0) rhs [] := by
    simp [arith, HostD.call, h0k]
  have e1 : arith op (.host h) rhs
      = rhsAfterUnimpl op (.host h) rhs [⟨h.name, .host op.hm, h.av, [rhs.av]⟩] := by
    simp [arith, HostD.call, hk, Beh.hostRes, Beh.run, Beh.runAt]
  rw [e1, e0, rhsAfterUnimpl_pre, rhsAfterUnimpl_lhs_av op (.host h) (.host h0) rhs [] hav]
  simp

example : (⟨3, 0, [(.add, .unimpl)], .notIterable⟩ : HostD).impl.lookup ArithOp.add.hm
    = some .unimpl := by decide

/-- a left operand that lacks the operator, map object or host object alike, leaves the operation
to the right operand's stage, reached with an empty trace (maps: apart from the `+` merge corner) -/
theorem missing_lhs_map_vs_host (op : ArithOp) (m : MapD) (h : HostD) (rhs : Opd)
    (hm : m.metaGet op.key = none) (hh : h.impl.lookup op.hm = none)
    (hx : ∀ m2, rhs = .map m2 → m2.metaGet op.rkey = none → op ≠ .add) :
    arith op (.map m) rhs = rhsAfterUnimpl op (.map m) rhs [] ∧
    arith op (.host h) rhs = rhsAfterUnimpl op (.host h) rhs [] := by
  refine ⟨?_, ?_⟩
  · rw [rhsAfterUnimpl_eq_rhsDirect op m rhs hx]; simp [arith, hm]
  · simp [arith, HostD.call, hh]

example : (⟨⟨1, [], .none⟩, []⟩ : MapD).metaGet ArithOp.sub.key = none := by decide

/-- strengthens `object_unimplemented_is_error` from "implements nothing" to "does not implement
that one method", whatever else the object implements -/
theorem host_missing_method_is_error (h : HostD) :
    (h.impl.lookup .negate = none → negate (.host h) = ⟨[], .err .hostUnimpl⟩) ∧
    (h.impl.lookup .index = none → ∀ i, index (.host h) i = ⟨[], .err .hostUnimpl⟩) ∧
    (h.impl.lookup .indexAssign = none → ∀ i, indexAssign (.host h) i = ⟨[], .err .hostUnimpl⟩) ∧
    (h.impl.lookup .call = none → callOp (.host h) = ⟨[], .err .hostUnimpl⟩) ∧
    (h.impl.lookup .size = none → size (.host h) = ⟨[], .err .type⟩) ∧
    (∀ op rhs same, h.impl.lookup op.ahm = none → (∀ h2, rhs ≠ .host h2) →
      compound op (.host h) rhs same = ⟨[], .err .hostUnimpl⟩) ∧
    (∀ op (k : PrimK), h.impl.lookup op.hm = none →
      arith op (.host h) (.prim k) = ⟨[], .err (.binop op.key)⟩) := by
  refine ⟨?_, ?_, ?_, ?_, ?_, ?_, ?_⟩
  · intro hn; simp [negate, HostD.call, hn, HostRes.pass]
  · intro hn i; simp [index, HostD.call, hn, HostRes.pass]
  · intro hn i; simp [indexAssign, HostD.call, hn, HostRes.pass]
  · intro hn; simp [callOp, HostD.call, hn, HostRes.pass]
  · intro hn; simp [size, hn]
  · intro op rhs same hn hr
    cases rhs with
    | host h2 => exact absurd rfl (hr h2)
    | prim k => simp [compound, HostD.call, hn, HostRes.pass]
    | map m => simp [compound, HostD.call, hn, HostRes.pass]
  · intro op k hn; simp [arith, HostD.call, hn, rhsAfterUnimpl]

example : (⟨3, 0, [(.add, .ret .null)], .notIterable⟩ : HostD).impl.lookup .negate = none := by
  decide

theorem prim_operand_never_dispatches (k : PrimK) (i : IdxK) :
    (negate (.prim k)).trace = [] ∧ (notOp (.prim k)).trace = [] ∧ (size (.prim k)).trace = [] ∧
    (index (.prim k) i).trace = [] ∧ (indexAssign (.prim k) i).trace = [] ∧
    (callOp (.prim k)).trace = [] :=
  protocol_prim_trace k i

/-- a map object without any of the six comparison metakeys: ordering comparisons are errors,
(in)equality is the built-in one, and no callee runs — in particular nothing of the right operand
is consulted, whatever it is -/
theorem no_cmp_keys_no_dispatch (m : MapD) (rhs : Opd)
    (hk : ∀ op : CmpOp, m.metaGet op.key = none) :
    (∀ op : CmpOp, op ≠ .eq → op ≠ .ne →
      compareOp op (.map m) rhs = ⟨[], .err (.binop op.key)⟩) ∧
    (∀ ne, (equality ne (.map m) rhs).trace = [] ∧ ∃ v, (equality ne (.map m) rhs).res = .ok v) := by
  have hlt := hk .lt; have hle := hk .le; have hgt := hk .gt
  have hge := hk .ge; have heq := hk .eq; have hne := hk .ne
  simp only [CmpOp.key] at hlt hle hgt hge heq hne
  refine ⟨?_, ?_⟩
  · intro op h1 h2
    cases op <;> simp_all [compareOp, order, CmpOp.key]
  · intro ne
    by_cases hr : rhs = .prim .null
    · subst hr; exact ⟨rfl, _, rfl⟩
    · rw [equality_map ne m rhs hr]
      cases ne <;> cases rhs <;> simp only [heq, hne] <;> exact ⟨rfl, _, rfl⟩

example : ∀ op : CmpOp, (⟨⟨1, [], .none⟩, []⟩ : MapD).metaGet op.key = none := by
  intro op; cases op <;> decide

end KotoVerif.C17Ext2
