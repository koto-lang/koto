/-
C01 extension: theorems about the number operations of `Model/NumOps.lean` that the C01 driver runs
through `Core.eval` (`Num.cmp` and the primed order predicates behind `< <= > >=`, `Num.rem`,
`Num.pow`, `Num.intDigits`) and about `Core.cmpV`.
-/
import KotoVerif.Model.NumOps
import KotoVerif.Model.CoreEval

namespace KotoVerif.C01Ext
open KotoVerif KotoVerif.Core KotoVerif.Num

/-! ### `impl Ord for KNumber` on integers is the `i64` order -/

theorem cmp_int (F : FloatOps) (a b : Int64) :
    cmp F (.i a) (.i b) = if a.toInt < b.toInt then .lt else if b.toInt < a.toInt then .gt else .eq := by
  simp only [cmp, Int64.lt_iff_toInt_lt]

theorem cmp_int_lt_iff (F : FloatOps) (a b : Int64) : cmp F (.i a) (.i b) = .lt ↔ a < b := by
  rw [cmp_int, ← Int.compare_eq_ite_lt, Int.compare_eq_lt, Int64.lt_iff_toInt_lt]

theorem cmp_int_swap (F : FloatOps) (a b : Int64) :
    cmp F (.i b) (.i a) = (cmp F (.i a) (.i b)).swap := by
  rw [cmp_int, cmp_int, ← Int.compare_eq_ite_lt, ← Int.compare_eq_ite_lt, Int.compare_swap]

theorem lt'_int_trans (F : FloatOps) (a b c : Int64)
    (h₁ : lt' F (.i a) (.i b) = true) (h₂ : lt' F (.i b) (.i c) = true) :
    lt' F (.i a) (.i c) = true := by
  simp only [lt', beq_iff_eq] at *
  rw [cmp_int_lt_iff] at *
  exact Int64.lt_trans h₁ h₂

example : lt' ⟨fun x _ => x, fun x _ => x, fun x _ => x, fun x _ => x, fun x _ => x, fun x _ => x,
    id, fun _ _ => false, fun _ _ => false, fun _ _ => false, fun _ => 0, fun _ => 0, fun _ => false⟩
    (.i 1) (.i 2) = true := by decide

/-! ### the four order predicates, for every pair of numbers (ints, floats, NaN) and every `FloatOps` -/

/-- `a <= b` is exactly `not (a > b)` — also when a NaN is involved (this is where Koto differs from
IEEE, see the header of `Model/NumOps.lean`) -/
theorem le'_eq_not_gt' (F : FloatOps) (a b : Num) : le' F a b = !gt' F a b := by
  simp only [le', gt']; cases cmp F a b <;> rfl

theorem ge'_eq_not_lt' (F : FloatOps) (a b : Num) : ge' F a b = !lt' F a b := by
  simp only [ge', lt']; cases cmp F a b <;> rfl

theorem lt'_gt'_exclusive (F : FloatOps) (a b : Num) : (lt' F a b && gt' F a b) = false := by
  simp only [lt', gt']; cases cmp F a b <;> rfl

/-- totality: `a <= b or a >= b` for every pair of numbers, NaN included -/
theorem le'_or_ge' (F : FloatOps) (a b : Num) : (le' F a b || ge' F a b) = true := by
  simp only [le', ge']; cases cmp F a b <;> rfl

theorem le'_and_ge'_iff (F : FloatOps) (a b : Num) :
    (le' F a b && ge' F a b) = true ↔ cmp F a b = .eq := by
  simp only [le', ge']; cases cmp F a b <;> simp

/-- the float branch of `cmp` as a function of the five observations it makes -/
def ordCore (l g e na nb : Bool) : Ordering :=
  if l then .lt else if g then .gt else if e then .eq
  else match na, nb with
    | false, true => .lt
    | true, false => .gt
    | _, _ => .eq

theorem cmp_float_core (F : FloatOps) (a b : Num) (h : (a.isFloat || b.isFloat) = true) :
    cmp F a b = ordCore (F.lt (a.toF F) (b.toF F)) (F.lt (b.toF F) (a.toF F))
      (F.eq (a.toF F) (b.toF F)) (isNaN F a) (isNaN F b) := by
  cases a <;> cases b <;> simp_all [isFloat] <;> rfl

example : ((Num.i 1).isFloat || (Num.f 0).isFloat) = true := by decide

theorem ordCore_swap (l g e na nb : Bool) (h : (l && g) = false) :
    ordCore g l e nb na = (ordCore l g e na nb).swap := by
  cases l <;> cases g <;> cases e <;> cases na <;> cases nb <;> simp_all [ordCore, Ordering.swap]

example : (true && false) = false := by decide

/-- general antisymmetry: with an asymmetric float `<` and a symmetric float `==`, swapping the
operands of the total ordering swaps the outcome, for every mix of ints, floats and NaNs -/
theorem cmp_swap (F : FloatOps) (hasym : ∀ x y, F.lt x y = true → F.lt y x = false)
    (hsym : ∀ x y, F.eq x y = F.eq y x) (a b : Num) :
    cmp F b a = (cmp F a b).swap := by
  by_cases hf : (a.isFloat || b.isFloat) = true
  · rw [cmp_float_core F a b hf, cmp_float_core F b a (by rw [Bool.or_comm]; exact hf),
      hsym (b.toF F) (a.toF F)]
    apply ordCore_swap
    have := hasym (a.toF F) (b.toF F)
    cases h1 : F.lt (a.toF F) (b.toF F) <;> simp_all
  · cases a <;> cases b <;> simp_all [isFloat]
    exact cmp_int_swap F _ _

theorem lt'_irrefl (F : FloatOps) (hirr : ∀ x, F.lt x x = false) (a : Num) : lt' F a a = false := by
  cases a with
  | i n =>
    have : ¬ cmp F (.i n) (.i n) = .lt := by
      rw [cmp_int_lt_iff]; exact Int64.lt_irrefl
    simpa [lt'] using this
  | f x =>
    have h := cmp_float_core F (.f x) (.f x) (by simp [isFloat])
    simp only [lt', h, toF, hirr]
    cases F.eq x x <;> cases isNaN F (.f x) <;> simp [ordCore]

/-- a toy `FloatOps` (bit patterns ordered as naturals) satisfying the hypotheses of `cmp_swap` and
`lt'_irrefl` -/
def toyF : FloatOps :=
  ⟨fun x _ => x, fun x _ => x, fun x _ => x, fun x _ => x, fun x _ => x, fun x _ => x,
    id, fun x y => decide (x.toNat < y.toNat), fun x y => decide (x.toNat ≤ y.toNat),
    fun x y => decide (x.toNat = y.toNat), fun n => n.toUInt64, fun u => u.toInt64, fun _ => false⟩

example : (∀ x y, toyF.lt x y = true → toyF.lt y x = false) ∧ (∀ x y, toyF.eq x y = toyF.eq y x) ∧
    (∀ x, toyF.lt x x = false) := by
  refine ⟨?_, ?_, ?_⟩
  · intro x y h; simp [toyF] at *; omega
  · intro x y; simp [toyF]; exact eq_comm
  · intro x; simp [toyF]

/-- `<=` fails on exactly the operand pairs `>` fails on, `>=` on those `<` fails on, and when they
succeed `<=` is `not >` and `>=` is `not <` — for numbers and for strings alike -/
theorem cmpV_le_not_gt (F : FloatOps) (a b : Val) :
    cmpV F .le a b = (cmpV F .gt a b).map (!·) := by
  cases a with
  | num x =>
    cases b with
    | num y => exact congrArg Except.ok (le'_eq_not_gt' F x y)
    | _ => rfl
  | str x => cases b <;> rfl
  | _ => rfl

theorem cmpV_ge_not_lt (F : FloatOps) (a b : Val) :
    cmpV F .ge a b = (cmpV F .lt a b).map (!·) := by
  cases a with
  | num x =>
    cases b with
    | num y => exact congrArg Except.ok (ge'_eq_not_lt' F x y)
    | _ => rfl
  | str x => cases b <;> rfl
  | _ => rfl

/-- `a > b` is `b < a` with the operands swapped, for integer numbers and all strings -/
theorem cmpV_gt_swap_str (F : FloatOps) (x y : List Nat) :
    cmpV F .gt (.str x) (.str y) = cmpV F .lt (.str y) (.str x) := by
  simp [cmpV]

theorem cmpV_gt_swap_int (F : FloatOps) (m n : Int64) :
    cmpV F .gt (.num (.i m)) (.num (.i n)) = cmpV F .lt (.num (.i n)) (.num (.i m)) := by
  simp only [cmpV, gt', lt', cmp_int_swap F n m]
  cases cmp F (.i n) (.i m) <;> rfl

theorem cmpV_ne_not_eq (F : FloatOps) (a b : Val) :
    cmpV F .ne a b = (cmpV F .eq a b).map (!·) := by
  simp [cmpV, Except.map]

/-! ### `%` and `^`: when the float unit is not involved the result does not depend on it -/

theorem rem_float_independent (F G : FloatOps) (a b : Num) (h : remUsesFloat a b = false) :
    rem F a b = rem G a b := by
  cases a <;> cases b <;> simp_all [rem, remUsesFloat, isFloat] <;> split <;> simp_all

example : remUsesFloat (.i 7) (.i 3) = false := by decide
example : remUsesFloat (.f 1) (.i 0) = false := by decide

theorem rem_uses_float_isFloat (F : FloatOps) (a b : Num) (h : remUsesFloat a b = true) :
    (rem F a b).isFloat = true := by
  cases a <;> cases b <;> simp_all [rem, remUsesFloat, isFloat] <;> split <;> simp_all

example : remUsesFloat (.f 1) (.i 2) = true := by decide

/-- an integer zero divisor gives the quiet NaN whatever the dividend is -/
theorem rem_zero_divisor (F : FloatOps) (a : Num) : rem F a (.i 0) = .f nanBits := by
  simp [rem]

theorem rem_int_stays_int (F : FloatOps) (n d : Int64) (hd : d ≠ 0) :
    (rem F (.i n) (.i d)).isFloat = false := by
  simp [rem, hd, isFloat]

example : (1 : Int64) ≠ 0 := by decide

theorem pow_float_independent (F G : FloatOps) (a b : Num) (h : powUsesFloat a b = false) :
    pow F a b = pow G a b := by
  cases a with
  | f x => cases b <;> simp [powUsesFloat] at h
  | i m =>
    cases b with
    | f y => simp [powUsesFloat] at h
    | i n =>
      have hb : decide (n < 0) = false := h
      have hb' : ¬ n < 0 := of_decide_eq_false hb
      simp only [pow, if_neg hb']

example : powUsesFloat (.i 2) (.i 10) = false := by decide

theorem pow_uses_float_isFloat (F : FloatOps) (a b : Num) (h : powUsesFloat a b = true) :
    (pow F a b).isFloat = true := by
  cases a <;> cases b <;> simp_all [pow, powUsesFloat, isFloat]

example : powUsesFloat (.i 2) (.i (-1)) = true := by decide

def isDigit (c : Nat) : Prop := 48 ≤ c ∧ c ≤ 57

def decode (ds : List Nat) : Nat := ds.foldl (fun a c => a * 10 + (c - 48)) 0

def decodeInt : List Nat → Int
  | 45 :: r => -(decode r : Int)
  | r => (decode r : Int)

/-- the digit loop puts a non-empty string of digits in front of `acc`; it decodes to `n` when the
fuel covers the digits of `n` -/
theorem natDigitsAux_spec (fuel : Nat) : ∀ (n : Nat) (acc : List Nat),
    ∃ ds, natDigitsAux (fuel + 1) n acc = ds ++ acc ∧ ds ≠ [] ∧ (∀ c ∈ ds, isDigit c) ∧
      (n < 10 ^ (fuel + 1) → decode ds = n) := by
  induction fuel with
  | zero =>
    intro n acc
    refine ⟨[48 + n % 10], ?_, List.cons_ne_nil _ _, ?_, fun h => ?_⟩
    · simp [natDigitsAux]
    · intro c hc; rw [List.mem_singleton.1 hc]; constructor <;> omega
    · simp [decode]; omega
  | succ k ih =>
    intro n acc
    have hd : isDigit (48 + n % 10) := by constructor <;> omega
    rw [natDigitsAux]
    split
    · refine ⟨[48 + n % 10], rfl, List.cons_ne_nil _ _, ?_, fun _ => ?_⟩
      · intro c hc; rw [List.mem_singleton.1 hc]; exact hd
      · simp [decode]; omega
    · -- the digits of `n / 10`, then the last digit
      obtain ⟨ds, h1, _, h3, h4⟩ := ih (n / 10) ((48 + n % 10) :: acc)
      refine ⟨ds ++ [48 + n % 10], by rw [h1, List.append_assoc]; rfl,
        List.append_ne_nil_of_right_ne_nil _ (List.cons_ne_nil _ _), fun c hc => ?_, fun h => ?_⟩
      · rcases List.mem_append.1 hc with hc | hc
        · exact h3 c hc
        · rw [List.mem_singleton.1 hc]; exact hd
      · have := h4 (by rw [Nat.pow_succ] at h; omega)
        simp only [decode, List.foldl_append, List.foldl_cons, List.foldl_nil] at this ⊢
        rw [this]; omega

theorem natDigits_digits (n : Nat) : natDigits n ≠ [] ∧ ∀ c ∈ natDigits n, isDigit c := by
  obtain ⟨ds, h1, h2, h3, _⟩ := natDigitsAux_spec 39 n []
  rw [natDigits, h1, List.append_nil]
  exact ⟨h2, h3⟩

/-- `format!("{n}")` of an `i64`: a `-` exactly for negative numbers, then a non-empty digit string -/
theorem intDigits_shape (n : Int64) :
    ∃ ds, ds ≠ [] ∧ (∀ c ∈ ds, isDigit c) ∧
      intDigits n = if n.toInt < 0 then 45 :: ds else ds := by
  refine ⟨natDigits n.toInt.natAbs, (natDigits_digits _).1, (natDigits_digits _).2, ?_⟩
  simp only [intDigits]

theorem natDigits_roundtrip (n : Nat) (h : n < 10 ^ 40) : decode (natDigits n) = n := by
  obtain ⟨ds, h1, _, _, h4⟩ := natDigitsAux_spec 39 n []
  rw [natDigits, h1, List.append_nil]
  exact h4 h

example : (12345 : Nat) < 10 ^ 40 := by decide

/-- every `i64` is recovered from its `format!("{n}")` text: the rendering is injective and exact,
`i64::MIN` included -/
theorem intDigits_roundtrip (n : Int64) : decodeInt (intDigits n) = n.toInt := by
  have hlo := Int64.le_toInt n
  have hhi := Int64.toInt_lt n
  have hb : n.toInt.natAbs < 10 ^ 40 := by omega
  have hr := natDigits_roundtrip _ hb
  simp only [intDigits]
  split
  · simp only [decodeInt, hr]; omega
  · obtain ⟨hne, hd⟩ := natDigits_digits n.toInt.natAbs
    cases hl : natDigits n.toInt.natAbs with
    | nil => exact absurd hl hne
    | cons c r =>
      have hc : isDigit c := hd c (by simp [hl])
      have hc45 : c ≠ 45 := by unfold isDigit at hc; omega
      rw [hl] at hr
      unfold decodeInt
      split
      · rename_i heq; simp at heq; exact absurd heq.1 hc45
      · rw [hr]; omega

theorem intDigits_injective (a b : Int64) (h : intDigits a = intDigits b) : a = b := by
  apply Int64.toInt_inj.mp
  rw [← intDigits_roundtrip a, ← intDigits_roundtrip b, h]

example : intDigits 7 = intDigits 7 := rfl

end KotoVerif.C01Ext
