/-
C15 extension: theorems about further definitions of the executable string model (`Model/Str.lean`) that the
driver runs: `stripSuffixOp`, `containsB`, `startsWithB`, `endsWithB`, `replaceB`, `repeatB`, `rangeIndices`,
`signedIndex`, `sliceFrom` / `sliceTo`, `joinWith`.
-/
import KotoVerif.Model.Str
import KotoVerif.Lemmas.C15Utf8
import KotoVerif.Lemmas.C15Slice
import KotoVerif.Lemmas.C15Ops
import KotoVerif.Lemmas.C15Closed
import KotoVerif.Lemmas.C15Refine

namespace KotoVerif.C15Ext
open KotoVerif.Utf8 KotoVerif.Str

/-! ## strip_suffix -/

/-- **strip_suffix_refines**: on a well-formed string and a well-formed pattern `strip_suffix` is exact:
the bytes before the suffix, or `null` — never an error, never a cut through a character -/
theorem strip_suffix_refines {s : KStr} (hw : s.WF) {pat : Bytes} (hp : validUtf8 pat = true) :
    stripSuffixOp s pat =
      if pat.isSuffixOf s.bytes then .str (s.bytes.take (s.len - pat.length)) else .null := by
  simp only [stripSuffixOp]
  split
  · rename_i hsuf
    obtain ⟨t, ht⟩ := List.isSuffixOf_iff_suffix.mp hsuf
    have hl := KStr.bytes_length hw
    rw [← ht, List.length_append] at hl
    have := KStr.withBounds_prefix hw ht.symm (valid_of_append_right (ht ▸ hw.bytes_valid) hp)
    rw [← hl, Nat.add_sub_cancel, ← ht, List.take_left]
    exact Res.unwrap_of_map this
  · rfl

example : (match stripSuffixOp (KStr.ofSlice [120, 0xC3, 0xA9, 121] 0 4) [121] with | .str b => some b | _ => none)
    = some [120, 0xC3, 0xA9] := by decide +kernel

/-! ## contains / starts_with / ends_with -/

/-- completeness of `find`: if the pattern occurs anywhere, `find` returns an offset -/
theorem findAt_complete (pat : Bytes) : ∀ (pre post : Bytes), (findAt pat (pre ++ pat ++ post)).isSome = true
  | [], post => by
    have : pat.isPrefixOf (pat ++ post) = true := by
      rw [List.isPrefixOf_iff_prefix]; exact List.prefix_append _ _
    simp [findAt_zero_of_prefix this]
  | b :: pre, post => by
    have ih := findAt_complete pat pre post
    simp only [List.cons_append, findAt]
    split
    · rfl
    · simpa using ih

/-- **contains_iff**: `contains` is true exactly when the pattern occurs as a contiguous byte run -/
theorem contains_iff (pat bs : Bytes) :
    containsB pat bs = true ↔ ∃ pre post, bs = pre ++ pat ++ post := by
  constructor
  · intro h
    simp only [containsB] at h
    cases hf : findAt pat bs with
    | none => simp [hf] at h
    | some e => exact ⟨bs.take e, bs.drop (e + pat.length), findAt_some hf⟩
  · rintro ⟨pre, post, rfl⟩
    exact findAt_complete pat pre post

theorem starts_with_iff (pat bs : Bytes) : startsWithB pat bs = true ↔ ∃ post, bs = pat ++ post := by
  simp only [startsWithB, List.isPrefixOf_iff_prefix]
  constructor
  · rintro ⟨t, ht⟩; exact ⟨t, ht.symm⟩
  · rintro ⟨t, rfl⟩; exact List.prefix_append _ _

theorem ends_with_iff (pat bs : Bytes) : endsWithB pat bs = true ↔ ∃ pre, bs = pre ++ pat := by
  simp only [endsWithB, List.isSuffixOf_iff_suffix]
  constructor
  · rintro ⟨t, ht⟩; exact ⟨t, ht.symm⟩
  · rintro ⟨t, rfl⟩; exact List.suffix_append _ _

theorem starts_with_contains {pat bs : Bytes} (h : startsWithB pat bs = true) : containsB pat bs = true := by
  obtain ⟨post, rfl⟩ := (starts_with_iff pat bs).mp h
  exact (contains_iff _ _).mpr ⟨[], post, by simp⟩

theorem ends_with_contains {pat bs : Bytes} (h : endsWithB pat bs = true) : containsB pat bs = true := by
  obtain ⟨pre, rfl⟩ := (ends_with_iff pat bs).mp h
  exact (contains_iff _ _).mpr ⟨pre, [], by simp⟩

example : startsWithB [0xC3, 0xA9] [0xC3, 0xA9, 120] = true ∧ endsWithB [120] [0xC3, 0xA9, 120] = true := by decide +kernel

theorem contains_trans {a b c : Bytes} (hab : containsB a b = true) (hbc : containsB b c = true) :
    containsB a c = true := by
  obtain ⟨p1, q1, rfl⟩ := (contains_iff _ _).mp hab
  obtain ⟨p2, q2, rfl⟩ := (contains_iff _ _).mp hbc
  exact (contains_iff _ _).mpr ⟨p2 ++ p1, q1 ++ q2, by simp⟩

example : containsB [2] [1, 2, 3] = true ∧ containsB [1, 2, 3] [0, 1, 2, 3, 4] = true := by decide +kernel

/-! ## replace -/

theorem replaceNE_self {pat : Bytes} (hp : pat ≠ []) (fuel : Nat) (rest : Bytes) (h : rest.length < fuel) :
    replaceNE pat pat fuel rest = rest :=
  (replaceNE_eq_join_splitNE hp pat fuel rest h).trans (splitNE_join hp fuel rest h)

/-- **replace_self**: `s.replace(p, p) = s` for every non-empty pattern -/
theorem replace_self {pat : Bytes} (hp : pat ≠ []) (bs : Bytes) : replaceB pat pat bs = bs := by
  rw [replaceB_of_ne_nil hp]
  exact replaceNE_self hp _ bs (Nat.lt_succ_self _)

theorem replace_absent {pat : Bytes} (hp : pat ≠ []) (to bs : Bytes) (h : containsB pat bs = false) :
    replaceB pat to bs = bs := by
  rw [replaceB_of_ne_nil hp]
  simp only [containsB] at h
  cases hf : findAt pat bs with
  | none => simp [replaceNE, hf]
  | some e => simp [hf] at h

example : containsB [9] [1, 2, 3] = false ∧ replaceB [9] [7, 7] [1, 2, 3] = [1, 2, 3] := by decide +kernel

/-! ## repeat -/

theorem repeat_length (n : Nat) (bs : Bytes) : (repeatB n bs).length = n * bs.length := by
  simp only [repeatB, flat, List.length_flatten, List.map_replicate, List.sum_replicate_nat]

theorem repeat_add (m n : Nat) (bs : Bytes) : repeatB (m + n) bs = repeatB m bs ++ repeatB n bs := by
  simp only [repeatB, flat]
  rw [← List.replicate_append_replicate, List.flatten_append]

theorem repeat_contains (n : Nat) (bs : Bytes) : containsB bs (repeatB (n + 1) bs) = true := by
  refine (contains_iff _ _).mpr ⟨[], repeatB n bs, ?_⟩
  simp [repeatB, flat, List.replicate_succ]

/-! ## range / signed index arithmetic -/

/-- **range_indices_exact**: an in-bounds exclusive range is taken literally -/
theorem range_indices_exact {a b len : Nat} (hab : a ≤ b) (hb : b ≤ len) :
    rangeIndices (some (a : Int)) (some ((b : Int), false)) len = (a, b) := by
  simp only [rangeIndices, Option.getD_some, Bool.false_eq_true, if_false]
  rw [if_neg (by omega), clampI_of_mem (by omega) (by omega), clampI_of_mem (by omega) (by omega)]
  rfl

/-- **range_indices_inclusive**: `a..=b` is `a..b+1` for every argument -/
theorem range_indices_inclusive (st : Option Int) (b : Int) (len : Nat) :
    rangeIndices st (some (b, true)) len = rangeIndices st (some (b + 1, false)) len := by
  simp [rangeIndices]

/-- **range_indices_open**: the fully open range is the whole string (every real length is at most
`isize::MAX`; beyond `i64::MAX` the end would saturate) -/
theorem range_indices_open (len : Nat) (hl : len ≤ isizeMax) : rangeIndices none none len = (0, len) := by
  simp only [isizeMax] at hl
  simp only [rangeIndices, Option.getD_none]
  rw [if_neg (by decide), clampI_of_lt _ (by decide), clampI_of_ge (by omega) (by simp only [i64max]; omega)]
  rfl

example : (5 : Nat) ≤ isizeMax := by decide +kernel
example : rangeIndices (some ((1 : Nat) : Int)) (some (((3 : Nat) : Int), false)) 5 = (1, 3) := by decide +kernel

/-- **signed_index_neg**: a negative index counts from the end (saturating at 0) -/
theorem signed_index_neg (k size : Nat) (hk : 0 < k) : signedIndex (-(k : Int)) size = size - k := by
  simp only [signedIndex]
  rw [if_pos (by omega)]
  have : (-(k : Int)).natAbs = k := by omega
  rw [this]; omega

theorem signed_index_le (i : Int) (size : Nat) (h : i ≤ size) : signedIndex i size ≤ size := by
  simp only [signedIndex]
  split <;> omega

example : signedIndex (-2) 5 = 3 ∧ signedIndex (-9) 5 = 0 ∧ signedIndex 5 5 = 5 := by decide +kernel

/-! ## run_slice (SliceFrom / SliceTo) -/

/-- **slice_from_exact**: `SliceFrom k` at a character boundary inside a well-formed string is exactly the
bytes from `k` on -/
theorem slice_from_exact {s : KStr} (hw : s.WF) {k : Nat} (hk : k ≤ s.len)
    (hb : isBoundary s.bytes k = true) : sliceFrom s (k : Int) = .str (s.bytes.drop k) := by
  have hsi : signedIndex (k : Int) s.len = k := by
    simp only [signedIndex]; split <;> omega
  simp only [sliceFrom, hsi]
  exact Res.ofOpt_of_map (KStr.withBounds_to_end hw hk hb)

/-- **slice_to_exact**: `SliceTo -k` at a character boundary is exactly the bytes before the last `k` -/
theorem slice_to_exact {s : KStr} (hw : s.WF) {k : Nat} (hk0 : 0 < k) (hk : k ≤ s.len)
    (hb : isBoundary s.bytes (s.len - k) = true) :
    sliceTo s (-(k : Int)) = .str (s.bytes.take (s.len - k)) := by
  simp only [sliceTo, signed_index_neg k s.len hk0]
  apply Res.ofOpt_of_map
  rw [KStr.withBounds_ok hw (Nat.zero_le _) (isBoundary_zero _) hb]
  simp

example : isBoundary (KStr.ofSlice [120, 0xC3, 0xA9, 121] 0 4).bytes 1 = true ∧
    isBoundary (KStr.ofSlice [120, 0xC3, 0xA9, 121] 0 4).bytes (4 - 1) = true := by decide +kernel

/-! ## join -/

theorem join_length (sep : Bytes) : ∀ (xs : List Bytes),
    (joinWith sep xs).length = (xs.map List.length).sum + (xs.length - 1) * sep.length
  | [] => by simp [joinWith]
  | [x] => by simp [joinWith]
  | x :: y :: r => by
    have ih := join_length sep (y :: r)
    simp only [joinWith, List.length_append, ih, List.map_cons, List.sum_cons, List.length_cons]
    have : r.length + 1 + 1 - 1 = (r.length + 1 - 1) + 1 := by omega
    rw [this, Nat.succ_mul]; omega

theorem join_empty_sep : ∀ (xs : List Bytes), joinWith [] xs = xs.flatten :=
  joinWith_nil

end KotoVerif.C15Ext
