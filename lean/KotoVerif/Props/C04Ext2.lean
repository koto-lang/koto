/-
C04 — second extension: clauses of the property across constructs of the guide-level evaluator `Try.run`
(`try_` / `.catches` / `thenFinally` / `.loopL`, all executed by the driver): what becomes of a non-error
exit, of an error no catch accepts, of a rethrow, and of `break` / `continue` / an error out of a try with
`finally` inside a loop.
-/
import KotoVerif.Model.TryEval
import KotoVerif.Props.C04
import KotoVerif.Props.C04Ext

namespace KotoVerif.C04Ext2

open KotoVerif.Try KotoVerif.C04 KotoVerif.C04Ext

variable (cfg : Cfg) (P : Prog)

/-- Catch blocks only ever see errors: when the try block ends with any non-error outcome
(normal value, `return`, `break`, `continue`, out of fuel) the try expression is that outcome and
state, whatever the catch blocks are. -/
theorem catch_ignores_non_errors (n : Nat) (b : E) (cs : List Catch) (σ σ1 : St) (s : Sig)
    (h : run cfg P n (.ev b) σ = (s, σ1)) (hs : ∀ v, s ≠ .err v) :
    run cfg P (n + 1) (.ev (.try_ b cs none)) σ = (s, σ1) := by
  rw [run_try_none, h]
  cases s <;> simp_all [catchWith]

example : run guide {} 3 (.ev (.ret (.lit (.int 1)))) {} = (.ret (.int 1), {}) ∧
    ∀ v, Sig.ret (.int 1) ≠ .err v := by
  constructor
  · decide +kernel
  · intro v h; cases h

/-- An error that no catch block of the try accepts passes a (normally ending) `finally` block
unchanged: the `finally` block runs from the raise-point state `σ1`, and the try expression's
outcome is the same error `v` with the state the `finally` block left. -/
theorem unaccepted_error_through_finally (m : Nat) (b f : E) (cs : List Catch) (σ σ1 σ2 : St)
    (v w : Val)
    (h1 : run cfg P (m + cs.length + 1) (.ev b) σ = (.err v, σ1))
    (hacc : ∀ c ∈ cs, accepts c.1 v = false)
    (h2 : run cfg P (m + cs.length + 1) (.ev f) σ1 = (.ok w, σ2)) :
    run cfg P (m + cs.length + 1 + 1) (.ev (.try_ b cs (some f))) σ = (.err v, σ2) := by
  refine finally_then_continue cfg P _ b f cs σ σ1 σ2 _ w ?_ (.inr (.inr (.inr ⟨v, rfl⟩))) h2
  rw [handler_innermost cfg P _ b cs σ σ1 v h1, no_accepting_catch cfg P cs v hacc m σ1]

example : run guide {} 3 (.ev (.try_ (.fault .idx) [(some .number, 0, .lit .null)]
    (some (.lit (.int 5))))) {} = (.err (errK FaultKind.idx.ek), {}) := by decide +kernel

/-- Typed catches that do not accept hand the error to the next enclosing try: if the inner try's
catch blocks all reject `v`, an enclosing untyped `catch x` runs its body with `x` bound to `v` in
the raise-point state `σ1` (nothing the inner try did is visible except through `σ1`). -/
theorem rejected_error_reaches_outer_try (m : Nat) (b body : E) (cs : List Catch) (x : Nat)
    (σ σ1 : St) (v : Val)
    (h1 : run cfg P (m + cs.length + 1) (.ev b) σ = (.err v, σ1))
    (hacc : ∀ c ∈ cs, accepts c.1 v = false) :
    run cfg P (m + cs.length + 1 + 2) (.ev (.try_ (.try_ b cs none) [(none, x, body)] none)) σ =
      run cfg P (m + cs.length + 1) (.ev body) (setLocal σ1 x v) := by
  rw [show m + cs.length + 1 + 2 = (m + cs.length + 1 + 1) + 1 by omega]
  rw [run_try_none, run_try_none, h1]
  simp only [catchWith]
  rw [no_accepting_catch cfg P cs v hacc m σ1]
  rfl

example : run guide {} 5 (.ev (.try_ (.try_ (.throw (.lit (.int 7))) [(some .string, 0, .lit .null)] none)
    [(none, 0, .var 0)] none)) {} = (.ok (.int 7), { locals := [.int 7] }) := by decide +kernel

/-- Catch-and-rethrow keeps the thrown value: `try b catch x: throw x` ends with the same error
value `v` as `b`; the only difference in the state is that `x` now holds `v`. -/
theorem rethrow_preserves_value (n : Nat) (b : E) (x : Nat) (σ σ1 : St) (v : Val)
    (h1 : run cfg P (n + 3) (.ev b) σ = (.err v, σ1)) :
    run cfg P (n + 4) (.ev (.try_ b [(none, x, .throw (.var x))] none)) σ =
      (.err v, setLocal σ1 x v) := by
  rw [show n + 4 = (n + 3) + 1 by omega, run_try_none, h1]
  simp only [catchWith]
  rw [show n + 3 = (n + 2) + 1 by omega, run_catches_cons]
  show (Sig.err (getLocal (setLocal σ1 x v) x), setLocal σ1 x v) = _
  rw [getLocal_setLocal, if_pos rfl]

example : run guide {} 3 (.ev (.throw (.lit (.int 7)))) {} = (.err (.int 7), {}) := by decide +kernel

/-- `break` out of a try inside a `for` loop: the `finally` block runs (once, from the state at the
`break`), then the loop ends — the remaining items are not visited — with the state the `finally`
block left. -/
theorem break_in_try_runs_finally_then_leaves_loop (n : Nat) (b f : E) (cs : List Catch) (x : Nat)
    (it : Val) (rest : List Val) (σ σ1 σ2 : St) (w : Val)
    (h1 : run cfg P n (.ev b) (setLocal σ x it) = (.brk, σ1))
    (h2 : run cfg P n (.ev f) σ1 = (.ok w, σ2)) :
    run cfg P (n + 2) (.loopL x (it :: rest) (.try_ b cs (some f))) σ = (.ok .null, σ2) := by
  have hb : run cfg P (n + 1) (.ev (.try_ b cs (some f))) (setLocal σ x it) = (.brk, σ2) :=
    finally_then_continue cfg P n b f cs _ σ1 σ2 .brk w
      (catch_ignores_non_errors cfg P n b cs _ σ1 .brk h1 fun _ => Sig.noConfusion) (.inl rfl) h2
  rw [run_loopL_cons, hb, loopCtl_brk]

example : run guide {} 2 (.ev .brk) (setLocal {} 0 (.int 1)) = (.brk, setLocal {} 0 (.int 1)) := by
  decide +kernel

/-- `continue` out of a try inside a `for` loop: the `finally` block runs (once, from the state at
the `continue`), then the loop goes on with the remaining items from the state the `finally` block
left. -/
theorem continue_in_try_runs_finally_then_continues (n : Nat) (b f : E) (cs : List Catch) (x : Nat)
    (it : Val) (rest : List Val) (σ σ1 σ2 : St) (w : Val)
    (h1 : run cfg P n (.ev b) (setLocal σ x it) = (.cont, σ1))
    (h2 : run cfg P n (.ev f) σ1 = (.ok w, σ2)) :
    run cfg P (n + 2) (.loopL x (it :: rest) (.try_ b cs (some f))) σ =
      run cfg P (n + 1) (.loopL x rest (.try_ b cs (some f))) σ2 := by
  have hb : run cfg P (n + 1) (.ev (.try_ b cs (some f))) (setLocal σ x it) = (.cont, σ2) :=
    finally_then_continue cfg P n b f cs _ σ1 σ2 .cont w
      (catch_ignores_non_errors cfg P n b cs _ σ1 .cont h1 fun _ => Sig.noConfusion) (.inr (.inl rfl)) h2
  rw [run_loopL_cons, hb, loopCtl_cont]

example : run guide {} 2 (.ev .cont) (setLocal {} 0 (.int 1)) = (.cont, setLocal {} 0 (.int 1)) := by
  decide +kernel

/-- An error escaping a try inside a `for` loop (no catch accepts it) still runs the `finally`
block and then ends the loop with that error: later items are not visited. -/
theorem error_in_loop_try_runs_finally_then_ends_loop (m : Nat) (b f : E) (cs : List Catch)
    (x : Nat) (it : Val) (rest : List Val) (σ σ1 σ2 : St) (v w : Val)
    (h1 : run cfg P (m + cs.length + 1) (.ev b) (setLocal σ x it) = (.err v, σ1))
    (hacc : ∀ c ∈ cs, accepts c.1 v = false)
    (h2 : run cfg P (m + cs.length + 1) (.ev f) σ1 = (.ok w, σ2)) :
    run cfg P (m + cs.length + 1 + 2) (.loopL x (it :: rest) (.try_ b cs (some f))) σ =
      (.err v, σ2) := by
  have h := unaccepted_error_through_finally cfg P m b f cs (setLocal σ x it) σ1 σ2 v w h1 hacc h2
  rw [show m + cs.length + 1 + 2 = (m + cs.length + 1 + 1) + 1 by omega]
  rw [run_loopL_cons, h, loopCtl_err]

example : run guide {} 4 (.loopL 0 [.int 1, .int 2] (.try_ (.fault .idx) [] (some (.lit .null)))) {} =
    (.err (errK FaultKind.idx.ek), setLocal {} 0 (.int 1)) := by decide +kernel

end KotoVerif.C04Ext2
