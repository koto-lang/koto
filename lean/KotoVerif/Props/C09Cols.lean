/-
C09 — columns and indent: property theorems about `Model/Lexer.lean` that complete
`Props/C09.lean` ("columns restart at zero after each line break, and the indentation reported for a
token is the leading whitespace of its line").

The rest of the vocabulary of the statements, all specification-level, is defined in the lemma
modules: `colAt`, `lineStartByte`, `WidthOk` in `Lemmas/C09Pos.lean`; `tokClean` in `C09Scan.lean`;
`lexedClean`, `ColExactUnlessSkewed` in `C09Cols.lean`; `lineIndent`, `LineBegunByNewLineToken` in
`C09Indent.lean`.
-/
import KotoVerif.Props.C09
import KotoVerif.Lemmas.C09Cols
import KotoVerif.Lemmas.C09Indent

namespace KotoVerif.C09
open KotoVerif.Lexer

/-! ## specification vocabulary -/

/-- the full statement of exact columns for one source: every non-error token's start and end
column is the display width of the text since the last line feed -/
def ColsExact (src : List Ch) : Prop :=
  ∀ l ∈ lexAll src, l.tok ≠ .error →
    (∀ pre, prefixAt l.startByte src = some pre → l.span.start.col = colAt pre) ∧
    (∀ pre, prefixAt l.endByte src = some pre → l.span.stop.col = colAt pre)

/-- coarse source-level exclusion: every character that can start an identifier, and every tab, has
display width 1 -/
def NarrowOk (src : List Ch) : Prop :=
  ∀ c ∈ src, (c.idStart = true ∨ c.cp = cpTab) → c.width = 1

/-- executable form of "column `col` is exact at byte offset `n`" (for the evaluated examples) -/
def colExactAt (src : List Ch) (n col : Nat) : Bool :=
  match prefixAt n src with
  | some pre => col == colAt pre
  | none => false

/-! ## columns -/

/-- **Exact columns (partial, line-local exclusion).** For every non-error token, the reported start
and end columns equal the display width of the text between the last line break and that point,
provided no unclean token (`Id` starting with a character of width ≠ 1, `Whitespace` containing a
character of width ≠ 1) lies earlier on the same line.  Line breaks inside strings, comments and
format options are all accounted for. -/
theorem cols_exact_partial (src : List Ch) (ht : TableOk src) (hw : WidthOk src) :
    ∀ l ∈ lexAll src, l.tok ≠ .error →
      ColExactUnlessSkewed src l.startByte l.span.start.col ∧
      ColExactUnlessSkewed src l.endByte l.span.stop.col := by
  refine lexAll_invariant ht (P := fun pre s => ColExactUnlessSkewed src (byteLen pre) s.span.stop.col)
    (fun pre hp _ => by cases prefixAt_unique (pre := []) rfl rfl hp; rfl)
    (fun _ _ _ _ _ _ hst => hst.colExact hw) ?_
  intro pre t post s l s' hst h h'
  rw [hst.startByte, hst.start, hst.endByte, ← byteLen_append, hst.stop]
  exact ⟨h, h'⟩

/-- **Exact columns when no token is excluded.** -/
theorem cols_exact_of_clean (src : List Ch) (ht : TableOk src) (hw : WidthOk src)
    (hclean : ∀ l' ∈ lexAll src, lexedClean src l' = true) : ColsExact src := by
  intro l hl hne
  obtain ⟨h1, h2⟩ := cols_exact_partial src ht hw l hl hne
  exact ⟨fun pre hp => h1 pre hp (fun l' hl' _ _ => hclean l' hl'),
         fun pre hp => h2 pre hp (fun l' hl' _ _ => hclean l' hl')⟩

/-- **Exact columns under the source-level exclusion.** -/
theorem cols_exact_of_narrow (src : List Ch) (ht : TableOk src) (hw : WidthOk src) (hn : NarrowOk src) :
    ColsExact src := by
  exact cols_exact_of_clean src ht hw (lexedClean_of_narrow src ht hw hn)

/-- **Columns restart at zero after each line break** — every line break, also those inside
strings, comments and format options; no exclusion.  A token that starts (ends) immediately after
a line feed character starts (ends) at column 0. -/
theorem column_zero_after_line_break (src : List Ch) (ht : TableOk src) (hw : WidthOk src) :
    ∀ l ∈ lexAll src, l.tok ≠ .error →
      (∀ pre c, prefixAt l.startByte src = some (pre ++ [c]) → c.cp = cpNL → l.span.start.col = 0) ∧
      (∀ pre c, prefixAt l.endByte src = some (pre ++ [c]) → c.cp = cpNL → l.span.stop.col = 0) := by
  intro l hl hne
  obtain ⟨h1, h2⟩ := cols_exact_partial src ht hw l hl hne
  -- a token lying entirely at the byte offset of the line start is empty (or the error token)
  have key : ∀ n pre c, prefixAt n src = some (pre ++ [c]) → c.cp = cpNL →
      ∀ l' ∈ lexAll src, l'.endByte ≤ n → lineStartByte (pre ++ [c]) ≤ l'.startByte →
        lexedClean src l' = true := by
    intro n pre c hp hc l' hl' hle hge
    by_cases he : l'.tok = .error
    · exact lexedClean_error src l' he
    · have a2 : l'.startByte ≤ l'.endByte :=
        lexAll_forall ht (Q := fun l => l.startByte ≤ l.endByte)
          (fun _ _ _ _ _ _ hst => hst.start_le_end) l' hl' he
      obtain ⟨_, _, hb⟩ := prefixAt_spec _ _ _ hp
      rw [lineStartByte_of_ends_nl pre c hc, hb] at hge
      exact lexedClean_empty src l' (by omega)
  have hz : ∀ pre c, c.cp = cpNL → colAt (pre ++ [c]) = 0 := by
    intro pre c hc
    rw [colAt, lastLine_of_ends_nl pre c hc]; rfl
  refine ⟨fun pre c hp hc => ?_, fun pre c hp hc => ?_⟩
  · rw [h1 _ hp (key _ pre c hp hc), hz pre c hc]
  · rw [h2 _ hp (key _ pre c hp hc), hz pre c hc]

/-! ### the full statement is false: two scanners do not count display widths -/

/-- U+65E5 `日`: display width 2, XID_Start, 3 bytes -/
def wideCh : Ch := { cp := 0x65E5, width := 2, idStart := true, idCont := true, g1 := 3, g2 := 1 }
/-- tab: a control character, `UnicodeWidthChar::width` is `None`, so width 0 -/
def tabCh : Ch := { cp := 9, width := 0, idStart := false, idCont := false, g1 := 1, g2 := 1 }
def nlCh : Ch := { cp := 10, width := 0, idStart := false, idCont := false, g1 := 1, g2 := 1 }

/-- `日 x` -/
def witnessWideId : List Ch := [wideCh, ascii 32 false false, ascii 120 true true]
/-- `x日 x` — the same wide character, not in first position -/
def witnessWideId2 : List Ch := [ascii 120 true true, wideCh, ascii 32 false false, ascii 120 true true]
/-- `⇥x` -/
def witnessTab : List Ch := [tabCh, ascii 120 true true]
/-- `#-⇥-#x` -/
def witnessTabComment : List Ch :=
  [ascii 35 false false, ascii 45 false false, tabCh, ascii 45 false false, ascii 35 false false,
   ascii 120 true true]

/-- **Exact columns fail (witnesses).**
(A) `consume_id_or_keyword` counts the first identifier character as ONE column whatever its width:
on `日 x` the identifier ends at column 1 (display width 2) and `x` starts at column 2 (display 3);
on `x日 x` the same character, not first, is counted with its width 2 (identifier ends at column 3).
(B) the whitespace arm of `get_next_token` counts a tab as one column whereas comments and strings
count it with its display width 0: on `⇥x` the `x` starts at column 1 (display 0), while on
`#-⇥-#x` the comment ends at column 4 — so no choice of tab width makes both exact. -/
theorem cols_not_exact_witness :
    (TableOk witnessWideId ∧ WidthOk witnessWideId ∧ ¬ ColsExact witnessWideId ∧
      (⟨.id, 0, 3, ⟨⟨0, 0⟩, ⟨0, 1⟩⟩, 0, false⟩ : Lexed) ∈ lexAll witnessWideId ∧
      (⟨.id, 4, 5, ⟨⟨0, 2⟩, ⟨0, 3⟩⟩, 0, false⟩ : Lexed) ∈ lexAll witnessWideId ∧
      (prefixAt 4 witnessWideId).map colAt = some 3 ∧
      (⟨.id, 0, 4, ⟨⟨0, 0⟩, ⟨0, 3⟩⟩, 0, false⟩ : Lexed) ∈ lexAll witnessWideId2) ∧
    (TableOk witnessTab ∧ WidthOk witnessTab ∧ ¬ ColsExact witnessTab ∧
      (⟨.id, 1, 2, ⟨⟨0, 1⟩, ⟨0, 2⟩⟩, 1, false⟩ : Lexed) ∈ lexAll witnessTab ∧
      (prefixAt 1 witnessTab).map colAt = some 0 ∧
      (⟨.commentMulti, 0, 5, ⟨⟨0, 0⟩, ⟨0, 4⟩⟩, 0, false⟩ : Lexed) ∈ lexAll witnessTabComment) := by
  refine ⟨⟨by unfold TableOk; decide, by unfold WidthOk; decide, ?_, by decide, by decide, by decide, by decide⟩,
          ⟨by unfold TableOk; decide, by unfold WidthOk; decide, ?_, by decide, by decide, by decide⟩⟩
  · intro h
    have := (h ⟨.id, 4, 5, ⟨⟨0, 2⟩, ⟨0, 3⟩⟩, 0, false⟩ (by decide) (by decide)).1
      [wideCh, ascii 32 false false] (by decide)
    revert this; decide
  · intro h
    have := (h ⟨.id, 1, 2, ⟨⟨0, 1⟩, ⟨0, 2⟩⟩, 1, false⟩ (by decide) (by decide)).1
      [tabCh] (by decide)
    revert this; decide

/-! ## indent -/

/-- **Indent (partial).** The indent reported with a non-error token equals the number of leading
spaces/tabs of the line on which the token starts, provided that line was begun by the start of the
input or by a `NewLine` token.  Excluded (F-C09-2): lines begun by a line break inside a multi-line
token — the indent is only recomputed after a `NewLine` token. -/
theorem indent_exact_partial (src : List Ch) (ht : TableOk src) :
    ∀ l ∈ lexAll src, l.tok ≠ .error → ∀ pre, prefixAt l.startByte src = some pre →
      LineBegunByNewLineToken src pre →
      l.indent = lineIndent src (lineStartByte pre) := by
  refine lexAll_invariant ht (P := fun pre s => LineBegunByNewLineToken src pre → IndGood src pre s)
    (fun _ => Or.inl ⟨fresh_init, rfl⟩) (fun _ _ _ _ _ _ hst => hst.indGood ht) ?_
  intro pre t post s l s' hst h _ pre0 hp hb
  rw [hst.prefix_start] at hp
  cases hp
  exact hst.indent_of_good (h hb)

/-- `'⏎ '`: a string literal spanning two lines; the second line is ` '` -/
def witnessIndent : List Ch := [ascii 39 false false, nlCh, ascii 32 false false, ascii 39 false false]

/-- **Indent fails on a line begun inside a multi-line token (witness, F-C09-2).** On `'⏎ '` the
closing quote (bytes 3..4) starts on the line that begins at byte 2, whose leading whitespace is 1,
but reports indent 0; that line was not begun by a `NewLine` token. -/
theorem indent_not_exact_witness :
    TableOk witnessIndent ∧
    (⟨.stringEnd, 3, 4, ⟨⟨1, 1⟩, ⟨1, 2⟩⟩, 0, false⟩ : Lexed) ∈ lexAll witnessIndent ∧
    (∃ l ∈ lexAll witnessIndent, l.tok ≠ .error ∧ ∃ pre, prefixAt l.startByte witnessIndent = some pre ∧
      l.indent ≠ lineIndent witnessIndent (lineStartByte pre) ∧
      ¬ LineBegunByNewLineToken witnessIndent pre) := by
  refine ⟨by unfold TableOk; decide, by decide, ⟨.stringEnd, 3, 4, ⟨⟨1, 1⟩, ⟨1, 2⟩⟩, 0, false⟩, by decide,
    by decide, [ascii 39 false false, nlCh, ascii 32 false false], by decide, by decide, ?_⟩
  unfold LineBegunByNewLineToken
  decide

/-! ## non-vacuity -/

/-- U+3001 `、`: display width 2, not an identifier character -/
def wideComma : Ch := { cp := 0x3001, width := 2, idStart := false, idCont := false, g1 := 3, g2 := 1 }

/-- ```
x日 = 'a⏎
⇥b' #、c⏎
  y
```
a wide character inside an identifier (not first) and inside a comment, a tab (width 0) inside a
two-line string, a comment, and an indented last line -/
def sampleCols : List Ch :=
  [ascii 120 true true, wideCh, ascii 32 false false, ascii 61 false false, ascii 32 false false,
   ascii 39 false false, ascii 97 true true, nlCh,
   tabCh, ascii 98 true true, ascii 39 false false, ascii 32 false false,
   ascii 35 false false, wideComma, ascii 99 true true, nlCh,
   ascii 32 false false, ascii 32 false false, ascii 121 true true]

theorem lexAll_sampleCols : lexAll sampleCols =
    [⟨.id, 0, 4, ⟨⟨0, 0⟩, ⟨0, 3⟩⟩, 0, false⟩, ⟨.whitespace, 4, 5, ⟨⟨0, 3⟩, ⟨0, 4⟩⟩, 0, false⟩,
     ⟨.sym .Assign, 5, 6, ⟨⟨0, 4⟩, ⟨0, 5⟩⟩, 0, false⟩, ⟨.whitespace, 6, 7, ⟨⟨0, 5⟩, ⟨0, 6⟩⟩, 0, false⟩,
     ⟨.stringStartNormal .sq, 7, 8, ⟨⟨0, 6⟩, ⟨0, 7⟩⟩, 0, false⟩,
     ⟨.stringLiteral, 8, 12, ⟨⟨0, 7⟩, ⟨1, 1⟩⟩, 0, false⟩, ⟨.stringEnd, 12, 13, ⟨⟨1, 1⟩, ⟨1, 2⟩⟩, 0, false⟩,
     ⟨.whitespace, 13, 14, ⟨⟨1, 2⟩, ⟨1, 3⟩⟩, 0, false⟩, ⟨.commentSingle, 14, 19, ⟨⟨1, 3⟩, ⟨1, 7⟩⟩, 0, false⟩,
     ⟨.newLine, 19, 20, ⟨⟨1, 7⟩, ⟨2, 0⟩⟩, 0, false⟩, ⟨.whitespace, 20, 22, ⟨⟨2, 0⟩, ⟨2, 2⟩⟩, 2, false⟩,
     ⟨.id, 22, 23, ⟨⟨2, 2⟩, ⟨2, 3⟩⟩, 2, false⟩] := by decide

/-- executable form of `LineBegunByNewLineToken` -/
def lineBegunB (src pre : List Ch) : Bool :=
  lineStartByte pre == 0 ||
    (lexAll src).any (fun l' => l'.tok == .newLine && l'.endByte == lineStartByte pre)

/-- all hypotheses of `cols_exact_partial` hold on `sampleCols`, no token is excluded (every token
is clean), there are 12 tokens, and the conclusion — evaluated — holds for each of them -/
example : TableOk sampleCols ∧ WidthOk sampleCols ∧
    (lexAll sampleCols).length = 12 ∧
    (lexAll sampleCols).all (fun l => l.tok != .error && lexedClean sampleCols l) = true ∧
    (lexAll sampleCols).all (fun l =>
      colExactAt sampleCols l.startByte l.span.start.col &&
      colExactAt sampleCols l.endByte l.span.stop.col) = true := by
  rw [lexAll_sampleCols]
  refine ⟨by unfold TableOk; decide, by unfold WidthOk; decide, by decide, by decide, by decide⟩

/-- the column restarts at 0 at the line break inside the string literal: the literal ends, and the
closing quote stands, at display column 1 (tab 0 + `b` 1); the comment `#、c` spans columns 3..7 -/
example :
    (⟨.stringLiteral, 8, 12, ⟨⟨0, 7⟩, ⟨1, 1⟩⟩, 0, false⟩ : Lexed) ∈ lexAll sampleCols ∧
    (⟨.commentSingle, 14, 19, ⟨⟨1, 3⟩, ⟨1, 7⟩⟩, 0, false⟩ : Lexed) ∈ lexAll sampleCols := by
  rw [lexAll_sampleCols]; decide

/-- `indent_exact_partial` on `sampleCols`: the hypothesis holds for the tokens of lines 0 and 2 (8
of the 12 tokens) and fails for those of line 1 (begun inside the string); where it holds the
reported indent is the line's leading whitespace — `y` reports 2 — and on line 1 (leading
whitespace 1, the tab) the tokens report 0 -/
example :
    ((lexAll sampleCols).filter (fun l =>
      match prefixAt l.startByte sampleCols with
      | some pre => lineBegunB sampleCols pre
      | none => false)).length = 8 ∧
    (lexAll sampleCols).all (fun l =>
      match prefixAt l.startByte sampleCols with
      | some pre => !lineBegunB sampleCols pre ||
          l.indent == lineIndent sampleCols (lineStartByte pre)
      | none => false) = true ∧
    (⟨.id, 22, 23, ⟨⟨2, 2⟩, ⟨2, 3⟩⟩, 2, false⟩ : Lexed) ∈ lexAll sampleCols ∧
    (⟨.stringEnd, 12, 13, ⟨⟨1, 1⟩, ⟨1, 2⟩⟩, 0, false⟩ : Lexed) ∈ lexAll sampleCols := by
  simp only [lineBegunB, lexAll_sampleCols]
  decide

/-- `NarrowOk` is satisfiable by a source with a line break inside a string -/
example : TableOk sampleOk ∧ WidthOk sampleOk ∧ NarrowOk sampleOk := by
  refine ⟨by unfold TableOk; decide, by unfold WidthOk; decide, by unfold NarrowOk; decide⟩

end KotoVerif.C09
