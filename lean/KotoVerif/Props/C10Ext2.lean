/-
C10 second extension: statements that connect several cursor primitives of `Model/Cursor.lean`:
monotonicity of `peek_token_with_context` in the expression context, the no-linebreak peek is the
`*_on_same_line` peek, `peek_count` indexes `peek_token_n`, the block-entry context produced by
`consume_token_with_context`, and the `KotoLexer` queue invariant.
-/
import KotoVerif.Props.C10
import KotoVerif.Props.C10Ext

namespace KotoVerif.C10Ext2
open KotoVerif.Lexer KotoVerif.Cursor KotoVerif.C10 KotoVerif.C10Ext

/-- `ctx'` accepts at least what `ctx` accepts. -/
def CtxLe (ctx ctx' : Ctx) : Prop :=
  (ctx.allowLinebreaks = true → ctx'.allowLinebreaks = true) ∧
  ∀ i s, indentAccepts ctx.expected i s = true → indentAccepts ctx'.expected i s = true

/-- Widening the context (more line breaks allowed, weaker indentation requirement) never loses or
changes a peeked token. -/
theorem peek_ctx_monotone (ctx ctx' : Ctx) (h : CtxLe ctx ctx') (c : Cur) (i : PeekInfo)
    (hp : peekTokenWithContext ctx c = some i) : peekTokenWithContext ctx' c = some i :=
  peek_mono hp fun ha => accepts_iff.mpr ((accepts_iff.mp ha).imp id fun ⟨hl, hi⟩ => ⟨h.1 hl, h.2 _ _ hi⟩)

/-- `GreaterOrEqual(e)` is wider than both `GreaterThan(e)` and `Equal(e)`: the documented order of the
indentation requirements. -/
theorem ctxLe_greaterThan_greaterOrEqual (ctx : Ctx) (e : Nat) (he : ctx.expected = .greaterThan e) :
    CtxLe ctx { ctx with expected := .greaterOrEqual e } := by
  refine ⟨fun h => h, fun i s ha => ?_⟩
  simp only [he, indentAccepts, decide_eq_true_eq] at ha ⊢
  omega

theorem ctxLe_equal_greaterOrEqual (ctx : Ctx) (e : Nat) (he : ctx.expected = .equal e) :
    CtxLe ctx { ctx with expected := .greaterOrEqual e } := by
  refine ⟨fun h => h, fun i s ha => ?_⟩
  simp only [he, indentAccepts, decide_eq_true_eq] at ha ⊢
  omega

example : peekTokenWithContext { Ctx.permissive with expected := .greaterThan 0 }
    ⟨defaultTok, [wt .newLine 0 1 0, wt .id 1 1 2]⟩ = some ⟨.id, 1, wt .id 1 1 2⟩ := by decide

/-- In a context that does not allow line breaks `peek_token_with_context` finds exactly what
`peek_next_token_on_same_line` finds (same token, same position), and it is not a `NewLine`. -/
theorem peek_no_linebreaks_is_same_line (ctx : Ctx) (hl : ctx.allowLinebreaks = false) (c : Cur) (i : PeekInfo)
    (hp : peekTokenWithContext ctx c = some i) :
    peekNextTokenOnSameLine c = some i.tok ∧ peekNextTokenOnSameLineWithSpan c = some (i.tok, i.info.span) ∧
    i.tok ≠ .newLine := by
  obtain ⟨hf, ha⟩ := peek_some_iff.mp hp
  rcases accepts_iff.mp ha with ha | ⟨hl', _⟩
  · -- accepted on the cursor's line: up to the token the two ways of skipping agree
    obtain ⟨g, r, e, hg, ht, _, hk⟩ := found_some hf
    rw [peekSameLine_eq, peekSameLineSpan_eq, ((dropWhile_ws c.rest).1 (onLine_iff.mp ha)).2, e,
      (takeWhile_gap hg ht).2, hk]
    exact ⟨rfl, rfl, not_nl_of_sig ht⟩
  · rw [hl] at hl'; cases hl'

/-- Converse, for every context: a non-`NewLine` token found by the same-line peek is what
`peek_token_with_context` returns. -/
theorem same_line_peek_is_ctx_peek (ctx : Ctx) (c : Cur) (k : Nat) (t : Lexed)
    (hs : sameLineLoop c.rest 0 = some (t, k)) (hn : t.tok ≠ .newLine) :
    peekTokenWithContext ctx c = some ⟨t.tok, k, t⟩ := by
  rw [sameLineLoop_eq] at hs
  cases hN : hasNL (c.rest.takeWhile tv) with
  | true =>
    -- a line break in the gap: the same-line loop would have stopped on the `NewLine` token
    obtain ⟨x, r, e, hx⟩ := (dropWhile_ws c.rest).2 hN
    rw [e] at hs
    cases hs
    exact absurd hx hn
  | false =>
    rw [((dropWhile_ws c.rest).1 hN).1, ((dropWhile_ws c.rest).1 hN).2] at hs
    rw [peek_some_iff, found]
    cases e : (c.rest.dropWhile tv).head? with
    | none => rw [e] at hs; cases hs
    | some x =>
      rw [e] at hs
      cases hs
      exact ⟨by rw [Option.map_some, Nat.zero_add], accepts_iff.mpr (Or.inl (onLine_iff.mpr hN))⟩

example : peekTokenWithContext Ctx.inline ⟨defaultTok, [wt .whitespace 0 0 0, wt .id 0 0 0]⟩
    = some ⟨.id, 1, wt .id 0 0 0⟩ := by decide

theorem peekCount_indexes_peekTokenN (ctx : Ctx) (c : Cur) (i : PeekInfo)
    (h : peekTokenWithContext ctx c = some i) :
    peekTokenN i.peekCount c = some i.tok ∧
    ∀ m, m < i.peekCount → ∃ t, peekTokenN m c = some t ∧ isTrivia t = true := by
  obtain ⟨g, r, e, hg, _, hc, ht⟩ := peek_skips_only_trivia ctx c i h
  refine ⟨?_, fun m hm => ?_⟩
  · simp [peekTokenN, e, hc, ht]
  · have hm' : m < g.length := hc ▸ hm
    refine ⟨g[m].tok, ?_, hg _ (List.getElem_mem hm')⟩
    simp [peekTokenN, e, List.getElem?_append_left hm', List.getElem?_eq_getElem hm']

theorem peekTokenN_after_consume (c : Cur) (n : Nat) (h : c.rest ≠ []) :
    peekTokenN n (consumeToken c).2 = peekTokenN (n + 1) c ∧ (consumeToken c).1 = peekToken c ∧
    peekSpan c = some (currentSpan (consumeToken c).2) := by
  obtain ⟨cur, rest⟩ := c
  cases rest with
  | nil => exact absurd rfl h
  | cons t r => simp [consumeToken, peekTokenN, peekToken, peekSpan, currentSpan]

example : (⟨defaultTok, [wt .id 0 0 0]⟩ : Cur).rest ≠ [] := by decide

/-- The returned context is the given one, unless a block is entered: then (and only for
`Indentation::Greater` with line breaks allowed) it pins the indentation of the consumed token, which
is further indented and ends on a later line than the starting token. -/
theorem consume_context_spec (ctx : Ctx) (c : Cur) (tk : Token) (ctx' : Ctx)
    (h : (consumeTokenWithContext ctx c).1 = some (tk, ctx')) :
    ctx' = ctx ∨
    (ctx.expected = .greater ∧ ctx.allowLinebreaks = true ∧
      ctx' = { ctx with expected := .equal (currentIndent (consumeTokenWithContext ctx c).2),
                        allowMapBlock := true } ∧
      currentIndent (consumeTokenWithContext ctx c).2 > currentIndent c ∧
      currentLine (consumeTokenWithContext ctx c).2 > currentLine c) := by
  rw [consumeCtx_eq] at h ⊢
  cases e : c.rest.dropWhile tv with
  | nil => rw [e] at h; cases h
  | cons t r =>
    rw [e] at h
    cases h
    simp only [skip, e, consumeToken, currentIndent, currentLine]
    rcases (newContext_spec ctx (decide (t.span.stop.line > c.cur.span.stop.line)) t.indent c.cur.indent).1
      with h | ⟨h1, h2, h3, h4, h5⟩
    · exact Or.inl h
    · exact Or.inr ⟨h4, h3, h5, h2, of_decide_eq_true h1⟩

/-- Once a block context was entered (`Equal(n)`), further consumes never change the context again. -/
theorem consume_context_fixed_after_block (ctx : Ctx) (c : Cur) (tk : Token) (ctx' : Ctx)
    (hne : ctx.expected ≠ .greater) (h : (consumeTokenWithContext ctx c).1 = some (tk, ctx')) : ctx' = ctx := by
  rcases consume_context_spec ctx c tk ctx' h with h' | ⟨h', _⟩
  · exact h'
  · exact absurd h' hne

example : (consumeTokenWithContext Ctx.permissive ⟨defaultTok, [wt .newLine 0 1 0, wt .id 1 1 2]⟩).1
    = some (.id, { Ctx.permissive with expected := .equal 2, allowMapBlock := true }) := by decide

/-- `token_queue.len() ≤` number of remaining tokens is preserved by `peek` and `next`; `peek` never
shrinks the queue; `next` removes one token. -/
theorem queue_invariant (rest : List Lexed) (queued n : Nat) (h : queued ≤ rest.length) :
    (queuePeek rest queued n).2 ≤ rest.length ∧ queued ≤ (queuePeek rest queued n).2 ∧
    (queueNext rest queued).2.2 ≤ (queueNext rest queued).2.1.length ∧
    (queueNext rest queued).2.1 = rest.drop 1 := by
  rw [queuePeek_eq]
  refine ⟨Nat.min_le_right _ _, by show queued ≤ min _ _; omega, ?_, ?_⟩
  · cases rest with
    | nil => simp [queueNext]
    | cons t r => simp only [queueNext, List.length_cons] at h ⊢; omega
  · cases rest <;> rfl

theorem queuePeek_idem (rest : List Lexed) (queued n : Nat) :
    queuePeek rest (queuePeek rest queued n).2 n = queuePeek rest queued n := by
  simp only [queuePeek_eq, Prod.mk.injEq, true_and]
  omega

example : (2 : Nat) ≤ [wt .id 0 0 0, wt .id 0 0 0, wt .id 0 0 0].length := by decide

end KotoVerif.C10Ext2
