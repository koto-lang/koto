/-
C19 — rc and arc runtimes behave identically; shared containers are atomic under arc.

Property theorems about the cell protocol model `Model/Cell.lean`.  What they say about koto is
conditional on the model being the code: tied by the harness (`harness/src/bin/c19.rs`): the lock
protocol against the real `koto_memory::PtrMut` of both builds, sequential container semantics
against the real runtime, and whole programs rc-build vs arc-build.  Real thread interleavings are
only *sampled* by the stress runs; the theorems quantify over all schedules of the model.
-/
import KotoVerif.Model.Cell
import KotoVerif.Lemmas.C19
import KotoVerif.Lemmas.C19Cell
import KotoVerif.Lemmas.C19Deadlock
import KotoVerif.Lemmas.C19Sort

namespace KotoVerif.C19
open KotoVerif.Cell

variable {σ ρ : Type}

/-! ### 1. rc ≡ arc on single-threaded, non-re-entrant scripts -/

/-- The two builds differ *only* in what a conflicting blocking request does (panic vs block):
the lock state they reach is always the same. -/
theorem lockStep_state_mode_indep (s : LockSt) (r : Req) :
    (lockStep .rc s r).2 = (lockStep .arc s r).2 :=
  (lockStep_rc_arc s r).1

/-- For every single-threaded script that never issues a blocking borrow while a conflicting guard
is alive, the rc cell and the arc cell produce the same events (lock outcomes and values read or
returned), end in the same state, and never panic / block. -/
theorem rc_arc_equiv (c : CellSt σ) (script : List (Act σ ρ))
    (h : nonReentrant c.lock script = true) :
    run .rc c script = run .arc c script ∧
    ∀ e ∈ (run .rc c script).1, e ≠ .lock .panic ∧ e ≠ .lock .block := by
  have ⟨hs, he⟩ := run_rc_arc c script
  -- every rc event, seen with arc eyes, is an arc event, and none of those stops the script
  have hv : ∀ e ∈ (run .rc c script).1,
      C19Ext.arcView e = e ∧ e ≠ .lock .panic ∧ e ≠ .lock .block := fun e hm =>
    arcView_stops (run_arc_nonReentrant c script h _ (he ▸ List.mem_map_of_mem hm))
  refine ⟨Prod.ext ?_ hs, fun e hm => (hv e hm).2⟩
  rw [← he, List.map_congr_left fun e hm => (hv e hm).1, List.map_id']

def vals : List (Ev ρ) → List ρ
  | [] => []
  | .val r :: es => r :: vals es
  | _ :: es => vals es

theorem run_bracket (m : Mode) (d : σ) (o : Op σ ρ) (rest : List (Act σ ρ)) :
    run m { data := d } (bracket o ++ rest) =
      (.lock .ok :: .val (o.f d).2 :: .lock .ok :: (run m { data := effD o d } rest).1,
       (run m { data := effD o d } rest).2) := by
  cases hw : o.write <;>
    simp [bracket, hw, run, act, lockStep, canRead, canWrite, Ev.stops, effD]

/-- A sequence of container operations, each one `acquire; access; release` (no nesting), is a
non-re-entrant script … -/
theorem brackets_nonReentrant (ops : List (Op σ ρ)) :
    nonReentrant {} (ops.flatMap bracket) = true := by
  induction ops with
  | nil => rfl
  | cons o rest ih =>
    cases hw : o.write <;>
      simpa [List.flatMap_cons, bracket, hw, nonReentrant, lockStep, canRead, canWrite] using ih

/-- … and in *both* builds it returns exactly the values of the sequential container semantics and
leaves the cell unlocked with the sequential final contents. -/
theorem rc_arc_equiv_brackets (m : Mode) (d : σ) (ops : List (Op σ ρ)) :
    vals (run m { data := d } (ops.flatMap bracket)).1 = (seqOps d ops).1 ∧
    (run m { data := d } (ops.flatMap bracket)).2 = { data := (seqOps d ops).2 } := by
  induction ops generalizing d with
  | nil => simp [run, vals, seqOps]
  | cons o rest ih =>
    simp only [List.flatMap_cons, run_bracket, vals, seqOps]
    have := ih (effD o d)
    simp only [effD] at this ⊢
    simp [this]

/-- the model of `l.extend l` before its repair (/repo 144ba03, F-C06-3): `l.data_mut()` is alive
when `other.data()` is requested -/
def extendSelf : List (Act (List Nat) Unit) :=
  [.req .borrowMut, .req .borrow, .write (fun l => (l ++ l, ())), .req .dropRead, .req .dropWrite]

/-- Re-entrancy is where the builds differ: rc panics, arc blocks on itself (F-C19-1 / F-C06-3). -/
theorem reentrant_differs_witness :
    (run .rc { data := [1, 2] } extendSelf).1 = [.lock .ok, .lock .panic] ∧
    (run .arc { data := [1, 2] } extendSelf).1 = [.lock .ok, .lock .block] ∧
    nonReentrant {} extendSelf = false := by decide

/-- …but the non-blocking requests agree even then. -/
theorem try_requests_agree (s : LockSt) (r : Req) (h : r = .tryBorrow ∨ r = .tryBorrowMut) :
    lockStep .rc s r = lockStep .arc s r := by
  rcases h with h | h <;> subst h <;> rfl

-- non-vacuity: a script with nested shared guards, try-requests under conflict and accesses
example :
    let script : List (Act (List Nat) Nat) :=
      [.req .borrow, .req .borrow, .read List.length, .req .tryBorrowMut, .req .dropRead,
       .req .dropRead, .req .borrowMut, .write (fun l => (l ++ [7], l.length)), .req .tryBorrow,
       .req .dropWrite, .req .borrow, .read (fun l => l.getLastD 0), .req .dropRead]
    nonReentrant {} script = true ∧
    (run .rc { data := [1] } script).1 =
      [.lock .ok, .lock .ok, .val 1, .lock .none, .lock .ok, .lock .ok, .lock .ok, .val 1,
       .lock .none, .lock .ok, .lock .ok, .val 7, .lock .ok] := by decide

/-! ### 2. Atomicity: every interleaving of bracketed operations is linearizable -/

/-- **Linearizability.** Any number of threads with any programs of bracketed operations on one
cell, any schedule of micro-steps (a blocked acquire stutters): the operations that have taken
effect, in the order `lin` of their effect steps, executed *one whole operation after the other*,
give exactly the shared data and the results every thread has received; `lin` restricted to a
thread is the prefix of its program that it has completed (program order). -/
theorem linearizable (d0 : σ) (progs : List (List (Op σ ρ))) (sched : List Nat) :
    let g := exec (init d0 progs) sched
    g.data = (seqAll d0 g.lin).1 ∧
    (∀ (t : Nat) (th : Thread σ ρ), g.threads[t]? = some th →
      th.results = resOf t (seqAll d0 g.lin).2 ∧
      progs[t]? = some (opsOf t g.lin ++ th.prog)) ∧
    (∀ e ∈ g.lin, ∃ p, progs[e.1]? = some p ∧ e.2 ∈ p) := by
  intro g
  have h := inv_reachable d0 progs sched
  exact ⟨h.data.data_eq, fun t th ht => ⟨(h.data.sees t th ht).results_eq, (h.data.sees t th ht).order⟩, h.data.mem⟩

/-- When every thread has finished, the linearization contains every thread's whole program, in
program order, and nothing else. -/
theorem linearizable_complete (d0 : σ) (progs : List (List (Op σ ρ))) (sched : List Nat)
    (hfin : ∀ th ∈ (exec (init d0 progs) sched).threads, th.prog = []) :
    let g := exec (init d0 progs) sched
    (∀ (t : Nat) (p : List (Op σ ρ)), progs[t]? = some p → opsOf t g.lin = p) ∧
    g.lin.length = (progs.map List.length).sum := by
  intro g
  have hg : g = exec (init d0 progs) sched := rfl
  clear_value g
  have h : Inv d0 progs g := hg ▸ inv_reachable d0 progs sched
  replace hfin : ∀ th ∈ g.threads, th.prog = [] := hg ▸ hfin
  constructor
  · intro t p hp
    have hlt : t < g.threads.length := h.data.len ▸ lt_of_getElem? hp
    have hth : g.threads[t]? = some g.threads[t] := List.getElem?_eq_getElem hlt
    have ho := (h.data.sees t _ hth).order
    have hnil := hfin _ (List.getElem_mem hlt)
    rw [hnil, List.append_nil, hp] at ho
    exact (Option.some.inj ho).symm
  · have hc := h.data.count
    have hz : (g.threads.map (fun th => th.prog.length)).sum = 0 :=
      sum_map_zero _ _ (fun th hth => by simp [hfin th hth])
    omega

def incr : Op Nat Nat := { write := true, f := fun n => (n + 1, n) }

theorem seqAll_incr (lin : List (Nat × Op Nat Nat)) (acc : Nat × List (Nat × Nat))
    (h : ∀ e ∈ lin, e.2 = incr) : (lin.foldl seqStep acc).1 = acc.1 + lin.length := by
  induction lin generalizing acc with
  | nil => simp
  | cons e rest ih =>
    have he : e.2 = incr := h e (by simp)
    rw [List.foldl_cons, ih _ (fun e' he' => h e' (by simp [he']))]
    simp [seqStep, effD, he, incr]
    omega

/-- **No lost update.** Threads that only increment a shared counter (each increment one
bracket): at every moment the counter has gained exactly one per increment that has taken effect —
counter + increments still to do = initial + all increments. -/
theorem no_lost_update (d0 : Nat) (progs : List (List (Op Nat Nat)))
    (hinc : ∀ p ∈ progs, ∀ o ∈ p, o = incr) (sched : List Nat) :
    let g := exec (init d0 progs) sched
    g.data + (g.threads.map (fun th => th.prog.length)).sum = d0 + (progs.map List.length).sum := by
  intro g
  have hg : g = exec (init d0 progs) sched := rfl
  clear_value g
  have h : Inv d0 progs g := hg ▸ inv_reachable d0 progs sched
  have hall : ∀ e ∈ g.lin, e.2 = incr := by
    intro e he
    obtain ⟨p, hp, hm⟩ := h.data.mem e he
    exact hinc p (List.mem_of_getElem? hp) _ hm
  have hd : g.data = d0 + g.lin.length := by
    rw [h.data.data_eq]; exact seqAll_incr g.lin (d0, []) hall
  have hc := h.data.count
  omega

/-- k increments from any threads, all finished: the counter is at +k. -/
theorem no_lost_update_final (d0 : Nat) (progs : List (List (Op Nat Nat)))
    (hinc : ∀ p ∈ progs, ∀ o ∈ p, o = incr) (sched : List Nat)
    (hfin : ∀ th ∈ (exec (init d0 progs) sched).threads, th.prog = []) :
    (exec (init d0 progs) sched).data = d0 + (progs.map List.length).sum := by
  have h := no_lost_update d0 progs hinc sched
  have hz : ((exec (init d0 progs) sched).threads.map (fun th => th.prog.length)).sum = 0 :=
    sum_map_zero _ _ (fun th hth => by simp [hfin th hth])
  simp only at h
  omega

/-- **No torn read.** The two memory accesses of every completed read bracket saw the same data,
and that data is the result of a prefix of the linearization: a state between whole operations. -/
theorem no_torn_read (d0 : σ) (progs : List (List (Op σ ρ))) (sched : List Nat) :
    let g := exec (init d0 progs) sched
    ∀ (t : Nat) (th : Thread σ ρ) (a b : σ), g.threads[t]? = some th → (a, b) ∈ th.obs →
      a = b ∧ ∃ pre, pre <+: g.lin ∧ a = (seqAll d0 pre).1 := by
  intro g t th a b ht hab
  exact ((inv_reachable d0 progs sched).data.sees t th ht).obsOk a b hab

/-- The first access of every bracket, read or write, sees the current data: nobody else changes
it while the guard is held (this is what makes load-then-store an atomic update). -/
theorem guard_excludes_writers (d0 : σ) (progs : List (List (Op σ ρ))) (sched : List Nat) :
    let g := exec (init d0 progs) sched
    ∀ (t : Nat) (th : Thread σ ρ) (s : σ), g.threads[t]? = some th → th.phase = .loaded s →
      s = g.data := by
  intro g t th s ht hp
  exact ((inv_reachable d0 progs sched).data.sees t th ht).snap s hp

/-- Mutual exclusion, in lock terms: a thread inside a write bracket is the registered writer and
there are no readers; the annotated lock projects onto the `LockSt` of Part 1. -/
theorem mutual_exclusion (d0 : σ) (progs : List (List (Op σ ρ))) (sched : List Nat) :
    let g := exec (init d0 progs) sched
    ∀ (t : Nat) (th : Thread σ ρ), g.threads[t]? = some th → th.holdsW = true →
      g.lockSt = { readers := 0, writer := true } ∧
      ∀ (u : Nat) (thu : Thread σ ρ), g.threads[u]? = some thu → u ≠ t →
        thu.holdsW = false ∧ thu.holdsR = false := by
  intro g t th ht hW
  have h := (inv_reachable d0 progs sched).lock
  have hw := (h.tracks t th ht).w.1 hW
  exact ⟨by simp [g, Conc.lockSt, hw, h.excl t hw], fun u thu hu hne => h.alone ht hW hu hne⟩

/-- The thread model uses the lock exactly as Part 1 describes it (arc build): projected to
`(readers, writer)`, every micro-step either leaves the lock alone or is a *successful*
`borrow` / `borrow_mut` / guard drop of `lockStep .arc`; and a thread that is not enabled at an
acquire is one whose blocking request answers `block`, and its step changes nothing. -/
theorem lock_refines_protocol (d0 : σ) (progs : List (List (Op σ ρ))) (sched : List Nat) (t : Nat) :
    let g := exec (init d0 progs) sched
    ((step g t).lockSt = g.lockSt ∨ ∃ r, lockStep .arc g.lockSt r = (.ok, (step g t).lockSt)) ∧
    (∀ (th : Thread σ ρ) (o : Op σ ρ) (rest : List (Op σ ρ)), g.threads[t]? = some th →
      th.phase = .idle → th.prog = o :: rest → enabled g t = false →
      (lockStep .arc g.lockSt (if o.write then .borrowMut else .borrow)).1 = .block ∧ step g t = g) := by
  intro g
  exact ⟨conc_lock_refines g (inv_reachable d0 progs sched).lock t,
    fun th o rest ht hp hprog hne => blocked_is_block g t th o rest ht hp hprog hne⟩

/-- The lock is what makes it hold. Mutant "`borrow_mut` implemented with `read()`": two threads,
one increment each, interleaved load/load/store/store — one update is lost. -/
theorem lost_update_without_write_lock_witness :
    (execP .writeAsRead (init 0 [[incr], [incr]]) [0, 1, 0, 1, 0, 1, 0, 1]).data = 1 ∧
    (execP .proper (init 0 [[incr], [incr]]) [0, 1, 0, 1, 0, 1, 0, 1, 1, 1, 1, 1]).data = 2 := by
  decide

def peek : Op Nat Nat := { write := false, f := fun n => (n, n) }

/-- Same mutant: a read bracket whose two accesses see different data (a torn read). -/
theorem torn_read_without_write_lock_witness :
    ((execP .writeAsRead (init 0 [[peek], [incr]]) [0, 0, 1, 1, 1, 0]).threads.map (·.obs))
      = [[(0, 1)], []] ∧
    ((execP .proper (init 0 [[peek], [incr]]) [0, 0, 1, 1, 1, 0, 0, 1, 1, 1, 1]).threads.map (·.obs))
      = [[(0, 0)], []] := by
  decide

-- non-vacuity: three threads on a shared list, a schedule that interleaves brackets and blocks
example :
    let progs : List (List (Op (List Int) Res)) :=
      [[(LOp.push 1).toOp, LOp.size.toOp], [(LOp.push 2).toOp, LOp.pop.toOp], [LOp.snapshot.toOp]]
    let g := exec (init [] progs)
      [0, 1, 2, 0, 0, 1, 2, 0, 1, 1, 1, 2, 2, 2, 0, 0, 1, 1, 1, 1, 0, 0, 0, 1, 2, 0, 2, 0, 2, 0, 2, 0]
    g.data = [1] ∧
    g.threads.map (·.results) = [[.unit, .int 1], [.unit, .int 2], [.ints [1]]] ∧
    g.lin.map (·.1) = [0, 1, 1, 2, 0] ∧
    g.threads.map (fun th => th.prog.length) = [0, 0, 0] := by decide

/-! ### 2b. The concrete container operations: permutation-only and read-only ones -/

theorem sort_only_permutes (l : List Int) : (LOp.sort.sem l).1.Perm l :=
  (sortInts_eq l ▸ sortBy_perm id l : (sortInts l).Perm l)

theorem reverse_only_permutes (l : List Int) : (LOp.reverse.sem l).1.Perm l := by
  simp [LOp.sem]

/-- Read operations (size, get, contains, snapshot = to_tuple / copy / display / `+`, ==, …) leave
the container as it is; by `no_torn_read` they observe exactly one state. -/
theorem list_read_keeps_data (o : LOp) (l : List Int) (h : o.isWrite = false) : (o.sem l).1 = l := by
  cases o <;> simp_all [LOp.isWrite, LOp.sem]

theorem map_read_keeps_data (o : MOp) (m : Assoc) (h : o.isWrite = false) : (o.sem m).1 = m := by
  cases o <;> simp_all [MOp.isWrite, MOp.sem]

/-! ### 3. No deadlock when an operation holds at most one lock at a time -/

/-- One cell (the model of Part 2): in every reachable state, if some thread has not finished then
some thread can take a step that is not a blocked acquire, and such a step strictly decreases the
remaining work — no deadlock and no livelock under any schedule that runs enabled threads. -/
theorem single_cell_progress (d0 : σ) (progs : List (List (Op σ ρ))) (sched : List Nat) :
    let g := exec (init d0 progs) sched
    (∀ (u : Nat) (th : Thread σ ρ), g.threads[u]? = some th → th.finished = false →
      ∃ t, enabled g t = true) ∧
    (∀ t, enabled g t = true → work (step g t) + 1 = work g) := by
  intro g
  have h := (inv_reachable d0 progs sched).lock
  exact ⟨fun u th hu hnf => progress_of_inv g h u th hu hnf, fun t he => enabled_step_work g h t he⟩

/-- **Deadlock freedom, any number of cells and threads.** If every thread's program holds at most
one lock at a time (`acq c w; rel c w` pairs, on any cells, shared or exclusive), then in every
reachable state a thread with work left implies some thread is enabled: there is no wait cycle,
because a thread that is waited for holds a lock, hence is not itself waiting. -/
theorem single_lock_no_deadlock (progs : Nat → List Instr) (hsl : ∀ t, singleLock (progs t) = true)
    (sched : List Nat) :
    let s := (Sys.init progs).exec sched
    ∀ u, (s.threads u).prog ≠ [] → ∃ t, s.enabled t = true := by
  intro s u hu
  exact sys_progress s (sysInv_exec _ sched (sysInv_init progs hsl)) u hu

/-- programs of `a.swap b` ∥ `b.swap a` (`list.swap` holds `a.data_mut()` and `b.data_mut()`
together), and of `extendSelf` on one thread -/
def swapProgs : Nat → List Instr
  | 0 => [.acq 0 true, .acq 1 true, .rel 1 true, .rel 0 true]
  | 1 => [.acq 1 true, .acq 0 true, .rel 0 true, .rel 1 true]
  | _ => []

def extendSelfProg : Nat → List Instr
  | 0 => [.acq 0 true, .acq 0 false, .rel 0 false, .rel 0 true]
  | _ => []

/-- The hypothesis is needed: with two locks held at once there is a wait cycle (both threads
unfinished, neither enabled) — outside the property's "operations on a single container". -/
theorem two_locks_deadlock_witness :
    let s := (Sys.init swapProgs).exec [0, 1]
    singleLock (swapProgs 0) = false ∧
    (s.threads 0).prog ≠ [] ∧ (s.threads 1).prog ≠ [] ∧
    s.enabled 0 = false ∧ s.enabled 1 = false := by decide

/-- …and a re-entrant acquisition on one cell blocks its own thread forever (arc side of
`reentrant_differs_witness`). -/
theorem reentrant_self_deadlock_witness :
    let s := (Sys.init extendSelfProg).exec [0]
    singleLock (extendSelfProg 0) = false ∧ (s.threads 0).prog ≠ [] ∧ s.enabled 0 = false ∧
    (s.exec [0, 0, 0]).enabled 0 = false := by decide

-- non-vacuity of `single_lock_no_deadlock`: three threads over two cells, mixed guards
example :
    let progs : Nat → List Instr := fun t =>
      match t with
      | 0 => [.acq 0 true, .rel 0 true, .acq 1 false, .rel 1 false]
      | 1 => [.acq 1 true, .rel 1 true, .acq 0 true, .rel 0 true]
      | 2 => [.acq 0 false, .rel 0 false]
      | _ => []
    (∀ t, singleLock (progs t) = true) ∧
    ((Sys.init progs).exec [0, 1, 2, 1, 0, 2]).enabled 2 = true := by
  refine ⟨?_, by decide⟩
  intro t
  match t with
  | 0 | 1 | 2 => decide
  | _ + 3 => rfl

end KotoVerif.C19
