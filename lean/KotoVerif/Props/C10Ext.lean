/-
C10 extension: coherence laws between the primitives of the token-cursor model
(`Model/Cursor.lean`) — peek/consume agreement, context independence, idempotence, progress, and
closure of the "reachable cursor" shape (`Cur.atPos`, the cursor the driver replays from) under every
consuming primitive.
-/
import KotoVerif.Lemmas.C10

namespace KotoVerif.C10Ext
open KotoVerif.Lexer KotoVerif.Cursor KotoVerif.C10

def wt (k : Token) (l l2 ind : Nat) : Lexed :=
  { tok := k, startByte := 0, endByte := 0, span := ⟨⟨l, 0⟩, ⟨l2, 0⟩⟩, indent := ind }

theorem peek_same_line_eq_peek_after_until (c : Cur) :
    peekNextTokenOnSameLine c = peekToken (consumeUntilNextTokenOnSameLine c) := by
  rw [peekSameLine_eq, consumeUntilSameLine_eq, peekToken_eq_head]; rfl

theorem consume_until_same_line_idem (c : Cur) :
    consumeUntilNextTokenOnSameLine (consumeUntilNextTokenOnSameLine c) = consumeUntilNextTokenOnSameLine c := by
  rw [consumeUntilSameLine_eq, consumeUntilSameLine_eq, skip_idem]

/-- Whatever `peek_token_with_context` answers, `consume_token_with_context` consumes exactly
`peek_count + 1` tokens and lands on the peeked token; `consume_until_token_with_context` consumes
exactly `peek_count` tokens and stops in front of it. -/
theorem peek_then_consume (ctx ctx' : Ctx) (c : Cur) (i : PeekInfo)
    (h : peekTokenWithContext ctx c = some i) :
    (consumeTokenWithContext ctx' c).1.map (·.1) = some i.tok ∧
    (consumeTokenWithContext ctx' c).2 = ⟨i.info, c.rest.drop (i.peekCount + 1)⟩ ∧
    (consumeUntilTokenWithContext ctx' c).2.rest = c.rest.drop i.peekCount ∧
    peekToken (consumeUntilTokenWithContext ctx' c).2 = some i.tok := by
  obtain ⟨g, r, e, hg, ht, hc, hk⟩ := found_some (peek_some_iff.mp h).1
  simp [consumeCtx_eq, consumeUntilCtx_eq, skip, e, takeWhile_gap hg ht, consumeToken, peekToken_eq_head, hc, hk]

example : peekTokenWithContext Ctx.permissive ⟨wt .id 0 0 0, [wt .newLine 0 1 0, wt .whitespace 1 1 2, wt .id 1 1 2]⟩ =
    some ⟨.id, 2, wt .id 1 1 2⟩ := by decide

/-- the expression context never changes which token is consumed nor where the cursor ends up -/
theorem consume_cursor_ctx_independent (ctx ctx' : Ctx) (c : Cur) :
    (consumeTokenWithContext ctx c).2 = (consumeTokenWithContext ctx' c).2 ∧
    (consumeTokenWithContext ctx c).1.map (·.1) = (consumeTokenWithContext ctx' c).1.map (·.1) ∧
    (consumeUntilTokenWithContext ctx c).2 = (consumeUntilTokenWithContext ctx' c).2 := by
  simp only [consumeCtx_eq, consumeUntilCtx_eq, Option.map_map, Function.comp_def, and_self]

/-- the two returned contexts differ only in reading the *end* line (consume) vs the *start* line
(consume-until) of the token: they agree whenever significant tokens are single-line -/
theorem consume_ctx_eq_until_ctx (ctx : Ctx) (sl si : Nat) (cur : Lexed) (l : List Lexed)
    (h1 : ∀ t ∈ l, isTrivia t.tok = false → t.span.start.line = t.span.stop.line) :
    (consumeCtxLoop ctx sl si cur l).1.map (·.2) = (consumeUntilCtxLoop ctx sl si cur l).1 := by
  rw [consumeCtxLoop_eq, consumeUntilCtxLoop_eq]
  cases e : l.dropWhile tv with
  | nil => rfl
  | cons t r =>
    have ht : t ∈ l := List.dropWhile_subset tv (e ▸ List.mem_cons_self ..)
    simp only [List.head?_cons, Option.map_some, h1 t ht (dropWhile_tv_cons e).1]

example : ∀ t ∈ [wt .newLine 0 1 0, wt .id 1 1 2], isTrivia t.tok = false → t.span.start.line = t.span.stop.line := by
  decide

/-- the hypothesis is needed: for a significant token spanning two lines the two contexts differ -/
example : (consumeCtxLoop Ctx.permissive 0 0 (wt .id 0 0 0) [wt .id 0 1 2]).1.map (·.2) ≠
    (consumeUntilCtxLoop Ctx.permissive 0 0 (wt .id 0 0 0) [wt .id 0 1 2]).1 := by decide

theorem consume_until_ctx_idem (ctx ctx' : Ctx) (c : Cur) :
    (consumeUntilTokenWithContext ctx' (consumeUntilTokenWithContext ctx c).2).2 =
      (consumeUntilTokenWithContext ctx c).2 := by
  simp only [consumeUntilCtx_eq, skip_idem]

/-- a token found with line breaks forbidden is on the cursor's line, and then every context finds
the same token with the same peek count -/
theorem peek_same_line_ctx_independent (ctx ctx' : Ctx) (c : Cur) (i : PeekInfo)
    (hl : ctx.allowLinebreaks = false) (h : peekTokenWithContext ctx c = some i) :
    peekTokenWithContext ctx' c = some i :=
  peek_mono h fun ha => accepts_iff.mpr ((accepts_iff.mp ha).imp id fun ⟨hl', _⟩ => by rw [hl] at hl'; cases hl')

example : peekTokenWithContext Ctx.inline ⟨wt .id 0 0 0, [wt .whitespace 0 0 0, wt .id 0 0 0]⟩ =
    some ⟨.id, 1, wt .id 0 0 0⟩ := by decide

/-- `Flexible` with line breaks allowed is the most permissive context: whatever any context finds,
it finds too (same token, same peek count); and any two contexts that both answer agree -/
theorem peek_flexible_most_permissive (ctx ctx' : Ctx) (c : Cur) (i : PeekInfo)
    (h : peekTokenWithContext ctx c = some i) :
    peekTokenWithContext { ctx' with allowLinebreaks := true, expected := .flexible } c = some i ∧
    (∀ j, peekTokenWithContext ctx' c = some j → j = i) :=
  ⟨peek_mono h fun _ => accepts_iff.mpr (Or.inr ⟨rfl, rfl⟩),
    fun _ hj => Option.some.inj ((peek_some_iff.mp hj).1.symm.trans (peek_some_iff.mp h).1)⟩

example : peekTokenWithContext Ctx.permissive ⟨wt .id 0 0 0, [wt .newLine 0 1 0, wt .id 1 1 2]⟩ =
    some ⟨.id, 1, wt .id 1 1 2⟩ := by decide

/-- `newContext` either returns the context unchanged or pins `Equal(indent)` and enables map
blocks; it fires only from `Greater` with line breaks allowed on a deeper, later line; all other
flags are never touched; and once it has fired it never fires again (the result is a fixpoint). -/
theorem newContext_spec (ctx : Ctx) (la : Bool) (i s : Nat) :
    (newContext ctx la i s = ctx ∨
      (la = true ∧ i > s ∧ ctx.allowLinebreaks = true ∧ ctx.expected = .greater ∧
        newContext ctx la i s = { ctx with expected := .equal i, allowMapBlock := true })) ∧
    (newContext ctx la i s).allowLinebreaks = ctx.allowLinebreaks ∧
    (newContext ctx la i s).allowSpaceSeparatedCall = ctx.allowSpaceSeparatedCall ∧
    (newContext ctx la i s).insideBraces = ctx.insideBraces ∧
    (newContext ctx la i s).exportMapEntries = ctx.exportMapEntries ∧
    (newContext ctx la i s ≠ ctx → ∀ lb j s', newContext (newContext ctx la i s) lb j s' = newContext ctx la i s) := by
  unfold newContext
  split
  · rename_i h
    refine ⟨Or.inr ⟨h.1, h.2.1, h.2.2.1, h.2.2.2, rfl⟩, rfl, rfl, rfl, rfl, ?_⟩
    intro _ lb j s'
    simp
  · exact ⟨Or.inl rfl, rfl, rfl, rfl, rfl, fun h => (h rfl).elim⟩

theorem chainStart_idem (c : Ctx) :
    c.chainStart.chainStart = c.chainStart ∧
    c.chainStart.expected ≠ .flexible ∧ (∀ n, c.chainStart.expected ≠ .equal n) ∧
    c.chainStart.allowMapBlock = false := by
  obtain ⟨a, b, m, d, e, x⟩ := c
  cases e <;> simp [Ctx.chainStart]

/-! ### reachable cursors: `Cur.atPos` is closed under every consuming primitive -/

theorem atPos_step (ts : List Lexed) (p : Nat) (h : p < ts.length) :
    consumeToken (Cur.atPos ts p) = (some ts[p].tok, Cur.atPos ts (p + 1)) := by
  unfold Cur.atPos consumeToken
  simp only []
  rw [List.drop_eq_getElem_cons h]
  simp [List.getD_eq_getElem?_getD, h]

theorem atPos_end (ts : List Lexed) (p : Nat) (h : ts.length ≤ p) :
    consumeToken (Cur.atPos ts p) = (none, Cur.atPos ts p) := by
  simp [Cur.atPos, consumeToken, List.drop_of_length_le h]

/-- a cursor of the shape the driver replays from: `p` tokens of `ts` consumed -/
def Reach (ts : List Lexed) (c : Cur) : Prop := ∃ p, p ≤ ts.length ∧ c = Cur.atPos ts p

theorem consumeToken_reach (ts : List Lexed) (c : Cur) (h : Reach ts c) : Reach ts (consumeToken c).2 := by
  obtain ⟨p, hp, rfl⟩ := h
  by_cases hlt : p < ts.length
  · rw [atPos_step ts p hlt]
    exact ⟨p + 1, hlt, rfl⟩
  · rw [atPos_end ts p (by omega)]
    exact ⟨p, hp, rfl⟩

/-- skipping stays on replay cursors: it is `consume_token` repeated -/
theorem reach_skip (p : Lexed → Bool) (ts : List Lexed) :
    ∀ (l : List Lexed) (cur : Lexed), Reach ts ⟨cur, l⟩ → Reach ts (skip p ⟨cur, l⟩)
  | [], _, h => h
  | t :: r, cur, h => by
    by_cases hp : p t = true
    · rw [skip_cons_pos hp]; exact reach_skip p ts r t (consumeToken_reach ts _ h)
    · rw [skip_cons_neg hp]; exact h

inductive Op where
  | tok | ctxTok (ctx : Ctx) | untilCtx (ctx : Ctx) | untilSameLine | nextSameLine

def Op.run : Op → Cur → Cur
  | .tok, c => (consumeToken c).2
  | .ctxTok ctx, c => (consumeTokenWithContext ctx c).2
  | .untilCtx ctx, c => (consumeUntilTokenWithContext ctx c).2
  | .untilSameLine, c => consumeUntilNextTokenOnSameLine c
  | .nextSameLine, c => (consumeNextTokenOnSameLine c).2

theorem Op.run_reach (ts : List Lexed) (o : Op) (c : Cur) (h : Reach ts c) : Reach ts (o.run c) := by
  have hs := fun p => reach_skip p ts c.rest c.cur h
  cases o with
  | tok => exact consumeToken_reach ts c h
  | ctxTok ctx => rw [Op.run, consumeCtx_eq]; exact consumeToken_reach ts _ (hs tv)
  | untilCtx ctx => rw [Op.run, consumeUntilCtx_eq]; exact hs tv
  | untilSameLine => rw [Op.run, consumeUntilSameLine_eq]; exact hs ws
  | nextSameLine => rw [Op.run, consumeSameLine_eq]; exact consumeToken_reach ts _ (hs ws)

example : Reach [wt .id 0 0 0, wt .newLine 0 1 0] (Cur.init [wt .id 0 0 0, wt .newLine 0 1 0]) :=
  ⟨0, by decide, rfl⟩

example : (1 : Nat) < [wt .id 0 0 0, wt .newLine 0 1 0].length := by decide

/-- After any sequence of consuming primitives from the initial cursor the parser's cursor is
`atPos ts p` for some `p ≤ |ts|`: the positions at which the driver replays primitive calls cover every
parser state. -/
theorem reach_all_histories (ts : List Lexed) (ops : List Op) :
    Reach ts (ops.foldl (fun c o => o.run c) (Cur.init ts)) :=
  List.foldlRecOn ops _ (motive := Reach ts) ⟨0, Nat.zero_le _, rfl⟩ fun c h o _ => Op.run_reach ts o c h

/-! ### end of input and progress -/

/-- the context-aware consumers answer `None` exactly when only trivia is left (never because of the
context — unlike `peek_token_with_context`), and a successful consume strictly shrinks the input
(the parse loops built on it make progress) -/
theorem consume_none_iff_all_trivia (ctx : Ctx) (c : Cur) :
    ((consumeTokenWithContext ctx c).1 = none ↔ AllTrivia c.rest) ∧
    ((consumeUntilTokenWithContext ctx c).1 = none ↔ AllTrivia c.rest) ∧
    ((consumeTokenWithContext ctx c).1.isSome = true →
      (consumeTokenWithContext ctx c).2.rest.length < c.rest.length) ∧
    (consumeUntilTokenWithContext ctx c).2.rest.length ≤ c.rest.length := by
  have hlen := (List.dropWhile_sublist (l := c.rest) tv).length_le
  have none_iff {β} (f : Lexed → β) : (c.rest.dropWhile tv).head?.map f = none ↔ AllTrivia c.rest := by
    rw [Option.map_eq_none_iff, List.head?_eq_none_iff, dropWhile_tv_nil]
  rw [consumeCtx_eq, consumeUntilCtx_eq]
  refine ⟨none_iff _, none_iff _, ?_, hlen⟩
  simp only [skip]
  cases e : c.rest.dropWhile tv with
  | nil => intro h; cases h
  | cons t r => rw [e] at hlen; exact fun _ => hlen

end KotoVerif.C10Ext
