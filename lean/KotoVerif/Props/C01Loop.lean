/-
C01 (layer 5, loops) — the compiler's treatment of `while` / `until` / `loop`, `break` and
`continue` in statement position is correct: property theorems about `Model/CompileLoop.lean`
(tied to `koto_bytecode::Compiler` by the instruction-for-instruction correspondence K2,
`harness/src/bin/c01k2.rs`, request kind `compileS`).

"The outcome of an expression does not depend on the code that surrounds it": a loop body is
compiled once, in the compile-time frame at loop entry, and executed many times, with `break` /
`continue` jumping out of arbitrarily nested `if`s. `compileS_correct` quantifies over every
well-formed frame without a pending reservation (any committed locals, any number of live
temporaries), every operator semantics, every register file related to the environment, and every
fuel of the reference evaluation; the expression parts are the core's `compile_correct_any_context`.
-/
import KotoVerif.Props.C01Compile
import KotoVerif.Lemmas.C01LoopFlat
import KotoVerif.Lemmas.C01LoopBridge

namespace KotoVerif.C01
open KotoVerif.Compile

variable {S : Sem}

/-- **compileS_correct.** Let the statement `s` compile (inside or outside of a loop — `break` /
`continue` outside of a loop do not compile) in a well-formed frame `F` with no assignment in
progress, and let every expression of `s` satisfy the core's static side conditions. If the
register file agrees with the environment on all locals and the reference semantics completes with
signal `sig` (normal / break / continue travelling to the enclosing loop) and environment `ρ'`,
then the emitted loop code completes with the *same signal*, the register file agrees with `ρ'`
(in the frame after `s`), and every live temporary of the surrounding code is untouched. -/
theorem compileS_correct (s : Stmt) (inLoop : Bool) (F : Frame) (code : LCode) (F' : Frame)
    (hc : compileS s inLoop F = some (code, F')) (hw : WF F) (hn : NoRes F) (hs : safeS s = true)
    (σ : Regs S) (ρ ρ' : Env S) (sig : Sig) (n : Nat)
    (hrel : RelEx [] F σ ρ) (hev : evalS S n s ρ = .ok (sig, ρ')) :
    ∃ n' σ', execL S n' code σ = .ok (sig, σ') ∧ RelEx [] F' σ' ρ' ∧
      (∀ t, F.tb ≤ t → t < F.tb + F.tc → σ' t = σ t) :=
  (CompiledS.of_compile hc).sem (RunS.of_evalS n hev) hw hn hs σ hrel

/-- more fuel never changes the result of the loop code (so `n'` above can be any larger number) -/
theorem execL_fuel_mono (n m : Nat) (c : LCode) (σ : Regs S) (r : Sig × Regs S)
    (h : execL S n c σ = .ok r) (hm : n ≤ m) : execL S m c σ = .ok r :=
  execL_mono n c σ r h m hm

/-- **frame discipline of the statement compiler**: every temporary is handed back (`tc`
unchanged), the temporary base is constant, committed and reserved locals keep their registers,
the frame stays well-formed, no reservation is left pending, and the NewFrame register count
(`temporaries_used_in_frame`) only grows — for every statement and every well-formed frame. -/
theorem compileS_frame_discipline (s : Stmt) (inLoop : Bool) (F : Frame) (code : LCode) (F' : Frame)
    (hc : compileS s inLoop F = some (code, F')) (hw : WF F) :
    F'.tc = F.tc ∧ F'.tb = F.tb ∧ F.tmax ≤ F'.tmax ∧ WF F' ∧
      (∀ k y, Has F k y → Has F' k y) ∧ (∀ k y, Named F k y → Named F' k y) ∧ (NoRes F → NoRes F') := by
  have hc := CompiledS.of_compile hc
  have sf := hc.frame hw
  exact ⟨sf.tc, sf.le.tb, hc.ext.tmax, sf.wf, sf.le.has, sf.le.named, sf.noRes⟩

/-- **a loop body's code is independent of the iteration**: compiling the statement again in the
frame it produced (the frame every iteration after the first runs in) emits the same code and
leaves the locals as they are. -/
theorem compileS_idempotent (s : Stmt) (inLoop : Bool) (F : Frame) (code : LCode) (F' : Frame)
    (hc : compileS s inLoop F = some (code, F')) (hw : WF F) (hn : NoRes F) :
    ∃ G', compileS s inLoop F' = some (code, G') ∧ G'.locals = F'.locals ∧ G'.tb = F'.tb ∧ G'.tc = F'.tc := by
  obtain ⟨t, h1⟩ := (CompiledS.of_compile hc).again hw hn
  exact ⟨_, h1.to_compile, rfl, rfl, rfl⟩

/-- `break` / `continue` never escape: a statement compiled outside of a loop completes normally -/
theorem top_level_completes_normally (s : Stmt) (F : Frame) (code : LCode) (F' : Frame)
    (hc : compileS s false F = some (code, F')) (ρ ρ' : Env S) (sig : Sig) (n : Nat)
    (hev : evalS S n s ρ = .ok (sig, ρ')) : sig = .normal :=
  (CompiledS.of_compile hc).top_normal (RunS.of_evalS n hev)

/-- **flattenL_correct.** For code in which `brk` / `cont` occur only inside loops (all code that
`compileS … false` emits, `compileS_emits_closed`): whenever the structured code completes, it
completes normally, and the flat stream — relative forward jumps and `JumpBack`, as the real
compiler emits them — run from pc 0 falls off its end (pc = length) with the same registers, for
every sufficiently large fuel; and a fault of the structured code is a fault of the flat stream. -/
theorem flattenL_correct (c : LCode) (hcl : closedL false c = true) (n : Nat) (σ : Regs S) :
    (∀ sg σ', execL S n c σ = .ok (sg, σ') →
      sg = .normal ∧ ∃ m, ∀ K, m ≤ K → execLFlat S (flattenL c) K 0 σ = .ok σ') ∧
    (execL S n c σ = .err → ∃ m, ∀ K, m ≤ K → execLFlat S (flattenL c) K 0 σ = .err) :=
  ⟨fun _ _ h => flattenL_ok hcl h, fun h => flattenL_err h⟩

theorem compileS_emits_closed (s : Stmt) (inLoop : Bool) (F : Frame) (code : LCode) (F' : Frame)
    (hc : compileS s inLoop F = some (code, F')) : closedL inLoop code = true :=
  (CompiledS.of_compile hc).closed

/-- the simulation behind `flattenL_correct`, for a piece of code anywhere in a program: from
`base` it reaches `base + size` on normal completion, the instruction after the enclosing loop's
final JumpBack on `break`, the enclosing loop's first instruction on `continue` -/
theorem flattenL_simulation (n : Nat) (c : LCode) (pre post : Nat) (prog : List LFlat) (base : Nat)
    (σ : Regs S) (hat : At prog base (flatAux c pre post)) (hpre : pre ≤ base) (sg : Sig) (σ' : Regs S)
    (h : execL S n c σ = .ok (sg, σ')) :
    ∃ m, ∀ K, execLFlat S prog (m + K) base σ =
      execLFlat S prog K (match sg with
        | .normal => base + sizeL c | .brk => base + sizeL c + post | .cont => base - pre) σ' := by
  have := (flat_sim n c pre post prog base σ hat hpre).1 sg σ' h
  cases sg <;> exact this

/-- **termination / partial correctness of main-block statements, on the flat stream.** If the
reference evaluation of `s` from the empty environment terminates with `ρ'`, then the flat stream
the compiler emits for `s`, run from *any* register file, terminates by falling off its end (for
every sufficiently large fuel), and every variable of `ρ'` is in its committed register. -/
theorem compileS_correct_main (s : Stmt) (lc : Nat) (code : LCode) (F' : Frame)
    (hc : compileS s false (mainFrame lc) = some (code, F')) (hs : safeS s = true)
    (σ : Regs S) (ρ' : Env S) (sig : Sig) (n : Nat)
    (hev : evalS S n s (fun _ => none) = .ok (sig, ρ')) :
    sig = .normal ∧ ∃ m σ', (∀ K, m ≤ K → execLFlat S (flattenL code) K 0 σ = .ok σ') ∧
      (∀ x w, ρ' x = some w → ∃ q, Has F' q x ∧ σ' q = w) := by
  obtain ⟨n', σ', h1, h2, _⟩ := compileS_correct s false (mainFrame lc) code F' hc (mainFrame_wf lc) (mainFrame_noRes lc) hs
    σ (fun _ => none) ρ' sig n (RelEx.empty _ _ _) hev
  obtain ⟨hsg, m, hm⟩ := flattenL_ok (compileS_emits_closed s false _ code F' hc) h1
  exact ⟨hsg, m, σ', hm, fun x w hx => h2 x w hx (by simp)⟩

/-- **whole main blocks as K2 compares them** (`compileProg`: the statements `s`, then a final
expression `e` compiled with `Any` whose register is returned): the flat stream run from any
register file terminates with the value of `e` in the returned register and every variable in its
committed register. -/
theorem compileProg_correct (s : Stmt) (e : Expr) (lc : Nat) (stream : List LFlat) (out : Out) (F' : Frame)
    (hc : compileProg s e lc = some (stream, out, F')) (hs : safeS s = true) (he : safe [] none e = true)
    (σ : Regs S) (ρ1 ρ' : Env S) (sig : Sig) (v : S.V) (n : Nat)
    (hev : evalS S n s (fun _ => none) = .ok (sig, ρ1)) (hee : eval S e ρ1 = some (v, ρ')) :
    ∃ m σ' r, (∀ K, m ≤ K → execLFlat S stream K 0 σ = .ok σ') ∧ out.reg = some r ∧ σ' r = v ∧
      (∀ x w, ρ' x = some w → ∃ q, Has F' q x ∧ σ' q = w) := by
  simp only [compileProg, bind, Option.bind_eq_some_iff, Prod.exists, pure, Option.some.injEq, Prod.mk.injEq] at hc
  obtain ⟨cs, F1, hcs, ce, o, F2, hce, rfl, rfl, rfl⟩ := hc
  have hcs' : compileS s false (mainFrame lc) = some (cs, F1) := hcs
  have sf := (CompiledS.of_compile hcs').frame (mainFrame_wf lc)
  obtain ⟨n', σ1, h1, h2, _⟩ := compileS_correct s false (mainFrame lc) cs F1 hcs' (mainFrame_wf lc) (mainFrame_noRes lc) hs
    σ (fun _ => none) ρ1 sig n (RelEx.empty _ _ _) hev
  have hsg := execL_closed_normal n' cs (compileS_emits_closed s false _ cs F1 hcs') σ σ1 sig h1
  subst hsg
  obtain ⟨σ2, g1, g2, g3, _⟩ := compile_sem e .any F1 ce o F2 [] none hce sf.wf trivial he σ1 ρ1 ρ' v h2 hee
  obtain ⟨r, hr⟩ := (compile_frame _ _ _ _ _ _ hce sf.wf).shape.any_reg
  -- the flat run: through the statements, then through the final expression
  let prog := flattenL cs ++ (flatten ce).map LFlat.ofFlat
  have hat1 : At prog 0 (flatAux cs 0 0) := ⟨[], (flatten ce).map LFlat.ofFlat, by simp [prog, flattenL], rfl⟩
  have hat2 : At prog (sizeL cs) ((flatten ce).map LFlat.ofFlat) :=
    ⟨flattenL cs, [], by simp [prog], by simp [flattenL, sizeL_flatAux]⟩
  have st1 := (flat_sim n' cs 0 0 prog 0 σ hat1 (Nat.le_refl _)).1 _ _ h1
  have st2 := base_sim (S := S) ce prog (sizeL cs) σ1 hat2
  rw [g1] at st2
  simp only [target, Nat.zero_add] at st1
  have hlen : sizeL cs + (flatten ce).length = prog.length := by
    simp [prog, flattenL, sizeL_flatAux]
  obtain ⟨m, hm⟩ := ((st1.trans st2).cast hlen).ends
  exact ⟨m, σ2, r, hm, hr, g3 r hr, fun x w hx => g2 x w hx (by simp [addOpt])⟩

/-! ## the error direction does not hold in the model (and why)

`evalS … = .err ⇒ execL … = .err` would need the same statement for expressions, which the core
does not have — and which is false for the reference semantics as modelled, for two reasons that
are visible at statement level:

* reading a local that is *assigned at compile time* (it has a committed register) but *not at run
  time* (the assignment was in a branch not taken) is an error of `eval`, whereas the compiled code
  just reads the register (`err_direction_witness`);
* an operator whose value is unused is not executed (known finding F-C01-3, `compile_node` with
  `ResultRegister::None`): every expression *statement* — so every loop body made of them — is
  compiled that way, and the error the operator would raise is lost
  (`err_direction_witness_unused_operator`). -/

def isErr {α : Type} : Res α → Bool
  | .err => true
  | _ => false

def isOk {α : Type} : Res α → Bool
  | .ok _ => true
  | _ => false

/-- `if false then x = 1` ; `x` -/
def progUnassignedRead : Stmt :=
  .seq (.ifThen (.bool false) (.expr (.assign 0 (.int 1)))) (.expr (.var 0))

/-- the reference semantics faults (read of an unassigned local), the compiled code does not -/
theorem err_direction_witness :
    safeS progUnassignedRead = true ∧
    isErr (evalS intSem 5 progUnassignedRead (fun _ => none)) = true ∧
    (match compileS progUnassignedRead false (mainFrame 1) with
     | some (code, _) => isOk (execL intSem 5 code (fun _ => (-1 : Int)))
     | none => false) = true := by
  refine ⟨by decide, by decide, by decide⟩

/-- `loop` / `1 / 0` / `break` (`/` faults in `intSem`) -/
def progUnusedOperator : Stmt :=
  .loopS (.seq (.expr (.bin .div (.int 1) (.int 0))) .brk)

/-- F-C01-3 at statement level: the reference semantics faults in the loop body, the compiled loop
body does not contain the division at all and the loop ends normally -/
theorem err_direction_witness_unused_operator :
    safeS progUnusedOperator = true ∧
    isErr (evalS intSem 5 progUnusedOperator (fun _ => none)) = true ∧
    (compileS progUnusedOperator false (mainFrame 0)).map (fun p => flattenL p.1)
      = some [.jump 1, .jumpBack 2] ∧
    (match compileS progUnusedOperator false (mainFrame 0) with
     | some (code, _) => isOk (execL intSem 5 code (fun _ => (-1 : Int)))
     | none => false) = true := by
  refine ⟨by decide, by decide, by decide, by decide⟩

/-! ## non-vacuity: programs that satisfy every hypothesis, run at all three levels -/

/-- compile a main-block statement and run it three ways — reference semantics, structured loop
code, flat stream (from a register file of junk) — and read the given variables (registers `x+1`:
locals in order of first assignment) -/
def runLoopMain (s : Stmt) (lc fuel : Nat) (vars : List Nat) : Option (List Int × List Int × List Int) :=
  match compileS s false (mainFrame lc), evalS intSem fuel s (fun _ => none) with
  | some (code, _), .ok (_, ρ') =>
    match execL intSem fuel code (fun _ => (-7 : Int)), execLFlat intSem (flattenL code) (8 * fuel) 0 (fun _ => (-7 : Int)) with
    | .ok (_, σ1), .ok σ2 =>
      some (vars.map (fun x => match ρ' x with | some v => (v : Int) | none => -99), vars.map (fun x => σ1 (x + 1)), vars.map (fun x => σ2 (x + 1)))
    | _, _ => none
  | _, _ => none

/-- a counting `while` loop with a `continue` and a conditional `break`:
```
x = 0; s = 0
while x < 10
  x += 1
  if x == 3 then continue
  if x == 6 then break
  s += x
```
ends with `x = 6`, `s = 1 + 2 + 4 + 5 = 12` -/
def progCount : Stmt :=
  .seq (.expr (.assign 0 (.int 0))) (.seq (.expr (.assign 1 (.int 0)))
    (.whileS (.cmp .lt (.var 0) (.int 10))
      (.seq (.expr (.compound .add 0 (.int 1)))
        (.seq (.ifThen (.cmp .eq (.var 0) (.int 3)) .cont)
          (.seq (.ifThen (.cmp .eq (.var 0) (.int 6)) .brk)
            (.expr (.compound .add 1 (.var 0))))))))

example : safeS progCount = true := by decide

example : runLoopMain progCount 2 40 [0, 1] = some ([6, 12], [6, 12], [6, 12]) := by decide +kernel

/-- nested loops, `until` around `loop`, a local first assigned inside the outer body, `break` in
an `if`/`else`:
```
i = 0; t = 0
until i == 3
  j = 0
  loop
    if j == i then break else j += 1
    t += 1
  i += 1
```
ends with `i = 3`, `t = 0 + 1 + 2 = 3`, `j = 2` -/
def progNested : Stmt :=
  .seq (.expr (.assign 0 (.int 0))) (.seq (.expr (.assign 1 (.int 0)))
    (.untilS (.cmp .eq (.var 0) (.int 3))
      (.seq (.expr (.assign 2 (.int 0)))
        (.seq (.loopS
            (.seq (.ite (.cmp .eq (.var 2) (.var 0)) .brk (.expr (.compound .add 2 (.int 1))))
              (.expr (.compound .add 1 (.int 1)))))
          (.expr (.compound .add 0 (.int 1)))))))

example : safeS progNested = true := by decide

example : runLoopMain progNested 3 40 [0, 1, 2] = some ([3, 3, 2], [3, 3, 2], [3, 3, 2]) := by decide +kernel

/-- the flat stream of `progCount`, as K2 prints it: `continue` is `JumpBack` to the condition,
`break` is `Jump` to just after the loop's own `JumpBack` -/
example : (compileS progCount false (mainFrame 2)).map (fun p => flattenL p.1) = some
    [.op (.setInt 1 0), .op (.setInt 2 0),
     .op (.setInt 4 10), .op (.binop .lt 3 1 4), .jumpIfFalse 3 12,
     .op (.setInt 3 1), .op (.compound .add 1 3),
     .op (.setInt 4 3), .op (.binop .eq 3 1 4), .jumpIfFalse 3 1, .jumpBack 9,
     .op (.setInt 4 6), .op (.binop .eq 3 1 4), .jumpIfFalse 3 1, .jump 2,
     .op (.compound .add 2 1), .jumpBack 15] := by decide +kernel

/-- `break` / `continue` outside of a loop do not compile (`InvalidLoopKeyword`) -/
example : compileS (.seq (.expr (.assign 0 (.int 0))) .brk) false (mainFrame 1) = none := by decide
example : (compileS (.ifThen (.bool true) .cont) false (mainFrame 0)).isNone = true := by decide

/-! ## against the language guide (`Core.eval`, the reference semantics that K1 ties to the runtime) -/

/-- **bridge, guide ⇒ compiler model, for statements**: a finished evaluation
of the embedded statement by the guide's semantics — normal completion, or a `break` / `continue`
on its way to an enclosing loop — is a finished `evalS (coreSem F)` evaluation with the same signal
and a related environment. -/
theorem bridgeS_ok_conv (F : FloatOps) (s : Stmt) (ρ : Env (coreSem F)) (st st' : Core.St)
    (fuel : Nat) (r : Core.Res Val) (sig : Sig)
    (hw : wfS s = true) (hr : EnvRel ρ st.env)
    (hev : Core.eval F fuel (toCoreS s) st = (r, st')) (hs : sigOf r = some sig) :
    ∃ n ρ', evalS (coreSem F) n s ρ = .ok (sig, ρ') ∧ EnvRel ρ' st'.env :=
  stmt_conv F s ρ st st' fuel r sig hw hr hev hs

/-- **bridge, compiler model ⇒ guide, for statements**: conversely, a finished
`evalS (coreSem F)` evaluation is a finished evaluation by the guide's semantics with the same
signal and a related environment — on this fragment `evalS (coreSem F)` *is* the guide. -/
theorem bridgeS_ok (F : FloatOps) (s : Stmt) (ρ ρ' : Env (coreSem F)) (st : Core.St)
    (n : Nat) (sig : Sig) (hw : wfS s = true) (hr : EnvRel ρ st.env)
    (hev : evalS (coreSem F) n s ρ = .ok (sig, ρ')) :
    ∃ fuel r st', Core.eval F fuel (toCoreS s) st = (r, st') ∧ sigOf r = some sig ∧ EnvRel ρ' st'.env :=
  stmt_fwd F s ρ ρ' st n sig hw hr hev

/-- **compileS_correct against the language guide.** Let `s` be a well-formed, `safe` main-block
statement (loops, `break` / `continue`, `if`, blocks) whose evaluation by the reference semantics of
the guide terminates (`.ok`) with final state `st'`. If the compiler model compiles it, then the
emitted *flat instruction stream* (forward jumps and `JumpBack`) — under the guide's value
operations — run from any register file terminates by falling off its end, and every variable
bound in `st'.env` sits in its committed register with its final value. -/
theorem compileS_correct_guide (F : FloatOps) (s : Stmt) (lc : Nat) (code : LCode) (Fr' : Frame)
    (hw : wfS s = true) (hs : safeS s = true)
    (hc : compileS s false (mainFrame lc) = some (code, Fr'))
    (fuel : Nat) (v : Val) (st' : Core.St)
    (hev : Core.eval F fuel (toCoreS s) {} = (.ok v, st'))
    (σ : Regs (coreSem F)) :
    ∃ m σ', (∀ K, m ≤ K → execLFlat (coreSem F) (flattenL code) K 0 σ = .ok σ') ∧
      (∀ x w, Core.lookup x st'.env = some w → ∃ q, Has Fr' q x ∧ σ' q = w) := by
  obtain ⟨n, ρ', h1, h2⟩ := stmt_conv F s (fun _ => none) {} st' fuel (.ok v) .normal hw EnvRel.empty hev rfl
  obtain ⟨_, m, σ', h3, h4⟩ := compileS_correct_main (S := coreSem F) s lc code Fr' hc hs σ ρ' .normal n h1
  exact ⟨m, σ', h3, fun x w hx => h4 x w (by rw [h2 x]; exact hx)⟩

/-- **whole main blocks against the guide** (statements, then a final expression whose value is
the program's): if the guide evaluates `s; e` to `v`, the flat stream of `compileProg s e` run from
any register file terminates with `v` in the returned register and every variable in its committed
register. -/
theorem compileProg_correct_guide (F : FloatOps) (s : Stmt) (e : Expr) (lc : Nat) (stream : List LFlat)
    (out : Out) (Fr' : Frame)
    (hw : wfS s = true) (hwe : wfE e = true) (hs : safeS s = true) (he : safe [] none e = true)
    (hc : compileProg s e lc = some (stream, out, Fr'))
    (fuel : Nat) (v : Val) (st' : Core.St)
    (hev : Core.eval F fuel (.block (.cons (toCoreS s) (.cons (toCore e) .nil))) {} = (.ok v, st'))
    (σ : Regs (coreSem F)) :
    ∃ m σ' r, (∀ K, m ≤ K → execLFlat (coreSem F) stream K 0 σ = .ok σ') ∧ out.reg = some r ∧ σ' r = v ∧
      (∀ x w, Core.lookup x st'.env = some w → ∃ q, Has Fr' q x ∧ σ' q = w) := by
  obtain ⟨fuel', rfl⟩ := eval_pos hev
  rcases block2_inv F fuel' _ _ {} st' (.ok v) .normal hev rfl with ⟨k, j, va, sa, _, _, ha, hb⟩ | ⟨_, _, _, hne⟩
  · obtain ⟨n, ρ1, h1, h2⟩ := stmt_conv F s (fun _ => none) {} sa k (.ok va) .normal hw EnvRel.empty ha rfl
    obtain ⟨v', ρ', hv, h3, h4⟩ := expr_conv F e ρ1 sa st' j (.ok v) .normal hwe h2 hb rfl
    cases hv
    obtain ⟨m, σ', r, g1, g2, g3, g4⟩ :=
      compileProg_correct (S := coreSem F) s e lc stream out Fr' hc hs he σ ρ1 ρ' .normal v n h1 h3
    exact ⟨m, σ', r, g1, g2, g3, fun x w hx => g4 x w (by rw [h4 x]; exact hx)⟩
  · exact absurd rfl hne

/-- non-vacuity at the guide level: `progCount` is well-formed, the guide evaluates its embedding
(followed by the final expression `s`) to `12`, and the compiled flat stream returns `12` -/
example : wfS progCount = true := by decide

def runGuideLoop (s : Stmt) (e : Expr) (lc fuel : Nat) : Option (Val × Val) :=
  match compileProg s e lc, Core.eval stubFloatOps fuel (.block (.cons (toCoreS s) (.cons (toCore e) .nil))) {} with
  | some (stream, out, _), (.ok v, _) =>
    match execLFlat (coreSem stubFloatOps) stream (8 * fuel) 0 (fun _ => Val.null), out.reg with
    | .ok σ', some r => some (σ' r, v)
    | _, _ => none
  | _, _ => none

-- (`decide +kernel`: the elaborator's `whnf` is too slow on the guide's mutual evaluator with loops)
example : runGuideLoop progCount (.var 1) 2 60 matches some (.num (.i 12), .num (.i 12)) := by
  decide +kernel

example : wfS progNested = true ∧
    runGuideLoop progNested (.var 1) 3 80 matches some (.num (.i 3), .num (.i 3)) := by
  decide +kernel

end KotoVerif.C01
