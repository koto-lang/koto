/-
Extension theorems for C06: value-level / algebraic facts about the guard kernels of
Model/Guards.lean that the `_total` theorems of Props/C06.lean do not state.
-/
import KotoVerif.Lemmas.C06Spec

namespace KotoVerif.C06Ext
open KotoVerif.Guards KotoVerif.C06

/-! ### `wrap64`, `satI64`, `castU8`, `clamp`: the machine-integer views -/

theorem wrap64_idem (x : Int) : wrap64 (wrap64 x) = wrap64 x := by
  unfold wrap64; omega

/-- `wrap64` only ever changes a value by a multiple of 2^64 -/
theorem wrap64_congr (x : Int) : (wrap64 x - x) % 18446744073709551616 = 0 := by
  unfold wrap64; omega

theorem satI64_range (x : Int) : inI64 (satI64 x) := by
  unfold satI64 inI64 I64_MIN I64_MAX; omega

theorem satI64_id {x : Int} (h : inI64 x) : satI64 x = x := by
  unfold satI64; unfold inI64 I64_MIN I64_MAX at *; omega
example : inI64 (-5) := by unfold inI64 I64_MIN I64_MAX; omega

theorem satI64_idem (x : Int) : satI64 (satI64 x) = satI64 x := satI64_id (satI64_range x)

theorem satI64_mono {x y : Int} (h : x ≤ y) : satI64 x ≤ satI64 y := by
  unfold satI64 I64_MIN I64_MAX; omega
example : (3 : Int) ≤ 4 := by decide

theorem castU8_range (x : Int) : inU8 (castU8 x) := by
  unfold castU8 inU8 U8_MAX; omega

theorem castU8_id {x : Int} (h : inU8 x) : castU8 x = x := C06.castU8_id h
example : inU8 200 := by unfold inU8 U8_MAX; omega

theorem clamp_spec (x lo hi : Int) :
    (clamp x lo hi = .panic ↔ hi < lo) ∧ ∀ v, clamp x lo hi = .ok v → lo ≤ v ∧ v ≤ hi ∧ (lo ≤ x → x ≤ hi → v = x) := by
  unfold clamp
  by_cases h : lo ≤ hi
  · simp only [h, ite_true]
    refine ⟨by simp; omega, fun v hv => ?_⟩
    cases hv; omega
  · simp only [h, ite_false]
    refine ⟨by simp; omega, fun v hv => by cases hv⟩

/-! ### remainder -/

theorem runRemainder_value (a b : Int) :
    runRemainder a b = .ok (if b = 0 then none else some (Int.tmod a b)) := by
  unfold runRemainder
  by_cases hb : b = 0
  · simp [hb]
  · simp only [hb, ite_false]; rw [wrappingRem_eq_tmod a b hb]; rfl

theorem runRemainderAssign_agrees (a b : Int) (hb : b ≠ 0) :
    (runRemainderAssign a b).map' some = runRemainder a b := by
  unfold runRemainderAssign runRemainder; simp [hb]
example : (7 : Int) ≠ 0 := by decide

/-! ### shifts, abs -/

theorem shiftLeft_value_inI64 (a : Int) (b : NumView) (v : Int) (h : shiftLeft a b = .ok v) : inI64 v :=
  ((shiftLeft_spec a b).of_ok h).1 ▸ wrap64_range _

theorem shiftRight_value_inI64 (a : Int) (ha : inI64 a) (b : NumView) (v : Int) (h : shiftRight a b = .ok v) :
    inI64 v := by
  rw [((shiftRight_spec a b).of_ok h).1]
  -- `a / n` for `n > 0` lies between `a` and 0 (or -1)
  have hp : (0 : Int) < 2 ^ b.i64.toNat := Int.pow_pos (by decide)
  generalize (2 : Int) ^ b.i64.toNat = n at hp
  unfold inI64 I64_MIN I64_MAX at *
  by_cases h0 : 0 ≤ a
  · have h1 := Int.ediv_nonneg h0 (Int.le_of_lt hp)
    have h2 := Int.ediv_le_self n h0
    omega
  · have h1 : a / n < 0 := Int.ediv_neg_of_neg_of_pos (by omega) hp
    have h2 : a ≤ a / n := Int.self_le_ediv_of_nonpos_of_nonneg (by omega) (Int.le_of_lt hp)
    omega

theorem shift_zero (a : Int) (ha : inI64 a) (b : NumView) (hb : b.geZeroI = true) (h0 : b.i64 = 0) :
    shiftLeft a b = .ok a ∧ shiftRight a b = .ok a := by
  have hl := ((shiftLeft_spec a b).imp (fun h => by omega) fun h => h hb).exists_ok
  have hr := ((shiftRight_spec a b).imp (fun h => by omega) fun h => h hb).exists_ok
  obtain ⟨_, hl, rfl, _⟩ := hl
  obtain ⟨_, hr, rfl, _⟩ := hr
  rw [hl, hr, h0]
  exact ⟨by rw [Int.toNat_zero, Int.pow_zero, Int.mul_one, wrap64_id ha],
    by rw [Int.toNat_zero, Int.pow_zero, Int.ediv_one]⟩

example : absInt (-3) = .ok 3 := by decide

theorem absInt_idem (a v : Int) (h : absInt a = .ok v) : absInt v = .ok v := by
  obtain ⟨rfl, hv⟩ := (absInt_spec a).of_ok h
  have hi : iabs (iabs a) = iabs a := by unfold iabs; omega
  exact Res.sat.eq_ok (((absInt_spec (iabs a)).imp (fun hp => hp (by rw [hi]; exact hv)) id).mono
    fun _ h' => h'.1.trans hi)

/-! ### `IndexMap::swap_indices` -/

theorem swapIndices_length (ks ks' : List Nat) (i j : Nat) (h : swapIndices ks i j = .ok ks') :
    ks'.length = ks.length :=
  ((swapIndices_spec ks i j).of_ok h).2
example : swapIndices [1, 2, 3] 0 2 = .ok [3, 2, 1] := by decide

theorem swapIndices_panic_iff (ks : List Nat) (i j : Nat) :
    swapIndices ks i j = .panic ↔ ¬ (i < ks.length ∧ j < ks.length) :=
  Res.sat.panic_iff (((swapIndices_spec ks i j).imp id False.elim).mono fun _ h hc => hc h.1)

theorem swapIndices_comm (ks : List Nat) (i j : Nat) : swapIndices ks i j = swapIndices ks j i := by
  unfold swapIndices
  cases hi : ks[i]? with
  | none => cases hj : ks[j]? <;> rfl
  | some a =>
    cases hj : ks[j]? with
    | none => rfl
    | some b =>
      simp only
      by_cases hij : i = j
      · subst hij; rw [hi] at hj; cases hj; rfl
      · rw [List.set_comm _ _ hij]

/-! ### `next_register` -/

theorem nextRegister_spec (next v : Int) (h : nextRegister next = .ok v) : v = next ∧ v + 8 ≤ 255 := by
  obtain ⟨h', rfl⟩ := (C06.nextRegister_spec next).of_ok h
  omega
example : nextRegister 247 = .ok 247 := by decide

/-! ### operation sequences compose -/

theorem frameRun_append (f : Frame) (a b : List FrameOp) :
    frameRun f (a ++ b) = (frameRun f a).bind fun f' => frameRun f' b := by
  induction a generalizing f with
  | nil => rfl
  | cons op ops ih => simp only [List.cons_append, frameRun, bind_assoc, ih]

theorem unpackArgsFrom_append (m : Option Int) (c : Int) (a b : List Int) :
    unpackArgsFrom m c (a ++ b) = (unpackArgsFrom m c a).bind fun c' => unpackArgsFrom m c' b := by
  induction a generalizing c with
  | nil => rfl
  | cons l ls ih => simp only [List.cons_append, unpackArgsFrom, bind_assoc, ih]

theorem stepToRun_length_le (s : StepTo) (ops : List Bool) (vs : List Int)
    (h : stepToRun s ops = .ok vs) : vs.length ≤ ops.length := by
  refine Res.sat.of_ok (p := True) (e := True) (Q := fun vs => vs.length ≤ ops.length) ?_ h
  clear h
  induction ops generalizing s with
  | nil => exact Res.sat.ok (Nat.le_refl _)
  | cons b ops ih =>
    -- whatever the pull returns, the rest yields at most `ops.length` values and the pull at most one
    refine Res.sat.bind (Res.sat.of_forall fun _ => trivial) fun r _ =>
      (ih r.2).bind fun ws hws => Res.sat.ok ?_
    cases r.1 <;> simp <;> omega

/-! non-vacuity witnesses for the hypotheses used above -/
example : shiftLeft 3 ⟨false, true, true, 2, 2⟩ = .ok 12 := by decide
example : shiftRight (-8) ⟨false, true, true, 1, 1⟩ = .ok (-4) := by decide
example : shiftLeft 5 ⟨false, true, true, 0, 0⟩ = .ok 5 ∧ shiftRight 5 ⟨false, true, true, 0, 0⟩ = .ok 5 := by decide
example : (stepToNew 1 9 2).bind (fun s => stepToRun s [false, true, false, false, false, false]) = .ok [1, 9, 3, 5, 7] := by
  decide
example : runRemainderAssign 7 (-1) = .ok 0 ∧ runRemainder 7 (-1) = .ok (some 0) := by decide

end KotoVerif.C06Ext
