/-
C19 — further theorems about the executable model `Model/Cell.lean`.  The sequential definitions
they speak of are the ones the driver `Drivers/C19.lean` runs: `run`/`lockStep` by `lock`,
`seqOps`/`bracket` by `seq`, `seqAll`/`resOf` by `lin`, `LOp.sem`/`MOp.sem` and the `Assoc.*` helpers
by both; the thread model (`exec`, section 6) is not run by it.
-/
import KotoVerif.Model.Cell
import KotoVerif.Props.C19

namespace KotoVerif.C19Ext
open KotoVerif.Cell

variable {σ ρ : Type}

/-! ### 1. the two sequential specifications used by the driver agree (`seqAll` refines `seqOps`) -/

/-- the linearization checker `seqAll` (tagged, a `foldl`) computes what the untagged sequential
meaning `seqOps` computes -/
theorem seqAll_refines_seqOps (d : σ) (lin : List (Nat × Op σ ρ)) :
    (seqAll d lin).1 = (seqOps d (lin.map (·.2))).2 ∧
    (seqAll d lin).2.map (·.2) = (seqOps d (lin.map (·.2))).1 ∧
    (seqAll d lin).2.map (·.1) = lin.map (·.1) := by
  rw [C19.seqAll_eq]
  have hl := C19.seqOps_length d (lin.map (·.2))
  exact ⟨rfl, List.map_snd_zip (by simp [hl]), List.map_fst_zip (by simp [hl])⟩

theorem seqOps_append (d : σ) (a b : List (Op σ ρ)) :
    seqOps d (a ++ b) =
      ((seqOps d a).1 ++ (seqOps (seqOps d a).2 b).1, (seqOps (seqOps d a).2 b).2) := by
  induction a generalizing d with
  | nil => simp [seqOps]
  | cons o rest ih => simp [seqOps, ih]

theorem seqOps_reads_keep_data (d : σ) (ops : List (Op σ ρ)) (h : ∀ o ∈ ops, o.write = false) :
    (seqOps d ops).2 = d :=
  C19.seqOps_invariant (· = d) ops (fun o ho hw => by rw [h o ho] at hw; cases hw) d rfl

example : ∀ o ∈ [LOp.size.toOp, (LOp.get 0).toOp], o.write = false := by decide

theorem resOf_absent (t : Nat) (d : σ) (lin : List (Nat × Op σ ρ)) (h : ∀ e ∈ lin, e.1 ≠ t) :
    resOf t (seqAll d lin).2 = [] := by
  rw [C19.seqAll_eq, resOf, List.map_eq_nil_iff, List.filter_eq_nil_iff]
  intro e he
  obtain ⟨e', he', heq⟩ := List.mem_map.1 (List.of_mem_zip he).1
  simpa [← heq] using h e' he'

example : ∀ e ∈ [((0 : Nat), LOp.size.toOp)], e.1 ≠ 1 := by decide

/-! ### 2. the lock word: reader/writer exclusion in every reachable state, round trips -/

/-- the exclusive guard and shared guards are never alive together -/
def LockWF (s : LockSt) : Prop := s.writer = true → s.readers = 0

theorem lockStep_wf (m : Mode) (s : LockSt) (r : Req) (h : LockWF s) : LockWF (lockStep m s r).2 := by
  cases r <;> simp only [lockStep] <;> split <;> simp_all [LockWF, canRead, canWrite]

theorem act_wf (m : Mode) (c : CellSt σ) (a : Act σ ρ) (h : LockWF c.lock) :
    LockWF (act m c a).2.lock := by
  cases a with
  | req r => exact lockStep_wf m c.lock r h
  | read f => simp only [act]; split <;> exact h
  | write f => simp only [act]; split <;> exact h

theorem run_wf (m : Mode) (c : CellSt σ) (script : List (Act σ ρ)) (h : LockWF c.lock) :
    LockWF (run m c script).2.lock := by
  induction script generalizing c with
  | nil => simpa [run] using h
  | cons a rest ih =>
    simp only [run]
    split
    · exact act_wf m c a h
    · exact ih _ (act_wf m c a h)

example : LockWF ({} : LockSt) := by simp [LockWF]

theorem borrow_drop_roundtrip (m : Mode) (s : LockSt) (h : (lockStep m s .borrow).1 = .ok) :
    lockStep m (lockStep m s .borrow).2 .dropRead = (.ok, s) := by
  obtain ⟨rd, w⟩ := s
  cases w <;> cases m <;> simp [lockStep, canRead, conflict] at *

theorem borrowMut_drop_roundtrip (m : Mode) (s : LockSt) (h : (lockStep m s .borrowMut).1 = .ok) :
    lockStep m (lockStep m s .borrowMut).2 .dropWrite = (.ok, s) := by
  obtain ⟨rd, w⟩ := s
  cases w <;> cases m <;> simp [lockStep, canWrite, conflict] at * <;>
    (split at h <;> simp_all)

example : (lockStep .rc {} .borrow).1 = .ok := by decide
example : (lockStep .arc {} .borrowMut).1 = .ok := by decide

/-- the data of a cell is only ever changed through the exclusive guard -/
theorem run_no_write_keeps_data (m : Mode) (c : CellSt σ) (script : List (Act σ ρ))
    (h : ∀ a ∈ script, ∀ f, a ≠ .write f) : (run m c script).2.data = c.data := by
  induction script generalizing c with
  | nil => simp [run]
  | cons a rest ih =>
    have ha : (act m c a).2.data = c.data := by
      cases a with
      | req r => simp [act]
      | read f => simp only [act]; split <;> rfl
      | write f => exact absurd rfl (h _ (by simp) f)
    simp only [run]
    split
    · exact ha
    · rw [ih _ (fun a' ha' => h a' (by simp [ha'])), ha]

example : ∀ a ∈ ([.req .borrow, .read id, .req .dropRead] : List (Act Nat Nat)), ∀ f, a ≠ .write f := by
  intro a ha f; simp at ha; rcases ha with rfl | rfl | rfl <;> simp

/-! ### 3. map helpers (`IndexMap` as an association list): lookup laws -/

theorem find_put_same (k v : Int) (m : Assoc) : Assoc.find k (Assoc.put k v m) = some v := by
  induction m with
  | nil => simp [Assoc.put, Assoc.find]
  | cons e rest ih =>
    obtain ⟨k', v'⟩ := e
    by_cases hk : k' = k <;> simp [Assoc.put, Assoc.find, hk, ih]

theorem find_put_other (k k' v : Int) (m : Assoc) (h : k' ≠ k) :
    Assoc.find k' (Assoc.put k v m) = Assoc.find k' m := by
  induction m with
  | nil => simp [Assoc.put, Assoc.find, Ne.symm h]
  | cons e rest ih =>
    obtain ⟨k2, v2⟩ := e
    by_cases hk : k2 = k
    · subst hk; simp [Assoc.put, Assoc.find, Ne.symm h]
    · by_cases hk' : k2 = k'
      · subst hk'; simp [Assoc.put, Assoc.find, h]
      · simp [Assoc.put, Assoc.find, hk, hk', ih]

theorem find_del_other (k k' : Int) (m : Assoc) (h : k' ≠ k) :
    Assoc.find k' (Assoc.del k m) = Assoc.find k' m := by
  induction m with
  | nil => simp [Assoc.del, Assoc.find]
  | cons e rest ih =>
    obtain ⟨k2, v2⟩ := e
    by_cases hk : k2 = k
    · subst hk; simp [Assoc.del, Assoc.find, Ne.symm h]
    · by_cases hk' : k2 = k'
      · subst hk'; simp [Assoc.del, Assoc.find, h]
      · simp [Assoc.del, Assoc.find, hk, hk', ih]

example : (3 : Int) ≠ 4 := by decide

theorem put_length (k v : Int) (m : Assoc) :
    (Assoc.put k v m).length = if (Assoc.find k m).isSome then m.length else m.length + 1 := by
  induction m with
  | nil => simp [Assoc.put, Assoc.find]
  | cons e rest ih =>
    obtain ⟨k', v'⟩ := e
    by_cases hk : k' = k
    · simp [Assoc.put, Assoc.find, hk]
    · simp [Assoc.put, Assoc.find, hk, ih]; split <;> rfl

theorem map_insert_get (k v : Int) (m : Assoc) :
    ((MOp.get k).sem ((MOp.insert k v).sem m).1).2 = valRes (some v) := by
  simp [MOp.sem, find_put_same]

theorem map_insert_get_other (k k' v : Int) (m : Assoc) (h : k' ≠ k) :
    ((MOp.get k').sem ((MOp.insert k v).sem m).1).2 = ((MOp.get k').sem m).2 := by
  simp [MOp.sem, find_put_other k k' v m h]

/-! ### 4. list operations: `sort` sorts, push/pop round trip, sizes -/

/-- `l.sort()` leaves the list in ascending order (with `sort_only_permutes`: it is *the* sorted
permutation) -/
theorem sort_sorts (l : List Int) : (LOp.sort.sem l).1.Pairwise (· ≤ ·) :=
  (C19.sortInts_eq l ▸ C19.sortBy_sorted id l : (sortInts l).Pairwise (· ≤ ·))

theorem push_pop_roundtrip (x : Int) (l : List Int) :
    LOp.pop.sem ((LOp.push x).sem l).1 = (l, .int x) := by
  simp [LOp.sem, optRes]

theorem list_length_effects (l : List Int) (x : Int) (n : Nat) (xs : List Int) :
    ((LOp.push x).sem l).1.length = l.length + 1 ∧
    (LOp.pop.sem l).1.length = l.length - 1 ∧
    ((LOp.fill x).sem l).1.length = l.length ∧
    (LOp.reverse.sem l).1.length = l.length ∧
    ((LOp.resize n x).sem l).1.length = n ∧
    ((LOp.extend xs).sem l).1.length = l.length + xs.length ∧
    ((LOp.addAll x).sem l).1.length = l.length := by
  simp [LOp.sem]
  omega

/-! ### 5. map invariant: keys stay distinct (IndexMap is a map) under every operation / history -/

def keys (m : Assoc) : List Int := m.map (·.1)

theorem keys_put (k v : Int) (m : Assoc) :
    keys (Assoc.put k v m) = if k ∈ keys m then keys m else keys m ++ [k] := by
  induction m with
  | nil => simp [Assoc.put, keys]
  | cons e rest ih =>
    obtain ⟨k', v'⟩ := e
    by_cases hk : k' = k
    · subst hk; simp [Assoc.put, keys]
    · have hk2 : ¬ k = k' := fun h => hk h.symm
      simp only [keys] at ih
      simp only [Assoc.put, keys, hk, if_false, List.map_cons, ih, List.mem_cons, hk2, false_or]
      split <;> simp_all

theorem put_keys_nodup (k v : Int) (m : Assoc) (h : (keys m).Nodup) : (keys (Assoc.put k v m)).Nodup := by
  rw [keys_put]
  split
  · exact h
  · rename_i hm
    rw [List.nodup_append]
    refine ⟨h, by simp, ?_⟩
    intro a ha b hb
    simp at hb
    subst hb
    intro hab
    exact hm (hab ▸ ha)

theorem del_sublist (k : Int) (m : Assoc) : (Assoc.del k m).Sublist m := by
  induction m with
  | nil => simp [Assoc.del]
  | cons e rest ih =>
    obtain ⟨k', v'⟩ := e
    simp only [Assoc.del]; split
    · exact List.sublist_cons_self _ _
    · exact ih.cons_cons _

theorem del_keys_nodup (k : Int) (m : Assoc) (h : (keys m).Nodup) : (keys (Assoc.del k m)).Nodup :=
  List.Nodup.sublist ((del_sublist k m).map _) h

theorem find_none_of_not_mem (k : Int) (m : Assoc) (h : k ∉ keys m) : Assoc.find k m = none := by
  induction m with
  | nil => simp [Assoc.find]
  | cons e rest ih =>
    obtain ⟨k', v'⟩ := e
    simp [keys] at h
    have hk : ¬ k' = k := fun h' => h.1 h'.symm
    simp only [Assoc.find, hk, if_false]
    exact ih (by simpa [keys] using h.2)

/-- needs distinct keys (the invariant below): `Assoc.del` removes only the first entry of a key -/
theorem find_del_same (k : Int) (m : Assoc) (h : (keys m).Nodup) : Assoc.find k (Assoc.del k m) = none := by
  induction m with
  | nil => simp [Assoc.del, Assoc.find]
  | cons e rest ih =>
    obtain ⟨k', v'⟩ := e
    simp only [keys, List.map_cons, List.nodup_cons] at h
    by_cases hk : k' = k
    · subst hk
      simp only [Assoc.del, if_true]
      exact find_none_of_not_mem _ _ h.1
    · simp only [Assoc.del, hk, if_false, Assoc.find]
      exact ih h.2

example : (keys [(1, 2), (3, 4)]).Nodup := by decide

theorem map_sort_only_permutes (m : Assoc) : (MOp.sort.sem m).1.Perm m :=
  (C19.sortKeys_eq m ▸ C19.sortBy_perm (·.1) m : (Assoc.sortKeys m).Perm m)

theorem indexOf_eq (k : Int) (m : Assoc) (n : Nat) :
    Assoc.indexOf k m n = ((keys m).idxOf? k).map (· + n) := by
  induction m generalizing n with
  | nil => rfl
  | cons e rest ih =>
    simp only [keys] at ih ⊢
    rw [Assoc.indexOf, ih, List.map_cons, List.idxOf?_cons]
    by_cases hk : e.1 = k
    · simp [hk]
    · simp only [beq_iff_eq, hk, if_false, Option.map_map]
      exact congrArg (Option.map · _) (funext fun i => by simp only [Function.comp]; omega)

theorem indexOf_none (k : Int) (m : Assoc) (n : Nat) (h : Assoc.indexOf k m n = none) : k ∉ keys m := by
  rw [indexOf_eq, Option.map_eq_none_iff] at h
  exact List.idxOf?_eq_none_iff.1 h

theorem indexOf_zero_some (k : Int) (m : Assoc) (j : Nat) (h : Assoc.indexOf k m 0 = some j) :
    (keys m)[j]? = some k := by
  rw [indexOf_eq, Option.map_eq_some_iff] at h
  obtain ⟨i, hi, rfl⟩ := h
  obtain ⟨hlt, he, _⟩ := List.findIdx?_eq_some_iff_getElem.1 hi
  rw [Nat.add_zero, List.getElem?_eq_getElem hlt, eq_of_beq he]

theorem set_nodup {l : List Int} (h : l.Nodup) (k : Int) (hk : k ∉ l) (i : Nat) : (l.set i k).Nodup := by
  induction l generalizing i with
  | nil => simp
  | cons a as ih =>
    rw [List.nodup_cons] at h
    have hk2 : k ∉ as := fun hm => hk (by simp [hm])
    cases i with
    | zero => simp only [List.set_cons_zero, List.nodup_cons]; exact ⟨hk2, h.2⟩
    | succ i =>
      simp only [List.set_cons_succ, List.nodup_cons]
      refine ⟨?_, ih h.2 hk2 i⟩
      intro hm
      rcases List.mem_or_eq_of_mem_set hm with h1 | h1
      · exact h.1 h1
      · exact hk (by simp [h1])

theorem set_self_of_get (l : List Int) (i : Nat) (k : Int) (h : l[i]? = some k) : l.set i k = l := by
  obtain ⟨hi, rfl⟩ := List.getElem?_eq_some_iff.1 h
  exact List.set_getElem_self hi

theorem mop_keeps_keys_nodup (o : MOp) (m : Assoc) (h : (keys m).Nodup) : (keys (o.sem m).1).Nodup := by
  cases o with
  | insert k v => exact put_keys_nodup k v m h
  | insert1 k => exact put_keys_nodup k _ m h
  | put k v => exact put_keys_nodup k v m h
  | remove k => exact del_keys_nodup k m h
  | get k => exact h
  | containsKey k => exact h
  | size => exact h
  | clear => simp [MOp.sem, keys]
  | getIndex i => exact h
  | sort => exact ((map_sort_only_permutes m).map _).nodup_iff.mpr h
  | extend es =>
    simp only [MOp.sem]
    induction es generalizing m with
    | nil => exact h
    | cons e rest ih => exact ih _ (put_keys_nodup e.1 e.2 m h)
  | isEmpty => exact h
  | snapshot => exact h
  | eqTo es => exact h
  | setAt i k v =>
    simp only [MOp.sem]
    have hset : keys (m.set i (k, v)) = (keys m).set i k := by simp [keys, List.map_set]
    split
    · split
      · rename_i j hj
        split
        · rename_i hji
          subst hji
          rw [hset, set_self_of_get _ _ _ (indexOf_zero_some k m j hj)]
          exact h
        · exact h
      · rename_i hn
        rw [hset]
        exact set_nodup h k (indexOf_none k m 0 hn) i
    · exact h

/-- every sequential history of map operations, hence, by `linearizable`, the final contents of
every concurrent run -/
theorem map_history_keeps_keys_nodup (ops : List MOp) (m : Assoc) (h : (keys m).Nodup) :
    (keys (seqOps m (ops.map MOp.toOp)).2).Nodup := by
  refine C19.seqOps_invariant (fun m => (keys m).Nodup) _ (fun o ho _ d hd => ?_) m h
  obtain ⟨o', _, rfl⟩ := List.mem_map.1 ho
  exact mop_keeps_keys_nodup o' d hd

theorem map_remove_get (k : Int) (m : Assoc) (h : (keys m).Nodup) :
    ((MOp.get k).sem ((MOp.remove k).sem m).1).2 = .null := by
  simp [MOp.sem, find_del_same k m h, valRes]

/-! ### 6. data invariants lift from whole operations to every moment of every interleaving -/

/-- **Invariant lifting.** Any predicate on the container that holds initially and is preserved by
each *whole* operation of the programs holds of the shared data at every moment of every
interleaving of the micro-steps (acquire / load / store / release) of any number of threads -/
theorem concurrent_invariant (P : σ → Prop) (d0 : σ) (progs : List (List (Op σ ρ))) (h0 : P d0)
    (hops : ∀ p ∈ progs, ∀ o ∈ p, ∀ d, P d → P (o.f d).1) (sched : List Nat) :
    P (exec (init d0 progs) sched).data :=
  C19.exec_invariant P d0 progs h0 (fun p hp o ho _ => hops p hp o ho) sched

theorem concurrent_map_keys_nodup (m0 : Assoc) (progs : List (List MOp)) (h0 : (keys m0).Nodup)
    (sched : List Nat) :
    (keys (exec (init m0 (progs.map (·.map MOp.toOp))) sched).data).Nodup := by
  apply concurrent_invariant (fun m => (keys m).Nodup) m0 _ h0
  intro p hp o ho d hd
  obtain ⟨p', _, rfl⟩ := List.mem_map.mp hp
  obtain ⟨o', _, rfl⟩ := List.mem_map.mp ho
  exact mop_keeps_keys_nodup o' d hd

/-- in-place list operations (the ones the stress harness runs against indexing threads) -/
def inPlace : LOp → Bool
  | .set _ _ | .fill _ | .reverse | .sort | .addAll _ => true
  | o => !o.isWrite

theorem inPlace_keeps_length (o : LOp) (l : List Int) (h : inPlace o = true) :
    (o.sem l).1.length = l.length := by
  cases o <;> simp [inPlace, LOp.isWrite] at h <;> simp [LOp.sem]
  · split <;> simp
  · exact (C19.sort_only_permutes l).length_eq

/-- hence an index valid at the start stays valid at every moment of every interleaving -/
theorem concurrent_inPlace_keeps_length (l0 : List Int) (progs : List (List LOp))
    (hip : ∀ p ∈ progs, ∀ o ∈ p, inPlace o = true) (sched : List Nat) :
    (exec (init l0 (progs.map (·.map LOp.toOp))) sched).data.length = l0.length := by
  apply concurrent_invariant (fun l => l.length = l0.length) l0 _ rfl
  intro p hp o ho d hd
  obtain ⟨p', hp', rfl⟩ := List.mem_map.mp hp
  obtain ⟨o', ho', rfl⟩ := List.mem_map.mp ho
  simp only [LOp.toOp]
  rw [inPlace_keeps_length o' d (hip p' hp' o' ho'), hd]

example : ∀ p ∈ [[LOp.sort, LOp.get 0], [LOp.reverse, LOp.set 1 5]], ∀ o ∈ p, inPlace o = true := by
  decide

/-! ### 7. unconditional rc/arc comparison: the builds differ *only* in panic vs block -/

/-- for EVERY single-threaded script — re-entrant ones included, which `rc_arc_equiv` excludes —
the two builds leave the cell in the same state (data and lock word) and produce the same events
up to renaming the final `panic` to `block` -/
theorem run_rc_arc_unconditional (c : CellSt σ) (script : List (Act σ ρ)) :
    (run .rc c script).2 = (run .arc c script).2 ∧
    (run .rc c script).1.map arcView = (run .arc c script).1 :=
  C19.run_rc_arc c script

theorem arc_never_panics (c : CellSt σ) (script : List (Act σ ρ)) :
    Ev.lock .panic ∉ (run .arc c script).1 := by
  rw [← (run_rc_arc_unconditional c script).2]
  intro h
  obtain ⟨e, _, he⟩ := List.mem_map.mp h
  unfold arcView at he
  split at he <;> simp_all

/-! ### 8. `m.sort()` orders the entries by key -/

/-- with `map_sort_only_permutes`: the same entries, in ascending key order -/
theorem map_sort_sorts (m : Assoc) : (MOp.sort.sem m).1.Pairwise (fun a b => a.1 ≤ b.1) :=
  (C19.sortKeys_eq m ▸ C19.sortBy_sorted (·.1) m : (Assoc.sortKeys m).Pairwise _)

end KotoVerif.C19Ext
