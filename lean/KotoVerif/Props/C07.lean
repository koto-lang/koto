/-
C07 — a failed run leaves the runtime reusable and clean.

Model: `Model/Unwind.lean` (the VM's bookkeeping: value-stack length, frames with catch stacks and
barriers, builder depths, module placeholders, exported keys; host entry points as brackets over an
arbitrary event list).

Summary of what is proved (entry point × outcome):

| entry | outcome | frames / base / min_frame_registers / placeholders | registers | builders |
|---|---|---|---|---|
| pushes a barrier frame (`run`, `call_and_run_function` on a Koto callee, `run_*_op` on a Koto overload, each test of `run_tests`, `run` inside `run_import`) | ok, thrown, runtime error, failed type check, failed test, timeout, error in a nested entry, … (every event list) | restored (`entry_clean_frames`) | restored exactly (`entry_regs_restored`, `entry_clean`; no residue without `TrySafe`: `entry_no_register_residue`) | no residue for every execution (`entry_no_builder_residue`); restored exactly unless the execution finishes a builder of its caller (`entry_clean`; fix 97373d1) |
| `call_and_run_function`, native callee | returns Ok / Err | restored, whatever the native does before it returns (`entry_native_frames`) | restored when the native returns without re-entering the VM (`call_native_ok_clean`, `call_native_err_clean` — since fix 5247d9c) | – |
| `call_and_run_function`, `call_callable` fails (argument count, …) | – | restored | restored (`call_setup_fail_clean` — since fix 5247d9c) | – |
| `run_*_op` through `call_overridden_op_N`, native overload returns Err / `call_callable` fails | – | restored | restored (`opcall_native_err_clean`, `opcall_setup_fail_clean`, `op_arith_overload_err_clean` — since fix d4834c0) | – |
| `run_*_op` performed natively | Ok / Err | restored | restored (`op_direct_ok_clean`, `op_direct_err_clean` — since fix d4834c0) | – |
| compile error | never enters the VM (no event) | – | – | – |
-/
import KotoVerif.Model.Unwind
import KotoVerif.Lemmas.C07
import KotoVerif.Lemmas.C07Bracket
import KotoVerif.Lemmas.C07Effect
import KotoVerif.Lemmas.C07Repl

namespace KotoVerif.C07
open KotoVerif.Unwind

/-- The bookkeeping state that must be the same after a host entry as before it. -/
def Clean (s s' : VM) : Prop :=
  s'.regs = s.regs ∧ s'.stack = s.stack ∧ s'.base = s.base ∧ s'.minRegs = s.minRegs ∧
  s'.seq = s.seq ∧ s'.str = s.str ∧ s'.placeholders = s.placeholders

instance (s s' : VM) : Decidable (Clean s s') := by unfold Clean; infer_instance

/-- The part of `Clean` that concerns frames and imports. -/
def CleanFrames (s s' : VM) : Prop :=
  s'.stack = s.stack ∧ s'.base = s.base ∧ s'.minRegs = s.minRegs ∧ s'.placeholders = s.placeholders

/-- A fresh runtime. -/
def init : St := {}

/-! ## Entries that push a barrier frame: clean for every execution and every outcome -/

/-- The bracket invariant (`Lemmas/C07Bracket.lean`) at the exit of an entry through a Koto callee
(`run(chunk)` is `pre = 0, args = 0`; `call_and_run_function` `pre = 1`; `run_unary/binary/read/
write_op` with a Koto overload `pre = 2/3/3/4`), for a claimed register bound `r0` below the entry's
frame and claimed builder lower bounds `ql tl` (`0 0 0`: no hypothesis on the execution, `SafeUntil`
is then trivial). -/
theorem entry_exit (s : St) (pre args a : Nat) (evs : List Ev) (r0 ql tl : Nat)
    (hhost : inLoop s = false) (hc : Consistent s.vm)
    (hr0 : r0 ≤ s.vm.base + (s.vm.regs + pre - s.vm.base) % 256)
    (hql : ql ≤ s.vm.seq) (htl : tl ≤ s.vm.str)
    (hsafe : SafeUntil ⟨r0, s.vm.seq, s.vm.str, ql, tl⟩ s.conts.length evs
      (enter pre args (.koto a) s))
    (hex : Exited s (runEntry pre args (.koto a) evs s)) :
    Done s (.loop (.truncate (nextRegister s.vm))) ⟨r0, s.vm.seq, s.vm.str, ql, tl⟩
      (runEntry pre args (.koto a) evs s).vm ∧
    (runEntry pre args (.koto a) evs s).conts = s.conts := by
  obtain ⟨H, h0⟩ := enter_opens s pre args a r0 ql tl hhost hc hr0 hql htl
  exact (runUntil_bracket H evs _ h0 hsafe).exited hex

/-- **entry_clean (frames)**. For every state in which host/native code can run, every entry that
goes through a Koto callee, and **every** event list — whatever the script does, however deep it
re-enters the VM through native callbacks, whether it ends with a value, a thrown value, a runtime
error, a failed type check, a timeout (`raise false`), a failing import, and even if nested entries
leak registers — once the entry has returned, the call stack, `register_base`,
`min_frame_registers` and the module placeholders are exactly what they were before, the
continuation stack is the caller's, and the value stack has at most
`register_base + result_register` entries. -/
theorem entry_clean_frames (s : St) (pre args a : Nat) (evs : List Ev)
    (hhost : inLoop s = false) (hc : Consistent s.vm)
    (hex : Exited s (runEntry pre args (.koto a) evs s)) :
    let s' := runEntry pre args (.koto a) evs s
    CleanFrames s.vm s'.vm ∧ s'.conts = s.conts ∧ s'.vm.regs ≤ s.vm.base + nextRegister s.vm := by
  obtain ⟨h, hconts⟩ := entry_exit s pre args a evs 0 0 0 hhost hc (Nat.zero_le _) (Nat.zero_le _)
    (Nat.zero_le _) (safeUntil_zero _ rfl rfl rfl _ _ _) hex
  exact ⟨⟨h.stack, h.base, h.minRegs, h.ph⟩, hconts, h.base ▸ h.exit.1⟩

/-- **No register residue**: while the register window fits the `u8` numbering, such an entry never
leaves more registers than it found. In particular a host-initiated entry on an instance without
residue (`regs = 0`) ends with `regs = 0`. -/
theorem entry_no_register_residue (s : St) (pre args a : Nat) (evs : List Ev)
    (hhost : inLoop s = false) (hc : Consistent s.vm) (hw : s.vm.regs - s.vm.base < 256)
    (hex : Exited s (runEntry pre args (.koto a) evs s)) :
    (runEntry pre args (.koto a) evs s).vm.regs ≤ s.vm.regs :=
  base_add_nextRegister s.vm hc.regs hw ▸ (entry_clean_frames s pre args a evs hhost hc hex).2.2

/-- The register and builder bounds at the exit of a bracket, for claimed lower bounds `rl ql tl`
(`0 0`: no hypothesis on the execution; `seq str`: the execution never pops a builder of its
caller, `SafeUntil`). -/
theorem entry_bounds (s : St) (pre args a : Nat) (evs : List Ev) (rl ql tl : Nat)
    (hhost : inLoop s = false) (hc : Consistent s.vm) (hw : s.vm.regs - s.vm.base + pre < 256)
    (hrl : rl ≤ s.vm.regs) (hql : ql ≤ s.vm.seq) (htl : tl ≤ s.vm.str)
    (hsafe : SafeUntil ⟨rl, s.vm.seq, s.vm.str, ql, tl⟩ s.conts.length evs
      (enter pre args (.koto a) s))
    (hex : Exited s (runEntry pre args (.koto a) evs s)) :
    let s' := runEntry pre args (.koto a) evs s
    (rl ≤ s'.vm.regs ∧ s'.vm.regs ≤ s.vm.regs) ∧ s'.vm.seq ≤ s.vm.seq ∧ s'.vm.str ≤ s.vm.str ∧
    min ql s.vm.seq ≤ s'.vm.seq ∧ min tl s.vm.str ≤ s'.vm.str := by
  have hr := hc.regs
  obtain ⟨h, _⟩ := entry_exit s pre args a evs rl ql tl hhost hc
    (le_frameBase s.vm pre rl hr hw hrl) hql htl hsafe hex
  have hx := h.exit
  simp only [ExitOk, h.base, base_add_nextRegister s.vm hr (by omega), Nat.min_eq_left hrl] at hx
  exact ⟨⟨hx.2.1, hx.1⟩, hx.2.2⟩

/-- a frame with an open `try` has `min_frame_registers ≥ registers.len()-at-entry`, at every state
of the bracket (`SafeUntil` with no claim about builders). True for every real execution: a frame
executes `NewFrame` first, and every frame of the bracket lies above the entry's registers. Needed
for *equality* of `registers.len()` since fix 8f4d2e4 (the catch point resizes the value stack to
`min_frame_registers`); `FrameSafeUntil` implies it. -/
def TrySafe (s : St) (pre args a : Nat) (evs : List Ev) : Prop :=
  SafeUntil ⟨s.vm.regs, s.vm.seq, s.vm.str, 0, 0⟩ s.conts.length evs (enter pre args (.koto a) s)

/-- **entry_clean (registers)**: under the no-wrap hypothesis for the entry's *own* window
(`regs - base + pre < 256`; nothing is assumed about nested entries — their result registers may
wrap, every frame they use still lies above `regs`) and `TrySafe`, the value stack has exactly its
old length when the entry returns: nothing is left behind and nothing of the caller's is cut off,
for every execution and every outcome. (Without `TrySafe`: `entry_no_register_residue`, `≤`.) -/
theorem entry_regs_restored (s : St) (pre args a : Nat) (evs : List Ev)
    (hhost : inLoop s = false) (hc : Consistent s.vm) (hw : s.vm.regs - s.vm.base + pre < 256)
    (htry : TrySafe s pre args a evs)
    (hex : Exited s (runEntry pre args (.koto a) evs s)) :
    (runEntry pre args (.koto a) evs s).vm.regs = s.vm.regs :=
  have h := (entry_bounds s pre args a evs s.vm.regs 0 0 hhost hc hw (Nat.le_refl _) (Nat.zero_le _)
    (Nat.zero_le _) htry hex).1
  Nat.le_antisymm h.2 h.1

/-- **No builder residue** (F-C07-2, repaired by fix 97373d1): whatever the execution does and
however it ends — value, thrown value, runtime error, failed type check, timeout, caught or not,
at any depth of calls, native callbacks, imports, list/tuple literals and interpolations — when the
entry returns the builder stacks hold at most what they held before: the entry's barrier frame
records the builder counts at `push_frame`, and `pop_frame` truncates to them on every exit path.
No hypothesis on the execution. -/
theorem entry_no_builder_residue (s : St) (pre args a : Nat) (evs : List Ev)
    (hhost : inLoop s = false) (hc : Consistent s.vm) (hw : s.vm.regs - s.vm.base + pre < 256)
    (hex : Exited s (runEntry pre args (.koto a) evs s)) :
    (runEntry pre args (.koto a) evs s).vm.seq ≤ s.vm.seq ∧
    (runEntry pre args (.koto a) evs s).vm.str ≤ s.vm.str :=
  let h := (entry_exit s pre args a evs 0 0 0 hhost hc (Nat.zero_le _) (Nat.zero_le _)
    (Nat.zero_le _) (safeUntil_zero _ rfl rfl rfl _ _ _) hex).1.exit
  ⟨h.2.2.1, h.2.2.2.1⟩

/-- **entry_clean**: the *whole* clean-state predicate — registers, call stack, `register_base`,
`min_frame_registers`, sequence builders, string builders, module placeholders — is restored by
every entry through a Koto callee, for every outcome and every execution that does not finish a
list/tuple/string of its caller (`SafeUntil`: no `SequenceToList` / `StringFinish` is executed at
the caller's builder depth — true for all compiled code, whose builder instructions are balanced
within a frame; without this hypothesis `entry_no_builder_residue` still gives `≤`). -/
theorem entry_clean (s : St) (pre args a : Nat) (evs : List Ev)
    (hhost : inLoop s = false) (hc : Consistent s.vm) (hw : s.vm.regs - s.vm.base + pre < 256)
    (hsafe : SafeUntil ⟨s.vm.regs, s.vm.seq, s.vm.str, s.vm.seq, s.vm.str⟩ s.conts.length evs
      (enter pre args (.koto a) s))
    (hex : Exited s (runEntry pre args (.koto a) evs s)) :
    Clean s.vm (runEntry pre args (.koto a) evs s).vm ∧
    (runEntry pre args (.koto a) evs s).conts = s.conts := by
  have hb := entry_bounds s pre args a evs s.vm.regs s.vm.seq s.vm.str hhost hc hw (Nat.le_refl _)
    (Nat.le_refl _) (Nat.le_refl _) hsafe hex
  obtain ⟨⟨h2, h3, h4, h5⟩, h6, _⟩ := entry_clean_frames s pre args a evs hhost hc hex
  simp only [Nat.min_self] at hb
  exact ⟨⟨Nat.le_antisymm hb.1.2 hb.1.1, h2, h3, h4, Nat.le_antisymm hb.2.1 hb.2.2.2.1,
    Nat.le_antisymm hb.2.2.1 hb.2.2.2.2, h5⟩, h6⟩

/-- **entry_clean for verified bytecode**: the same conclusion from the *per-frame* hypothesis
`FrameSafeUntil` — a `SequenceToList` / `StringFinish` is only executed while the current frame has
a builder of its own open. This is the trace-level reading of C05's `wf_sound_balance` (in a chunk
accepted by `wfChunk`, no builder instruction of a frame unit finds the unit's builder stack empty;
C05 counts depths relative to the frame entry, here the absolute depth is the frame's recorded
`builder_counts` plus that relative depth, which `pop_frame`'s truncation keeps true). The remaining
link — that the event trace of an execution of verified chunks satisfies `FrameSafeUntil` — needs the
instruction-level simulation between C05's per-unit abstract VM and this model; it is not proved
here and is the documented hypothesis. -/
theorem entry_clean_wf (s : St) (pre args a : Nat) (evs : List Ev)
    (hhost : inLoop s = false) (hc : Consistent s.vm) (hw : s.vm.regs - s.vm.base + pre < 256)
    (hsafe : FrameSafeUntil s.conts.length evs (enter pre args (.koto a) s))
    (hex : Exited s (runEntry pre args (.koto a) evs s)) :
    Clean s.vm (runEntry pre args (.koto a) evs s).vm ∧
    (runEntry pre args (.koto a) evs s).conts = s.conts := by
  refine entry_clean s pre args a evs hhost hc hw ?_ hex
  obtain ⟨H, h0⟩ := enter_opens s pre args a s.vm.regs s.vm.seq s.vm.str hhost hc
    (le_frameBase s.vm pre _ hc.regs hw (Nat.le_refl _)) (Nat.le_refl _) (Nat.le_refl _)
  exact safeUntil_of_frameSafe H rfl evs _ h0 hsafe

example : FrameSafeUntil 0 [.newFrame 4, .seqStart, .call 2 0, .newFrame 1, .strStart, .strEnd,
    .raise true] (enter 0 0 (.koto 0) init) := by
  simp [FrameSafeUntil, FrameSafeEv, enter, enterWith, step, inLoop, callKoto, pushFrame, modTop,
    nextRegister, init]

/-- Host-level corollary (the shape of C07): on an instance whose bookkeeping is all-zero, a
`run` / `call_function` on a Koto callee, with any execution and any outcome, leaves registers,
frames, base and placeholders all-zero again. -/
theorem toplevel_entry_clean (s : St) (pre args a : Nat) (evs : List Ev)
    (hconts : s.conts = []) (hstack : s.vm.stack = []) (hbase : s.vm.base = 0)
    (hmin : s.vm.minRegs = 0) (hregs : s.vm.regs = 0)
    (hex : Exited s (runEntry pre args (.koto a) evs s)) :
    let s' := runEntry pre args (.koto a) evs s
    s'.vm.regs = 0 ∧ s'.vm.stack = [] ∧ s'.vm.base = 0 ∧ s'.vm.minRegs = 0 ∧
    s'.vm.placeholders = s.vm.placeholders ∧ s'.conts = [] := by
  intro s'
  have hhost : inLoop s = false := by simp [inLoop, hconts]
  have hc : Consistent s.vm := ⟨by simp [hstack, hbase, topBase], by simp [hstack, hmin, topMin],
    by simp [hbase]⟩
  have h := entry_clean_frames s pre args a evs hhost hc hex
  have hr := entry_no_register_residue s pre args a evs hhost hc (by simp [hregs, hbase]) hex
  obtain ⟨⟨h1, h2, h3, h4⟩, h5, _⟩ := h
  have hr' : s'.vm.regs ≤ s.vm.regs := hr
  refine ⟨by omega, by rw [h1, hstack], by rw [h2, hbase], by rw [h3, hmin], h4, by rw [h5, hconts]⟩

example : Exited init (runEntry 0 0 (.koto 0) [.newFrame 4, .tryStart 1 9, .seqStart, .call 2 0,
    .newFrame 2, .raise true, .tryEnd, .ret] init) := by decide

/-- The same for an entry whose callee is a native function, whatever the native does (nested
entries, callbacks that fail, …) and whether it returns Ok or Err: frames, base,
`min_frame_registers` and placeholders are restored. (Registers: see below.) -/
theorem entry_native_frames (s : St) (pre args : Nat) (evs : List Ev)
    (hhost : inLoop s = false) (hc : Consistent s.vm)
    (hex : Exited s (runEntry pre args .native evs s)) :
    let s' := runEntry pre args .native evs s
    CleanFrames s.vm s'.vm ∧ s'.conts = s.conts := by
  let e : Cont :=
    .native (nextRegister { s.vm with regs := s.vm.regs + pre }) (some (nextRegister s.vm, true))
  have h0 : Inside s e ⟨0, 0, 0, 0, 0⟩ (enter pre args .native s).vm [e] :=
    ⟨.host rfl .nil, hc.base, fun _ => rfl, rfl, rfl, Nat.zero_le _, Nat.zero_le _, Nat.zero_le _⟩
  obtain ⟨h, hconts⟩ := (runUntil_bracket ⟨hhost, hc, fun _ => Nat.zero_le _⟩ evs _ (.inside h0)
    (safeUntil_zero _ rfl rfl rfl _ _ _)).exited hex
  exact ⟨⟨h.stack, h.base, h.minRegs, h.ph⟩, hconts⟩

/-! ## `call_and_run_function` on a callee that fails before a frame is pushed
(F-C07-1, repaired by fix 5247d9c: `truncate_registers(result_register)` before the error is
propagated) — and the same early return in `run_*_op` (F-C07-3, repaired by fix d4834c0).
Each of these entries returns the state it found: `enterWith_fail_eq`, `enterWith_native_err_eq`,
`enterWith_native_ok_eq`, `enterDirectChecked_eq` (`Lemmas/C07.lean`). -/

theorem Clean.refl (vm : VM) : Clean vm vm := ⟨rfl, rfl, rfl, rfl, rfl, rfl, rfl⟩

/-- `call_and_run_function` on a native callee that returns `Err` is clean. -/
theorem call_native_err_clean (s : St) (pre args : Nat) (evs : List Ev) (hhost : inLoop s = false)
    (hc : Consistent s.vm) (hw : s.vm.regs - s.vm.base < 256) :
    Clean s.vm (runEntry pre args .native (.nativeRet false :: evs) s).vm ∧
    (runEntry pre args .native (.nativeRet false :: evs) s).conts = s.conts := by
  have h : runEntry pre args .native (.nativeRet false :: evs) s = s := by
    show (if s.conts.length + 1 ≤ s.conts.length then _ else runUntil _ evs _) = s
    rw [if_neg (Nat.not_succ_le_self _), enter, enterWith_native_err_eq s pre args hhost hc.regs hw,
      runUntil_closed _ _ _ (Nat.le_refl _)]
  rw [h]; exact ⟨Clean.refl _, rfl⟩

/-- The same entry when the native callee returns `Ok` is clean. -/
theorem call_native_ok_clean (s : St) (pre args : Nat) (evs : List Ev)
    (hc : Consistent s.vm) (hw : s.vm.regs - s.vm.base + pre < 256) :
    Clean s.vm (runEntry pre args .native (.nativeRet true :: evs) s).vm := by
  have h : runEntry pre args .native (.nativeRet true :: evs) s = s := by
    show (if s.conts.length + 1 ≤ s.conts.length then _ else runUntil _ evs _) = s
    rw [if_neg (Nat.not_succ_le_self _), enter, enterWith_native_ok_eq s pre args hc.regs hw,
      runUntil_closed _ _ _ (Nat.le_refl _)]
  rw [h]; exact Clean.refl _

/-- `call_callable` fails before anything runs (wrong argument count for a Koto function, `@call`
entry that is not callable): clean as well. -/
theorem call_setup_fail_clean (s : St) (pre args : Nat) (evs : List Ev) (hhost : inLoop s = false)
    (hc : Consistent s.vm) (hw : s.vm.regs - s.vm.base < 256) :
    Clean s.vm (runEntry pre args .fail evs s).vm ∧ (runEntry pre args .fail evs s).conts = s.conts := by
  have h : runEntry pre args .fail evs s = s := by
    rw [runEntry, enter, enterWith_fail_eq s pre args hhost hc.regs hw,
      runUntil_closed _ _ _ (Nat.le_refl _)]
  rw [h]; exact ⟨Clean.refl _, rfl⟩

/-- `n` host-initiated calls of a native function that returns `Err`. -/
def failingCalls : Nat → List Ev
  | 0 => []
  | n + 1 => .enter 1 1 .native :: .nativeRet false :: failingCalls n

/-- Any number of failing host-initiated calls leaves the value stack as it was (the regression
statement for F-C07-1: before the fix the residue was `3 * n`). -/
theorem failing_calls_clean (n : Nat) (s : St) (hhost : inLoop s = false)
    (hr : s.vm.base ≤ s.vm.regs) (hw : s.vm.regs - s.vm.base + 9 ≤ 255) :
    (run (failingCalls n) s).vm.regs = s.vm.regs ∧ (run (failingCalls n) s).conts = s.conts ∧
    (run (failingCalls n) s).vm.base = s.vm.base ∧ (run (failingCalls n) s).vm.stack = s.vm.stack := by
  have h : run (failingCalls n) s = s := by
    induction n with
    | zero => rfl
    | succ n ih =>
      have hfit : fitsEnter s.vm 1 = true := by
        simp only [fitsEnter, nextRegisterOk, Bool.and_eq_true, decide_eq_true_eq]; omega
      show run (failingCalls n) (step (.nativeRet false) (enterChecked 1 1 .native s)) = s
      rw [enterChecked, if_pos hfit, enter,
        enterWith_native_err_eq s 1 1 hhost hr (by omega)]
      exact ih
  rw [h]; exact ⟨rfl, rfl, rfl, rfl⟩

example : snapshot (run (failingCalls 5) init).vm = (0, 0, 0, 0, 0) := by decide

/-- `run_*_op` through `call_overridden_op_N` on a native overload that returns `Err` is clean
(F-C07-3 before fix d4834c0: residue `pre + 1 + args`). -/
theorem opcall_native_err_clean (s : St) (pre args : Nat) (hhost : inLoop s = false)
    (hc : Consistent s.vm) (hfit : fitsOp s.vm pre = true) :
    let s' := step (.nativeRet false) (step (.enterOp pre args .native) s)
    Clean s.vm s'.vm ∧ s'.conts = s.conts := by
  have h8 : s.vm.regs - s.vm.base < 256 :=
    nextRegisterOk_window s.vm (Bool.and_eq_true_iff.mp hfit).1
  intro s'
  have h : s' = s := by
    show step (.nativeRet false) (enterOpChecked pre args .native s) = s
    rw [enterOpChecked, if_pos hfit, enterOp, enterWith_native_err_eq s pre args hhost hc.regs h8]
  rw [h]; exact ⟨Clean.refl _, rfl⟩

/-- … and the same when `call_callable` fails before anything runs. -/
theorem opcall_setup_fail_clean (s : St) (pre args : Nat) (hhost : inLoop s = false)
    (hc : Consistent s.vm) :
    let s' := step (.enterOp pre args .fail) s
    Clean s.vm s'.vm ∧ s'.conts = s.conts := by
  intro s'
  have h : s' = s := by
    show enterOpChecked pre args .fail s = s
    unfold enterOpChecked
    split
    · rename_i hfit
      exact enterWith_fail_eq s pre args hhost hc.regs
        (nextRegisterOk_window s.vm (Bool.and_eq_true_iff.mp hfit).1)
    · exact raiseGo_host s hhost true s.vm
  rw [h]; exact ⟨Clean.refl _, rfl⟩

/-- `run_unary_op` / `run_binary_op` / `run_read_op` / `run_write_op` whose operation is performed
natively: clean when it succeeds … -/
theorem op_direct_ok_clean (s : St) (pre : Nat) (hhost : inLoop s = false) (hc : Consistent s.vm) :
    Clean s.vm (step (.enterDirect pre true) s).vm := by
  show Clean s.vm (enterDirectChecked pre true s).vm
  rw [enterDirectChecked_eq s pre true hhost hc.regs]; exact Clean.refl _

/-- … and clean when it fails (F-C07-3 before fix d4834c0: the `pre` operand registers stayed). -/
theorem op_direct_err_clean (s : St) (pre : Nat) (hhost : inLoop s = false)
    (hc : Consistent s.vm) :
    Clean s.vm (step (.enterDirect pre false) s).vm ∧
    (step (.enterDirect pre false) s).conts = s.conts := by
  show Clean s.vm (enterDirectChecked pre false s).vm ∧ (enterDirectChecked pre false s).conts = _
  rw [enterDirectChecked_eq s pre false hhost hc.regs]; exact ⟨Clean.refl _, rfl⟩

/-- Overload case of F-C07-3: `run_binary_op(Add, o, 1)` on a fresh VM where `o`'s `@+` is a Koto
function that throws. The body of `run_binary_op` holds 3 registers and runs the overload in a
nested loop (`call_metamap_arithmetic_op`); on `Err` the barrier frame is popped (no resize) and
the `?` returns with the 3 operand registers and the overload's `NewFrame 4` registers still live;
the wrapper of fix d4834c0 then truncates them (before the fix the snapshot was `(7, 0, 0, 0, 0)`).
When the overload returns normally the same entry is clean. -/
theorem op_arith_overload_err_clean :
    snapshot (run [.enterOp 2 0 .native, .nested 1 1, .newFrame 4, .raise true, .nativeRet false] init).vm
      = (0, 0, 0, 0, 0) ∧
    snapshot (run [.enterOp 2 0 .native, .nested 1 1, .newFrame 4, .ret, .nativeRet true] init).vm
      = (0, 0, 0, 0, 0) := by decide

/-- The inputs of F-C07-1 / F-C07-3 (residue before the fixes 5247d9c / d4834c0): failing native
callee, failing argument setup, failing native overload, failing `run_binary_op` on mismatched
operands. -/
theorem call_native_err_clean_example :
    Clean init.vm (runEntry 1 1 .native [.nativeRet false] init).vm ∧
    Clean init.vm (runEntry 1 1 .fail [] init).vm := by decide

theorem opcall_err_clean_example :
    Clean init.vm (run [.enterOp 2 0 .native, .nativeRet false] init).vm ∧
    Clean init.vm (run [.enterOp 2 0 .fail] init).vm ∧
    Clean init.vm (step (.enterDirect 3 false) init).vm := by decide

/-- `n` failing `run_binary_op` calls on mismatched operands. -/
def failingOps : Nat → List Ev
  | 0 => []
  | n + 1 => .enterDirect 3 false :: failingOps n

/-- Any number of failing operator calls leaves the value stack as it was (regression statement
for F-C07-3: before the fix the residue was `3 * n`, and after 86 calls `next_register()` wrapped). -/
theorem failing_ops_clean (n : Nat) (s : St) (hhost : inLoop s = false)
    (hr : s.vm.base ≤ s.vm.regs) (hw : s.vm.regs - s.vm.base + 8 ≤ 255) :
    (run (failingOps n) s).vm.regs = s.vm.regs ∧ (run (failingOps n) s).conts = s.conts ∧
    (run (failingOps n) s).vm.base = s.vm.base ∧ (run (failingOps n) s).vm.stack = s.vm.stack := by
  have h : run (failingOps n) s = s := by
    induction n with
    | zero => rfl
    | succ n ih =>
      show run (failingOps n) (enterDirectChecked 3 false s) = s
      rw [enterDirectChecked_eq s 3 false hhost hr]
      exact ih
  rw [h]; exact ⟨rfl, rfl, rfl, rfl⟩

/-! ## The register check in front of every entry (fixes b752efa / ea3163c) -/

/-- Why the register check of fix b752efa matters (and why the theorems about the *unchecked*
prologue `runEntry` carry a no-wrap hypothesis): register ids are `u8`. If an entry were started on
a window of 258 live registers without the check, it would take register 2 as its result register,
its frame would alias live registers and its final `truncate_registers` would cut the value stack
to 2. With the check (`enterChecked`) such an entry fails before it pushes anything:
`entry_too_full_is_clean_error`. -/
theorem residue_wraps_register_numbering (s : St) (hconts : s.conts = []) (hstack : s.vm.stack = [])
    (hbase : s.vm.base = 0) (hregs : s.vm.regs = 258) :
    nextRegister s.vm = 2 ∧ (runEntry 1 1 (.koto 1) [.newFrame 3, .ret] s).vm.regs = 2 := by
  refine ⟨by simp [nextRegister, hregs, hbase], ?_⟩
  obtain ⟨vm, conts⟩ := s
  simp only [] at hconts hregs hbase hstack
  subst hconts
  simp [runEntry, runUntil, enter, enterWith, step, inLoop, callKoto, pushFrame, nextRegister, hregs,
    hbase, hstack, modTop, popTo, truncate]

/-- An entry whose register check fails (`next_register()` reports "too many registers are in
use", fixes b752efa / ea3163c) changes nothing and hands the error to its caller. -/
theorem entry_too_full_is_clean_error (s : St) (pre args : Nat) (c : Callee) (evs : List Ev)
    (hhost : inLoop s = false) (hfull : fitsEnter s.vm pre = false) :
    runEntryChecked pre args c evs s = s := by
  simp [runEntryChecked, enterChecked, hfull, raiseGo_host s hhost, runUntil_closed]

/-- When the check passes, the checked entry is the prologue the `entry_*` theorems speak about,
and their no-wrap hypotheses hold (the last term is 0 when `base ≤ regs`). -/
theorem runEntryChecked_eq (s : St) (pre args : Nat) (c : Callee) (evs : List Ev)
    (hfit : fitsEnter s.vm pre = true) :
    runEntryChecked pre args c evs s = runEntry pre args c evs s ∧
    s.vm.regs - s.vm.base + pre + 8 ≤ 255 + (s.vm.base - s.vm.regs) := by
  refine ⟨by simp [runEntryChecked, runEntry, enterChecked, hfit], ?_⟩
  simp [fitsEnter, nextRegisterOk] at hfit
  omega

/-- **entry_clean, unconditional in the register window** (the statement for the code as it is
since fixes b752efa / ea3163c): every `run` / `call_and_run_function` through a Koto callee started
by host or native code on a consistent VM — whatever the size of the register window, whatever the
execution does, however it ends — restores the call stack, `register_base`, `min_frame_registers`,
the module placeholders exactly, leaves no register and no builder behind, and (for executions
in which a frame with an open `try` has run its `NewFrame`, `TrySafe`) restores `registers.len()`
exactly. -/
theorem entry_checked_clean (s : St) (pre args a : Nat) (evs : List Ev)
    (hhost : inLoop s = false) (hc : Consistent s.vm)
    (hex : Exited s (runEntryChecked pre args (.koto a) evs s)) :
    let s' := runEntryChecked pre args (.koto a) evs s
    s'.vm.regs ≤ s.vm.regs ∧ (TrySafe s pre args a evs → s'.vm.regs = s.vm.regs) ∧
    CleanFrames s.vm s'.vm ∧ s'.vm.seq ≤ s.vm.seq ∧ s'.vm.str ≤ s.vm.str ∧
    s'.conts = s.conts := by
  intro s'
  have hr := hc.regs
  by_cases hfit : fitsEnter s.vm pre = true
  · have he := runEntryChecked_eq s pre args (.koto a) evs hfit
    have hw : s.vm.regs - s.vm.base + pre < 256 := by have := he.2; omega
    have hs' : s' = runEntry pre args (.koto a) evs s := he.1
    have hex' : Exited s (runEntry pre args (.koto a) evs s) := by rw [← he.1]; exact hex
    rw [hs']
    have h0 := entry_no_register_residue s pre args a evs hhost hc (by omega) hex'
    have h2 := entry_clean_frames s pre args a evs hhost hc hex'
    have h3 := entry_no_builder_residue s pre args a evs hhost hc hw hex'
    exact ⟨h0, fun htry => entry_regs_restored s pre args a evs hhost hc hw htry hex', h2.1, h3.1,
      h3.2, h2.2.1⟩
  · have hfull : fitsEnter s.vm pre = false := by simpa using hfit
    have : s' = s := entry_too_full_is_clean_error s pre args (.koto a) evs hhost hfull
    rw [this]
    exact ⟨Nat.le_refl _, fun _ => rfl, ⟨rfl, rfl, rfl, rfl⟩, Nat.le_refl _, Nat.le_refl _, rfl⟩

/-! ## F-C07-4 (repaired by fix 20565a0): a `yield` at the top level of a chunk ends the run cleanly -/

/-- `compile_and_run("yield 1")` on a fresh runtime, twice: the run succeeds with the yielded value
and the chunk's frame is popped (before the fix H1 reported `(0, 1, 0, 0, 0)` and `(0, 2, 0, 0, 0)`). -/
theorem run_yield_clean :
    let s1 := yieldAtTop (run [.newFrame 4] (enterChecked 0 0 (.koto 0) init))
    let s2 := yieldAtTop (run [.newFrame 4, .seqStart] (enterChecked 0 0 (.koto 0) s1))
    s1.conts = [] ∧ Clean init.vm s1.vm ∧ snapshot s1.vm = (0, 0, 0, 0, 0) ∧
    Clean init.vm s2.vm := by decide

/-- For the bookkeeping a top-level `Yield` is a `Return` from the chunk's barrier frame, so the
`entry_*` theorems cover it through the event `ret`. -/
theorem yieldAtTop_eq_ret (vm : VM) (f : Frame) (rest : List Frame) (rr : Nat) (cs : List Cont)
    (hs : vm.stack = f :: rest) (hb : f.barrier = true) :
    yieldAtTop ⟨vm, .loop (.truncate rr) :: cs⟩ = step .ret ⟨vm, .loop (.truncate rr) :: cs⟩ :=
  (step_ret_barrier vm (.truncate rr) cs f rest hs hb).symm

/-! ## F-C07-2 (repaired by fix 97373d1): builders are unwound with their frames -/

/-- The inputs of F-C07-2. Uncaught: `f = || throw 'x'` / `[1, f()]` run on a fresh runtime (before
the fix: one sequence builder left). -/
theorem run_builders_clean_uncaught :
    let s' := runEntry 0 0 (.koto 0) [.newFrame 4, .seqStart, .call 2 0, .newFrame 1, .raise true] init
    Exited init s' ∧ Clean init.vm s'.vm ∧ snapshot s'.vm = (0, 0, 0, 0, 0) := by decide

/-- … caught: `try [1, f()] catch e 0` — the catch point recorded the builder counts at `TryStart`. -/
theorem run_builders_clean_caught :
    let s' := runEntry 0 0 (.koto 0)
      [.newFrame 4, .tryStart 1 9, .seqStart, .call 2 0, .newFrame 1, .raise true, .tryEnd, .ret] init
    Exited init s' ∧ Clean init.vm s'.vm ∧ snapshot s'.vm = (0, 0, 0, 0, 0) := by decide

/-- String interpolation, error raised inside a native callback two entries deep, timeout variant
(`raise false` is not catchable by the `try` of the same entry; re-raised by the native it is). -/
theorem run_string_builder_clean :
    let s' := runEntry 0 0 (.koto 0)
      [.newFrame 4, .tryStart 1 9, .strStart, .callNative 3, .enter 1 2 (.koto 2), .newFrame 3,
       .raise false, .nativeRet false, .tryEnd, .strStart, .strEnd, .ret] init
    Exited init s' ∧ Clean init.vm s'.vm ∧ snapshot s'.vm = (0, 0, 0, 0, 0) := by decide

/-- F-C04-4 shape: the callee recovers from an error raised inside its own interpolation while the
caller is building a string: the callee's stale builder is discarded at the catch point, the caller
finishes *its own* builder. -/
theorem nested_string_builders_example :
    let st := run [.newFrame 4, .strStart, .call 2 0, .newFrame 3, .tryStart 1 9, .strStart,
      .call 2 0, .newFrame 1, .raise true] (enter 0 0 (.koto 0) init)
    st.vm.str = 1 ∧ (run [.tryEnd, .ret, .strEnd, .ret] st).vm.str = 0 := by decide

/-- Host-level reading of `entry_clean` (the shape of C07): on an instance whose bookkeeping is
all-zero, every `run` / `call_function` on a Koto callee, with *any* execution and any outcome,
leaves the complete clean-state predicate all-zero again — no hypothesis on the execution is
needed, because with empty builder stacks there is nothing of a caller to pop. -/
theorem toplevel_entry_clean_full (s : St) (pre args a : Nat) (evs : List Ev)
    (hconts : s.conts = []) (hstack : s.vm.stack = []) (hbase : s.vm.base = 0)
    (hmin : s.vm.minRegs = 0) (hregs : s.vm.regs = 0) (hseq : s.vm.seq = 0) (hstr : s.vm.str = 0)
    (hpre : pre < 256)
    (hex : Exited s (runEntry pre args (.koto a) evs s)) :
    Clean s.vm (runEntry pre args (.koto a) evs s).vm := by
  have hhost : inLoop s = false := by simp [inLoop, hconts]
  have hc : Consistent s.vm := ⟨by simp [hstack, hbase, topBase], by simp [hstack, hmin, topMin],
    by simp [hbase]⟩
  have hsafe : SafeUntil ⟨s.vm.regs, s.vm.seq, s.vm.str, s.vm.seq, s.vm.str⟩ s.conts.length evs
      (enter pre args (.koto a) s) := by
    rw [hregs, hseq, hstr]; exact safeUntil_zero _ rfl rfl rfl _ _ _
  exact (entry_clean s pre args a evs hhost hc (by rw [hregs, hbase]; omega) hsafe hex).1

example : Exited init (runEntry 0 0 (.koto 0) [.newFrame 4, .seqStart, .call 2 0, .newFrame 1,
    .strStart, .raise true] init) := by decide

/-! ## Imports -/

/-- **import_rollback**: whatever happens while a module is being imported — including a failure
at any depth — once the importing run has returned, no in-progress placeholder remains (this is
the `placeholders` component of `entry_clean_frames`); concrete non-vacuity: a module that throws
at top level, imported by a script that is run on a fresh runtime. -/
theorem import_rollback_example :
    let s' := runEntry 0 0 (.koto 0)
      [.newFrame 4, .exportVal 1, .importBegin 7, .enter 0 0 (.koto 0), .newFrame 2, .exportVal 2,
       .raise true, .importEnd false] init
    Exited init s' ∧ s'.vm.placeholders = [] ∧ s'.vm.cached = [] ∧ s'.vm.exports = [1] ∧
    snapshot s'.vm = (0, 0, 0, 0, 0) := by decide

/-- A successful import caches the module and restores the importer's exports. -/
theorem import_success_example :
    let s' := runEntry 0 0 (.koto 0)
      [.newFrame 4, .exportVal 1, .importBegin 7, .enter 0 0 (.koto 0), .newFrame 2, .exportVal 2,
       .ret, .importEnd true, .exportVal 3, .ret] init
    Exited init s' ∧ s'.vm.placeholders = [] ∧ s'.vm.cached = [7] ∧ s'.vm.exports = [1, 3] := by
  decide

/-! ## Exports: completed `export` instructions remain, nothing else changes -/

/-- Exports made before an error remain (the positive half of "completed effects remain"):
raising an error — caught or not, through any number of frames and nested entries — never changes
the active exports map. -/
theorem raise_keeps_exports : ∀ (conts : List Cont) (c : Bool) (vm : VM),
    (raiseGo conts c vm).vm.exports = vm.exports :=
  fun conts c vm =>
    let ⟨_, _, _, h⟩ := raiseGo_pops conts c vm
    congrArg Prod.fst h

/-- The exports map of the module at the bottom of a continuation stack: `run_import` swaps the
active exports map (`importing m saved` remembers the importer's), so the exports of the module
below the pending conts `cs` are found by following the `saved` maps. With `cs = []` this is the
active map. -/
def levelExports : List Cont → List Nat → List Nat
  | [], ex => ex
  | .importing _ saved :: cs, _ => levelExports cs saved
  | .loop _ :: cs, ex => levelExports cs ex
  | .native _ _ :: cs, ex => levelExports cs ex

/-- The exports map of the outermost module (what the host sees once everything has returned). -/
def rootExports (st : St) : List Nat := levelExports st.conts st.vm.exports

theorem levelExports_snoc (k : Nat) : ∀ (cs : List Cont) (ex : List Nat),
    levelExports cs (ex ++ [k]) = levelExports cs ex ∨
    levelExports cs (ex ++ [k]) = levelExports cs ex ++ [k] := by
  intro cs
  induction cs with
  | nil => intro ex; exact Or.inr rfl
  | cons c cs ih =>
    intro ex
    cases c with
    | loop x => simpa [levelExports] using ih ex
    | native a b => simpa [levelExports] using ih ex
    | importing m saved => exact Or.inl (by simp [levelExports])

theorem levelExports_append_noImp : ∀ (Z cs : List Cont) (ex : List Nat),
    (∀ z ∈ Z, isImporting z = false) → levelExports (Z ++ cs) ex = levelExports cs ex := by
  intro Z
  induction Z with
  | nil => intro cs ex _; rfl
  | cons z zs ih =>
    intro cs ex h
    have hz := h z List.mem_cons_self
    cases z with
    | loop x => exact ih cs ex (fun w hw => h w (List.mem_cons_of_mem _ hw))
    | native a b => exact ih cs ex (fun w hw => h w (List.mem_cons_of_mem _ hw))
    | importing a b => cases hz

/-- One event changes the outermost module's exports only if it is a completed `export`
instruction of that module, and then by appending its key. In particular no failure — thrown
value, runtime error, timeout, failing import, failing nested entry — removes or adds anything. -/
theorem step_rootExports (ev : Ev) (st : St) :
    rootExports (step ev st) = rootExports st ∨
    ∃ k, ev = .exportVal k ∧ rootExports (step ev st) = rootExports st ++ [k] := by
  have h := step_effect ev st
  generalize step ev st = st' at h ⊢
  cases h with
  | @pop Z cs' vm' hcs hZ hm =>
    left
    have he : vm'.exports = st.vm.exports := congrArg Prod.fst hm
    show levelExports cs' vm'.exports = levelExports st.conts st.vm.exports
    rw [hcs, levelExports_append_noImp Z cs' _ hZ, he]
  | @push k vm' hk hm =>
    left
    have he : vm'.exports = st.vm.exports := congrArg Prod.fst hm
    show levelExports (k :: st.conts) vm'.exports = levelExports st.conts st.vm.exports
    rw [he]
    cases k <;> first | rfl | cases hk
  | @«export» k hev =>
    by_cases hk : k ∈ st.vm.exports
    · left; simp only [rootExports, if_pos hk]
    · simp only [rootExports, if_neg hk]
      cases levelExports_snoc k st.conts st.vm.exports with
      | inl h => exact Or.inl h
      | inr h => exact Or.inr ⟨k, hev, h⟩
  | importBegin _ => exact Or.inl rfl
  | @importEnd ok m saved Z cs' vm' _ hcs hZ hm =>
    left
    have he : vm'.exports = saved := congrArg Prod.fst hm
    show levelExports cs' vm'.exports = levelExports st.conts st.vm.exports
    rw [hcs, he]
    exact (levelExports_append_noImp Z cs' saved fun z hz => isImporting_of_isLoop (hZ z hz)).symm

/-- **exports_effects**. For every execution (any events, any failures, any nesting of imports and
re-entries): the outermost module's exports afterwards are its exports before, in the same order,
followed by keys of `export` instructions that occur in the execution — completed exports remain,
nothing is lost, nothing else appears. -/
theorem exports_effects : ∀ (evs : List Ev) (st : St),
    ∃ added, rootExports (run evs st) = rootExports st ++ added ∧
      ∀ k ∈ added, Ev.exportVal k ∈ evs := by
  intro evs st
  refine List.foldlRecOn evs _ (motive := fun s => ∃ added, rootExports s = rootExports st ++ added ∧
    ∀ k ∈ added, Ev.exportVal k ∈ evs) ⟨[], (List.append_nil _).symm, fun _ h => nomatch h⟩ ?_
  intro s ⟨added, h1, h2⟩ ev hev
  cases step_rootExports ev s with
  | inl h => exact ⟨added, h.trans h1, h2⟩
  | inr h =>
    obtain ⟨k, hk, h⟩ := h
    refine ⟨added ++ [k], by rw [h, h1, List.append_assoc], fun k' hk' => ?_⟩
    cases List.mem_append.mp hk' with
    | inl h' => exact h2 k' h'
    | inr h' => rw [List.mem_singleton.mp h', ← hk]; exact hev

/-- The same for a host entry bracket, which runs a prefix of the events. -/
theorem exports_effects_entry (d : Nat) (evs : List Ev) (st : St) :
    ∃ added, rootExports (runUntil d evs st) = rootExports st ++ added ∧
      ∀ k ∈ added, Ev.exportVal k ∈ evs := by
  obtain ⟨pre, hp, h⟩ := runUntil_eq_run d evs st
  obtain ⟨added, h1, h2⟩ := exports_effects pre st
  exact ⟨added, h ▸ h1, fun k hk => hp.subset (h2 k hk)⟩

/-- Host-level reading: a `run` on an instance with no pending caller, whatever its outcome, ends
with `exports = exports before ++ (keys of export instructions of the execution)`. -/
theorem run_exports_effects (s : St) (evs : List Ev) (hconts : s.conts = [])
    (hex : Exited s (runEntry 0 0 (.koto 0) evs s)) :
    ∃ added, (runEntry 0 0 (.koto 0) evs s).vm.exports = s.vm.exports ++ added ∧
      ∀ k ∈ added, Ev.exportVal k ∈ evs := by
  obtain ⟨added, h1, h2⟩ := exports_effects_entry s.conts.length evs (enter 0 0 (.koto 0) s)
  have h0 : rootExports (enter 0 0 (.koto 0) s) = rootExports s := rfl
  have hfin : (runEntry 0 0 (.koto 0) evs s).conts = [] := by
    have : (runEntry 0 0 (.koto 0) evs s).conts.length ≤ 0 := by
      simpa [Exited, hconts] using hex
    exact List.eq_nil_of_length_eq_zero (by omega)
  refine ⟨added, ?_, h2⟩
  have hl : rootExports (runEntry 0 0 (.koto 0) evs s) = (runEntry 0 0 (.koto 0) evs s).vm.exports := by
    simp [rootExports, hfin, levelExports]
  have hr : rootExports s = s.vm.exports := by simp [rootExports, hconts, levelExports]
  rw [← hl, ← hr, ← h0]
  exact h1

example : (runEntry 0 0 (.koto 0) [.newFrame 4, .exportVal 1, .exportVal 2, .call 2 0, .newFrame 1,
    .raise true, .exportVal 3] init).vm.exports = [1, 2] := by decide

/-! ## Generator VMs: an escaped error finishes the generator -/

/-- **generator_escaped_error_finishes**: in a generator VM (no frame carries an execution
barrier) an error that is not caught inside the generator — thrown value, runtime error, failed
type check, timeout — pops *every* frame: the frame count is 0, `continue_running` will report the
end of the iteration, and no later resumption can continue past the failure point. (If the error is
caught inside the generator the loop simply continues: `conts` is unchanged.) -/
theorem generator_escaped_error_finishes (c : Bool) (vm : VM)
    (hnb : ∀ f ∈ vm.stack, f.barrier = false) :
    (raise c ⟨vm, [.loop .propagate]⟩).conts = [.loop .propagate] ∨
    ((raise c ⟨vm, [.loop .propagate]⟩).conts = [] ∧
     (raise c ⟨vm, [.loop .propagate]⟩).vm.stack = [] ∧
     genFinished (raise c ⟨vm, [.loop .propagate]⟩).vm = true) := by
  simp only [raise, raiseGo_loop]
  have hu : (unwind c vm).2 = none → (unwind c vm).1.stack = [] :=
    unwindGo_no_barrier c vm.stack vm rfl hnb
  rcases hres : unwind c vm with ⟨vm1, _ | cr⟩ <;> rw [hres] at hu
  · right
    have hstk : vm1.stack = [] := hu rfl
    have hx : exitErr .propagate vm1 = vm1 := by simp [exitErr, popFrameD, popFrame, hstk]
    simp only [hx]
    exact ⟨rfl, hstk, by simp [raiseGo, genFinished, hstk]⟩
  · left; rfl

/-- A finished generator stays finished: a later resumption runs nothing, whatever events are
offered. -/
theorem generator_finished_stays (evs : List Ev) (vm : VM) (h : genFinished vm = true) :
    genResume evs vm = ⟨vm, []⟩ := by
  simp [genResume, h]

/-- Non-vacuity: `yield 1; throw …` on its second resumption, two calls deep, with a timeout
variant; afterwards any resumption leaves the VM untouched. -/
theorem generator_example :
    let vm1 := (genResume [.newFrame 3] (genInit 0)).vm                      -- runs to `yield 1`
    let st2 := genResume [.call 2 0, .newFrame 2, .raise true, .newFrame 9] vm1 -- fails
    let st2' := genResume [.call 2 0, .newFrame 2, .raise false] vm1          -- times out
    genFinished vm1 = false ∧ st2.conts = [] ∧ genFinished st2.vm = true ∧
    genFinished st2'.vm = true ∧ genResume [.newFrame 3, .ret] st2.vm = ⟨st2.vm, []⟩ := by
  decide

/-! ## The REPL's own state across failing entries (crates/cli/src/repl.rs) -/

open KotoVerif.Repl in
/-- **repl_entry_resets**: whenever a line is evaluated and its input compiles, the continuation
state afterwards is the initial one — whether the run succeeded or failed, and whatever was
buffered. So a failed entry leaves the REPL exactly where a successful one does: nothing of the
failed entry is kept, nothing is re-run later. -/
theorem repl_entry_resets (s : State) (l : Line) (heval : (s.lines.isEmpty || l.blank) = true)
    (hv : l.verdict = .runOk ∨ l.verdict = .runErr) :
    (onLine s l).lines = [] ∧ (onLine s l).indent = 0 ∧ (onLine s l).runs = s.runs + 1 := by
  rw [onLine_reset s l heval (.inl (by cases hv <;> simp [*])), if_pos hv]
  exact ⟨rfl, rfl, rfl⟩

open KotoVerif.Repl in
theorem repl_failed_run_like_successful (s : State) (l : Line)
    (heval : (s.lines.isEmpty || l.blank) = true) :
    onLine s { l with verdict := .runErr } = onLine s { l with verdict := .runOk } := by
  simp [onLine, nextLines, runsInput, heval]

open KotoVerif.Repl in
/-- a blank line always ends the entry: whatever is buffered and whatever the verdict, the buffer is
empty afterwards -/
theorem repl_blank_line_resets (s : State) (l : Line) (hb : l.blank = true) (hne : s.lines ≠ []) :
    (onLine s l).lines = [] ∧ (onLine s l).indent = 0 := by
  rw [onLine_reset s l (by simp [hb]) (.inr hne)]
  exact ⟨rfl, rfl⟩

open KotoVerif.Repl in
/-- **repl_history_independent**: after an entry that was evaluated with a compiling input (run ok
or failed), every following sequence of lines is processed exactly as in a fresh session (up to
the run counter): the probe entry `x + 41` is evaluated, not swallowed. -/
theorem repl_history_independent (s : State) (l : Line) (rest : List Line)
    (heval : (s.lines.isEmpty || l.blank) = true) (hv : l.verdict = .runOk ∨ l.verdict = .runErr) :
    (session rest (onLine s l)).lines = (session rest {}).lines ∧
    (session rest (onLine s l)).indent = (session rest {}).indent := by
  obtain ⟨h1, h2, _⟩ := repl_entry_resets s l heval hv
  obtain ⟨k1, k2, _⟩ := session_congr rest (onLine s l) {} h1
  exact ⟨k1, k2 (.inl h2)⟩

open KotoVerif.Repl in
/-- Non-vacuity and the seeded regression shape: `if x == 1` / `throw "boom"` / blank, then `x + 41`:
the multi-line entry fails at run time, the REPL is back at the main prompt, the probe is run as its
own input (2 runs in total). If the runtime-error arm skipped the reset (C07-mut8) the probe line
would be pushed onto the failed entry's lines. -/
theorem repl_example :
    let s := session [⟨false, 0, .indentErr, false⟩, ⟨false, 2, .runOk, false⟩, ⟨true, 2, .runErr, false⟩] {}
    atMainPrompt s = true ∧ s.indent = 0 ∧ s.runs = 1 ∧
    (onLine s ⟨false, 0, .runOk, false⟩).runs = 2 ∧
    atMainPrompt (session [⟨false, 0, .indentErr, false⟩] {}) = false := by decide

/-! ## F-C07-7 (repaired by fix 8f4d2e4): the catch point discards what a half-set-up operation left -/

/-- `m + 1` where `m`'s `@+` has the wrong arity, caught, three times in a row in the same frame
(`NewFrame 6`): every failing set-up leaves 2 registers above the frame, every catch resizes the
value stack to exactly `register_base + required_registers` again — the stack does not grow with the
number of iterations (before the fix: 6 + 2·k, and after ~118 iterations `new_frame_base` failed
with "Overflow of the current frame's register stack"). -/
theorem catch_discards_setup_leftovers :
    let s0 := run [.newFrame 6] (enterChecked 0 0 (.koto 0) init)
    let once := [Ev.tryStart 1 9, .opSetupFail 2, .tryEnd]
    let s1 := run once s0
    let s3 := run (once ++ once ++ once) s0
    s0.vm.regs = 6 ∧ (run [.tryStart 1 9, .opSetupFail 2] s0).vm.regs = 6 ∧ s1.vm = s0.vm ∧
    s3.vm = s0.vm := by decide

theorem caught_error_resizes_to_min_frame_registers (c : Bool) : ∀ (fs : List Frame) (vm : VM),
    vm.stack = fs → (∀ f rest, fs = f :: rest → vm.minRegs = f.base + f.required) →
    ∀ cr, (unwindGo c fs vm).2 = some cr →
    (unwindGo c fs vm).1.regs = topMin (unwindGo c fs vm).1.stack := by
  intro fs vm hs hmin cr h
  fun_induction unwindGo c fs vm with
  | case1 => cases h
  | case2 f rest vm => simp only [hs, topMin]; exact hmin f rest rfl
  | case3 => cases h
  | case4 f rest vm _ _ ih =>
    exact ih (popTo_stack f rest vm) (fun g gs hg => by rw [popTo_minRegs, hg]; rfl) h

end KotoVerif.C07
