/-
C17 — global laws of the dispatch decision lists of `Model/Meta.lean`
(bounds on the number of callees per operation, independence of irrelevant state such as the `@base`
chain, absence of right-operand dispatch for comparisons, derived comparisons as exact negations,
Bool-ness of derived / host comparison results, what a compound assignment leaves in the variable,
which key an `InvalidBinaryOp` of arithmetic names).
-/
import KotoVerif.Model.Meta
import KotoVerif.Lemmas.C17

namespace KotoVerif.C17Ext
open KotoVerif.Meta KotoVerif.Gen KotoVerif.C17L

/-- at most two callees: the left operand's entry and, after `unimplemented`, the right operand's -/
theorem arith_calls_at_most_two (op : ArithOp) (lhs rhs : Opd) :
    (arith op lhs rhs).trace.length ≤ 2 := by
  have hl := (opdCall_events op.key op.hm lhs rhs).length_le
  have hr := (opdCall_events op.rkey op.rhm rhs lhs).length_le
  rcases arith_trace op lhs rhs with h | h <;> rw [h]
  · exact Nat.le_succ_of_le hl
  · rw [List.length_append]; exact Nat.add_le_add hl hr

/-- unlike arithmetic (`@r+` …) there is no right-operand fallback for `<` … `!=`: with a built-in
value on the left no callee runs, whatever the right operand defines -/
theorem cmp_prim_lhs_no_dispatch (op : CmpOp) (a : PrimK) (rhs : Opd) :
    (compareOp op (.prim a) rhs).trace = [] := by
  cases op
  case eq | ne => exact equality_prim_trace _ a rhs
  all_goals exact order_prim_trace _ a rhs

/-- at most two callees: `@<`, then `@==` -/
theorem compare_calls_at_most_two (op : CmpOp) (lhs rhs : Opd) :
    (compareOp op lhs rhs).trace.length ≤ 2 := by
  cases lhs with
  | prim a => rw [cmp_prim_lhs_no_dispatch]; exact Nat.zero_le _
  | host h => exact (compareOp_host_within op h rhs).1
  | map m =>
    cases op
    case eq | ne => exact Nat.le_succ_of_le (equality_map_trace_le_one _ m rhs)
    all_goals exact order_map_trace_le_two _ m rhs


/-- operators are not inherited through `@base`: the left operand's chain is never consulted -/
theorem arith_ignores_base_chain (op : ArithOp) (m : MapD) (bs : List Layer) (rhs : Opd) :
    arith op (.map { m with bases := bs }) rhs = arith op (.map m) rhs :=
  arith_lhs_own_entry op _ _ rhs rfl rfl

/-- the same for the right operand: only its identity and its own `@r…` entry matter -/
theorem arith_rhs_depends_only_on_own_entry (op : ArithOp) (lhs : Opd) (m m' : MapD)
    (hn : m.top.name = m'.top.name) (hk : m.metaGet op.rkey = m'.metaGet op.rkey) :
    arith op lhs (.map m) = arith op lhs (.map m') :=
  arith_rhs_own_entry op lhs m m' hn hk

example : ∃ m m' : MapD, m ≠ m' ∧ m.top.name = m'.top.name ∧
    m.metaGet ArithOp.add.key = m'.metaGet ArithOp.add.key ∧ (m.metaGet ArithOp.add.key).isSome :=
  ⟨{ top := { name := 1, src := .own { tag := 3, ops := [(.Add, .fn .unimpl)] } } },
   { top := { name := 1, data := [4], src := .own { tag := 3, ops := [(.Add, .fn .unimpl), (.Size, .nonCallable)] } },
     bases := [{ name := 2 }] }, by decide, by decide, by decide, by decide⟩


def negRes : Res → Res
  | .ok (.bool b) => .ok (.bool (!b))
  | r => r

/-- derived `a > b` runs exactly the callees of derived `a <= b` (same functions, operands and order,
`@==` skipped in the same cases) and yields the negated Bool or the very same error — for every
behaviour of the two entries -/
theorem derived_gt_is_not_le (m : MapD) (rhs : Opd) (lt eq : Name × MV)
    (hlt : m.metaGet .Less = some lt) (heq : m.metaGet .Equal = some eq)
    (hle : m.metaGet .LessOrEqual = none) (hgt : m.metaGet .Greater = none) :
    order .gt (.map m) rhs
      = ⟨(order .le (.map m) rhs).trace, negRes (order .le (.map m) rhs).res⟩ := by
  -- both are `boolOut` of the same two calls; `>` has the answer of `<=` negated (`lessOrEq_neg`)
  simp only [order, CmpOp.key, hlt, heq, hle, hgt, lessThenEqual_eq, lessOrEq_neg]
  generalize lessOrEq false _ _ = c
  obtain ⟨t, _ | _⟩ := c <;> rfl

example : ∃ m : MapD, m.metaGet .Less = some (3, .fn (.ret (.bool false))) ∧
    m.metaGet .Equal = some (3, .fn (.ret (.bool true))) ∧
    m.metaGet .LessOrEqual = none ∧ m.metaGet .Greater = none :=
  ⟨{ top := { name := 1, src := .own { tag := 3, ops := [(.Less, .fn (.ret (.bool false))), (.Equal, .fn (.ret (.bool true)))] } } },
   by decide, by decide, by decide, by decide⟩

/-- derived `a != b` runs exactly the callees of `a == b` and, whenever `a == b` is a Bool, is its
negation (any right operand, `null` included) -/
theorem derived_ne_is_not_eq (m : MapD) (rhs : Opd) (e : Name × MV)
    (heq : m.metaGet .Equal = some e) (hne : m.metaGet .NotEqual = none) :
    (equality true (.map m) rhs).trace = (equality false (.map m) rhs).trace ∧
    ∀ b, (equality false (.map m) rhs).res = .ok (.bool b) →
      (equality true (.map m) rhs).res = .ok (.bool (!b)) := by
  obtain ⟨tag, mv⟩ := e
  by_cases hr : rhs = .prim .null
  · subst hr; simp [equality]
  · rw [equality_map true m rhs hr, equality_map false m rhs hr]
    simp only [heq, hne, if_true, Bool.false_eq_true, if_false, cmpCall, opd_av_map]
    generalize invoke tag .Equal mv m.av [rhs.av] = p
    obtain ⟨t, r⟩ := p
    cases r with
    | ret v => cases v <;> simp [CallRes.pass]
    | _ => simp [CallRes.pass]


example : ∃ m : MapD, m.metaGet .Equal = some (3, .fn (.ret (.bool true))) ∧ m.metaGet .NotEqual = none ∧
    (equality false (.map m) (.prim .num)).res = .ok (.bool true) :=
  ⟨{ top := { name := 1, src := .own { tag := 3, ops := [(.Equal, .fn (.ret (.bool true)))] } } },
   by decide, by decide, by decide⟩

/-- every comparison with a host object on the left yields a Bool or an error, whatever its methods
return and whichever of them are overridden (`hostcmp_spec`) -/
theorem host_compare_is_bool (op : CmpOp) (h : HostD) (rhs : Opd) (v : AV)
    (hv : (compareOp op (.host h) rhs).res = .ok v) : ∃ b, v = .bool b :=
  (compareOp_host_within op h rhs).2 v hv

example : (compareOp .gt (.host { name := 1, impl := [(.less, .ret (.bool false)), (.equal, .ret (.int 3))] })
    (.prim .num)).res = .ok (.bool true) := by decide

/-- when a map lacks the operator's own key, a successful `<=`, `>`, `>=` (derived from `@<`/`@==`)
is a Bool — whereas an own entry's value is passed through unchanged (`cmp_own_key`) -/
theorem derived_order_is_bool (op : CmpOp) (m : MapD) (rhs : Opd) (v : AV)
    (hk : m.metaGet op.key = none) (hv : (order op (.map m) rhs).res = .ok v) : ∃ b, v = .bool b :=
  (order_derived op m rhs hk).2 v hv

example : ∃ m : MapD, m.metaGet CmpOp.ge.key = none ∧
    (order .ge (.map m) (.prim .num)).res = .ok (.bool true) :=
  ⟨{ top := { name := 1, src := .own { tag := 3, ops := [(.Less, .fn (.ret (.bool false)))] } } },
   by decide, by decide⟩


/-- a successful compound assignment leaves the left operand itself in the variable (or is the
built-in Number arm): the callee's value is never used -/
theorem compound_value_is_lhs (op : ArithOp) (lhs rhs : Opd) (same : Bool) (v : AV)
    (hv : (compound op lhs rhs same).res = .ok v) : v = lhs.av ∨ v = .builtin := by
  cases lhs with
  | prim k =>
    rcases compound_prim op k rhs same with e | e <;> rw [e] at hv <;> cases hv
    exact .inr rfl
  | map m =>
    rw [compound_map] at hv
    split at hv
    · exact .inl (keepCall_ok hv)
    · cases hv
  | host h => rw [compound_host] at hv; exact .inl (keepHost_ok hv)

example : (compound .add (.map { top := { name := 1, src := .own { tag := 3, ops := [(.AddAssign, .fn (.ret (.int 9)))] } } })
    (.prim .num) false).res = .ok (.obj 1) := by decide

/-- a compound assignment runs at most one callee besides the `copy` of an aliased host operand (so
there is no second, right-operand stage as in `arith`) -/
theorem compound_calls_bounded (op : ArithOp) (lhs rhs : Opd) (same : Bool) :
    (compound op lhs rhs same).trace.length ≤ (if same then 2 else 1) ∧
    ((compound op lhs rhs same).trace.filter (fun e => e.key != .copy)).length ≤ 1 := by
  have one : ∀ t : List Ev, t.length ≤ 1 →
      t.length ≤ (if same then 2 else 1) ∧ (t.filter (fun e => e.key != .copy)).length ≤ 1 :=
    fun t ht => ⟨by split <;> omega, Nat.le_trans (List.length_filter_le _ _) ht⟩
  cases lhs with
  | prim k => rw [compound_trace_prim]; exact one [] (Nat.zero_le _)
  | map m =>
    rw [compound_trace_map]
    split
    · exact one _ (invoke_events ..).length_le
    · exact one [] (Nat.zero_le _)
  | host h =>
    rw [compound_trace_host]
    have hc := (hostcall_events h op.ahm [(compoundArg rhs same).2]).length_le
    cases rhs with
    | host h2 =>
      cases same
      · exact one _ hc
      · refine ⟨Nat.succ_le_succ hc, ?_⟩
        simp only [compoundArg, List.singleton_append] at hc ⊢
        rw [List.filter_cons_of_neg (by simp)]
        exact Nat.le_trans (List.length_filter_le _ _) hc
    | _ => exact one _ hc

theorem protocol_calls_at_most_one (o : Opd) (i : IdxK) :
    (negate o).trace.length ≤ 1 ∧ (size o).trace.length ≤ 1 ∧ (index o i).trace.length ≤ 1 ∧
    (indexAssign o i).trace.length ≤ 1 ∧ (callOp o).trace.length ≤ 1 := by
  cases o with
  | prim k => cases k <;> cases i <;> exact ⟨Nat.zero_le _, Nat.zero_le _, Nat.zero_le _, Nat.zero_le _, Nat.zero_le _⟩
  | map m =>
    have hi := fun tag key mv args => (invoke_events tag key mv m.av args).length_le
    simp only [negate, size, index, indexAssign, callOp]
    refine ⟨?_, ?_, ?_, ?_, ?_⟩ <;> (repeat' split)
    all_goals first
      | exact Nat.zero_le _
      | exact hi ..
      | (rename_i hc; exact (congrArg (fun c => c.1.length ≤ 1) hc).mp (hi ..))
  | host h =>
    have hh := fun m a => (hostcall_events h m a).length_le
    simp only [negate, size, index, indexAssign, callOp]
    refine ⟨?_, ?_, ?_, ?_, ?_⟩ <;> (repeat' split)
    all_goals first
      | exact Nat.zero_le _
      | exact Nat.le_refl 1
      | exact hh ..
      | (rename_i hc; exact (congrArg (fun c => c.1.length ≤ 1) hc).mp (hh ..))


def negHost : HostRes → HostRes
  | .ok (.bool b) => .ok (.bool (!b))
  | r => r

/-- the trait defaults: `a >= b` (`a != b`) runs exactly the callees of `a < b` (`a == b`) and yields
the negated Bool or the same error — whether or not `less` / `equal` themselves are implemented,
and whatever they return -/
theorem host_default_ge_ne_negate (h : HostD) (a : AV) :
    (h.impl.lookup .greaterOrEqual = none →
      h.cmp .greaterOrEqual a = ((h.cmp .less a).1, negHost (h.cmp .less a).2)) ∧
    (h.impl.lookup .notEqual = none →
      h.cmp .notEqual a = ((h.cmp .equal a).1, negHost (h.cmp .equal a).2)) := by
  constructor <;> intro hn <;>
    simp only [HostD.cmp, hn, HostD.greaterOrEqualDefault, HostD.notEqualDefault, HostD.call]
  · cases hl : h.impl.lookup .less with
    | none => simp [negHost]
    | some b => cases hb : b.hostRes h.av <;> simp [negHost, hb]
  · cases hl : h.impl.lookup .equal with
    | none => simp [negHost]
    | some b => cases hb : b.hostRes h.av <;> simp [negHost, hb]

/-- the trait defaults: `a > b` runs exactly the callees of `a <= b` and yields the negated Bool or
the same error -/
theorem host_default_gt_is_not_le (h : HostD) (a : AV)
    (hg : h.impl.lookup .greater = none) (hle : h.impl.lookup .lessOrEqual = none) :
    h.cmp .greater a = ((h.cmp .lessOrEqual a).1, negHost (h.cmp .lessOrEqual a).2) := by
  simp only [HostD.cmp, hg, hle, HostD.greaterDefault, HostD.lessOrEqualDefault, HostD.call]
  cases hl : h.impl.lookup .less with
  | none => simp [negHost]
  | some b =>
    cases hb : b.hostRes h.av with
    | ok v =>
      cases htv : truthy v with
      | true => simp [negHost, htv, hb]
      | false =>
        cases he : h.impl.lookup .equal with
        | none => simp [negHost, htv, hb]
        | some b2 => cases hb2 : b2.hostRes h.av <;> simp [negHost, htv, hb, hb2]
    | unimpl => simp [negHost, hb]
    | err => simp [negHost, hb]

example : ∃ h : HostD, h.impl.lookup .greater = none ∧ h.impl.lookup .lessOrEqual = none ∧
    h.impl.lookup .greaterOrEqual = none ∧ h.impl.lookup .notEqual = none ∧
    (h.cmp .lessOrEqual (.int 1)).2 = .ok (.bool true) :=
  ⟨{ name := 1, impl := [(.less, .ret (.bool false)), (.equal, .ret (.bool true))] },
   by decide, by decide, by decide, by decide, by decide⟩

/-- an `InvalidBinaryOp` error of `a op b` names the operator itself or — only when the right operand
is a host object — its `r`-form; never a compound-assignment key or another operator -/
theorem arith_error_key (op : ArithOp) (lhs rhs : Opd) (k : MKey)
    (he : (arith op lhs rhs).res = .err (.binop k)) :
    k = op.key ∨ (k = op.rkey ∧ ∃ h2, rhs = .host h2) := by
  have hD : (rhsDirect op lhs rhs).res = .err (.binop k) →
      k = op.key ∨ (k = op.rkey ∧ ∃ h2, rhs = .host h2) := fun h => by
    rcases rhsDirect_eq op lhs rhs with e | ⟨e, _⟩ <;> rw [e] at h
    · exact rhsAfterUnimpl_binop op lhs rhs [] k h
    · cases h
  unfold arith at he
  split at he
  -- two built-in values
  · split at he <;> cases he
    exact .inl rfl
  -- a map on the left: its entry answered (never with this error), said "unimplemented", or is absent
  · split at he
    · split at he
      · exact rhsAfterUnimpl_binop _ _ _ _ _ he
      · exact absurd he (pass_ne_binop _ _)
    · exact hD he
  -- a host object on the left
  · split at he
    · cases he
    · exact rhsAfterUnimpl_binop _ _ _ _ _ he
    · cases he
  · exact hD he

example : (arith .sub (.prim .num) (.host { name := 1 })).res = .err (.binop ArithOp.sub.rkey) := by decide


end KotoVerif.C17Ext
