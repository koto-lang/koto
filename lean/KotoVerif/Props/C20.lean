/-
C20 — data interchange round-trips: property theorems about `Model/Serde.lean`.

All theorems hold for every value tree / every type description (structural induction, no bound on
nesting or width) and for every instance of the external facts `Ext` (float text, float casts).
`none` = the real function returns `Err`.
-/
import KotoVerif.Model.Serde
import KotoVerif.Lemmas.C20

namespace KotoVerif.C20
open KotoVerif KotoVerif.Serde

/-- an `Ext` for the non-vacuity examples (no float keys / float casts occur in them) -/
def X0 : Ext :=
  { fmtFloat := fun _ => [], widen := fun b => b.toUInt64, narrow := fun b => b.toUInt32,
    f2i := fun _ => 0, f2iOk := fun _ => true, big2f := fun _ => 0, i2f := fun _ => 0, i2f32 := fun _ => 0 }

/-! ## Koto value → serde data model → Koto value -/

mutual
/-- `serialize.rs` succeeds exactly on the serializable trees (no range in a value position). -/
theorem ser_isSome (X : Ext) : ∀ v : Val, (ser X v).isSome = serializable v
  | .null | .bool _ | .num (.i _) | .num (.f _) | .str _ | .range _ _ => rfl
  | .list xs | .tuple xs => Option.isSome_map.trans (serL_isSome X xs)
  | .map es => Option.isSome_map.trans (serE_isSome X es)
theorem serL_isSome (X : Ext) : ∀ xs : List Val, (serL X xs).isSome = serializableL xs
  | [] => rfl
  | x :: xs => by
    simp only [serL_cons_isSome, ser_isSome X x, serL_isSome X xs, serializableL]
theorem serE_isSome (X : Ext) : ∀ es : List (Val × Val), (serE X es).isSome = serializableE es
  | [] => rfl
  | (k, v) :: es => by
    simp only [serE_cons_isSome, ser_isSome X v, serE_isSome X es, serializableE]
end

mutual
/-- Core of `de_ser`: whatever `serialize.rs` emits, `KValueVisitor` rebuilds as the normal form. -/
theorem de_of_ser (X : Ext) : ∀ (v : Val) (s : SVal), ser X v = some s → de s = some (norm X v)
  | .null, s, h | .bool _, s, h | .num (.i _), s, h | .num (.f _), s, h | .str _, s, h => by cases h; rfl
  | .range _ _, s, h => by cases h
  | .list xs, s, h | .tuple xs, s, h => by
    obtain ⟨ss, h1, rfl⟩ := Option.map_eq_some_iff.mp (show (serL X xs).map SVal.seq = some s from h)
    show (deL ss).map Val.tuple = _
    rw [deL_of_serL X xs ss h1]
    rfl
  | .map es, s, h => by
    obtain ⟨ss, h1, rfl⟩ := Option.map_eq_some_iff.mp (show (serE X es).map SVal.map = some s from h)
    show (deE ss).map (fun kvs => Val.map (buildMap kvs)) = _
    rw [deE_of_serE X es ss h1]
    rfl
theorem deL_of_serL (X : Ext) : ∀ (xs : List Val) (ss : List SVal), serL X xs = some ss → deL ss = some (normL X xs)
  | [], ss, h => by cases h; rfl
  | x :: xs, ss, h => by
    obtain ⟨_, _, h1, h2, rfl⟩ := (serL_cons_some _ _ _ _).1 h
    exact (deL_cons_some _ _ _).2 ⟨_, _, de_of_ser X x _ h1, deL_of_serL X xs _ h2, rfl⟩
theorem deE_of_serE (X : Ext) : ∀ (es : List (Val × Val)) (ss : List (SVal × SVal)),
    serE X es = some ss → deE ss = some (normE X es)
  | [], ss, h => by cases h; rfl
  | (k, v) :: es, ss, h => by
    obtain ⟨_, _, h1, h2, rfl⟩ := (serE_cons_some _ _ _ _ _).1 h
    exact (deE_cons_some _ _ _ _).2
      ⟨_, _, _, rfl, de_of_ser X v _ h1, deE_of_serE X es _ h2, rfl, rfl⟩
end

theorem serW_of_le (X : Ext) (v : Val) (h : depth v ≤ writerDepthLimit) : serW X v = ser X v :=
  if_pos h

theorem serW_eq_some (X : Ext) (v : Val) (s : SVal) (h : serW X v = some s) :
    depth v ≤ writerDepthLimit ∧ ser X v = some s :=
  Option.ite_none_right_eq_some.1 h

/-- `serialize.rs` succeeds exactly on the serializable trees nested at most 127 levels deep -/
theorem serW_isSome (X : Ext) (v : Val) :
    (serW X v).isSome = (serializable v && decide (depth v ≤ writerDepthLimit)) := by
  unfold serW
  split <;> simp_all [ser_isSome]

/-- deeper than the writer's limit is an explicit error (not a stack overflow, not a truncation) -/
theorem serW_too_deep_is_error (X : Ext) (v : Val) (h : writerDepthLimit < depth v) : serW X v = none :=
  if_neg (Nat.not_le.mpr h)

/-- **de_ser**: every serializable value tree (nested at most 127 levels, the writer's limit),
serialized by `serialize.rs` and deserialized by `KValueVisitor`, is the documented normal form of
the tree (lists → tuples, keys → strings). -/
theorem de_ser (X : Ext) (v : Val) (h : serializable v = true) (hd : depth v ≤ writerDepthLimit) :
    (serW X v).bind de = some (norm X v) := by
  rw [serW_of_le X v hd]
  obtain ⟨s, hs⟩ := Option.isSome_iff_exists.mp ((ser_isSome X v).trans h)
  simp [hs, de_of_ser X v s hs]

example : depth (.map [(.num (.i 1), .list [.null, .str [97]]), (.bool true, .num (.i (-5)))]) ≤ writerDepthLimit := by decide
example : serializable (.map [(.num (.i 1), .list [.null, .str [97]]), (.bool true, .num (.i (-5)))]) = true := by decide
example :
    (serW X0 (.map [(.num (.i 1), .list [.null, .str [97]]), (.str [49], .num (.i (-5)))])).bind de
      = some (.map [(.str [49], .num (.i (-5)))]) := by decide

/-- an unserializable tree is rejected (the `other => Err(…)` arm), it is not silently altered -/
theorem ser_error (X : Ext) (v : Val) (h : serializable v = false) : ser X v = none := by
  rw [← Option.not_isSome_iff_eq_none, ser_isSome, h]
  exact Bool.false_ne_true

example : serializable (.tuple [.range (some 0) (some (3, false))]) = false := by decide

/-- **norm_idem**: the normal form is a fixed point of normalisation. -/
theorem norm_idem (X : Ext) : ∀ v : Val, norm X (norm X v) = norm X v := by
  intro v
  induction v using Val.ind with
  | null | bool _ | num _ | str _ | range _ _ => rfl
  | list xs ih | tuple xs ih =>
    show Val.tuple (normL X (normL X xs)) = .tuple (normL X xs)
    rw [normL_eq, normL_eq, List.map_map]
    exact congrArg Val.tuple (List.map_congr_left ih)
  | map es ih =>
    -- the entries of the normalised map have string keys and normalised values: `normE` fixes them
    show Val.map (buildMap (normE X (buildMap (normE X es)))) = .map (buildMap (normE X es))
    rw [normE_fix X _ (norm_map_entries X (fun w => norm X w = w) es ih), buildMap_idem]

theorem normL_idem (X : Ext) : ∀ xs : List Val, normL X (normL X xs) = normL X xs :=
  fun xs => Val.tuple.inj (norm_idem X (.tuple xs))

example : norm X0 (.list [.map [(.num (.i 7), .list [])]]) = .tuple [.map [(.str [55], .tuple [])]] := by decide

theorem serializable_norm (X : Ext) (v : Val) : serializable v = true → serializable (norm X v) = true := by
  induction v using Val.ind with
  | null | bool _ | num _ | str _ | range _ _ => exact id
  | list xs ih | tuple xs ih =>
    exact fun h => (serializableL_iff _).2
      ((forall_mem_normL X).2 fun x hx => ih x hx ((serializableL_iff xs).1 h x hx))
  | map es ih =>
    exact fun h => (serializableE_iff _).2 fun e he =>
      (norm_map_entries X (serializable · = true) es
        (fun e he => ih e he ((serializableE_iff es).1 h e he)) e he).2

theorem serializableL_norm (X : Ext) : ∀ xs : List Val, serializableL xs = true → serializableL (normL X xs) = true :=
  fun xs => serializable_norm X (.tuple xs)

theorem serializableE_norm (X : Ext) : ∀ es : List (Val × Val), serializableE es = true →
    ∀ e ∈ normE X es, serializable e.2 = true := by
  intro es h e he
  obtain ⟨e0, h0, rfl⟩ := normE_mem X es e he
  exact serializable_norm X _ ((serializableE_iff es).1 h e0 h0)

/-- If the first trip stays within a reader's nesting limit, so does the second. -/
theorem depth_norm_le (X : Ext) : ∀ v : Val, depth (norm X v) ≤ depth v := by
  intro v
  induction v using Val.ind with
  | null | bool _ | num _ | str _ | range _ _ => exact Nat.le_refl _
  | list xs ih | tuple xs ih =>
    exact Nat.succ_le_succ ((depthL_le_iff _ _).2 ((forall_mem_normL X).2 fun x hx =>
      Nat.le_trans (ih x hx) (depth_le_depthL hx)))
  | map es ih =>
    exact Nat.succ_le_succ ((depthE_le_iff _ _).2 fun e he =>
      (norm_map_entries X (depth · ≤ depthE es) es
        (fun e he => Nat.le_trans (ih e he) (depth_le_depthE he)) e he).2)

theorem depthL_norm_le (X : Ext) : ∀ xs : List Val, depthL (normL X xs) ≤ depthL xs :=
  fun xs => Nat.le_of_succ_le_succ (depth_norm_le X (.tuple xs))

theorem depthE_norm_le (X : Ext) : ∀ es : List (Val × Val), ∀ e ∈ normE X es, depth e.2 ≤ depthE es := by
  intro es e he
  obtain ⟨e0, h0, rfl⟩ := normE_mem X es e he
  exact Nat.le_trans (depth_norm_le X _) (depth_le_depthE h0)

example : depth (.list [.map [(.str [97], .tuple [.null])], .num (.i 1)]) = 3 := by decide

/-- **second_trip_id**: a second round trip (of the result of the first) is the identity; it is
defined whenever the first is, because the normal form is never deeper than the value. -/
theorem second_trip_id (X : Ext) (v : Val) (h : serializable v = true) (hd : depth v ≤ writerDepthLimit) :
    (serW X (norm X v)).bind de = some (norm X v) := by
  rw [de_ser X (norm X v) (serializable_norm X v h) (Nat.le_trans (depth_norm_le X v) hd), norm_idem]

example : (serW X0 (norm X0 (.list [.map [(.num (.i 7), .list [])]]))).bind de
    = some (norm X0 (.list [.map [(.num (.i 7), .list [])]])) := by decide

theorem norm_strKeys (X : Ext) : ∀ v : Val, strKeys (norm X v) = true := by
  intro v
  induction v using Val.ind with
  | null | bool _ | num _ | str _ | range _ _ => rfl
  | list xs ih | tuple xs ih => exact (strKeysL_iff _).2 ((forall_mem_normL X).2 ih)
  | map es ih => exact (strKeysE_iff _).2 (norm_map_entries X (strKeys · = true) es ih)

theorem normL_strKeys (X : Ext) : ∀ xs : List Val, strKeysL (normL X xs) = true :=
  fun xs => norm_strKeys X (.tuple xs)

theorem normE_strKeys (X : Ext) : ∀ es : List (Val × Val),
    ∀ e ∈ normE X es, (∃ s, e.1 = .str s) ∧ strKeys e.2 = true := by
  intro es e he
  obtain ⟨e0, _, rfl⟩ := normE_mem X es e he
  exact ⟨⟨_, rfl⟩, norm_strKeys X _⟩

/-! ## Per-format side conditions (contracts of the text layers at the data-model interface) -/

mutual
theorem tomlNoUnit_ser (X : Ext) : ∀ (v : Val) (s : SVal), ser X v = some s → tomlNoUnit s = noNull v
  | .null, s, h | .bool _, s, h | .num (.i _), s, h | .num (.f _), s, h | .str _, s, h => by cases h; rfl
  | .range _ _, s, h => by cases h
  | .list xs, s, h | .tuple xs, s, h => by
    obtain ⟨ss, h1, rfl⟩ := Option.map_eq_some_iff.mp (show (serL X xs).map SVal.seq = some s from h)
    exact tomlNoUnitL_ser X xs ss h1
  | .map es, s, h => by
    obtain ⟨ss, h1, rfl⟩ := Option.map_eq_some_iff.mp (show (serE X es).map SVal.map = some s from h)
    exact tomlNoUnitE_ser X es ss h1
theorem tomlNoUnitL_ser (X : Ext) : ∀ (xs : List Val) (ss : List SVal), serL X xs = some ss → tomlNoUnitL ss = noNullL xs
  | [], ss, h => by cases h; rfl
  | x :: xs, ss, h => by
    obtain ⟨_, _, h1, h2, rfl⟩ := (serL_cons_some _ _ _ _).1 h
    show (tomlNoUnit _ && tomlNoUnitL _) = (noNull x && noNullL xs)
    rw [tomlNoUnit_ser X x _ h1, tomlNoUnitL_ser X xs _ h2]
theorem tomlNoUnitE_ser (X : Ext) : ∀ (es : List (Val × Val)) (ss : List (SVal × SVal)),
    serE X es = some ss → tomlNoUnitE ss = noNullE es
  | [], ss, h => by cases h; rfl
  | (k, v) :: es, ss, h => by
    obtain ⟨_, _, h1, h2, rfl⟩ := (serE_cons_some _ _ _ _ _).1 h
    show (tomlNoUnit _ && tomlNoUnitE _) = (noNull v && noNullE es)
    rw [tomlNoUnit_ser X v _ h1, tomlNoUnitE_ser X es _ h2]
end

/-- The TOML layer accepts what `serialize.rs` emits exactly for maps without null. -/
theorem toml_accepts_iff (X : Ext) (v : Val) (s : SVal) (h : ser X v = some s) :
    tomlAccepts s = (isMap v && noNull v) := by
  cases v with
  | map es =>
    simp only [ser, Option.map_eq_some_iff] at h
    obtain ⟨ss, h1, rfl⟩ := h
    simp [tomlAccepts, isMap, noNull, tomlNoUnitE_ser X es ss h1]
  | list xs | tuple xs =>
    simp only [ser, Option.map_eq_some_iff] at h
    obtain ⟨ss, _, rfl⟩ := h
    simp [tomlAccepts, isMap]
  | num n => cases n <;> (simp [ser] at h; subst h; simp [tomlAccepts, isMap])
  | range a b => simp [ser] at h
  | null | bool b | str b => simp [ser] at h; subst h; simp [tomlAccepts, isMap]

/-- **toml_top_map**: TOML needs a map at the top. -/
theorem toml_top_map (X : Ext) (v : Val) (s : SVal) (h : ser X v = some s) (ha : tomlAccepts s = true) :
    isMap v = true := by
  rw [toml_accepts_iff X v s h, Bool.and_eq_true] at ha
  exact ha.1

/-- **toml_no_null**: TOML has no null, at any depth. -/
theorem toml_no_null (X : Ext) (v : Val) (s : SVal) (h : ser X v = some s) (ha : tomlAccepts s = true) :
    noNull v = true := by
  rw [toml_accepts_iff X v s h, Bool.and_eq_true] at ha
  exact ha.2

example : (ser X0 (.map [(.str [97], .tuple [.num (.i 1)])])).map tomlAccepts = some true := by decide
example : (ser X0 (.map [(.str [97], .tuple [.null])])).map tomlAccepts = some false := by decide
example : (ser X0 (.tuple [.num (.i 1)])).map tomlAccepts = some false := by decide

theorem noNull_norm (X : Ext) (v : Val) : noNull v = true → noNull (norm X v) = true := by
  induction v using Val.ind with
  | null | bool _ | num _ | str _ | range _ _ => exact id
  | list xs ih | tuple xs ih =>
    exact fun h => (noNullL_iff _).2
      ((forall_mem_normL X).2 fun x hx => ih x hx ((noNullL_iff xs).1 h x hx))
  | map es ih =>
    exact fun h => (noNullE_iff _).2 fun e he =>
      (norm_map_entries X (noNull · = true) es (fun e he => ih e he ((noNullE_iff es).1 h e he)) e he).2

theorem noNullL_norm (X : Ext) : ∀ xs : List Val, noNullL xs = true → noNullL (normL X xs) = true :=
  fun xs => noNull_norm X (.tuple xs)

theorem noNullE_norm (X : Ext) : ∀ es : List (Val × Val), noNullE es = true →
    ∀ e ∈ normE X es, noNull e.2 = true := by
  intro es h e he
  obtain ⟨e0, h0, rfl⟩ := normE_mem X es e he
  exact noNull_norm X _ ((noNullE_iff es).1 h e0 h0)

/-- The result of a TOML round trip is again a TOML-compatible value, so the second trip is defined. -/
theorem toml_result_compatible (X : Ext) (v : Val) (hm : isMap v = true) (hn : noNull v = true) :
    isMap (norm X v) = true ∧ noNull (norm X v) = true := by
  refine ⟨?_, noNull_norm X v hn⟩
  cases v <;> simp_all [isMap, norm]

example : isMap (.map [(.str [116], .map [(.num (.i 1), .list [])])]) = true ∧
    noNull (.map [(.str [116], .map [(.num (.i 1), .list [])])]) = true ∧
    norm X0 (.map [(.str [116], .map [(.num (.i 1), .list [])])]) = .map [(.str [116], .map [(.str [49], .tuple [])])] := by decide

mutual
theorem jsonLayer_ser (X : Ext) : ∀ (v : Val) (s : SVal), ser X v = some s → allFinite v = true → jsonLayer s = s
  | .null, s, h, _ | .bool _, s, h, _ | .num (.i _), s, h, _ | .str _, s, h, _ => by cases h; rfl
  | .num (.f b), s, h, hf => by
    cases h
    show (if finiteBits b = true then SVal.f64 b else SVal.unit) = _
    rw [if_pos (show finiteBits b = true from hf)]
  | .range _ _, s, h, _ => by cases h
  | .list xs, s, h, hf | .tuple xs, s, h, hf => by
    obtain ⟨ss, h1, rfl⟩ := Option.map_eq_some_iff.mp (show (serL X xs).map SVal.seq = some s from h)
    show SVal.seq (jsonLayerL ss) = _
    rw [jsonLayerL_ser X xs ss h1 hf]
  | .map es, s, h, hf => by
    obtain ⟨ss, h1, rfl⟩ := Option.map_eq_some_iff.mp (show (serE X es).map SVal.map = some s from h)
    show SVal.map (jsonLayerE ss) = _
    rw [jsonLayerE_ser X es ss h1 hf]
theorem jsonLayerL_ser (X : Ext) : ∀ (xs : List Val) (ss : List SVal), serL X xs = some ss →
    allFiniteL xs = true → jsonLayerL ss = ss
  | [], ss, h, _ => by cases h; rfl
  | x :: xs, ss, h, hf => by
    obtain ⟨_, _, h1, h2, rfl⟩ := (serL_cons_some _ _ _ _).1 h
    have hf' : (allFinite x && allFiniteL xs) = true := hf
    rw [Bool.and_eq_true] at hf'
    show jsonLayer _ :: jsonLayerL _ = _
    rw [jsonLayer_ser X x _ h1 hf'.1, jsonLayerL_ser X xs _ h2 hf'.2]
theorem jsonLayerE_ser (X : Ext) : ∀ (es : List (Val × Val)) (ss : List (SVal × SVal)), serE X es = some ss →
    allFiniteE es = true → jsonLayerE ss = ss
  | [], ss, h, _ => by cases h; rfl
  | (k, v) :: es, ss, h, hf => by
    obtain ⟨_, _, h1, h2, rfl⟩ := (serE_cons_some _ _ _ _ _).1 h
    have hf' : (allFinite v && allFiniteE es) = true := hf
    rw [Bool.and_eq_true] at hf'
    show (_, jsonLayer _) :: jsonLayerE _ = _
    rw [jsonLayer_ser X v _ h1 hf'.1, jsonLayerE_ser X es _ h2 hf'.2]
end

/-- **json_finite**: with finite floats only, JSON's "non-finite → null" contract changes nothing,
so the JSON round trip is `norm` as well. -/
theorem json_finite (X : Ext) (v : Val) (h : serializable v = true) (hd : depth v ≤ writerDepthLimit)
    (hf : allFinite v = true) :
    ((serW X v).map jsonLayer).bind de = some (norm X v) := by
  rw [serW_of_le X v hd]
  obtain ⟨s, hs⟩ := Option.isSome_iff_exists.mp ((ser_isSome X v).trans h)
  simp [hs, jsonLayer_ser X v s hs hf, de_of_ser X v s hs]

example : serializable (.list [.num (.f 0x3ff8000000000000), .map [(.str [97], .num (.f 0x8000000000000000))]]) = true ∧
    allFinite (.list [.num (.f 0x3ff8000000000000), .map [(.str [97], .num (.f 0x8000000000000000))]]) = true := by decide

/-- outside the envelope ("finite floats") JSON really loses the value: +∞ comes back as null -/
theorem json_non_finite_witness :
    ((ser X0 (.num (.f 0x7ff0000000000000))).map jsonLayer).bind de = some .null ∧
    norm X0 (.num (.f 0x7ff0000000000000)) ≠ .null := by decide

/-! ## Out-of-range input is an error (the functions are total: no other outcome exists) -/

/-- **out_of_range_is_error** (deserialize.rs): an integer beyond `i64` handed over by a format
(`u64` > i64::MAX, `i128`, `u128`) is an error — never a wrapped or truncated number. -/
theorem out_of_range_is_error :
    (∀ n : Nat, i64Max < (n : Int) → de (.u64 n) = none) ∧
    (∀ n : Int, (n < i64Min ∨ i64Max < n) → de (.i128 n) = none) ∧
    (∀ n : Nat, i64Max < (n : Int) → de (.u128 n) = none) := by
  refine ⟨fun n h => ?_, fun n h => ?_, fun n h => ?_⟩
  · simp [de, ofI_none _ (Or.inr h)]
  · simp [de, ofI_none _ h]
  · simp [de, ofI_none _ (Or.inr h)]

example : de (.u64 18446744073709551615) = none := by decide
example : de (.u64 9223372036854775807) = some (.num (.i 9223372036854775807)) := by decide

theorem in_range_is_exact (n : Nat) (h : (n : Int) ≤ i64Max) :
    ∃ a : Int64, de (.u64 n) = some (.num (.i a)) ∧ a.toInt = n := by
  have := ofI_some (n : Int) (by simp [i64Min]) h
  simpa [de] using this

mutual
/-- the error is not lost in a container: if any integer inside is out of range, the whole
deserialization fails -/
theorem de_isSome_inRange : ∀ s : SVal, (de s).isSome = true → intsInRange s = true
  | .unit, _ | .none, _ | .bool _, _ | .i64 _, _ | .f64 _, _ | .char _, _ | .str _, _ | .bytes _, _ => rfl
  | .u64 n, h | .i128 n, h | .u128 n, h => by
    show inI64 _ = true
    rw [← ofI_isSome]
    exact h
  | .some v, h | .newtype v, h => de_isSome_inRange v h
  | .seq xs, h => deL_isSome_inRange xs (Option.isSome_map.symm.trans h)
  | .map es, h => deE_isSome_inRange es (Option.isSome_map.symm.trans h)
  | .enum a b, h => by
    simp only [de] at h
    cases h1 : de a <;> cases h2 : de b <;> simp [h1, h2] at h
    have ha := de_isSome_inRange a (by simp [h1])
    have hb := de_isSome_inRange b (by simp [h2])
    simp [intsInRange, ha, hb]
theorem deL_isSome_inRange : ∀ xs : List SVal, (deL xs).isSome = true → intsInRangeL xs = true
  | [], _ => rfl
  | x :: xs, h => by
    rw [deL_cons_isSome, Bool.and_eq_true] at h
    show (intsInRange x && intsInRangeL xs) = true
    rw [de_isSome_inRange x h.1, deL_isSome_inRange xs h.2]
    rfl
theorem deE_isSome_inRange : ∀ es : List (SVal × SVal), (deE es).isSome = true → intsInRangeE es = true
  | [], _ => rfl
  | (k, v) :: es, h => by
    rw [deE_cons_isSome, Bool.and_eq_true, Bool.and_eq_true] at h
    show (intsInRange k && (intsInRange v && intsInRangeE es)) = true
    rw [de_isSome_inRange k (Option.isSome_of_any h.1.1), de_isSome_inRange v h.1.2,
      deE_isSome_inRange es h.2]
    rfl
end

example : de (.map [(.str [97], .seq [.u64 1, .u64 18446744073709551615])]) = none := by decide

/-- **out_of_range_is_error**, serializer.rs side: a Rust integer beyond `i64` (`u64`, `i128`,
`u128`) makes `to_koto_value` fail (`OutOfRangeU64/I128/U128`). -/
theorem out_of_range_is_error_toKoto (X : Ext) (n : Int) (h : n < i64Min ∨ i64Max < n) :
    toKoto X (.int n) = none := by
  simp [toKoto, ofI_none n h]

example : toKoto X0 (.int 18446744073709551615) = none := by decide

/-- **out_of_range_is_error**, deserializer.rs side (`from_koto_value` into an integer type, after
fix 277d668): whatever integer comes out lies in the target type's range. That a number outside it
is an error, and not a saturated value (which would lie in the range as well), is what the two
next theorems say: for an `i64` beyond the bounds, and for a float that is NaN / beyond ±2^63, for
which `number_to_i64` has no value. -/
theorem out_of_range_is_error_fromKoto (X : Ext) (k : IntK) (v : Val) (x : RVal)
    (h : fromKoto X (.int k) v = some x) : hasTy (.int k) x = true := by
  unfold fromKoto at h
  split at h
  · rename_i n
    unfold fromInt at h
    cases hn : numI64 X n <;> simp [hn] at h
    obtain ⟨hr, rfl⟩ := h
    -- `hasTy (.int k) (.int i)` is this by definition
    show (decide _ && decide _) = true
    rw [decide_eq_true hr.1, decide_eq_true hr.2]
    rfl
  · cases h

theorem out_of_range_int_is_error (X : Ext) (k : IntK) (a : Int64) (h : a.toInt < k.lo ∨ k.hi < a.toInt) :
    fromKoto X (.int k) (.num (.i a)) = none :=
  (fromInt_i X k a).trans (if_neg (by omega))

theorem out_of_range_float_is_error (X : Ext) (k : IntK) (b : UInt64) (h : X.f2iOk b = false) :
    fromKoto X (.int k) (.num (.f b)) = none := by
  unfold fromKoto
  simp [fromInt, numI64, h]

/-- the witnesses of finding F-C20-1 (`u8 ← 300`, `i8 ← -1000`) are errors, not the saturated `255`, `-128`;
the bounds themselves are accepted -/
example (X : Ext) : fromKoto X (.int .u8) (.num (.i 300)) = none ∧
    fromKoto X (.int .i8) (.num (.i (-1000))) = none ∧
    fromKoto X (.int .u64) (.num (.i (-1))) = none ∧
    fromKoto X (.int .u8) (.num (.i 255)) = some (.int 255) ∧
    fromKoto X (.int .i8) (.num (.i (-128))) = some (.int (-128)) := by
  refine ⟨rfl, rfl, rfl, rfl, rfl⟩

/-- out-of-range is an error for the `f32` target as well (fix request C20-fix-7, F-C20-8): a finite
number whose narrowing is not finite is rejected -/
theorem out_of_range_is_error_f32 (X : Ext) (b : UInt64) (h1 : finiteBits b = true)
    (h2 : finiteBits32 (X.narrow b) = false) : fromKoto X .f32 (.num (.f b)) = none := by
  unfold fromKoto
  simp [h1, h2]

/-! Model decisions mirrored from deserializer.rs that are *not* range errors (precision, spelling):
a float into an integer type is truncated first (`X.f2i`: `255.9 → 255u8` is accepted because the
truncated value is in range, `256.0` is not); an `i64` into `f64` is rounded (`X.i2f`); and a bare
string selects a variant with a null payload (next theorem), so it is also accepted for a newtype
variant whose payload type reads null (`"B"` is read as `B(None)`, the example after it). -/

theorem fromKoto_enum_string (X : Ext) (vs : List (Name × VKind × Ty)) (s : Name) :
    fromKoto X (.enum vs) (.str s) = fromVariant X vs s .null := rfl

example (X : Ext) : fromKoto X (.enum [([66], .newtype, .option (.int .i64))]) (.str [66])
    = some (.variant [66] .newtype .none) := rfl

/-! ## Rust data → Koto value → Rust data (`to_koto_value` / `from_koto_value`) -/

mutual
/-- `to_koto_value` succeeds exactly when every integer of the value fits `i64`. -/
theorem toKoto_isSome (X : Ext) : ∀ x : RVal, (toKoto X x).isSome = intsFit x
  | .unit | .bool _ => rfl
  | .int n => ofI_isSome n
  | .f32 _ | .f64 _ | .char _ | .str _ | .none => rfl
  | .some x => toKoto_isSome X x
  | .seq xs | .tuple xs => Option.isSome_map.trans (toKotoL_isSome X xs)
  | .map es | .struct es => Option.isSome_map.trans (toKotoF_isSome X es)
  | .variant n k p => by
    cases k with
    | unit => rfl
    | _ => exact Option.isSome_map.trans (toKoto_isSome X p)
theorem toKotoL_isSome (X : Ext) : ∀ xs : List RVal, (toKotoL X xs).isSome = intsFitL xs
  | [] => rfl
  | x :: xs => by
    simp only [toKotoL_cons_isSome, toKoto_isSome X x, toKotoL_isSome X xs, intsFitL]
theorem toKotoF_isSome (X : Ext) : ∀ es : List (Name × RVal), (toKotoF X es).isSome = intsFitF es
  | [] => rfl
  | (n, x) :: es => by
    simp only [toKotoF_cons_isSome, toKoto_isSome X x, toKotoF_isSome X es, intsFitF]
end

/-- out-of-range Rust integers are errors, inside any structure (`to_koto_value` is total) -/
theorem toKoto_error_iff (X : Ext) (x : RVal) : toKoto X x = none ↔ intsFit x = false := by
  rw [← toKoto_isSome X x, ← Option.not_isSome_iff_eq_none, Bool.not_eq_true]

mutual
theorem rust_roundtrip_core (X : Ext) (hf : F32Exact X) :
    ∀ (t : Ty) (x : RVal) (v : Val), wfTy t = true → hasTy t x = true → toKoto X x = some v →
      fromKoto X t v = some x
  | .unit, x, v, _, ht, hk => by
    -- opening `hasTy` leaves the shapes the type admits and one impossible rest; `cases x` would have
    -- `hasTy` evaluated on each of the other thirteen constructors, for every type
    unfold hasTy at ht
    split at ht
    · cases hk; rfl
    · cases ht
  | .bool, x, v, _, ht, hk => by
    unfold hasTy at ht
    split at ht
    · cases hk; rfl
    · cases ht
  | .int k, x, v, _, ht, hk => by
    unfold hasTy at ht
    split at ht
    · simp only [Bool.and_eq_true, decide_eq_true_eq] at ht
      exact rt_int X k _ v ht.1 ht.2 hk
    · cases ht
  | .f32, x, v, _, ht, hk => by
    unfold hasTy at ht
    split at ht
    · rename_i b
      cases hk
      have h1 := (hf b).1
      have h2 := (hf b).2
      unfold fromKoto
      simp only [h1]
      by_cases hfin : finiteBits (X.widen b) = true
      · simp [hfin, h2 hfin]
      · simp [hfin]
    · cases ht
  | .f64, x, v, _, ht, hk => by
    unfold hasTy at ht
    split at ht
    · cases hk; rfl
    · cases ht
  | .char, x, v, _, ht, hk => by
    unfold hasTy at ht
    split at ht
    · rename_i c
      cases hk
      show (decodeOne (utf8 c)).map RVal.char = _
      rw [decodeOne_utf8 c ht]
      rfl
    · cases ht
  | .string, x, v, _, ht, hk => by
    unfold hasTy at ht
    split at ht
    · cases hk; rfl
    · cases ht
  | .option t, x, v, hw, ht, hk => by
    have hw' : (!nullable t && wfTy t) = true := hw
    simp only [Bool.and_eq_true, Bool.not_eq_true'] at hw'
    unfold hasTy at ht
    split at ht
    · cases hk; rfl
    · rename_i y
      have hne : v ≠ .null := fun e => toKoto_ne_null X t y hw'.1 ht (e ▸ hk)
      rw [fromKoto_option X t v hne, rust_roundtrip_core X hf t y v hw'.2 ht hk]
      rfl
    · cases ht
  | .seq t, x, v, hw, ht, hk => by
    unfold hasTy at ht
    split at ht
    · rename_i xs
      have ht' := List.all_eq_true.mp ht
      obtain ⟨vs, h1, rfl⟩ := Option.map_eq_some_iff.mp
        (show (toKotoL X xs).map Val.tuple = some v from hk)
      rw [fromKoto_seq, allM_rt X (fromKoto X t) xs vs
        (fun y hy w hw' => rust_roundtrip_core X hf t y w hw (ht' y hy) hw') h1]
      rfl
    · cases ht
  | .tuple ts, x, v, hw, ht, hk => by
    unfold hasTy at ht
    split at ht
    · rename_i xs
      obtain ⟨vs, h1, rfl⟩ := Option.map_eq_some_iff.mp
        (show (toKotoL X xs).map Val.tuple = some v from hk)
      rw [fromKoto_tuple, rust_roundtrip_pos X hf ts xs vs hw ht h1]
      rfl
    · cases ht
  | .map t, x, v, hw, ht, hk => by
    unfold hasTy at ht
    split at ht
    · rename_i es
      rw [Bool.and_eq_true, List.all_eq_true, decide_eq_true_eq] at ht
      obtain ⟨kvs, h1, rfl⟩ := Option.map_eq_some_iff.mp
        (show (toKotoF X es).map (fun kvs => Val.map (buildMap kvs)) = some v from hk)
      rw [fromKoto_map, buildMap_toKotoF X es kvs h1 ht.2, entriesM_rt X (fromKoto X t) es kvs
        (fun e he w hw' => rust_roundtrip_core X hf t e.2 w hw (ht.1 e he) hw') h1]
      show some (RVal.map (buildFromN [] es)) = _
      rw [buildN_of_nodup es ht.2]
    · cases ht
  | .struct fs, x, v, hw, ht, hk => by
    have hw' : (decide (names fs).Nodup && wfTyF fs) = true := hw
    simp only [Bool.and_eq_true, decide_eq_true_eq] at hw'
    unfold hasTy at ht
    split at ht
    · rename_i xs
      obtain ⟨kvs, h1, rfl⟩ := Option.map_eq_some_iff.mp
        (show (toKotoF X xs).map (fun kvs => Val.map (buildMap kvs)) = some v from hk)
      have hn : (names xs).Nodup := hasTyFields_names fs xs ht ▸ hw'.1
      rw [fromKoto_struct, buildMap_toKotoF X xs kvs h1 hn, allStrKeys_toKotoF X xs kvs h1,
        fieldsOnce_of_nodup X xs kvs h1 hn fs,
        rust_roundtrip_fields X hf fs xs kvs hw'.2 ht (lookup_toKotoF X xs kvs h1 hn)]
      rfl
    · cases ht
  | .enum vs, x, v, hw, ht, hk => by
    have hw' : (decide (names vs).Nodup && wfTyV vs) = true := hw
    simp only [Bool.and_eq_true, decide_eq_true_eq] at hw'
    unfold hasTy at ht
    split at ht
    · rename_i n k p
      cases k with
      | unit =>
        cases hk
        obtain ⟨h1, rfl⟩ := rtVariantUnit X vs n p hw'.2 ht
        exact h1
      | newtype | tuple | struct =>
        obtain ⟨w, h1, rfl⟩ := Option.map_eq_some_iff.mp
          (show (toKoto X p).map (fun v => Val.map [(.str n, v)]) = some v from hk)
        exact rust_roundtrip_variant X hf vs n _ p w hw'.2 ht nofun h1
    · cases ht
theorem rust_roundtrip_pos (X : Ext) (hf : F32Exact X) :
    ∀ (ts : List Ty) (xs : List RVal) (vs : List Val), wfTyL ts = true → hasTyPos ts xs = true →
      toKotoL X xs = some vs → fromPos X ts vs = some xs
  | [], xs, vs, _, ht, hk => by
    cases xs with
    | nil => cases hk; rfl
    | cons _ _ => cases ht
  | t :: ts, xs, vs, hw, ht, hk => by
    cases xs with
    | nil => cases ht
    | cons x xs =>
      have ht' : (hasTy t x && hasTyPos ts xs) = true := ht
      have hw' : (wfTy t && wfTyL ts) = true := hw
      rw [Bool.and_eq_true] at ht' hw'
      obtain ⟨_, _, h1, h2, rfl⟩ := (toKotoL_cons_some _ _ _ _).1 hk
      exact fromPos_cons_some X (rust_roundtrip_core X hf t x _ hw'.1 ht'.1 h1)
        (rust_roundtrip_pos X hf ts xs _ hw'.2 ht'.2 h2)
theorem rust_roundtrip_fields (X : Ext) (hf : F32Exact X) :
    ∀ (fs : List (Name × Ty)) (xs : List (Name × RVal)) (kvs : List (Val × Val)), wfTyF fs = true →
      hasTyFields fs xs = true →
      (∀ e ∈ xs, ∃ v, toKoto X e.2 = some v ∧ lookupStr e.1 kvs = some v) →
      fromFields X fs kvs = some xs
  | [], xs, kvs, _, ht, _ => by
    cases xs with
    | nil => rfl
    | cons _ _ => cases ht
  | (n, t) :: fs, xs, kvs, hw, ht, hl => by
    cases xs with
    | nil => cases ht
    | cons e xs =>
      obtain ⟨m, x⟩ := e
      have ht' : (decide (n = m) && hasTy t x && hasTyFields fs xs) = true := ht
      simp only [Bool.and_eq_true, decide_eq_true_eq] at ht'
      obtain ⟨⟨rfl, htx⟩, htr⟩ := ht'
      have hw' : (wfTy t && wfTyF fs) = true := hw
      rw [Bool.and_eq_true] at hw'
      obtain ⟨v, hv1, hv2⟩ := hl (n, x) (by simp)
      exact fromFields_cons_some X hv2 (rust_roundtrip_core X hf t x v hw'.1 htx hv1)
        (rust_roundtrip_fields X hf fs xs kvs hw'.2 htr (fun e he => hl e (by simp [he])))
theorem rust_roundtrip_variant (X : Ext) (hf : F32Exact X) :
    ∀ (vs : List (Name × VKind × Ty)) (n : Name) (k : VKind) (p : RVal) (w : Val), wfTyV vs = true →
      hasTyVariant vs n k p = true → k ≠ .unit → toKoto X p = some w →
      fromVariant X vs n w = some (.variant n k p)
  | [], n, k, p, w, _, ht, _, _ => by cases ht
  | (m, k', t) :: vs, n, k, p, w, hw, ht, hk, h1 => by
    simp only [wfTyV, Bool.and_eq_true] at hw
    simp only [hasTyVariant] at ht
    by_cases hm : m = n
    · subst hm
      simp only [↓reduceIte, Bool.and_eq_true, decide_eq_true_eq] at ht
      obtain ⟨rfl, htp⟩ := ht
      have ih := rust_roundtrip_core X hf t p w hw.1.2 htp h1
      cases k' with
      | unit => exact absurd rfl hk
      | newtype => simp [fromVariant, ih]
      | tuple => simp [fromVariant, ih]
      | struct =>
        have hko := hw.1.1
        cases t with
        | struct fs =>
          cases p with
          | struct xs =>
            simp only [toKoto, Option.map_eq_some_iff] at h1
            obtain ⟨kvs, _, rfl⟩ := h1
            simp [fromVariant, ih]
          | _ => cases htp
        | _ => cases hko
    · simp only [hm, ↓reduceIte] at ht
      simp [fromVariant, hm, rust_roundtrip_variant X hf vs n k p w hw.2 ht hk h1]
end

/-- **rust_roundtrip** (partial): for every well-formed type description `t` — any nesting of
structs, enums with unit/newtype/tuple/struct variants, options, sequences, tuples, string-keyed maps
and primitives — and every value `x` of that type whose integers fit `i64`, `from_koto_value` applied
to `to_koto_value x` returns exactly `x`.
Excluded (`wfTy`): an `Option` directly around a type whose values can serialize to null (`Option<_>`,
`()`), for which the statement is false — see `rust_roundtrip_nested_option_witness`.
Assumed (`hf : F32Exact X`): `(x as f64) as f32 = x` for every `f32` (IEEE-754 widening is exact) and a
non-finite `f32` widens to a non-finite `f64`. -/
theorem rust_roundtrip_partial (X : Ext) (hf : F32Exact X) (t : Ty) (x : RVal)
    (hw : wfTy t = true) (ht : hasTy t x = true) (hfit : intsFit x = true) :
    (toKoto X x).bind (fromKoto X t) = some x := by
  obtain ⟨v, hv⟩ := Option.isSome_iff_exists.mp ((toKoto_isSome X x).trans hfit)
  simp [hv, rust_roundtrip_core X hf t x v hw ht hv]

/-- the hypotheses are satisfiable: a struct with an enum, an option, a map and a tuple inside -/
example :
    let t : Ty := .struct [([97], .int .u8), ([98], .option .string),
      ([99], .enum [([65], .unit, .unit), ([66], .newtype, .int .i8), ([67], .tuple, .tuple [.bool, .char]),
                    ([68], .struct, .struct [([120], .seq (.map (.int .i64)))])])]
    let x : RVal := .struct [([97], .int 200), ([98], .none),
      ([99], .variant [68] .struct (.struct [([120], .seq [.map [([107], .int (-5))]])]))]
    wfTy t = true ∧ hasTy t x = true ∧ intsFit x = true ∧
      (toKoto X0 x).bind (fromKoto X0 t) = some x := by
  refine ⟨by decide, by decide, by decide, by rfl⟩

/-! ### Recursive Rust types

A `Ty` is a finite tree. A recursive Rust type (`struct Chain { head: u8, tail: Option<Box<Chain>> }`)
is described by its unfolding to any depth with the empty enum at the cut: the empty enum has no
value and accepts no input, so the unfolding to depth `n` is exactly the type of the values of depth
≤ `n`, and `rust_roundtrip_partial` (which quantifies over all `Ty`) applies to every unfolding. -/

theorem empty_enum_has_no_value (x : RVal) : hasTy (.enum []) x = false := by
  cases x <;> rfl

theorem empty_enum_rejects_all (X : Ext) (v : Val) : fromKoto X (.enum []) v = none := by
  unfold fromKoto
  split <;> rfl

/-- `Chain` unfolded twice; the value `Chain { head: 1, tail: Some(Chain { head: 2, tail: None }) }` -/
example :
    let chain0 : Ty := .struct [([104], .int .u8), ([116], .option (.enum []))]
    let chain1 : Ty := .struct [([104], .int .u8), ([116], .option chain0)]
    let x : RVal := .struct [([104], .int 1), ([116], .some (.struct [([104], .int 2), ([116], .none)]))]
    wfTy chain1 = true ∧ hasTy chain1 x = true ∧ (toKoto X0 x).bind (fromKoto X0 chain1) = some x := by
  refine ⟨by decide, by decide, by rfl⟩

/-- The excluded shape really fails (finding F-C20-2): `Some(None)` of type `Option<Option<i64>>`
is a well-typed value, it serializes to `null`, and `null` reads back as `None`. -/
theorem rust_roundtrip_nested_option_witness (X : Ext) :
    hasTy (.option (.option (.int .i64))) (.some .none) = true ∧
    toKoto X (.some .none) = some .null ∧
    fromKoto X (.option (.option (.int .i64))) .null = some .none ∧
    RVal.none ≠ RVal.some .none := by
  refine ⟨by decide, rfl, rfl, ?_⟩
  intro h
  cases h

/-! ## Integer literals beyond 64 bits; aliasing and nesting on value graphs -/

/-- **json_int_error_iff**: of the integer literals outside `i64`, JSON rejects exactly those that
still fit `u64`; the others arrive as floats and are accepted (finding F-C20-6 — the negation of
"out-of-range input yields an error" for the JSON reader). -/
theorem json_int_error_iff (X : Ext) (n : Int) :
    de (jsonInt X n) = none ↔ (i64Max < n ∧ n ≤ 18446744073709551615) := by
  rw [de_jsonInt]
  split
  · simp only [reduceCtorEq, false_iff]
    omega
  split
  · simp only [true_iff]
    omega
  · simp only [reduceCtorEq, false_iff]
    omega

theorem json_int_inconsistent_witness (X : Ext) :
    de (jsonInt X 18446744073709551615) = none ∧
    de (jsonInt X 18446744073709551616) = some (.num (.f (X.big2f 18446744073709551616))) ∧
    de (jsonInt X (-9223372036854775809)) = some (.num (.f (X.big2f (-9223372036854775809)))) := by
  refine ⟨rfl, rfl, rfl⟩

/-- **serG_cycle_is_error**: a container that lies on a cycle (a set of nodes each of which has a
successor in the set — e.g. a list that contains itself) cannot be serialized: `serG` has no result,
for every amount of fuel and from every path. In `serG`, `none` is the answer of the `PARENT_CONTAINERS`
check, of the nesting limit and of running out of fuel alike, and the proof needs only the last: the
statement says that no fuel yields a document, not that it is the check that ends the traversal. -/
theorem serG_cycle_is_error (g : Graph) (C : Nat → Prop) (hC : ∀ i, C i → ∃ j, C j ∧ gSucc g i j) :
    ∀ (fuel : Nat) (path : List Nat) (i : Nat), C i → serG g fuel path i = none
  | 0, _, _, _ => rfl
  | fuel + 1, path, i, hi => by
    obtain ⟨j, hj, node, hn, hmem⟩ := hC i hi
    simp only [serG]
    split
    · rfl
    · simp only [hn]
      have ih := serG_cycle_is_error g C hC fuel (i :: path) j hj
      split
      · rfl
      rw [Option.map_eq_none_iff]
      apply allSome_none_of_mem
      exact List.mem_map.mpr ⟨.ref j, hmem, by simp [ih]⟩

/-- a list that contains itself, and a two-container cycle through a map -/
example : serG [⟨false, [.leaf 1, .ref 0]⟩] 10 [] 0 = none := by decide
example : serG [⟨false, [.ref 1]⟩, ⟨true, [.leaf 2, .ref 0]⟩] 10 [] 0 = none := by decide

/-- the nesting limit applies to graphs as well: whatever the graph, nothing is serialized below 127
containers -/
theorem serG_too_deep_is_error (g : Graph) (fuel : Nat) (path : List Nat) (i : Nat)
    (h : writerDepthLimit ≤ path.length) : serG g fuel path i = none := by
  cases fuel with
  | zero => rfl
  | succ n =>
    simp only [serG]
    split
    · rfl
    · rfl

/-- sharing without a cycle is fine: the same list twice (and once more one level down) serializes as
its unfolding -/
example : serG [⟨false, [.ref 1, .ref 2, .ref 1]⟩, ⟨false, [.leaf 1]⟩, ⟨true, [.ref 1]⟩] 4 [] 0
    = some (.seq [.seq [.i64 1], .map [(.str [107, 48], .seq [.i64 1])], .seq [.i64 1]]) := by rfl
example : (ser X0 (.list [.list [.num (.i 1)], .map [(.str [107, 48], .list [.num (.i 1)])], .list [.num (.i 1)]]))
    = some (.seq [.seq [.i64 1], .map [(.str [107, 48], .seq [.i64 1])], .seq [.i64 1]]) := by rfl

/-! ## TOML entry order (inline entries, then tables) -/

mutual
/-- **tomlOrd_idem**: the order TOML imposes is stable: ordering an ordered value changes nothing,
entry order included. (What comes back from TOML is `tomlOrd (norm X v)`; that `norm` leaves such a
value as it is, so that a further whole trip changes nothing, is not stated.) -/
theorem tomlOrd_idem : ∀ v : Val, tomlOrd (tomlOrd v) = tomlOrd v
  | .null | .bool _ | .num _ | .str _ | .range _ _ => rfl
  | .map es => by
    simp only [tomlOrd, tomlPlain_append, tomlTables_append, tomlPlain_plain, tomlTables_plain,
      tomlPlain_tables, tomlTables_tables es, List.append_nil, List.nil_append]
  | .tuple xs | .list xs => by
    by_cases h : (!xs.isEmpty && xs.all isMap) = true
    · simp only [tomlOrd, h, ↓reduceIte, tomlOrdL_isEmpty, tomlOrdL_all_isMap, tomlOrdL_idem xs]
    · simp [tomlOrd, h]
theorem tomlOrdL_idem : ∀ xs : List Val, tomlOrdL (tomlOrdL xs) = tomlOrdL xs
  | [] => rfl
  | x :: xs => by simp [tomlOrdL, tomlOrd_idem x, tomlOrdL_idem xs]
theorem tomlTables_tables : ∀ es : List (Val × Val), tomlTables (tomlTables es) = tomlTables es
  | [] => rfl
  | (k, v) :: es => by
    simp only [tomlTables]
    split
    · rename_i h
      simp [tomlTables, isTableLike_tomlOrd, h, tomlOrd_idem v, tomlTables_tables es]
    · exact tomlTables_tables es
end

/-- TOML's ordering only permutes the keys of a map (the values of table entries are ordered inside,
by `tomlOrd` again); Koto's map equality ignores entry order. -/
theorem tomlOrd_keys_perm : ∀ es : List (Val × Val),
    (keysOf (tomlPlain es ++ tomlTables es)).Perm (keysOf es) := by
  intro es
  rw [tomlPlain_eq, tomlTables_eq, keysOf, List.map_append, List.map_map]
  show (_ ++ List.map (fun e : Val × Val => e.1) _).Perm _
  rw [← List.map_append]
  exact (List.perm_append_comm.trans (List.filter_append_perm (fun e : Val × Val => isTableLike e.2) es)).map _

example : tomlOrd (.map [(.str [97], .map [(.str [120], .num (.i 1))]), (.str [98], .num (.i 2))])
    = .map [(.str [98], .num (.i 2)), (.str [97], .map [(.str [120], .num (.i 1))])] := by decide

end KotoVerif.C20
