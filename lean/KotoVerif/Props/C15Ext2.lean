/-
C15 second extension: end-to-end laws that connect several string operations of the executable model
(`Model/Str.lean`): `replace` is `split` followed by `join`, the length law of `replace`, `split` of a
string without the pattern, and `strip_prefix` against `starts_with` / concatenation.
-/
import KotoVerif.Model.Str
import KotoVerif.Lemmas.C15Utf8
import KotoVerif.Lemmas.C15Slice
import KotoVerif.Lemmas.C15Ops
import KotoVerif.Lemmas.C15Split
import KotoVerif.Lemmas.C15Closed
import KotoVerif.Lemmas.C15Refine
import KotoVerif.Props.C15Ext

namespace KotoVerif.C15Ext2
open KotoVerif.Utf8 KotoVerif.Str

/-- **replace_eq_join_split**: for a non-empty pattern, `s.replace(pat, to)` is exactly
`to.join(s.split(pat))` -/
theorem replace_eq_join_split {pat : Bytes} (hp : pat ≠ []) (to bs : Bytes) :
    replaceB pat to bs = joinWith to (splitB pat (bs.length + 2) bs) := by
  rw [replaceB_of_ne_nil hp, splitB_of_ne_nil hp, replaceNE_eq_join_splitNE hp to (bs.length + 1) bs (by omega),
    splitNE_fuel_irrelevant hp (bs.length + 1) (bs.length + 2) bs (by omega) (by omega)]

example : replaceB [44] [45, 45] [1, 44, 2, 44] = [1, 45, 45, 2, 45, 45] ∧
    splitB [44] 6 [1, 44, 2, 44] = [[1], [2], []] := by decide +kernel

/-- **replace_length**: with `k` pieces of `split`, `replace` changes the length by exactly
`(k - 1)` times the difference of the replacement and the pattern -/
theorem replace_length {pat : Bytes} (hp : pat ≠ []) (to bs : Bytes) :
    (replaceB pat to bs).length + ((splitB pat (bs.length + 2) bs).length - 1) * pat.length =
      bs.length + ((splitB pat (bs.length + 2) bs).length - 1) * to.length := by
  have h1 := replace_eq_join_split hp to bs
  have h2 := splitB_join pat bs
  have l1 := KotoVerif.C15Ext.join_length to (splitB pat (bs.length + 2) bs)
  have l2 := KotoVerif.C15Ext.join_length pat (splitB pat (bs.length + 2) bs)
  rw [← h1] at l1
  rw [h2] at l2
  omega

theorem split_absent {pat : Bytes} (hp : pat ≠ []) (bs : Bytes) (fuel : Nat)
    (h : containsB pat bs = false) : splitB pat (fuel + 1) bs = [bs] := by
  rw [splitB_of_ne_nil hp]
  simp only [containsB] at h
  cases hf : findAt pat bs with
  | none => simp [splitNE, hf]
  | some e => simp [hf] at h

example : containsB [9] [1, 2, 3] = false ∧ splitB [9] 5 [1, 2, 3] = [[1, 2, 3]] := by decide +kernel

theorem split_present {pat : Bytes} (hp : pat ≠ []) (bs : Bytes) (fuel : Nat)
    (h : containsB pat bs = true) : 2 ≤ (splitB pat (fuel + 2) bs).length := by
  rw [splitB_of_ne_nil hp]
  simp only [containsB] at h
  cases hf : findAt pat bs with
  | none => simp [hf] at h
  | some e =>
    have key : splitNE pat (fuel + 2) bs =
        bs.take e :: splitNE pat (fuel + 1) (bs.drop (e + pat.length)) := by
      simp only [splitNE, hf]
    rw [key, List.length_cons]
    have := List.length_pos_iff.mpr (splitNE_ne_nil pat (Nat.add_one_pos fuel) (bs.drop (e + pat.length)))
    omega

example : containsB [2] [1, 2, 3] = true ∧ (splitB [2] 5 [1, 2, 3]).length = 2 := by decide +kernel

theorem strip_prefix_null_iff {s : KStr} (hw : s.WF) {pat : Bytes} (hp : validUtf8 pat = true) :
    stripPrefixOp s pat = .null ↔ startsWithB pat s.bytes = false := by
  rw [stripPrefixOp_refines hw hp]
  simp only [startsWithB]
  cases pat.isPrefixOf s.bytes <;> simp

theorem strip_prefix_concat {s : KStr} (hw : s.WF) {pat : Bytes} (hp : validUtf8 pat = true) {r : Bytes}
    (h : stripPrefixOp s pat = .str r) : pat ++ r = s.bytes := by
  rw [stripPrefixOp_refines hw hp] at h
  split at h
  · rename_i hpre
    injection h with h
    rw [← h]
    exact (prefix_split hpre).symm
  · cases h

end KotoVerif.C15Ext2
