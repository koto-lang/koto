/-
C01 second extension: the container / environment helpers of `Model/CoreEval.lean` that the C01
driver runs through `Core.eval` (slicing: `rangeIndices`, `slice`; index assignment: `setAt`,
`fillRange`; maps: `lookupKey`, `insertKey`; locals: `lookup`, `update`). The theorems state the
guide's clauses "a slice is clamped to the container", "index assignment replaces exactly one
element", "assignment to a local does not disturb other locals".
-/
import KotoVerif.Lemmas.C01Eval

namespace KotoVerif.C01Ext2
open KotoVerif KotoVerif.Core KotoVerif.C01

theorem clampInt_mem {lo hi : Int} (h : lo ≤ hi) (x : Int) :
    lo ≤ clampInt x lo hi ∧ clampInt x lo hi ≤ hi := by
  unfold clampInt
  split
  · omega
  · split <;> omega

/-- every range, whatever its bounds (negative, reversed, open, inclusive, beyond the end), is
clamped to `0 ≤ start ≤ end ≤ len` -/
theorem rangeIndices_bounds (start : Option Int64) (stop : Option (Int64 × Bool)) (len : Nat) :
    (rangeIndices start stop len).1 ≤ (rangeIndices start stop len).2 ∧
    (rangeIndices start stop len).2 ≤ len := by
  -- the end is clamped to `s..=len`, where the start `s` is `0` or clamped to `0..=len`
  have key {s : Int} (h0 : 0 ≤ s) (hs : s ≤ len) (e : Int) :
      s.toNat ≤ (clampInt e s len).toNat ∧ (clampInt e s len).toNat ≤ len := by
    have := clampInt_mem hs e
    omega
  cases start with
  | none => exact key (Int.le_refl 0) (Int.natCast_nonneg len) _
  | some a =>
    have := clampInt_mem (Int.natCast_nonneg len) a.toInt
    exact key this.1 this.2 _

/-- slicing by any range never fails and yields exactly `end - start` elements -/
theorem slice_rangeIndices_length {α : Type} (xs : List α) (start : Option Int64)
    (stop : Option (Int64 × Bool)) :
    (slice xs (rangeIndices start stop xs.length)).length =
      (rangeIndices start stop xs.length).2 - (rangeIndices start stop xs.length).1 := by
  have h := rangeIndices_bounds start stop xs.length
  simp only [slice, List.length_take, List.length_drop]
  omega

theorem slice_getElem? {α : Type} (xs : List α) (se : Nat × Nat) (i : Nat) (hi : i < se.2 - se.1) :
    (slice xs se)[i]? = xs[se.1 + i]? := by
  simp [slice, hi]

/-- the fully open range `..` is the identity slice -/
theorem slice_full {α : Type} (xs : List α) :
    slice xs (rangeIndices none none xs.length) = xs := by
  have h : ¬ ((xs.length : Int) < 0) := by omega
  simp [slice, rangeIndices, clampInt, h]

theorem setAt_length (xs : List Val) (k : Nat) (v : Val) : (setAt xs k v).length = xs.length := by
  rw [setAt_eq_set, List.length_set]

/-- `xs[k] = v` replaces element `k` and no other -/
theorem setAt_getElem? (xs : List Val) (k j : Nat) (v : Val) :
    (setAt xs k v)[j]? = if j = k ∧ k < xs.length then some v else xs[j]? := by
  rw [setAt_eq_set, List.getElem?_set]
  by_cases hjk : k = j
  · subst hjk
    by_cases hk : k < xs.length <;> simp [hk]
  · simp [hjk, Ne.symm hjk]

theorem fillRange_length (xs : List Val) (pos s e : Nat) (v : Val) :
    (fillRange xs pos s e v).length = xs.length := by
  rw [fillRange_eq_mapIdx, List.length_mapIdx]

/-- `xs[s..e] = v` sets exactly the positions in `s..e` -/
theorem fillRange_getElem? (xs : List Val) (pos s e j : Nat) (v : Val) (hj : j < xs.length) :
    (fillRange xs pos s e v)[j]? =
      if s ≤ pos + j ∧ pos + j < e then some v else xs[j]? := by
  rw [fillRange_eq_mapIdx, List.getElem?_mapIdx, List.getElem?_eq_getElem hj]
  simp only [Option.map_some]
  split <;> rfl

example : (3 : Nat) ≠ 4 := by decide

theorem set_out (s : St) (x : Nat) (v : Val) : (s.set x v).out = s.out := rfl

/-- end to end: after `x = e`, reading `x` yields the assigned value and reading any other local
`y` yields what it yielded before; neither read changes the state -/
theorem assign_then_read (F : FloatOps) (n m x y : Nat) (e : Expr) (s s₁ : St) (v : Val)
    (he : eval F n e s = (.ok v, s₁)) (hy : y ≠ x) :
    eval F (n + 1) (.assign x e) s = (.ok v, s₁.set x v) ∧
    eval F (m + 1) (.var x) (s₁.set x v) = (.ok v, s₁.set x v) ∧
    (eval F (m + 1) (.var y) (s₁.set x v)).1 = (eval F (m + 1) (.var y) s₁).1 ∧
    (eval F (m + 1) (.var y) (s₁.set x v)).2 = s₁.set x v := by
  have hx : lookup x (s₁.set x v).env = some v := by
    rw [St.set, lookup_update, if_pos rfl]
  have hyx : lookup y (s₁.set x v).env = lookup y s₁.env := by
    rw [St.set, lookup_update, if_neg hy]
  refine ⟨?_, eval_var_some F m x _ v hx, ?_, ?_⟩
  · rw [eval_assign, he]
    rfl
  · rw [eval_var, eval_var, hyx]
    cases lookup y s₁.env <;> rfl
  · rw [eval_var]
    cases lookup y (s₁.set x v).env <;> rfl

example (F : FloatOps) : eval F 1 (.lit .null) {} = (.ok .null, {}) ∧ (1 : Nat) ≠ 0 := by
  constructor
  · rfl
  · decide

theorem lookupKey_insertKey_same (k : List Nat) (v : Val) (es : List (Val × Val)) :
    lookupKey k (insertKey k v es) = some v := by
  fun_induction insertKey k v es <;> simp_all [lookupKey]

theorem lookupKey_insertKey_other (k k' : List Nat) (v : Val) (es : List (Val × Val))
    (h : k' ≠ k) : lookupKey k' (insertKey k v es) = lookupKey k' es := by
  fun_induction insertKey k v es <;> simp_all [lookupKey]

example : ([1] : List Nat) ≠ [2] := by decide

end KotoVerif.C01Ext2
