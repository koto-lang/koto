/-
C14, second extension module: end-to-end order laws of the insertion-ordered map model
(`OMap.insert`, `OMap.remove`, `OMap.extend`, `OMap.swapIndices`, `OMap.swapRemoveIndex`), all of
which the driver runs against IndexMap on every check.
-/
import KotoVerif.Model.Equal
import KotoVerif.Lemmas.C14Map

namespace KotoVerif.C14Ext2
open KotoVerif KotoVerif.Equal KotoVerif.Equal.OMap

theorem insert_keys_prefix {β : Type} (m : Val → Val → Bool) (k : Val) (v : β) (es : List (Val × β)) :
    keys es <+: keys (OMap.insert m k v es).1 := by
  rw [keys_insert]
  unfold specInsert
  split
  · exact List.prefix_refl _
  · exact List.prefix_append _ _

theorem extend_keys_prefix {β : Type} (m : Val → Val → Bool) (es other : List (Val × β)) :
    keys es <+: keys (OMap.extend m es other) := by
  induction other generalizing es with
  | nil => simp [OMap.extend]
  | cons e other ih =>
    obtain ⟨k, v⟩ := e
    simp only [OMap.extend]
    exact List.IsPrefix.trans (insert_keys_prefix m k v es) (ih _)

theorem remove_keys_sublist {β : Type} (m : Val → Val → Bool) (k : Val) (es : List (Val × β)) :
    (keys (OMap.remove m k es).1).Sublist (keys es) := by
  rw [keys_remove]
  exact List.eraseP_sublist

theorem extend_append {β : Type} (m : Val → Val → Bool) (es o1 o2 : List (Val × β)) :
    OMap.extend m es (o1 ++ o2) = OMap.extend m (OMap.extend m es o1) o2 := by
  induction o1 generalizing es with
  | nil => simp [OMap.extend]
  | cons e o1 ih =>
    obtain ⟨k, v⟩ := e
    simp only [List.cons_append, OMap.extend]
    exact ih _

theorem insert_remove_absent {β : Type} (m : Val → Val → Bool) (k : Val) (v : β) (es : List (Val × β))
    (hk : m k k = true) (habs : lookupBy m k es = none) :
    OMap.remove m k (OMap.insert m k v es).1 = (es, some v) := by
  rcases probe m k es with h | ⟨pre, k', v', post, rfl, h, hk'⟩
  · rw [insert_absent h, remove_found h hk, List.append_nil]
  · rw [lookupBy_found h hk'] at habs; cases habs

example : (fun a b => kindRank a == kindRank b) (Val.str [1]) (Val.str [1]) = true ∧
    lookupBy (fun a b => kindRank a == kindRank b) (Val.str [1]) [(Val.null, (3 : Nat))] = none := by
  decide

theorem swapIndices_length {β : Type} (a b : Nat) (es es' : List (Val × β))
    (h : OMap.swapIndices a b es = some es') : es'.length = es.length := by
  unfold OMap.swapIndices at h
  split at h
  · cases h; simp
  · cases h

theorem swapIndices_get {β : Type} (a b : Nat) (es es' : List (Val × β))
    (h : OMap.swapIndices a b es = some es') : es'[b]? = es[a]? ∧ es'[a]? = es[b]? := by
  unfold OMap.swapIndices at h
  split at h
  · rename_i x y hx hy
    cases h
    have ha : a < es.length := by
      rcases Nat.lt_or_ge a es.length with h | h
      · exact h
      · simp [List.getElem?_eq_none h] at hx
    have hb : b < es.length := by
      rcases Nat.lt_or_ge b es.length with h | h
      · exact h
      · simp [List.getElem?_eq_none h] at hy
    constructor
    · simp [hb, hx]
    · by_cases hab : b = a
      · subst hab
        have hxy : x = y := by rw [hx] at hy; exact Option.some.inj hy
        subst hxy
        simp only [List.getElem?_set, hb, List.length_set, if_true, hy]
      · simp [hab, ha, hy]
  · cases h

example : (OMap.swapIndices 0 1 [((.str [1] : Val), (1 : Nat)), (.str [2], 2)]).isSome = true := by
  decide

theorem swapRemoveIndex_length {β : Type} (i : Nat) (es : List (Val × β)) (hi : i < es.length) :
    (OMap.swapRemoveIndex i es).length + 1 = es.length := by
  rcases List.eq_nil_or_concat es with rfl | ⟨body, l, rfl⟩
  · cases hi
  · rw [List.concat_eq_append] at *
    rw [OMap.swapRemoveIndex_concat i body l (by simpa [Nat.lt_succ_iff] using hi)]
    split <;> simp

example : (1 : Nat) < [((.str [1] : Val), (1 : Nat)), (.str [2], 2)].length := by decide

end KotoVerif.C14Ext2
