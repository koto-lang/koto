/-
C09 — Lexing is lossless and positions are exact: property theorems about `Model/Lexer.lean`
(the model is tied to `koto_lexer` by the exhaustive correspondence run of `harness/src/bin/c09.rs`).

Conventions: `src : List Ch` is the input with its supplied Unicode facts; `lexAll src` are the
model's tokens up to and including the first `Error` token; `TableOk src` is the only assumption on
the supplied tables (a line feed is not an identifier character — checked by the harness on every
character it sends).
-/
import KotoVerif.Lemmas.C09Run

namespace KotoVerif.C09
open KotoVerif.Lexer

/-! ## specification vocabulary (no implementation detail) -/

/-- byte offset `n` is a character boundary inside `src` -/
def boundaryAt (src : List Ch) (n : Nat) : Bool := (prefixAt n src).isSome

/-- byte offset `n` is a character boundary of `src` and exactly `line` line breaks precede it -/
def exactAt (src : List Ch) (n line : Nat) : Bool :=
  match prefixAt n src with
  | some pre => line == nlCount pre
  | none => false

/-- consecutive non-error tokens tile the input from byte `a` on -/
def Chain : Nat → List Lexed → Prop
  | _, [] => True
  | a, l :: ls => (l.tok ≠ .error → l.startByte = a ∧ l.startByte ≤ l.endByte) ∧ Chain l.endByte ls

/-! ## property theorems -/

/-- **Contiguity / losslessness.** The tokens before the first error token tile the input
contiguously from its start: the first starts at byte 0 and each starts where the previous one
ended (so concatenating their texts reproduces that prefix of the input). -/
theorem tokens_contiguous (src : List Ch) (ht : TableOk src) : Chain 0 (lexAll src) := by
  refine lexFuel_induct ht (motive := fun pre _ _ ls => Chain (byteLen pre) ls) (fun _ _ _ _ => trivial)
    (fun _ _ _ _ _ he => ⟨fun hne => absurd he hne, trivial⟩) ?_ _ _ _ _ (inv_init src)
  intro pre t post s l s' ls hst ih
  rw [byteLen_append, ← hst.endByte] at ih
  exact ⟨fun _ => ⟨hst.startByte, hst.start_le_end⟩, ih⟩

/-- **Character boundaries.** Every non-error token starts and ends on a character boundary of the
input (in particular inside the input). -/
theorem tokens_on_boundaries (src : List Ch) (ht : TableOk src) :
    ∀ l ∈ lexAll src, l.tok ≠ .error →
      boundaryAt src l.startByte = true ∧ boundaryAt src l.endByte = true :=
  lexAll_forall ht fun _ _ _ _ _ _ h => by simp [boundaryAt, h.prefix_start, h.prefix_end]

/-- **Exact lines.** For every non-error token the reported start line and end line equal the number
of line breaks before the token's start and end.  No token kind is excepted: since the repair of
F-C09-1 (commit 0591829) `consume_format_options` tracks its position per character. -/
theorem lines_exact (src : List Ch) (ht : TableOk src) :
    ∀ l ∈ lexAll src, l.tok ≠ .error →
      exactAt src l.startByte l.span.start.line = true ∧
      exactAt src l.endByte l.span.stop.line = true :=
  lexAll_forall ht fun _ _ _ _ _ _ h => by
    simp [exactAt, h.prefix_start, h.prefix_end, h.startLine, h.stopLine]

/-- consecutive tokens: each span starts where the previous one stopped, and a `NewLine` token
stops at column 0 -/
def SpanChain : Pos → List Lexed → Prop
  | _, [] => True
  | p, l :: ls => (l.tok ≠ .error → l.span.start = p ∧ (l.tok = .newLine → l.span.stop.col = 0)) ∧
      SpanChain l.span.stop ls

/-- **Span chaining and column reset (partial).** Every non-error token's span starts exactly where
the previous token's span stopped (position (0,0) for the first), and every `NewLine` token stops at
column 0 — so the token that follows a line break *that is a NewLine token* starts at column 0.
Partial: line breaks inside multi-line tokens (strings, comments, format options) are not covered by
this theorem but by `column_zero_after_line_break` in `Props/C09Cols.lean`. -/
theorem column_reset_newline_partial (src : List Ch) (ht : TableOk src) :
    SpanChain ⟨0, 0⟩ (lexAll src) := by
  refine lexFuel_induct ht (motive := fun _ _ s ls => SpanChain s.span.stop ls) (fun _ _ _ _ => trivial)
    (fun _ _ _ _ _ he => ⟨fun hne => absurd he hne, trivial⟩) ?_ _ _ _ _ (inv_init src)
  intro pre t post s l s' ls hst ih
  exact ⟨fun _ => ⟨hst.start, fun hnl => hst.stop ▸ (hst.newline hnl).1⟩, hst.stop ▸ ih⟩

/-! ## the input of F-C09-1 (repaired): a line break inside format options -/

/-- ASCII character with the Unicode facts the real tables give it (width 1, XID flags as listed) -/
def ascii (cp : Nat) (idS idC : Bool) : Ch := { cp := cp, width := 1, idStart := idS, idCont := idC, g1 := 1, g2 := 1 }

/-- `'{a:⏎}'`, the input of F-C09-1 (the line feed has width 0) -/
def witnessF1 : List Ch :=
  [ascii 39 false false, ascii 123 false false, ascii 97 true true, ascii 58 false false,
   { cp := 10, width := 0, idStart := false, idCont := false, g1 := 1, g2 := 1 },
   ascii 125 false false, ascii 39 false false]

/-- On `'{a:⏎}'` the format-options token (bytes 4..5) reports end line 1, column 0, and all seven
tokens have exact lines (F-C09-1: the code before commit 0591829 reported line 0). -/
theorem format_options_line_break_counted :
    (⟨.stringLiteral, 4, 5, ⟨⟨0, 4⟩, ⟨1, 0⟩⟩, 0, true⟩ : Lexed) ∈ lexAll witnessF1 ∧
    (lexAll witnessF1).all (fun l => exactAt witnessF1 l.endByte l.span.stop.line) = true := by
  constructor <;> decide

/-! ## non-vacuity -/

/-- the table assumption is satisfiable by a non-trivial input that exercises strings, format
options and line breaks, and `lines_exact` says something about all of its tokens -/
example : TableOk witnessF1 := by unfold TableOk; decide

/-- `x = 'a⏎b'` followed by a newline: no `Error` token, so every token is covered -/
def sampleOk : List Ch :=
  [ascii 120 true true, ascii 32 false false, ascii 61 false false, ascii 32 false false,
   ascii 39 false false, ascii 97 true true,
   { cp := 10, width := 0, idStart := false, idCont := false, g1 := 1, g2 := 1 },
   ascii 98 true true, ascii 39 false false,
   { cp := 10, width := 0, idStart := false, idCont := false, g1 := 1, g2 := 1 }]

theorem lexAll_sampleOk : lexAll sampleOk =
    [⟨.id, 0, 1, ⟨⟨0, 0⟩, ⟨0, 1⟩⟩, 0, false⟩, ⟨.whitespace, 1, 2, ⟨⟨0, 1⟩, ⟨0, 2⟩⟩, 0, false⟩,
     ⟨.sym .Assign, 2, 3, ⟨⟨0, 2⟩, ⟨0, 3⟩⟩, 0, false⟩, ⟨.whitespace, 3, 4, ⟨⟨0, 3⟩, ⟨0, 4⟩⟩, 0, false⟩,
     ⟨.stringStartNormal .sq, 4, 5, ⟨⟨0, 4⟩, ⟨0, 5⟩⟩, 0, false⟩,
     ⟨.stringLiteral, 5, 8, ⟨⟨0, 5⟩, ⟨1, 1⟩⟩, 0, false⟩, ⟨.stringEnd, 8, 9, ⟨⟨1, 1⟩, ⟨1, 2⟩⟩, 0, false⟩,
     ⟨.newLine, 9, 10, ⟨⟨1, 2⟩, ⟨2, 0⟩⟩, 0, false⟩] := by decide

example : (lexAll sampleOk).length = 8 ∧
    (lexAll sampleOk).all (fun l => exactAt sampleOk l.startByte l.span.start.line) = true := by
  rw [lexAll_sampleOk]; decide

end KotoVerif.C09
