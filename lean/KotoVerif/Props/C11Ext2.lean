/-
C11 (formatter): `source_slice` (Model/SrcSlice.lean) on the whole (flattened) source, where
`C11.srcslice_boundary` speaks of a token lying inside one line. Comments (`#- … -#`) and
`#[fmt:skip]` regions span several lines.
-/
import KotoVerif.Model.SrcSlice
import KotoVerif.Lemmas.C11

namespace KotoVerif.C11Ext2
open KotoVerif.SrcSlice

/-- `srcslice_boundary` without the one-line restriction: for a token `tok` anywhere in the source
(possibly spanning several lines — multi-line comments, `#[fmt:skip]` regions), if the table maps
the reported end positions to the token's true byte offsets (and to nothing else), `source_slice`
returns exactly the token's text, whatever the line structure and the display widths are. -/
theorem srcslice_boundary_multiline (ls : List Line) (tbl : Table) (pre tok post : List Ch) (sp ep : Pos)
    (hsrc : ls.flatten = pre ++ (tok ++ post))
    (hpre : ∀ c ∈ pre, 1 ≤ c.bytes) (htok : ∀ c ∈ tok, 1 ≤ c.bytes)
    (hs : (sp, byteLen pre) ∈ tbl) (he : (ep, byteLen pre + byteLen tok) ∈ tbl)
    (hfs : ∀ b, (sp, b) ∈ tbl → b = byteLen pre)
    (hfe : ∀ b, (ep, b) ∈ tbl → b = byteLen pre + byteLen tok) :
    sourceSliceText ls tbl { start := sp, stop := ep } = some tok := by
  have h1 := C11.Lemmas.lookup_of_mem tbl sp _ hs hfs
  have h2 := C11.Lemmas.lookup_of_mem tbl ep _ he hfe
  simp only [sourceSliceText, sourceSlice, byteOf, h1, h2, hsrc]
  exact C11.Lemmas.sliceText_mid pre tok post hpre htok

/-- non-vacuity: a two-line block comment `#-\n-#` after `é\n` (bytes 3..8, lines 1..2). -/
example :
    let a (c : Nat) : Ch := { cp := c, bytes := 1, width := 1 }
    let e : Ch := { cp := 233, bytes := 2, width := 1 }
    sourceSliceText [[e, a 10], [a 35, a 45, a 10], [a 45, a 35, a 10]]
        [(⟨1, 0⟩, 3), (⟨2, 2⟩, 8)] { start := ⟨1, 0⟩, stop := ⟨2, 2⟩ }
      = some [a 35, a 45, a 10, a 45, a 35] := by decide

/-- When both ends of a span are token boundaries, the copied text depends on the source text
only: re-breaking the same characters into different lines (e.g. CRLF handling, a different
`line_offsets` table) cannot change what `source_slice` copies. -/
theorem srcslice_relayout_indep (ls ls' : List Line) (tbl : Table) (sp : Span) (b₁ b₂ : Nat)
    (hflat : ls.flatten = ls'.flatten)
    (h₁ : lookup tbl sp.start = some b₁) (h₂ : lookup tbl sp.stop = some b₂) :
    sourceSliceText ls tbl sp = sourceSliceText ls' tbl sp := by
  simp only [sourceSliceText, sourceSlice, byteOf, h₁, h₂, hflat]

example :
    let a (c : Nat) : Ch := { cp := c, bytes := 1, width := 1 }
    sourceSliceText [[a 1, a 2], [a 3]] [(⟨0, 1⟩, 1), (⟨1, 1⟩, 3)] ⟨⟨0, 1⟩, ⟨1, 1⟩⟩
      = sourceSliceText [[a 1], [a 2, a 3]] [(⟨0, 1⟩, 1), (⟨1, 1⟩, 3)] ⟨⟨0, 1⟩, ⟨1, 1⟩⟩ := by decide

/-- Adjacent spans concatenate: if `source_slice` copies `a` for `sp..mp` and `b` for `mp..ep`,
it copies `a ++ b` for `sp..ep` (a statement followed by its trailing comment, a skipped region
made of several tokens). No token text is lost or duplicated at the seam. (`hbytes` is not needed:
`Lemmas.sliceText_append` holds whatever the byte lengths are.) -/
theorem srcslice_adjacent_concat (ls : List Line) (tbl : Table) (sp mp ep : Pos) (a b : List Ch)
    (hbytes : ∀ c ∈ ls.flatten, 1 ≤ c.bytes)
    (h₁ : sourceSliceText ls tbl ⟨sp, mp⟩ = some a) (h₂ : sourceSliceText ls tbl ⟨mp, ep⟩ = some b) :
    sourceSliceText ls tbl ⟨sp, ep⟩ = some (a ++ b) :=
  C11.Lemmas.sliceText_append _ _ _ _ a b h₁ h₂

example :
    let a (c : Nat) : Ch := { cp := c, bytes := 1, width := 1 }
    let tbl : Table := [(⟨0, 0⟩, 0), (⟨0, 1⟩, 1), (⟨0, 3⟩, 3)]
    sourceSliceText [[a 1, a 2, a 3]] tbl ⟨⟨0, 0⟩, ⟨0, 1⟩⟩ = some [a 1]
      ∧ sourceSliceText [[a 1, a 2, a 3]] tbl ⟨⟨0, 1⟩, ⟨0, 3⟩⟩ = some [a 2, a 3] := by decide

end KotoVerif.C11Ext2
