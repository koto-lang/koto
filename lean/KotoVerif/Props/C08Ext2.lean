/-
C08 — second extension: end-to-end statements connecting the instruction loop `runInstrs`, the
poller armed by `new`, the slack bound and error delivery (`Model/Timeout.lean`).
-/
import KotoVerif.Model.Timeout
import KotoVerif.Lemmas.C08
import KotoVerif.Props.C08
import KotoVerif.Props.C08Ext

namespace KotoVerif.C08Ext2
open KotoVerif.Timeout KotoVerif.C08L KotoVerif.C08 KotoVerif.C08Ext

/-- Property quantifier "all non-terminating program shapes": with the code's polling policy two
instruction streams of the same length — whatever their instruction kinds (backward jumps, calls,
frame-pushing operator overloads, anything else) — are interrupted at exactly the same point. -/
theorem shape_irrelevant (F : TOps) (clk : Nat → Nat) (ks ks' : List InstrKind) (s : St) (i : Nat)
    (hlen : ks.length = ks'.length) :
    runInstrs F pollsEvery clk ks s i = runInstrs F pollsEvery clk ks' s i := by
  rw [every_instruction_polls, every_instruction_polls, hlen]

example : runInstrs F0 pollsEvery (fun j => 10 + 3 * (j + 1)) (List.replicate 10 .jumpBack) (new F0 0 0 1000 20 10) 0
    = runInstrs F0 pollsEvery (fun j => 10 + 3 * (j + 1)) (List.replicate 10 .opPush) (new F0 0 0 1000 20 10) 0 :=
  shape_irrelevant _ _ _ _ _ _ (by simp)

/-! ## 1. the detection point does not depend on what the script would have done afterwards -/

theorem firstTimeout_mono (F : TOps) (clk : Nat → Nat) (n n' : Nat) (s : St) (m : Nat) (hn : n ≤ n')
    (h : firstTimeout F clk n s 0 = some m) : firstTimeout F clk n' s 0 = some m := by
  rw [firstTimeout_iff_least] at h ⊢
  exact ⟨by omega, h.2⟩

theorem runInstrs_append (F : TOps) (clk : Nat → Nat) (ks ks' : List InstrKind) (s : St) (m : Nat)
    (h : runInstrs F pollsEvery clk ks s 0 = some m) :
    runInstrs F pollsEvery clk (ks ++ ks') s 0 = some m := by
  rw [every_instruction_polls] at h ⊢
  exact firstTimeout_mono F clk _ _ s m (by simp) h

example : runInstrs F0 pollsEvery (fun j => 10 + 3 * (j + 1))
    (List.replicate 10 .opPush ++ [.call, .jumpBack]) (new F0 0 0 1000 20 10) 0 = some 6 :=
  runInstrs_append _ _ _ _ _ _ (by decide +kernel)

/-- a terminating script is not interrupted half-way -/
theorem runInstrs_prefix_none (F : TOps) (clk : Nat → Nat) (ks ks' : List InstrKind) (s : St)
    (h : runInstrs F pollsEvery clk (ks ++ ks') s 0 = none) :
    runInstrs F pollsEvery clk ks s 0 = none := by
  cases hk : runInstrs F pollsEvery clk ks s 0 with
  | none => rfl
  | some m => rw [runInstrs_append F clk ks ks' s m hk] at h; cases h

/-! ## 2. the detection depends on the clock only up to the detection point -/

theorem pollAt_clock_congr (F : TOps) (clk clk' : Nat → Nat) (s : St) (n : Nat)
    (h : ∀ j, j ≤ n → clk j = clk' j) : pollAt F clk s n = pollAt F clk' s n := by
  unfold pollAt
  rw [runN_clock_congr F clk clk' n s 0 (fun j hj => by simpa using h j (by omega)), h n (Nat.le_refl n)]

theorem runInstrs_clock_local (F : TOps) (clk clk' : Nat → Nat) (ks : List InstrKind) (s : St) (m : Nat)
    (hagree : ∀ j, j ≤ m → clk j = clk' j)
    (h : runInstrs F pollsEvery clk ks s 0 = some m) :
    runInstrs F pollsEvery clk' ks s 0 = some m := by
  rw [every_instruction_polls, firstTimeout_iff_least] at h ⊢
  obtain ⟨h1, h2, h3⟩ := h
  refine ⟨h1, ?_, ?_⟩
  · rw [← pollAt_clock_congr F clk clk' s m hagree]; exact h2
  · intro j hj
    rw [← pollAt_clock_congr F clk clk' s j (fun k hk => hagree k (by omega))]
    exact h3 j hj

example : runInstrs F0 pollsEvery (fun j => if j ≤ 6 then 10 + 3 * (j + 1) else 0)
    (List.replicate 10 .opPush) (new F0 0 0 1000 20 10) 0 = some 6 :=
  runInstrs_clock_local F0 (fun j => 10 + 3 * (j + 1)) _ _ _ 6
    (fun j hj => by simp [hj]) (by decide +kernel)

/-! ## 3. end to end: a runaway stream is interrupted, within the slack, and the host gets a timeout -/

/-- The property's main clause on the model, for every script shape `ks` (any instruction kinds),
every call stack (any nesting of entries and try/catch handlers) and every float implementation:
if one instruction costs at most `tmax`, the clock is past the deadline from check `n0` on and the
stream is longer than `n0 + maxI` instructions (it "does not terminate" for long enough), then the
entry loop stops the stream at some instruction `m`, not before the deadline and at most
`(maxI + 1) · tmax` after it, and the error then delivered through the stack reaches the host as a
timeout, whatever handlers are open. -/
theorem runaway_interrupted (F : TOps) (rate cap : UInt64) (maxI limit t0 tmax : Nat)
    (clk : Nat → Nat) (ks : List InstrKind)
    (hfirst : (new F rate cap maxI limit t0).intervalInstr ≤ maxI)
    (h0 : clk 0 ≤ t0 + tmax) (hstep : ∀ i, clk (i + 1) ≤ clk i + tmax)
    (n0 : Nat) (hpass : ∀ n, n0 ≤ n → t0 + limit ≤ clk n)
    (hlen : n0 + maxI < ks.length) :
    ∃ m, runInstrs F pollsEvery clk ks (new F rate cap maxI limit t0) 0 = some m ∧
      t0 + limit ≤ clk m ∧ clk m ≤ (t0 + limit) + (maxI + 1) * tmax ∧
      ∀ stack : List Frame, deliverTimeout stack = .escaped .timeout := by
  obtain ⟨n, hle, hn, hmin⟩ := first_timeout F clk (new F rate cap maxI limit t0) n0 (Nat.zero_le _) hpass
  have hb := interval_bounded_from_new F rate cap maxI limit t0 clk n0
  rw [Nat.max_eq_right hfirst] at hb
  refine ⟨n, ?_, never_early_run F clk _ n hn,
    bounded_slack_capped F rate cap maxI limit t0 tmax clk hfirst h0 hstep n hmin hn,
    not_catchable_nested⟩
  rw [every_instruction_polls, firstTimeout_iff_least]
  exact ⟨by omega, hn, hmin⟩

example : ∃ m, runInstrs F0 pollsEvery (fun j => 10 + 3 * (j + 1)) (List.replicate 1030 .jumpBack)
      (new F0 0 0 1000 20 10) 0 = some m ∧ 10 + 20 ≤ (fun j => 10 + 3 * (j + 1)) m := by
  obtain ⟨m, h1, h2, _⟩ := runaway_interrupted F0 0 0 1000 20 10 3 (fun j => 10 + 3 * (j + 1))
    (List.replicate 1030 .jumpBack) (by simp [new, asUsize, F0]) (by simp) (fun i => by omega) 20
    (fun n hn => by simp; omega) (by rw [List.length_replicate]; omega)
  exact ⟨m, h1, h2⟩

/-- … and the interruption point `m` is a function of the poller and the clock alone: the same for
every script, and it does not move when the script is continued. -/
theorem runaway_point_unique (F : TOps) (clk : Nat → Nat) (ks ks' : List InstrKind) (s : St) (m m' : Nat)
    (h : runInstrs F pollsEvery clk ks s 0 = some m)
    (h' : runInstrs F pollsEvery clk ks' s 0 = some m') : m = m' := by
  rw [every_instruction_polls, firstTimeout_iff_least] at h h'
  obtain ⟨_, h2, h3⟩ := h
  obtain ⟨_, h2', h3'⟩ := h'
  rcases Nat.lt_trichotomy m m' with hlt | heq | hgt
  · exact absurd h2 (h3' m hlt)
  · exact heq
  · exact absurd h2' (h3 m' hgt)

example : (6 : Nat) = 6 :=
  runaway_point_unique F0 (fun j => 10 + 3 * (j + 1)) (List.replicate 10 .opPush)
    (List.replicate 12 .call) (new F0 0 0 1000 20 10) 6 6 (by decide +kernel) (by decide +kernel)

/-! ## 4. delivery: where an ordinary error can land, in contrast to a timeout -/

theorem flat_caught_bound (stack : List Frame) :
    ∀ (ac : Bool) (h n : Nat), deliverFlat .other ac stack = .caught h n →
      0 < n ∧ n ≤ stack.length ∧ ∃ f ∈ stack, f.catches.head? = some h := by
  induction stack with
  | nil => exact fun ac h n hd => nomatch hd
  | cons f rest ih =>
    intro ac h n hd
    by_cases hc : ac = false ∨ f.catches = []
    · rw [deliverFlat_pass _ _ hc] at hd
      obtain ⟨hn, hl, g, hg, hh⟩ := ih _ h n hd
      exact ⟨hn, Nat.le_succ_of_le hl, g, List.mem_cons_of_mem _ hg, hh⟩
    · obtain ⟨rfl, h', hs, hcs⟩ := catches_of_not_pass hc
      rw [deliverFlat_catch _ _ hcs] at hd
      cases hd
      exact ⟨Nat.succ_pos _, Nat.le_refl _, f, List.mem_cons_self, by rw [hcs]; rfl⟩

/-- An ordinary error that is caught resumes at the innermost handler of some frame of the stack,
with at least that frame and at most the whole stack left — while on the very same stack a timeout
reaches the host (`catch` cannot swallow it). -/
theorem caught_inside_stack_timeout_not (stack : List Frame) (h n : Nat)
    (hd : deliverError stack = .caught h n) :
    (0 < n ∧ n ≤ stack.length ∧ ∃ f ∈ stack, f.catches.head? = some h) ∧
      deliverTimeout stack = .escaped .timeout := by
  rw [deliverError_flat] at hd
  exact ⟨flat_caught_bound stack true h n hd, not_catchable_nested stack⟩

example : deliverError [⟨[], true⟩, ⟨[7], true⟩] = .caught 7 1 := by decide +kernel

end KotoVerif.C08Ext2
