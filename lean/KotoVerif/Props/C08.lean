/-
C08 — the execution limit stops runaway scripts: property theorems about `Model/Timeout.lean`.

What is proved here is the *logic* of the poller and of error delivery, for every float
implementation `F`, every limit, every clock sequence and every call stack. Wall-clock behaviour
(how long an instruction takes) enters only as explicit hypotheses (`Costs`, `UpdateSound`); it is
measured by the harness, not proved.
-/
import KotoVerif.Model.Timeout
import KotoVerif.Lemmas.C08

namespace KotoVerif.C08
open KotoVerif.Timeout KotoVerif.C08L

/-! ## 1. never early -/

/-- A poll reports a timeout only if the clock reading it took is at or past the deadline. -/
theorem never_early (F : TOps) (s : St) (now : Nat) (h : (check F s now).2 = .timeout) :
    s.deadline ≤ now :=
  ((check_timeout_iff F s now).1 h).2

/-- … and so along a run; for an entry armed by `new … limit t0` the deadline is `t0 + limit`. -/
theorem never_early_run (F : TOps) (clk : Nat → Nat) (s : St) (n : Nat) (h : pollAt F clk s n = .timeout) :
    s.deadline ≤ clk n :=
  runN_deadline F clk n s 0 ▸ never_early F _ _ h

example : ∃ s now, (check ⟨fun _ => 0, fun _ _ => 0, fun _ _ => 0, fun _ _ => 0, fun _ _ => false,
    fun _ => false, fun _ => 0⟩ s now).2 = .timeout :=
  ⟨{ lastCheck := 0, deadline := 5, intervalSeconds := 0, intervalInstr := 0, sinceLast := 0, limit := 5 }, 7,
    by decide +kernel⟩

/-! ## 2. the gap between clock reads -/

theorem skip_ignores_clock (F : TOps) (s : St) (a b : Nat) (h : s.sinceLast < s.intervalInstr) :
    check F s a = check F s b := by
  rw [check_skip F s a h, check_skip F s b h]

/-- From any state with `since ≤ interval` the next `interval - since` checks are `skip` for every
clock and the one after them reads it: after a clock read (`since = 0`) exactly
`interval_instructions` instructions run unobserved. -/
theorem poll_gap (F : TOps) (clk : Nat → Nat) (s : St) (i : Nat) (h : s.sinceLast ≤ s.intervalInstr) :
    (∀ j, j < s.intervalInstr - s.sinceLast → (check F (runN F clk j s i) (clk (i + j))).2 = .skip) ∧
    (check F (runN F clk (s.intervalInstr - s.sinceLast) s i) (clk (i + (s.intervalInstr - s.sinceLast)))).2
      ≠ .skip := by
  constructor
  · intro j hj
    rw [runN_skips F clk j s i (Nat.le_of_lt hj)]
    rw [check_skip _ _ _ (by simp [skipMany]; omega)]
  · rw [runN_skips F clk _ s i (Nat.le_refl _), Ne, check_skip_iff]
    simp only [skipMany]
    omega

/-- the state reached by a clock read that did not time out: the new interval is the code's float
formula capped at `MAX_INTERVAL_INSTRUCTIONS` -/
theorem interval_update (F : TOps) (s : St) (now : Nat) (h : (check F s now).2 = .ok) :
    (check F s now).1.intervalInstr =
        min (asUsize F (F.mul (F.ofNat s.intervalInstr)
          (F.div (fmin F s.intervalSeconds (secsF F (s.deadline - now))) (secsF F (now - s.lastCheck)))))
          s.maxInterval ∧
    (check F s now).1.intervalInstr ≤ s.maxInterval ∧
    (check F s now).1.maxInterval = s.maxInterval ∧
    (check F s now).1.sinceLast = 0 ∧
    (check F s now).1.lastCheck = now ∧
    (check F s now).1.deadline = s.deadline ∧
    (check F s now).1.intervalSeconds = s.intervalSeconds ∧
    now < s.deadline ∧ s.intervalInstr ≤ s.sinceLast := by
  obtain ⟨h1, hd⟩ := (check_ok_iff F s now).1 h
  rw [check_ok F s now h1 hd]
  simp [nextInterval]
  omega

theorem interval_le_usizeMax (F : TOps) (s : St) (now : Nat) (h : s.intervalInstr ≤ usizeMax) :
    (check F s now).1.intervalInstr ≤ usizeMax := by
  rcases check_cases F s now with ⟨_, h2⟩ | ⟨_, _, h2⟩ | ⟨_, _, h2⟩ <;> rw [h2] <;> simp [h]
  simp [nextInterval, asUsize]; omega

/-- `poll_gap` after a clock read: between two clock reads exactly `interval_instructions + 1` checks
happen. -/
theorem poll_gap_after_read (F : TOps) (clk : Nat → Nat) (s : St) (now i : Nat)
    (h : (check F s now).2 = .ok) :
    let s' := (check F s now).1
    (∀ j, j < s'.intervalInstr → (check F (runN F clk j s' i) (clk (i + j))).2 = .skip) ∧
    (check F (runN F clk s'.intervalInstr s' i) (clk (i + s'.intervalInstr))).2 ≠ .skip := by
  intro s'
  have h0 : s'.sinceLast = 0 := (interval_update F s now h).2.2.2.1
  have := poll_gap F clk s' i (by omega)
  simpa [h0] using this

/-- Justification of the driver's fast path (`replay` skips `interval - since` checks at once): the
check it then performs is that check of the step-by-step run, for every clock that shows `t` there. -/
theorem replay_fast_path (F : TOps) (clk : Nat → Nat) (s : St) (i t : Nat)
    (h : s.sinceLast ≤ s.intervalInstr) (ht : clk (i + (s.intervalInstr - s.sinceLast)) = t) :
    check F (skipMany s (s.intervalInstr - s.sinceLast)) t =
      check F (runN F clk (s.intervalInstr - s.sinceLast) s i) (clk (i + (s.intervalInstr - s.sinceLast))) := by
  rw [runN_skips F clk _ s i (Nat.le_sub_of_add_le (by omega)), ht]

/-- A zero interval is absorbing under exact arithmetic only; in the model (as in the code) the
next interval is whatever the float formula gives. What always holds: with interval 0 every check
reads the clock. -/
theorem zero_interval_reads (F : TOps) (s : St) (now : Nat) (h : s.intervalInstr = 0) :
    (check F s now).2 ≠ .skip := by
  rw [Ne, check_skip_iff]
  omega

example : ∃ (s : St), s.sinceLast ≤ s.intervalInstr ∧ 0 < s.intervalInstr - s.sinceLast :=
  ⟨{ lastCheck := 0, deadline := 5, intervalSeconds := 0, intervalInstr := 3, sinceLast := 1, limit := 5 },
    by decide +kernel⟩

/-! ## 2b. every instruction is a polling point -/

/-- With the code's polling policy the entry loop performs exactly one check per instruction,
whatever the instructions are: the instruction stream only matters through its length. This is the
obligation the cost hypothesis of `bounded_slack` (`Costs`: time between consecutive CHECKS) rests
on — the time between two checks is the cost of ONE instruction. -/
theorem every_instruction_polls (F : TOps) (clk : Nat → Nat) (ks : List InstrKind) :
    ∀ (s : St) (i : Nat), runInstrs F pollsEvery clk ks s i = firstTimeout F clk ks.length s i := by
  induction ks with
  | nil => intro s i; rfl
  | cons k ks ih =>
    intro s i
    simp only [runInstrs, pollsEvery, firstTimeout, List.length_cons, if_true]
    split <;> simp_all

/-- The negation for a sparser policy (polling only before backwards jumps and call instructions,
"straight-line code always ends"): a stream of operator instructions whose overloads push frames —
self-recursion through `@negate`, `@<`, `@==`, `@index`, … — is never interrupted, whatever the
clock says. The harness runs exactly these streams (self-recursion spins, depth-capped). -/
theorem sparse_polling_never_detects (F : TOps) (clk : Nat → Nat) (n : Nat) :
    ∀ (s : St) (i : Nat),
      runInstrs F (fun k => k == .jumpBack || k == .call) clk (List.replicate n .opPush) s i = none := by
  induction n with
  | zero => intro s i; rfl
  | succ n ih => intro s i; simp [List.replicate_succ, runInstrs, ih]

/-- … while the code's policy reports the timeout on the same stream as soon as a check reads a
clock value at or past the deadline (here: at once, with interval 0) -/
example : runInstrs ⟨fun _ => 0, fun _ _ => 0, fun _ _ => 0, fun _ _ => 0, fun _ _ => false,
    fun _ => false, fun _ => 0⟩ pollsEvery (fun _ => 9) [.opPush, .opPush]
    { lastCheck := 0, deadline := 5, intervalSeconds := 0, intervalInstr := 0, sinceLast := 0, limit := 5 } 0
    = some 0 := by decide +kernel

/-! ## 3. polling never stops: a run whose clock passes the deadline reports the timeout -/

/-- Liveness of the poller, with no assumption on the interval arithmetic: if from check `n0` on the
clock is at or past the deadline, some check reports the timeout, at most `interval_instructions`
checks later. *When* that is in wall-clock terms is `bounded_slack`. -/
theorem eventually_detected (F : TOps) (clk : Nat → Nat) (s : St) (n0 : Nat)
    (hle : s.sinceLast ≤ s.intervalInstr) (hclk : ∀ n, n0 ≤ n → s.deadline ≤ clk n) :
    ∃ n, n0 ≤ n ∧ n ≤ n0 + (runN F clk n0 s 0).intervalInstr ∧ pollAt F clk s n = .timeout := by
  have hle1 := runN_sinceLast_le F clk n0 s 0 hle
  refine ⟨n0 + ((runN F clk n0 s 0).intervalInstr - (runN F clk n0 s 0).sinceLast), by omega, by omega, ?_⟩
  unfold pollAt
  rw [runN_add, runN_skips F clk _ _ _ (Nat.le_refl _), check_due_timeout F _ hle1]
  rw [runN_deadline]
  exact hclk _ (by omega)

theorem first_timeout (F : TOps) (clk : Nat → Nat) (s : St) (n0 : Nat)
    (hle : s.sinceLast ≤ s.intervalInstr) (hclk : ∀ n, n0 ≤ n → s.deadline ≤ clk n) :
    ∃ n, n ≤ n0 + (runN F clk n0 s 0).intervalInstr ∧ pollAt F clk s n = .timeout ∧
      ∀ j, j < n → pollAt F clk s j ≠ .timeout := by
  obtain ⟨n1, _, hn1, ht⟩ := eventually_detected F clk s n0 hle hclk
  obtain ⟨n, hn, h⟩ := least_of_exists (fun k => pollAt F clk s k = .timeout) n1 ht
  exact ⟨n, Nat.le_trans hn hn1, h⟩

/-! ## 4. bounded slack (integer skeleton; float facts and instruction costs are hypotheses)

`clk j` is the time of check number `j` on an abstract monotone clock. Hypotheses:
* `Costs` (Model/Timeout.lean): consecutive checks are between `tmin` and `tmax` apart (cost of one
  instruction, including whatever native code or nested interpreter entry it runs, plus the check);
* `UpdateSound` at every clock read of the run: the float computation of the new interval returned at
  most the exact quotient `interval · min(target, remaining) / elapsed` plus one (evaluated by the
  harness on every observed read).
Conclusion: the timeout is reported (liveness), not before the deadline, and at the latest at
`max (t0 + (I0 + 1)·tmax, deadline + target·(tmax/tmin − 1) + 2·tmax)` where `I0` is the first
interval and `target = limit/10` — the second bound is stated multiplied by `tmin`.
The first-interval term is what makes the real slack unbounded in practice when single instructions
are expensive (F-C08-2): see `first_interval_unobserved`. -/

/-- The first check that reports the timeout happens no later than
`max (t0 + (I0 + 1)·tmax, deadline + (limit/10)·(tmax/tmin − 1) + 2·tmax)`. -/
theorem bounded_slack (F : TOps) (rate cap : UInt64) (maxI : Nat) (limit t0 tmin tmax : Nat) (clk : Nat → Nat)
    (hc : Costs clk t0 tmin tmax)
    (hs : ∀ j, pollAt F clk (new F rate cap maxI limit t0) j = .ok →
      UpdateSound F (runN F clk j (new F rate cap maxI limit t0) 0) (clk j))
    (n : Nat)
    (hfirst : ∀ j, j < n → pollAt F clk (new F rate cap maxI limit t0) j ≠ .timeout)
    (hn : pollAt F clk (new F rate cap maxI limit t0) n = .timeout) :
    clk n ≤ t0 + ((new F rate cap maxI limit t0).intervalInstr + 1) * tmax ∨
    clk n * tmin ≤ (t0 + limit) * tmin + (limit / 10) * (tmax - tmin) + 2 * tmin * tmax :=
  slack_adapted F hc.le hc.step_lo hc.step_hi _
    ⟨⟨Nat.zero_le _, Nat.le_add_right _ _, by simpa [new] using hc.first_hi⟩,
      by simpa [new] using hc.first_lo, Or.inl ⟨rfl, rfl⟩⟩ hs n hfirst hn

/-- Liveness, `never_early` and `bounded_slack` together, for the first check that reports the timeout. -/
theorem detected_within_slack (F : TOps) (rate cap : UInt64) (maxI : Nat) (limit t0 tmin tmax : Nat) (clk : Nat → Nat)
    (hc : Costs clk t0 tmin tmax)
    (hs : ∀ j, pollAt F clk (new F rate cap maxI limit t0) j = .ok →
      UpdateSound F (runN F clk j (new F rate cap maxI limit t0) 0) (clk j)) :
    ∃ n, pollAt F clk (new F rate cap maxI limit t0) n = .timeout ∧
      (∀ j, j < n → pollAt F clk (new F rate cap maxI limit t0) j ≠ .timeout) ∧
      t0 + limit ≤ clk n ∧
      (clk n ≤ t0 + ((new F rate cap maxI limit t0).intervalInstr + 1) * tmax ∨
       clk n * tmin ≤ (t0 + limit) * tmin + (limit / 10) * (tmax - tmin) + 2 * tmin * tmax) := by
  -- every check takes at least `tmin ≥ 1`, so from check number `limit` on the clock is past the deadline
  obtain ⟨n, _, hn, hmin⟩ := first_timeout F clk (new F rate cap maxI limit t0) limit (Nat.zero_le _)
    (fun n hn => by have := clk_lower clk t0 tmin tmax hc n; show t0 + limit ≤ clk n; omega)
  exact ⟨n, hn, hmin, never_early_run F clk _ n hn,
    bounded_slack F rate cap maxI limit t0 tmin tmax clk hc hs n hmin hn⟩

/-- Slack with the interval cap (aa1a96f), independent of what ran before: if consecutive checks
are at most `tmax` apart (the cost of the most expensive instruction, clock read included) and the
first interval respects the cap (`hfirst`: a float fact about `min(baseline, 100.0) as usize`, which the
harness observes as 100 ≤ 1000), then the first check that reports the timeout does so no later than
`deadline + (maxInterval + 1) · tmax`. No lower bound on instruction cost and no hypothesis on the
rounding of the interval update are needed: the cheap/expensive ratio of earlier phases
(`bounded_slack`'s `tmax/tmin` term, F-C08-8) does not enter. -/
theorem bounded_slack_capped (F : TOps) (rate cap : UInt64) (maxI : Nat) (limit t0 tmax : Nat) (clk : Nat → Nat)
    (hfirst : (new F rate cap maxI limit t0).intervalInstr ≤ maxI)
    (h0 : clk 0 ≤ t0 + tmax) (hstep : ∀ i, clk (i + 1) ≤ clk i + tmax)
    (n : Nat)
    (hbefore : ∀ j, j < n → pollAt F clk (new F rate cap maxI limit t0) j ≠ .timeout)
    (hn : pollAt F clk (new F rate cap maxI limit t0) n = .timeout) :
    clk n ≤ (t0 + limit) + (maxI + 1) * tmax :=
  slack_capped F hstep _ maxI ⟨Nat.zero_le _, Nat.le_add_right _ _, by simpa [new] using h0⟩ hfirst
    (Nat.le_refl _) n hbefore hn

/-- … with liveness (`eventually_detected`, which needs no hypothesis): a run whose clock passes the
deadline ends with a timeout reported within `(maxInterval + 1) · tmax` after it. -/
theorem detected_within_capped_slack (F : TOps) (rate cap : UInt64) (maxI : Nat) (limit t0 tmax : Nat)
    (clk : Nat → Nat)
    (hfirst : (new F rate cap maxI limit t0).intervalInstr ≤ maxI)
    (h0 : clk 0 ≤ t0 + tmax) (hstep : ∀ i, clk (i + 1) ≤ clk i + tmax)
    (n0 : Nat) (hpass : ∀ n, n0 ≤ n → t0 + limit ≤ clk n) :
    ∃ n, pollAt F clk (new F rate cap maxI limit t0) n = .timeout ∧
      t0 + limit ≤ clk n ∧ clk n ≤ (t0 + limit) + (maxI + 1) * tmax := by
  obtain ⟨n, _, hn, hmin⟩ := first_timeout F clk (new F rate cap maxI limit t0) n0 (Nat.zero_le _) hpass
  exact ⟨n, hn, never_early_run F clk _ n hn,
    bounded_slack_capped F rate cap maxI limit t0 tmax clk hfirst h0 hstep n hmin hn⟩

example : ∃ n, pollAt ⟨fun _ => 0, fun _ _ => 0, fun _ _ => 0, fun _ _ => 0, fun _ _ => false,
      fun _ => false, fun _ => 0⟩ (fun j => 10 + 3 * (j + 1))
      (new ⟨fun _ => 0, fun _ _ => 0, fun _ _ => 0, fun _ _ => 0, fun _ _ => false,
      fun _ => false, fun _ => 0⟩ 0 0 1000 20 10) n = .timeout ∧
      (fun j => 10 + 3 * (j + 1)) n ≤ (10 + 20) + (1000 + 1) * 3 := by
  obtain ⟨n, h1, _, h3⟩ := detected_within_capped_slack ⟨fun _ => 0, fun _ _ => 0, fun _ _ => 0, fun _ _ => 0,
    fun _ _ => false, fun _ => false, fun _ => 0⟩ 0 0 1000 20 10 3 (fun j => 10 + 3 * (j + 1))
    (by simp [new, asUsize]) (by simp) (fun i => by omega) 20 (fun n hn => by simp; omega)
  exact ⟨n, h1, h3⟩

/-- The first `interval_instructions` checks of an entry never read the clock — whatever the clock
says, in particular however far past the deadline it is. Every `execute_instructions` invocation
starts with such a blind window of its own (`new` is called per entry, with deadline `now + limit`):
the model-level content of F-C08-2. -/
theorem first_interval_unobserved (F : TOps) (rate cap : UInt64) (maxI : Nat) (limit t0 : Nat) (clk : Nat → Nat) (n : Nat)
    (hn : n < (new F rate cap maxI limit t0).intervalInstr) :
    pollAt F clk (new F rate cap maxI limit t0) n = .skip := by
  have h := (poll_gap F clk (new F rate cap maxI limit t0) 0 (by simp [new])).1 n (by simpa [new] using hn)
  simpa [pollAt] using h

/-- the first interval is the capped baseline, exactly as `new` computes it: `min(rate · limit/10 s, cap)`
cast to `usize` (`cap = 100.0`, koto commit 0c1b674: an uncapped baseline makes the first clock read
of a loop of expensive instructions arbitrarily late, F-C08-6) -/
theorem first_interval_formula (F : TOps) (rate cap : UInt64) (maxI : Nat) (limit t0 : Nat) :
    (new F rate cap maxI limit t0).intervalInstr =
      asUsize F (fmin F (F.mul rate (secsF F (limit / 10))) cap) ∧
    (new F rate cap maxI limit t0).intervalInstr ≤ usizeMax := by
  constructor
  · rfl
  · simp [new, asUsize]; omega

/-- a nested entry is armed from its own start time: its deadline ignores the enclosing entry's -/
theorem rearmed_per_entry (F : TOps) (rate cap : UInt64) (maxI : Nat) (limit tOuter tInner : Nat) :
    (new F rate cap maxI limit tInner).deadline = tInner + limit ∧
    (new F rate cap maxI limit tInner).deadline = (new F rate cap maxI limit tOuter).deadline + (tInner - tOuter) ∨
      tInner < tOuter := by
  by_cases h : tInner < tOuter
  · exact Or.inr h
  · left; simp [new]; omega

example : Costs (fun j => 10 + 3 * (j + 1)) 10 3 3 :=
  ⟨by decide +kernel, by decide +kernel, by simp, by simp, fun i => by omega, fun i => by omega⟩

/-- the hypotheses of `detected_within_slack` are satisfiable (degenerate float ops that always
produce interval 0, a clock ticking every 3 units): the conclusion is then a concrete detection. -/
example : ∃ n, pollAt ⟨fun _ => 0, fun _ _ => 0, fun _ _ => 0, fun _ _ => 0, fun _ _ => false,
      fun _ => false, fun _ => 0⟩ (fun j => 10 + 3 * (j + 1))
      (new ⟨fun _ => 0, fun _ _ => 0, fun _ _ => 0, fun _ _ => 0, fun _ _ => false,
      fun _ => false, fun _ => 0⟩ 0 0 1000 20 10) n = .timeout ∧ 10 + 20 ≤ (fun j => 10 + 3 * (j + 1)) n := by
  obtain ⟨n, h1, _, h3, _⟩ := detected_within_slack ⟨fun _ => 0, fun _ _ => 0, fun _ _ => 0, fun _ _ => 0,
    fun _ _ => false, fun _ => false, fun _ => 0⟩ 0 0 1000 20 10 3 3 (fun j => 10 + 3 * (j + 1))
    ⟨by decide +kernel, by decide +kernel, by simp, by simp, fun i => by omega, fun i => by omega⟩
    (fun j _ => by simp [UpdateSound, nextInterval, asUsize])
  exact ⟨n, h1, h3⟩

/-! ## 5. delivery: no handler can see a timeout

The model mirrors the code after the repair of F-C08-1 (koto commit 5a7e832): an error keeps its kind
when native code hands it from a nested interpreter entry to the enclosing one, and the enclosing
entry re-raises it with `allow_catch = kind.allowCatch` (`false` for a timeout). With
`allow_catch = true` for every kind, `try (1, 2).each(|x| loop …).to_list() catch …` swallowed the
timeout; that witness has to escape — see the `example`s below and the harness sweep. -/

theorem deliver_flat (stack : List Frame) :
    deliverTimeout stack = deliverFlat .timeout false stack ∧
    deliverError stack = deliverFlat .other true stack :=
  ⟨deliverTimeout_flat stack, deliverError_flat stack⟩

/-- A timeout detected in entry `E` (the top entry of the stack) is not delivered to any catch of
`E`'s frames: the unwinding inside `E` never yields a handler. -/
theorem not_catchable_same_entry (stack : List Frame) : (unwind false stack).1 = none := by
  induction stack with
  | nil => simp [unwind]
  | cons f rest ih => cases hb : f.barrier <;> simp [unwind, hb, ih]

/-- … and it is not delivered to any catch of any enclosing entry either: for every call stack —
any number of nested entries, open handlers anywhere — a timeout reaches the host, and reaches it as
a timeout. A script cannot swallow it. The witnesses of F-C08-1 and F-C08-4 (`m = {@display: || loop ()}`,
`try x = '{[m]}' catch e …`) are cases of the harness sweep and must escape. -/
theorem not_catchable_nested (stack : List Frame) : deliverTimeout stack = .escaped .timeout := by
  rw [deliverTimeout_flat]; exact flat_timeout_escaped stack

theorem timeout_handlers_irrelevant (s1 s2 : List Frame) : deliverTimeout s1 = deliverTimeout s2 := by
  rw [not_catchable_nested, not_catchable_nested]

/-- the witness of F-C08-1: callback frame = nested entry, handler 7 open in the main chunk -/
example : deliverTimeout [⟨[], true⟩, ⟨[7], true⟩] = .escaped .timeout := by decide +kernel

/-- handler in a middle entry, two nested entries above it -/
example : deliverTimeout [⟨[], true⟩, ⟨[], false⟩, ⟨[3], true⟩, ⟨[9], true⟩] = .escaped .timeout := by
  decide +kernel

/-- a plain call chain with handlers at every level of one entry -/
example : deliverTimeout [⟨[1], false⟩, ⟨[2, 3], false⟩, ⟨[4], true⟩] = .escaped .timeout := by decide +kernel

/-- ordinary errors on the same stacks are caught by the innermost handler (the statement about
timeouts is not vacuous: delivery does reach handlers — across entries — for other kinds) -/
example : deliverError [⟨[1], false⟩, ⟨[2, 3], false⟩, ⟨[4], true⟩] = .caught 1 3 := by decide +kernel
example : deliverError [⟨[], true⟩, ⟨[7], true⟩] = .caught 7 1 := by decide +kernel

/-- ordinary errors: delivered to the dynamically innermost open handler across entries; to the
host iff no handler is open -/
theorem error_caught_innermost (stack : List Frame) :
    (∀ h, firstHandler stack = some h → ∃ n, deliverError stack = .caught h n) ∧
    (firstHandler stack = none → deliverError stack = .escaped .other) := by
  rw [deliverError_flat]
  induction stack with
  | nil => exact ⟨nofun, fun _ => rfl⟩
  | cons f rest ih =>
    cases hc : f.catches with
    | nil => simpa only [firstHandler, hc, deliverFlat_other_pass rest hc] using ih
    | cons h hs =>
      simp only [firstHandler, hc, deliverFlat_catch .other rest hc]
      exact ⟨fun h' e => ⟨_, by cases e; rfl⟩, nofun⟩

end KotoVerif.C08
