/-
C13 — Iterator pipelines are lazy, ordered and faithful to sequence semantics.

The model is `Model/Iter.lean` (state machines mirroring `core_lib/iterator/adaptors.rs`,
`types/iterator.rs`, `types/range.rs`, `core_lib/iterator.rs`). All statements quantify over every
pipeline / source / parameter / number of calls — no bound. `fuel` is the loop bound of `Keep` /
`Flatten` and of the consumer loop; statements hold for every fuel that exceeds the length of the
sequences involved.

Vocabulary: `outs c n s` = outputs of `n` consecutive `next` calls from state `s`; `ideal n xs` = what
an ideal sequence `xs` answers (`some x₀, …, none, none, …`); `outsD` / `idealD` = the same for
arbitrary sequences of `next` (`true`) and `next_back` (`false`) calls; `pullN c m s` = final state
and all events of `m` consecutive `next` calls.
-/
import KotoVerif.Lemmas.C13Trace

namespace KotoVerif.C13
open KotoVerif KotoVerif.Iter

/-! ## faithful: every pipeline yields the mathematical definition of its operations -/

/-- **iter_refines.** For every well-formed pipeline `p` without endless parts — any composition of
`each, keep, take, take_while, skip, step, chain, zip, enumerate, chunks, windows, flatten,
intersperse(_with), reversed, peekable, keys/values` over list/tuple/map/range/string/bytes/host
bytes/generator/`@next` object/`repeat n` sources — the iterator built by the state machines yields
exactly `den p` (`take = List.take`, `skip = drop`, `chain = ++`, `keep = filter`, `each = map`,
`reversed = reverse`, …) and then `None` forever, for any number of `next` calls. -/
theorem iter_refines (fuel : Nat) (p : Pipe) (xs : List Val)
    (hreg : p.regular = true) (herr : p.err = none) (hden : den p = some xs) (hfit : p.fits fuel) :
    ∀ n, outs (build fuel p).c n (build fuel p).s = ideal n xs :=
  (build_den fuel p xs hreg herr hden hfit).fwd

/-- the hypotheses of `iter_refines` are satisfiable by a non-trivial pipeline (depth 4, two sources) -/
example : ∃ (p : Pipe) (xs : List Val), p.regular = true ∧ p.err = none ∧ den p = some xs ∧ p.fits 8 ∧
    xs.length = 3 :=
  ⟨.take 3 (.chain (.windows 2 (.each .wrap (.src (.gen 0 [Val.int 10, Val.int 11, Val.int 12]))))
      (.skip 1 (.src (.seq [Val.int 1, Val.int 2])))), _, rfl, rfl, rfl,
    by simp [Pipe.fits], rfl⟩

/-- **iter_refines for `to_list`.** Collecting the built iterator returns `den p` as a list. -/
theorem to_list_refines (fuel : Nat) (p : Pipe) (xs : List Val)
    (hreg : p.regular = true) (herr : p.err = none) (hden : den p = some xs) (hfit : p.fits fuel)
    (hlen : xs.length < fuel) : (runCase fuel p .toList).1 = .ok (.list xs) := by
  simp only [runCase, herr]
  exact drain_spec (build_den fuel p xs hreg herr hden hfit).fwd hlen

example : (runCase 8 (.take 2 (.each .ident (.src (.gen 0 [Val.int 10, Val.int 11, Val.int 12])))) .toList).1
    = .ok (.list [Val.int 10, Val.int 11]) :=
  to_list_refines 8 _ _ rfl rfl rfl trivial (by decide)

/-- **consumer_refines.** Every single-loop consumer (`to_list, to_tuple, to_map, to_string, count,
sum, product, min, max, min_max` (also by key), `find, position, any, all, last, fold, consume`,
`for`) applied to the built iterator returns what the same consumer returns on the plain list
`den p`, which is how `specCons` (behind the property's answer `specCase`) is defined for these
consumers. For the other constructors of `Cons` both sides are `.error .unsupported`. -/
theorem consumer_refines (fuel : Nat) (p : Pipe) (c : Cons) (xs : List Val)
    (hreg : p.regular = true) (herr : p.err = none) (hden : den p = some xs) (hfit : p.fits fuel)
    (hlen : xs.length < fuel) :
    (runLoop fuel (build fuel p) c).1 = (runLoop (xs.length + 1) (listIt xs) c).1 :=
  runLoop_spec c fuel (build fuel p) xs (build_den fuel p xs hreg herr hden hfit).fwd hlen

example : (runLoop 8 (build 8 (.skip 1 (.src (.seq [Val.int 0, Val.int 1, Val.int 2])))) .count).1
    = (runLoop 3 (listIt [Val.int 1, Val.int 2]) .count).1 :=
  consumer_refines 8 (.skip 1 (.src (.seq [Val.int 0, Val.int 1, Val.int 2]))) .count
    [Val.int 1, Val.int 2] rfl rfl rfl trivial (by simp)

/-! ## reversing and double-ended use -/

/-- **double_ended_spec.** A bidirectional pipeline (list/tuple/map/range/string/`@next_back` object
under `each`, `skip`, `reversed`, `peekable`) answers *every* interleaving of `next` and `next_back`
calls like the ideal double-ended sequence `den p`: front calls take the head, back calls the last
element, nothing is yielded twice, an exhausted iterator stays exhausted. -/
theorem double_ended_spec (fuel : Nat) (p : Pipe) (xs : List Val)
    (hreg : p.regular = true) (herr : p.err = none) (hden : den p = some xs) (hfit : p.fits fuel)
    (hbi : p.bidir = true) :
    ∀ ds, outsD (build fuel p).c ds (build fuel p).s = idealD ds xs :=
  (build_den fuel p xs hreg herr hden hfit).2 hbi

example : outsD (build 8 (.skip 1 (.src (.seq [Val.int 1, Val.int 2, Val.int 3])))).c [false, true, true]
      (build 8 (.skip 1 (.src (.seq [Val.int 1, Val.int 2, Val.int 3])))).s
    = [some (Val.int 3), some (Val.int 2), none] :=
  double_ended_spec 8 (.skip 1 (.src (.seq [Val.int 1, Val.int 2, Val.int 3]))) [Val.int 2, Val.int 3]
    rfl rfl rfl trivial rfl [false, true, true]

/-- **reversed_spec.** Reversing a bidirectional pipeline yields exactly its forward sequence
backwards (and `reversed` is itself double-ended, so it composes). This includes
`Skip::next_back`, which first performs the pending forward skip. -/
theorem reversed_spec (fuel : Nat) (p : Pipe) (xs : List Val)
    (hreg : p.regular = true) (herr : p.err = none) (hden : den p = some xs) (hfit : p.fits fuel)
    (hbi : p.bidir = true) :
    (∀ n, outs (build fuel (.reversed p)).c n (build fuel (.reversed p)).s = ideal n xs.reverse) ∧
    (∀ ds, outsD (build fuel (.reversed p)).c ds (build fuel (.reversed p)).s = idealD ds xs.reverse) := by
  have h := ((Denotes.mk hreg herr hden hfit).reversed hbi).build_den
  exact ⟨h.1, h.2 rfl⟩

example : (runCase 8 (.reversed (.skip 1 (.src (.seq [Val.int 0, Val.int 1, Val.int 2, Val.int 3])))) .toList).1
    = .ok (.list [Val.int 3, Val.int 2, Val.int 1]) :=
  to_list_refines 8 _ _ rfl rfl rfl trivial (by decide)

/-- **calls_refines.** What a script observes from any sequence of `iterator.next` /
`iterator.next_back` calls on a bidirectional pipeline (outputs, `END` for null) is what the ideal
double-ended sequence answers — exhausted-iterator reuse included. -/
theorem calls_refines (fuel : Nat) (p : Pipe) (xs : List Val)
    (hreg : p.regular = true) (herr : p.err = none) (hden : den p = some xs) (hfit : p.fits fuel)
    (hbi : p.bidir = true) (ds : List Bool) :
    (runCalls ds (build fuel p)).1 = (idealD ds xs).map (fun o => o.getD endMarker) := by
  rw [runCalls_outs, double_ended_spec fuel p xs hreg herr hden hfit hbi ds]

example : (runCalls [true, false, false, true] (build 8 (.each .ident (.src (.seq [Val.int 1, Val.int 2]))))).1
    = [Val.int 1, Val.int 2, endMarker, endMarker] :=
  calls_refines 8 (.each .ident (.src (.seq [Val.int 1, Val.int 2]))) [Val.int 1, Val.int 2]
    rfl rfl rfl trivial rfl _

/-- `next`, `next_back`, `peek`, `peek_back` on `p.peekable()` answer like the ideal sequence `den p`,
with a back end exactly when `p` is bidirectional -/
theorem peek_ops_spec (fuel : Nat) (p : Pipe) (xs : List Val)
    (hreg : p.regular = true) (herr : p.err = none) (hden : den p = some xs) (hfit : p.fits fuel)
    (ops : List PeekOp) :
    (runCase fuel p (.peekOps ops)).1 = .ok (.list (specPeek p.bidir ops xs)) := by
  have h := runPeekOps_spec endMarker (build_bidir fuel p) ops (s := ⟨(build fuel p).s, none, none⟩)
    (build_den fuel p xs hreg herr hden hfit) (fun _ => rfl)
  rw [peekDen_fresh] at h
  simp only [runCase, herr]
  show Except.ok (Val.list (runPeekOps (build fuel p).c endMarker ops ⟨(build fuel p).s, none, none⟩).1) = _
  rw [h, specPeek]
  cases p.bidir
  · rw [if_neg Bool.false_ne_true, specPeekOpsF_eq]
  · rw [if_pos rfl, specPeekOps_eq]

/-- **peek_ops_refine.** Any sequence of `next`, `next_back`, `peek`, `peek_back` on
`p.peekable()` over a bidirectional pipeline answers like the ideal double-ended sequence `den p`,
where `peek` / `peek_back` look at the two ends without removing anything (the cached element stays
part of the sequence, also when it is the only one left and is reached from the other end). For
forward-only pipelines see `peek_ops_forward_only`. -/
theorem peek_ops_refine (fuel : Nat) (p : Pipe) (xs : List Val)
    (hreg : p.regular = true) (herr : p.err = none) (hden : den p = some xs) (hfit : p.fits fuel)
    (hbi : p.bidir = true) (ops : List PeekOp) :
    (runCase fuel p (.peekOps ops)).1 = .ok (.list (specPeekOps ops xs)) := by
  rw [peek_ops_spec fuel p xs hreg herr hden hfit, hbi]; rfl

example : (runCase 8 (.src (.seq [Val.int 1, Val.int 2])) (.peekOps [.peek, .peekBack, .next, .peek, .back, .next])).1
    = .ok (.list [Val.int 1, Val.int 2, Val.int 1, Val.int 2, Val.int 2, endMarker]) :=
  peek_ops_refine 8 (.src (.seq [Val.int 1, Val.int 2])) [Val.int 1, Val.int 2] rfl rfl rfl trivial rfl _

/-- **peek_ops_forward_only.** Over a forward-only pipeline (generator, `keep`, `take`, `zip`, …) any
sequence of `next`, `next_back`, `peek`, `peek_back` on `p.peekable()` answers like the ideal
forward-only sequence `den p`: `next` takes the head, `peek` looks at it, and `next_back` /
`peek_back` answer null and change nothing — in particular a peeked element is never handed out from
the back. (Code as of /repo commit 582d021; before it the peeked element migrated to the back cache
and was yielded last — finding F-C13-4, fixed.) -/
theorem peek_ops_forward_only (fuel : Nat) (p : Pipe) (xs : List Val)
    (hreg : p.regular = true) (herr : p.err = none) (hden : den p = some xs) (hfit : p.fits fuel)
    (hbi : p.bidir = false) (ops : List PeekOp) :
    (runCase fuel p (.peekOps ops)).1 = .ok (.list (specPeekOpsF ops xs)) := by
  rw [peek_ops_spec fuel p xs hreg herr hden hfit, hbi]; rfl

example : (runCase 8 (.src (.gen 0 [Val.int 1, Val.int 2, Val.int 3]))
      (.peekOps [.peek, .peekBack, .next, .back, .next, .next, .next])).1
    = .ok (.list [Val.int 1, endMarker, Val.int 1, endMarker, Val.int 2, Val.int 3, endMarker]) :=
  peek_ops_forward_only 8 (.src (.gen 0 [Val.int 1, Val.int 2, Val.int 3]))
    [Val.int 1, Val.int 2, Val.int 3] rfl rfl rfl trivial rfl _

/-- **peek_back_forward_only_harmless.** Over a forward-only pipeline, after *any* interleaving of
`peek`, `peek_back` and `next_back`, every later sequence of operations — in particular a forward
drain by `n` `next` calls — answers exactly as on the untouched sequence `den p`: no element is lost,
duplicated or moved. -/
theorem peek_back_forward_only_harmless (fuel : Nat) (p : Pipe) (xs : List Val)
    (hreg : p.regular = true) (herr : p.err = none) (hden : den p = some xs) (hfit : p.fits fuel)
    (hbi : p.bidir = false) (ops rest : List PeekOp) (hn : ∀ o ∈ ops, o ≠ PeekOp.next) :
    (runCase fuel p (.peekOps (ops ++ rest))).1 =
      .ok (.list (specPeekOpsF ops xs ++ specPeekOpsF rest xs)) := by
  rw [peek_ops_forward_only fuel p xs hreg herr hden hfit hbi, specPeekOpsF_append ops rest xs hn]

/-- the witness of finding F-C13-4: generator `a, b, c`; `peek, peek_back`, then drain -/
example (a b c : Val) :
    (runPeekOps (genCo 0 [a, b, c]) endMarker [.peek, .peekBack, .next, .next, .next, .next]
      ⟨(0, false), none, none⟩).1 = [a, endMarker, a, b, c, endMarker] :=
  (runPeekOps_spec (c := genCo 0 [a, b, c]) (b := false) endMarker rfl _ (s := ⟨(0, false), none, none⟩)
    (gen_fwd 0 [a, b, c] 0 false).toDen (fun _ => rfl)).trans rfl

/-- **cycle_take.** Over a pipeline that yields the non-empty `ys`, `cycle` yields
`ys[0], …, ys[len-1], ys[0], …` endlessly: its first `n` outputs are `ys[t % len]` for `t < n`
(so `take n` of it is the `n`-element prefix of the endless repetition). -/
theorem cycle_take (fuel : Nat) (p : Pipe) (ys : List Val)
    (hreg : p.regular = true) (herr : p.err = none) (hden : den p = some ys) (hfit : p.fits fuel)
    (hne : ys ≠ []) (n : Nat) :
    outs (build fuel (.cycle p)).c n (build fuel (.cycle p)).s =
      (List.range n).map (fun t => ys[t % ys.length]?) :=
  cycle_outs (build_den fuel p ys hreg herr hden hfit).fwd hne n

example : outs (build 8 (.cycle (.src (.gen 0 [Val.int 1, Val.int 2])))).c 5
      (build 8 (.cycle (.src (.gen 0 [Val.int 1, Val.int 2])))).s
    = [some (Val.int 1), some (Val.int 2), some (Val.int 1), some (Val.int 2), some (Val.int 1)] :=
  cycle_take 8 (.src (.gen 0 [Val.int 1, Val.int 2])) [Val.int 1, Val.int 2] rfl rfl rfl trivial (by simp) 5

theorem cycle_of_empty (fuel : Nat) (p : Pipe)
    (hreg : p.regular = true) (herr : p.err = none) (hden : den p = some []) (hfit : p.fits fuel) :
    ∀ n, outs (build fuel (.cycle p)).c n (build fuel (.cycle p)).s = ideal n [] :=
  cycle_empty (build_den fuel p [] hreg herr hden hfit).fwd

example : outs (build 8 (.cycle (.src (.seq [])))).c 2 (build 8 (.cycle (.src (.seq [])))).s = [none, none] :=
  cycle_of_empty 8 (.src (.seq [])) rfl rfl rfl trivial 2

/-- **byteiter_double_ended.** The host byte iterator (`KIterator::with_bytes`) answers every
interleaving of `next` / `next_back` like the ideal double-ended byte sequence. (Code as of /repo
commit 0c6b903; before it `ByteIterator::next_back` read `bytes[self.index]` and this statement was
false — finding F-C13-1, fixed. The source is covered by `iter_refines` / `reversed_spec` like any
other.) -/
theorem byteiter_double_ended (xs : List Val) :
    ∀ ds, outsD (hostBytesCo xs) ds ⟨0, xs.length⟩ = idealD ds xs := hostBytes_deq xs

example : outsD (hostBytesCo [Val.int 97, Val.int 98, Val.int 99]) [false, false, true, true] ⟨0, 3⟩
    = [some (Val.int 99), some (Val.int 98), some (Val.int 97), none] :=
  byteiter_double_ended [Val.int 97, Val.int 98, Val.int 99] _

/-- reversed host bytes, through the pipeline theorem -/
example : (runCase 8 (.reversed (.src (.hostBytes [Val.int 97, Val.int 98, Val.int 99]))) .toList).1
    = .ok (.list [Val.int 99, Val.int 98, Val.int 97]) :=
  to_list_refines 8 _ _ rfl rfl rfl trivial (by decide)

/-! ## lazy: adaptors pull only when consumed, one at a time, in order -/

/-- **no_pull_at_build / consumed-only.** Building a pipeline causes no event at all (construction
is a pure function of the pipeline: `build` returns only a state), and a consumer that makes no call
causes none either. -/
theorem no_pull_unless_consumed (fuel : Nat) (p : Pipe) :
    (runCons fuel (build fuel p) (.calls [])).2 = [] := rfl

/-- **lazy_bound (take).** `m` calls on `take k` make exactly `min m k` calls on its input and cause
exactly their events: `take` never pulls more than `k` elements, and never pulls ahead. -/
theorem lazy_bound_take (c : Co) (m k : Nat) (s : c.σ) :
    pullN (takeCo c) m (s, k) = (((pullN c (min m k) s).1, k - min m k), (pullN c (min m k) s).2) := by
  induction m generalizing s k with
  | zero => rw [Nat.zero_min]; rfl
  | succ m ih =>
    cases k with
    | zero =>
      have := ih 0 s
      rw [Nat.min_zero] at this ⊢
      show ((pullN (takeCo c) m (s, 0)).1, [] ++ (pullN (takeCo c) m (s, 0)).2) = _
      rw [this]; rfl
    | succ k =>
      rw [Nat.succ_min_succ]
      show ((pullN (takeCo c) m ((c.next s).st, k)).1, (c.next s).ev ++ (pullN (takeCo c) m ((c.next s).st, k)).2) =
        (((pullN c (min m k + 1) s).1, k + 1 - (min m k + 1)), (pullN c (min m k + 1) s).2)
      rw [ih k (c.next s).st, Nat.add_sub_add_right]; rfl

example : (pullN (takeCo (genCo 0 [Val.int 1, Val.int 2, Val.int 3])) 5 ((0, false), 2)).2
    = [Ev.pull 0 0, Ev.pull 0 1] := rfl

/-- **lazy_bound (each, enumerate).** One call on the input per call. -/
theorem lazy_bound_each (f : Fn) (c : Co) (m : Nat) (s : c.σ) :
    (pullN (eachCo f c) m s).1 = (pullN c m s).1 := by
  induction m generalizing s with
  | zero => rfl
  | succ m ih =>
    show (pullN (eachCo f c) m ((eachCo f c).next s).st).1 = (pullN c m (c.next s).st).1
    rw [(eachCo_next f c s).2]; exact ih _

theorem lazy_bound_enumerate (c : Co) (m : Nat) (s : c.σ) (i : Nat) :
    (pullN (enumerateCo c) m (s, i)).1 = ((pullN c m s).1, i + m) := by
  induction m generalizing s i with
  | zero => rfl
  | succ m ih => exact (ih (c.next s).st (i + 1)).trans (by rw [Nat.add_assoc, Nat.add_comm 1 m]; rfl)

example : (pullN (eachCo .wrap (metaCo 0 [Val.int 1, Val.int 2, Val.int 3])) 2 (0 : Nat)).1 = (2 : Nat) :=
  lazy_bound_each .wrap (metaCo 0 [Val.int 1, Val.int 2, Val.int 3]) 2 (0 : Nat)

example : (pullN (enumerateCo (metaCo 0 [Val.int 1, Val.int 2, Val.int 3])) 2 ((0 : Nat), 0)).1 = ((2 : Nat), 2) :=
  lazy_bound_enumerate (metaCo 0 [Val.int 1, Val.int 2, Val.int 3]) 2 (0 : Nat) 0

/-- **lazy_bound (step).** One call on `step n` with `k` stepped-over elements pending performs
exactly `Iterator::nth(k)` on its input: the `k` pending skips (stopping at the first `None`) and then
the pull of the value it yields — with exactly those events, and *nothing after the yielded value*:
no element is pulled on behalf of an output nobody has asked for. After a value `n - 1` skips are
pending, after exhaustion none. (Code as of /repo commit 517b000; before, the `n - 1` skips were
performed right after yielding — finding F-C13-5, fixed.) -/
theorem lazy_bound_step (n : Nat) (c : Co) (s : c.σ) (k : Nat) :
    ((stepCo n c).next (s, k)).out = (nth c k s).out ∧
    ((stepCo n c).next (s, k)).st.1 = (nth c k s).st ∧
    ((stepCo n c).next (s, k)).ev = (nth c k s).ev ∧
    ((stepCo n c).next (s, k)).st.2 = (if (nth c k s).out.isSome then n - 1 else 0) :=
  step_next_eq n c (s, k)

/-- when the pending skips all succeed these are exactly `k + 1` consecutive calls on the input -/
theorem lazy_bound_step_count (n : Nat) (c : Co) (s : c.σ) (k : Nat) (h : (advance c k s).1 = true) :
    ((stepCo n c).next (s, k)).st.1 = (pullN c (k + 1) s).1 ∧
    ((stepCo n c).next (s, k)).ev = (pullN c (k + 1) s).2 := by
  have ⟨_, e2, e3, _⟩ := step_next_eq n c (s, k)
  have ⟨p1, p2⟩ := nth_eq_pullN c k s h
  exact ⟨by rw [e2, p1], by rw [e3, p2]⟩

/-- **step_first_call_pulls_one.** The first call on `step n` makes exactly one call on its input,
whatever `n` is: the elements to be stepped over are not touched until the next value is asked for. -/
theorem step_first_call_pulls_one (n : Nat) (c : Co) (s : c.σ) :
    (stepCo n c).next (s, 0) =
      ⟨(c.next s).out, ((c.next s).st, if (c.next s).out.isSome then n - 1 else 0), (c.next s).ev⟩ := rfl

/-- `step 3` over a generator: the first call asks for element 0 only, the second call for 1, 2, 3 -/
example (a b c d e : Val) :
    ((stepCo 3 (genCo 0 [a, b, c, d, e])).next ((0, false), 0)).ev = [Ev.pull 0 0] ∧
    ((stepCo 3 (genCo 0 [a, b, c, d, e])).next ((1, false), 2)).ev = [Ev.pull 0 1, Ev.pull 0 2, Ev.pull 0 3] ∧
    ((stepCo 3 (genCo 0 [a, b, c, d, e])).next ((1, false), 2)).out = some d :=
  ⟨rfl, rfl, rfl⟩

/-- laziness composes: `m` calls on `take k (each f c)` leave `c` where `min m k` calls leave it -/
theorem lazy_bound_take_each (f : Fn) (c : Co) (m k : Nat) (s : c.σ) :
    (pullN (takeCo (eachCo f c)) m (s, k)).1.1 = (pullN c (min m k) s).1 := by
  rw [lazy_bound_take (eachCo f c) m k s]
  exact lazy_bound_each f c (min m k) s

example : (pullN (takeCo (eachCo .num (metaCo 0 [Val.int 1, Val.int 2, Val.int 3]))) 3 ((0 : Nat), 1)).1.1
    = (1 : Nat) :=
  lazy_bound_take_each .num (metaCo 0 [Val.int 1, Val.int 2, Val.int 3]) 3 1 (0 : Nat)

/-- **order between two inputs (zip).** `zip` asks `a` first and asks `b` only when `a` produced a
value; when `a` is exhausted `b` is left untouched. -/
theorem zip_pulls_a_first (a b : Co) (sa : a.σ) (sb : b.σ) :
    ((a.next sa).out = none →
      ((zipCo a b).next (sa, sb)).ev = (a.next sa).ev ∧ ((zipCo a b).next (sa, sb)).st.2 = sb) ∧
    ((a.next sa).out ≠ none →
      ((zipCo a b).next (sa, sb)).ev = (a.next sa).ev ++ (b.next sb).ev) := by
  constructor
  · intro h; rw [zipCo_next_none sb h]; exact ⟨rfl, rfl⟩
  · intro h
    cases ha : (a.next sa).out with
    | none => exact absurd ha h
    | some va => rw [zipCo_next_some sb ha]

example : ((zipCo (genCo 0 [Val.int 1]) (genCo 1 [Val.int 2])).next ((0, false), (0, false))).ev
    = [Ev.pull 0 0, Ev.pull 1 0] := rfl

/-- **order between two inputs (chain).** `chain` does not touch `b` while `a` still yields. -/
theorem chain_pulls_b_late (a b : Co) (sa : a.σ) (sb : b.σ) (h : (a.next sa).out ≠ none) :
    ((chainCo a b).next (some sa, sb)).ev = (a.next sa).ev ∧
    ((chainCo a b).next (some sa, sb)).st.2 = sb := by
  cases ha : (a.next sa).out with
  | none => exact absurd ha h
  | some va => rw [chainCo_next_some sb ha]; exact ⟨rfl, rfl⟩

example : ((chainCo (genCo 0 [Val.int 1]) (genCo 1 [Val.int 2])).next (some (0, false), (0, false))).ev
    = [Ev.pull 0 0] := rfl

/-- **exact pull sequence of the logging sources.** `m` consecutive calls on a generator / an `@next`
object that still has `m` elements log exactly `pull i, pull (i+1), …, pull (i+m-1)`: one element at a
time, in order. -/
theorem source_pulls_gen (k : Nat) (xs : List Val) (m i : Nat) (h : i + m ≤ xs.length) :
    (pullN (genCo k xs) m (i, false)).2 = (List.range m).map (fun j => Ev.pull k (i + j)) :=
  cursor_pulls (c := genCo k xs) k xs.length (fun s => s.1)
    (fun s hs => by rw [genCo_next_lt k hs]; exact ⟨rfl, rfl⟩) m (i, false) h

theorem source_pulls_obj (k : Nat) (xs : List Val) (m i : Nat) (h : i + m ≤ xs.length) :
    (pullN (metaCo k xs) m i).2 = (List.range m).map (fun j => Ev.pull k (i + j)) :=
  cursor_pulls (c := metaCo k xs) k xs.length (fun i => i)
    (fun (i : Nat) hs => by rw [metaCo_next_lt k hs]; exact ⟨rfl, rfl⟩) m i h

example : (pullN (genCo 7 [Val.int 1, Val.int 2, Val.int 3]) 2 (1, false)).2 = [Ev.pull 7 1, Ev.pull 7 2] :=
  source_pulls_gen 7 _ 2 1 (by simp)

example : (pullN (metaCo 7 [Val.int 1, Val.int 2, Val.int 3]) 3 (0 : Nat)).2
    = [Ev.pull 7 0, Ev.pull 7 1, Ev.pull 7 2] :=
  source_pulls_obj 7 _ 3 0 (by simp)

/-- **exact pull sequence through `take`.** However often (`m` times) `take n` over generator `k` is
called, the generator is asked for `0, 1, …, min m n - 1`, in this order and nothing else (`n ≤`
number of elements). -/
theorem pulls_exact_through_take (k : Nat) (xs : List Val) (m n : Nat) (h : n ≤ xs.length) :
    (pullN (takeCo (genCo k xs)) m ((0, false), n)).2 =
      (List.range (min m n)).map (fun j => Ev.pull k j) := by
  rw [lazy_bound_take (genCo k xs) m n (0, false)]
  have := source_pulls_gen k xs (min m n) 0 (by rw [Nat.zero_add]; exact Nat.le_trans (Nat.min_le_right m n) h)
  simpa using this

example : (pullN (takeCo (genCo 0 [Val.int 1, Val.int 2, Val.int 3])) 9 ((0, false), 2)).2
    = [Ev.pull 0 0, Ev.pull 0 1] := rfl

/-- **pulls_in_order.** For *every* pipeline (any adaptors, `chain`/`zip` included, any parameters) and
*every* sequence of `next` / `next_back` calls on it, the source events of the trace (pulls, `done`;
callback events removed) are a run of the pipeline's source — for `chain` / `zip` an interleaving of
runs of the two sides' sources (`SrcTr`). Adaptors never touch a source except through its own
`next` / `next_back`, one call at a time: each adaptor call is a sequence of calls on its input
(`each_over … peekable_over`, `chain_sim2`, `zip_sim2`). -/
theorem pulls_in_order (fuel : Nat) (p : Pipe) (ds : List Bool) :
    SrcTr p (strip (runD (build fuel p).c ds (build fuel p).s).2) := pipe_trace fuel p ds

example : SrcTr (.zip (.take 1 (.src (.gen 0 [Val.int 1, Val.int 2]))) (.windows 2 (.src (.obj 1 [Val.int 3]))))
    (strip (runD (build 8 (.zip (.take 1 (.src (.gen 0 [Val.int 1, Val.int 2])))
      (.windows 2 (.src (.obj 1 [Val.int 3]))))).c [true, true, false]
      (build 8 (.zip (.take 1 (.src (.gen 0 [Val.int 1, Val.int 2]))) (.windows 2 (.src (.obj 1 [Val.int 3]))))).s).2) :=
  pulls_in_order 8 _ _

/-- **pulls_in_order (generator).** For every pipeline without `chain`/`zip` over a generator and every
call sequence, the generator's events are `pull 0, pull 1, pull 2, …` — one element at a time, in
order, nothing skipped or repeated —, optionally ended by `done` (`GenOrd`). -/
theorem pulls_in_order_generator (fuel : Nat) (p : Pipe) (k : Nat) (xs : List Val)
    (h : p.root = some (.gen k xs)) (ds : List Bool) :
    GenOrd k xs.length 0 (strip (runD (build fuel p).c ds (build fuel p).s).2) := by
  obtain ⟨ds', he⟩ := srcTr_root p _ _ h (pipe_trace fuel p ds)
  rw [he]
  have h1 : GenOrd k xs.length 0 (runD (genCo k xs) ds' ((0 : Nat), false)).2 :=
    gen_ordered k xs ds' (0, false)
  show GenOrd k xs.length 0 (strip (runD (genCo k xs) ds' ((0 : Nat), false)).2)
  rw [genOrd_strip h1]
  exact h1

example : GenOrd 0 3 0 (strip (runD (build 8 (.windows 2 (.keep .even (.step 2 (.src (.gen 0 [Val.int 1, Val.int 2, Val.int 3])))))).c
      [true, true] (build 8 (.windows 2 (.keep .even (.step 2 (.src (.gen 0 [Val.int 1, Val.int 2, Val.int 3])))))).s).2) :=
  pulls_in_order_generator 8 _ 0 [Val.int 1, Val.int 2, Val.int 3] rfl _

/-- **pulls_in_order (`@next` object).** The same for an object with `@next` (which logs every call):
the index it is asked for advances by exactly one per call while there are elements and stays at the
length afterwards (`ObjOrd`). -/
theorem pulls_in_order_object (fuel : Nat) (p : Pipe) (k : Nat) (xs : List Val)
    (h : p.root = some (.obj k xs)) (ds : List Bool) :
    ObjOrd k xs.length 0 (strip (runD (build fuel p).c ds (build fuel p).s).2) := by
  obtain ⟨ds', he⟩ := srcTr_root p _ _ h (pipe_trace fuel p ds)
  rw [he]
  have h1 : ObjOrd k xs.length 0 (runD (metaCo k xs) ds' (0 : Nat)).2 := obj_ordered k xs ds' 0
  show ObjOrd k xs.length 0 (strip (runD (metaCo k xs) ds' (0 : Nat)).2)
  rw [objOrd_strip h1]
  exact h1

example : ObjOrd 1 2 0 (strip (runD (build 8 (.cycle (.src (.obj 1 [Val.int 1, Val.int 2])))).c
      [true, true, true, true] (build 8 (.cycle (.src (.obj 1 [Val.int 1, Val.int 2])))).s).2) :=
  pulls_in_order_object 8 _ 1 [Val.int 1, Val.int 2] rfl _

/-! ## consumers -/

/-- `count = length` -/
theorem count_spec (xs : List Val) :
    (runLoop (xs.length + 1) (listIt xs) .count).1 = .ok (Val.int xs.length) :=
  (foldIt_spec _ _ xs _ (listIt xs) 0 (listIt_fwd xs) (Nat.lt_succ_self _)).trans
    ((count_list xs 0).trans (by rw [Nat.zero_add]))

theorem to_list_spec (xs : List Val) :
    (runLoop (xs.length + 1) (listIt xs) .toList).1 = .ok (.list xs) :=
  drain_spec (listIt_fwd xs) (Nat.lt_succ_self _)

example : (runLoop 3 (listIt [Val.int 5, Val.int 6]) .count).1 = .ok (Val.int (2 : Nat)) :=
  count_spec [Val.int 5, Val.int 6]

example : (runLoop 3 (listIt [Val.int 5, Val.int 6]) .toList).1 = .ok (.list [Val.int 5, Val.int 6]) :=
  to_list_spec [Val.int 5, Val.int 6]

/-- `compare_values`: when `a < b` is defined `min` / `max` return the operand it selects -/
theorem pick_of_lt (a b : Val) {lt : Bool} (h : (ltOp a b).2 = .ok lt) :
    (pickMin a b).2 = .ok (if lt then a else b) ∧ (pickMax a b).2 = .ok (if lt then b else a) := by
  cases hl : ltOp a b with
  | mk e r =>
    rw [hl] at h
    cases (show r = .ok lt from h)
    simp only [pickMin, pickMax, hl, and_self]

/-- `min` keeps the later of two values that are not `<`-ordered (ties go to the last element),
`max` keeps the earlier one (ties go to the first) — `compare_values` as implemented; the comparison
is always `accumulated < new element`, in this operand order -/
theorem min_max_tie_break (a b : Val) (h : (ltOp a b).2 = .ok false) :
    (pickMin a b).2 = .ok b ∧ (pickMax a b).2 = .ok a :=
  pick_of_lt a b h

example : (pickMin (Val.str [97]) (Val.str [97])).2 = .ok (Val.str [97]) :=
  (min_max_tie_break _ _ rfl).1

/-- `min` / `max` select by `<`: the strictly smaller value wins for `min`, the other for `max` -/
theorem min_max_select (a b : Val) (h : (ltOp a b).2 = .ok true) :
    (pickMin a b).2 = .ok a ∧ (pickMax a b).2 = .ok b :=
  pick_of_lt a b h

example : (pickMin (Val.str [97]) (Val.str [98])).2 = .ok (Val.str [97]) :=
  (min_max_select _ _ rfl).1

/-- **sum_is_left_fold.** `sum` with any initial value is the left fold
`((init + x₀) + x₁) + …` — the accumulator is always the *left* operand, which is what makes the
result of non-commutative `+` (string / list / tuple concatenation, objects with `@+`) well defined;
the fold stops at the first operand pair `+` is not defined for. (`product` runs the same loop with
`mulOp`; it has no list-level counterpart of `sumFrom` and no theorem.) -/
theorem sum_is_left_fold (init : Val) (xs : List Val) :
    (runLoop (xs.length + 1) (listIt xs) (.sumInit init)).1 = sumFrom init xs := by
  refine (foldIt_spec _ _ xs _ (listIt xs) init (listIt_fwd xs) (Nat.lt_succ_self _)).trans ?_
  induction xs generalizing init with
  | nil => rfl
  | cons x xs ih =>
    simp only [foldSpec, sumFrom]
    cases h : addOp init x with
    | mk e r =>
      cases r with
      | ok a => simp only; exact ih a
      | error err => rfl

/-- strings are concatenated in source order, after the initial value -/
example : (runLoop 4 (listIt [Val.str [97], Val.str [98], Val.str [99]]) (.sumInit (Val.str [62]))).1
    = .ok (Val.str [62, 97, 98, 99]) :=
  sum_is_left_fold (Val.str [62]) [Val.str [97], Val.str [98], Val.str [99]]

/-- an order-logging accumulator object sees `(acc, x)`, never `(x, acc)` -/
example : (runLoop 3 (listIt [Val.int 1, Val.int 2]) (.sumInit (boxOf (Val.int 0)))).2.2
    = [Ev.call tagAdd [Val.int 0, Val.int 1], Ev.call tagAdd [.tuple [Val.int 0, Val.int 1], Val.int 2]] := rfl

/-- with the default initial value `sum` is the same fold from `0` -/
theorem sum_default (xs : List Val) :
    (runLoop (xs.length + 1) (listIt xs) .sum).1 = sumFrom (Val.int 0) xs :=
  sum_is_left_fold (Val.int 0) xs

/-! ## copies -/

/-- **copy_independent.** States are values, so a copy made after `k` steps and the original are the
same state run twice: whichever is drained first, both yield exactly the remaining sequence
`xs.drop k` — draining one does not advance the other. This holds for every iterator state,
pipelines containing `peekable` included (`Peekable::copy` copies the wrapped iterator since /repo
commit 7e68542, finding F-C13-2 fixed). The tie of `make_copy` to this value semantics is the
correspondence check; aliasing through a shared `KIterator` handle and the position an `@next` object
keeps in its own map (finding F-C13-3) are outside this statement. -/
theorem copy_independent (fuel : Nat) (it : It) (xs : List Val) (k : Nat) (first : Bool)
    (h : Fwd it.c it.s xs) (hlen : xs.length < fuel) :
    (runCons fuel it (.copyAt k first)).1 = .ok (.tuple [.list (xs.drop k), .list (xs.drop k)]) := by
  have hd : (drain fuel (runCalls (List.replicate k true) it).2.1).1 = .ok (.list (xs.drop k)) :=
    drain_spec (runCalls_next k it ▸ pullN_fwd it.c k it.s xs h) (by rw [List.length_drop]; exact Nat.lt_of_le_of_lt (Nat.sub_le _ _) hlen)
  simp only [runCons]
  generalize hr : runCalls (List.replicate k true) it = r at hd
  obtain ⟨vs, it', e⟩ := r
  simp only at hd
  generalize hdr : drain fuel it' = d at hd
  obtain ⟨a, it'', e'⟩ := d
  simp only at hd
  subst hd
  cases first <;> simp

/-- a copied peekable pipeline -/
example : (runCons 8 (build 8 (.peekable (.src (.seq [Val.int 1, Val.int 2, Val.int 3])))) (.copyAt 1 false)).1
    = .ok (.tuple [.list [Val.int 2, Val.int 3], .list [Val.int 2, Val.int 3]]) :=
  copy_independent 8 _ [Val.int 1, Val.int 2, Val.int 3] 1 false
    ((build_den 8 (.peekable (.src (.seq [Val.int 1, Val.int 2, Val.int 3])))
      [Val.int 1, Val.int 2, Val.int 3] rfl rfl rfl trivial).fwd) (by simp)

example : (runCons 8 (build 8 (.each .ident (.src (.gen 0 [Val.int 1, Val.int 2, Val.int 3])))) (.copyAt 1 true)).1
    = .ok (.tuple [.list [Val.int 2, Val.int 3], .list [Val.int 2, Val.int 3]]) :=
  copy_independent 8 _ [Val.int 1, Val.int 2, Val.int 3] 1 true
    ((build_den 8 (.each .ident (.src (.gen 0 [Val.int 1, Val.int 2, Val.int 3])))
      [Val.int 1, Val.int 2, Val.int 3] rfl rfl rfl trivial).fwd) (by simp)

/-- **copy_interleaving_independent.** After `c = koto.copy it`, however the calls on the copy and on
the original are interleaved (from either end), each of the two answers exactly as if it were called
alone: the copy's outputs are those of its own call sequence on the copied state, the original's
those of its own — no call on one is visible to the other. (Value semantics of the model; the
correspondence harness checks `make_copy` of every adaptor against it with copies taken at every
position up to past the end of the source.) -/
theorem copy_interleaving_independent (post : List (Bool × Bool)) :
    ∀ (a b : It),
    (runCopyOps post a b).1 = (runCalls ((post.filter (·.1)).map (·.2)) a).1 ∧
    (runCopyOps post a b).2.1 = (runCalls ((post.filter (fun p => !p.1)).map (·.2)) b).1 := by
  induction post with
  | nil => intro a b; exact ⟨rfl, rfl⟩
  | cons x post ih =>
    intro a b
    match x with
    | (true, true) => exact ⟨congrArg _ (ih (a.next).2.1 b).1, (ih (a.next).2.1 b).2⟩
    | (true, false) => exact ⟨congrArg _ (ih (a.back).2.1 b).1, (ih (a.back).2.1 b).2⟩
    | (false, true) => exact ⟨(ih a (b.next).2.1).1, congrArg _ (ih a (b.next).2.1).2⟩
    | (false, false) => exact ⟨(ih a (b.back).2.1).1, congrArg _ (ih a (b.back).2.1).2⟩

example : (runCopyOps [(true, true), (false, true), (true, true)]
      (build 8 (.cycle (.src (.seq [Val.int 1, Val.int 2]))))
      (build 8 (.cycle (.src (.seq [Val.int 1, Val.int 2]))))).1 = [Val.int 1, Val.int 2] := rfl

end KotoVerif.C13
