/-
C13 (second extension) — end-to-end statements that connect the pipeline builder (`build`), the
state machines, the consumer loop (`runLoop`) and the denotation (`den`): consumers cannot tell apart
pipelines with the same denotation; `count` of any pipeline is the length of its denotation (so the
length-preserving adaptors do not change it); stacked `take`s and commuting `keep`s at machine level.
-/
import KotoVerif.Props.C13Ext

namespace KotoVerif.C13Ext2
open KotoVerif KotoVerif.Iter

/-- **consumers are functions of the denotation.** Two well-formed finite pipelines with the same
denotation give the same answer under every consumer run by the real loop on the built machines -/
theorem same_den_same_answer (fuel : Nat) (p q : Pipe) (c : Cons) (xs : List Val)
    (hp : p.regular = true) (hq : q.regular = true) (ep : p.err = none) (eq : q.err = none)
    (dp : den p = some xs) (dq : den q = some xs) (fp : p.fits fuel) (fq : q.fits fuel)
    (hl : xs.length < fuel) :
    (runLoop fuel (build fuel p) c).1 = (runLoop fuel (build fuel q) c).1 := by
  rw [C13.consumer_refines fuel p c xs hp ep dp fp hl, C13.consumer_refines fuel q c xs hq eq dq fq hl]

/-- **count of a pipeline.** `count` run on the built machine of any well-formed finite pipeline
answers the length of its denotation -/
theorem count_pipeline {fuel : Nat} {p : Pipe} {xs : List Val} (h : Denotes fuel p xs)
    (hl : xs.length < fuel) :
    (runLoop fuel (build fuel p) .count).1 = .ok (Val.int xs.length) := by
  rw [C13.consumer_refines fuel p .count xs h.regular h.err h.den h.fits hl, C13.count_spec]

example : (runLoop 8 (build 8 (.skip 1 (.src (.seq [Val.int 0, Val.int 1, Val.int 2])))) .count).1
    = .ok (Val.int 2) :=
  count_pipeline (xs := [Val.int 1, Val.int 2]) ⟨rfl, rfl, rfl, trivial⟩ (by simp)

/-- **each does not change count.** Mapping any callback over a pipeline leaves `count` unchanged
(machine level, real consumer loop) -/
theorem each_count (fuel : Nat) (f : Fn) (p : Pipe) (xs : List Val)
    (hp : p.regular = true) (ep : p.err = none) (dp : den p = some xs) (fp : p.fits fuel)
    (hl : xs.length < fuel) :
    (runLoop fuel (build fuel (.each f p)) .count).1 = (runLoop fuel (build fuel p) .count).1 := by
  have h : Denotes fuel p xs := ⟨hp, ep, dp, fp⟩
  rw [count_pipeline h hl, count_pipeline (h.each f) (by rw [List.length_map]; exact hl), List.length_map]

/-- **reversed does not change count** (bidirectional input) -/
theorem reversed_count (fuel : Nat) (p : Pipe) (xs : List Val)
    (hp : p.regular = true) (ep : p.err = none) (dp : den p = some xs) (fp : p.fits fuel)
    (bp : p.bidir = true) (hl : xs.length < fuel) :
    (runLoop fuel (build fuel (.reversed p)) .count).1 = (runLoop fuel (build fuel p) .count).1 := by
  have h : Denotes fuel p xs := ⟨hp, ep, dp, fp⟩
  rw [count_pipeline h hl, count_pipeline (h.reversed bp) (by rw [List.length_reverse]; exact hl),
    List.length_reverse]

/-- **Take ∘ Take.** Two stacked `Take` machines (two private counters) behave as one with the
smaller bound, for any number of `next` calls -/
theorem take_take_machine (fuel a b : Nat) (p : Pipe) (xs : List Val)
    (hp : p.regular = true) (ep : p.err = none) (dp : den p = some xs) (fp : p.fits fuel) (n : Nat) :
    outs (build fuel (.take a (.take b p))).c n (build fuel (.take a (.take b p))).s
      = outs (build fuel (.take (min a b) p)).c n (build fuel (.take (min a b) p)).s := by
  have h : Denotes fuel p xs := ⟨hp, ep, dp, fp⟩
  have h2 : Denotes fuel (.take a (.take b p)) (xs.take (min a b)) := List.take_take ▸ (h.take b).take a
  exact h2.outs_eq (h.take (min a b)) n

/-- **Keep commutes with Keep.** Filtering by `q` after `r` is indistinguishable from filtering by
`r` after `q`, for any number of `next` calls on the built machines -/
theorem keep_keep_comm_machine (fuel : Nat) (q r : Pred) (p : Pipe) (xs : List Val)
    (hp : p.regular = true) (ep : p.err = none) (dp : den p = some xs) (fp : p.fits fuel)
    (hl : xs.length < fuel) (n : Nat) :
    outs (build fuel (.keep q (.keep r p))).c n (build fuel (.keep q (.keep r p))).s
      = outs (build fuel (.keep r (.keep q p))).c n (build fuel (.keep r (.keep q p))).s := by
  have h : Denotes fuel p xs := ⟨hp, ep, dp, fp⟩
  have hf (g : Val → Bool) : (xs.filter g).length < fuel := Nat.lt_of_le_of_lt (List.length_filter_le _ _) hl
  have e : (xs.filter q.app).filter r.app = (xs.filter r.app).filter q.app := by
    simp only [List.filter_filter, Bool.and_comm]
  have h2 : Denotes fuel (.keep r (.keep q p)) ((xs.filter r.app).filter q.app) :=
    e ▸ (h.keep q hl).keep r (hf _)
  exact ((h.keep r hl).keep q (hf _)).outs_eq h2 n

/-! ## non-vacuity witnesses: the hypotheses hold for concrete non-trivial pipelines -/

/-- `same_den_same_answer`: two different pipelines (skip 1 twice vs. skip 2) with one denotation -/
example : (runLoop 8 (build 8 (.skip 1 (.skip 1 (.src (.seq [Val.int 0, Val.int 1, Val.int 2]))))) .count).1
    = (runLoop 8 (build 8 (.skip 2 (.src (.seq [Val.int 0, Val.int 1, Val.int 2])))) .count).1 :=
  same_den_same_answer 8 _ _ .count [Val.int 2] rfl rfl rfl rfl rfl rfl
    (by simp [Pipe.fits]) (by simp [Pipe.fits]) (by simp)

/-- `each_count` on a three-element generator source -/
example : (runLoop 8 (build 8 (.each .wrap (.src (.gen 0 [Val.int 1, Val.int 2, Val.int 3])))) .count).1
    = (runLoop 8 (build 8 (.src (.gen 0 [Val.int 1, Val.int 2, Val.int 3]))) .count).1 :=
  each_count 8 .wrap _ [Val.int 1, Val.int 2, Val.int 3] rfl rfl rfl (by simp [Pipe.fits]) (by simp)

/-- `reversed_count` on a bidirectional list source -/
example : (runLoop 8 (build 8 (.reversed (.src (.seq [Val.int 1, Val.int 2])))) .count).1
    = (runLoop 8 (build 8 (.src (.seq [Val.int 1, Val.int 2]))) .count).1 :=
  reversed_count 8 _ [Val.int 1, Val.int 2] rfl rfl rfl (by simp [Pipe.fits]) rfl (by simp)

/-- `take_take_machine` / `keep_keep_comm_machine`: hypotheses satisfiable with a non-empty source -/
example : ∃ (p : Pipe) (xs : List Val), p.regular = true ∧ p.err = none ∧ den p = some xs ∧ p.fits 8 ∧
    xs.length = 3 ∧ xs.length < 8 :=
  ⟨.src (.seq [Val.int 1, Val.int 2, Val.int 3]), _, rfl, rfl, rfl, by simp [Pipe.fits], rfl, by simp⟩

end KotoVerif.C13Ext2

