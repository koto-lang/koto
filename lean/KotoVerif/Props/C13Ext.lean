/-
C13 (extension) — the list-level "mathematical definitions" used by `den` / `specCase` (the third
field of every driver response, compared with the implementation on every case) are characterised
independently: by element position, by length, and by algebraic laws; plus laws of `to_map`'s
`mapInsert` and of the string ordering `bytesLt` behind `min` / `max`. The equalities between
denotations are then carried over to the built state machines (`Denotes.outsD_eq`, `Denotes.outs_eq`),
and the last section has laws of the consumer-side functions `pickMin` / `pickMax`, `sumFrom`, `specCalls`.
-/
import KotoVerif.Props.C13

namespace KotoVerif.C13Ext
open KotoVerif KotoVerif.Iter

/-! ## enumerate -/

theorem enumFrom_eq (xs : List Val) : ∀ (i : Nat),
    enumFrom i xs = (xs.zipIdx i).map (fun e => Val.tuple [Val.int e.2, e.1]) := by
  induction xs with
  | nil => intro i; rfl
  | cons x xs ih => intro i; exact congrArg _ (ih (i + 1))

theorem enumFrom_length (xs : List Val) : ∀ (i : Nat), (enumFrom i xs).length = xs.length :=
  fun i => by rw [enumFrom_eq, List.length_map, List.length_zipIdx]

theorem enumFrom_getElem? (xs : List Val) : ∀ (i j : Nat),
    (enumFrom i xs)[j]? = (xs[j]?).map (fun x => Val.tuple [Val.int ((i + j : Nat) : Int), x]) := by
  intro i j
  rw [enumFrom_eq, List.getElem?_map, List.getElem?_zipIdx, Option.map_map]
  rfl

/-! ## zip -/

theorem zipL_eq : ∀ (xs ys : List Val), zipL xs ys = List.zipWith (fun x y => Val.tuple [x, y]) xs ys
  | [], _ => rfl
  | _ :: _, [] => rfl
  | _ :: xs, _ :: ys => congrArg _ (zipL_eq xs ys)

theorem zipL_length (xs : List Val) : ∀ (ys : List Val), (zipL xs ys).length = min xs.length ys.length := by
  intro ys
  rw [zipL_eq]; exact List.length_zipWith

theorem zipL_getElem? (xs : List Val) : ∀ (ys : List Val) (j : Nat),
    (zipL xs ys)[j]? = (xs[j]?).bind (fun x => (ys[j]?).map (fun y => Val.tuple [x, y])) := by
  intro ys j
  rw [zipL_eq, List.getElem?_zipWith']
  cases xs[j]? <;> rfl

/-! ## take_while -/

theorem takeWhileL_eq (p : Val → Bool) (xs : List Val) : takeWhileL p xs = xs.takeWhile p := by
  induction xs with
  | nil => rfl
  | cons x xs ih => rw [takeWhileL, List.takeWhile_cons, ih]

theorem takeWhileL_idem (p : Val → Bool) (xs : List Val) :
    takeWhileL p (takeWhileL p xs) = takeWhileL p xs := by
  induction xs with
  | nil => rfl
  | cons x xs ih =>
    by_cases h : p x = true
    · rw [takeWhileL, if_pos h, takeWhileL, if_pos h, ih]
    · rw [takeWhileL, if_neg h]; rfl

/-! ## intersperse -/

theorem intersperseL_eq (sep : Val) : ∀ (xs : List Val), intersperseL sep xs = xs.intersperse sep
  | [] => rfl
  | [_] => rfl
  | x :: y :: rest => congrArg (x :: sep :: ·) (intersperseL_eq sep (y :: rest))

theorem intersperseL_length (sep : Val) (xs : List Val) :
    (intersperseL sep xs).length = 2 * xs.length - 1 := by
  rw [intersperseL_eq]; exact List.length_intersperse

theorem intersperseL_getElem? (sep : Val) (xs : List Val) : ∀ (j : Nat),
    (intersperseL sep xs)[2 * j]? = xs[j]? ∧
    (j + 1 < xs.length → (intersperseL sep xs)[2 * j + 1]? = some sep) := by
  intro j
  rw [intersperseL_eq]
  exact ⟨List.getElem?_intersperse_two_mul, List.getElem?_intersperse_two_mul_add_one⟩

/-! ## windows -/

theorem windowsOf_length (n : Nat) (hn : n ≥ 1) (xs : List Val) :
    (windowsOf n xs).length = xs.length + 1 - n := by
  induction xs with
  | nil => exact (Nat.sub_eq_zero_of_le hn).symm
  | cons x xs ih =>
    by_cases h : (x :: xs).length ≥ n
    · rw [windowsOf_long n _ hn h, List.length_cons, List.drop_one, List.tail_cons, ih]
      exact (Nat.succ_sub h).symm
    · rw [windowsOf_short n _ (Nat.lt_of_not_le h)]
      exact (Nat.sub_eq_zero_of_le (Nat.lt_of_not_le h)).symm

theorem windowsOf_getElem? (n : Nat) (hn : n ≥ 1) (xs : List Val) : ∀ (j : Nat), j + n ≤ xs.length →
    (windowsOf n xs)[j]? = some (Val.tuple ((xs.drop j).take n)) := by
  induction xs with
  | nil => intro j h; exact absurd h (Nat.not_le_of_lt (Nat.lt_of_lt_of_le hn (Nat.le_add_left n j)))
  | cons x xs ih =>
    intro j h
    rw [windowsOf_long n _ hn (Nat.le_trans (Nat.le_add_left n j) h)]
    cases j with
    | zero => rfl
    | succ j => exact ih j (by rw [List.length_cons, Nat.add_right_comm] at h; exact Nat.le_of_succ_le_succ h)

/-- the hypotheses of `windowsOf_getElem?` are satisfiable at a position other than the first -/
example : ∃ (n : Nat) (xs : List Val) (j : Nat), n ≥ 1 ∧ j + n ≤ xs.length ∧ j ≥ 1 :=
  ⟨2, [Val.int 1, Val.int 2, Val.int 3], 1, by decide, by decide, by decide⟩

/-! ## cycle -/

theorem cycleTake_length (xs : List Val) (hne : xs ≠ []) (n : Nat) : (cycleTake xs n).length = n := by
  induction n with
  | zero => rfl
  | succ n ih =>
    have hlt : n % xs.length < xs.length := Nat.mod_lt _ (List.length_pos_iff.mpr hne)
    rw [cycleTake, if_neg (by rw [List.isEmpty_iff]; exact hne), List.length_append, ih,
      List.getElem?_eq_getElem hlt]
    rfl

theorem cycleTake_length_le (ys : List Val) (n : Nat) : (cycleTake ys n).length ≤ n := by
  cases ys with
  | nil => cases n <;> exact Nat.zero_le _
  | cons y ys => exact Nat.le_of_eq (cycleTake_length _ (List.cons_ne_nil y ys) n)

theorem cycleTake_getElem? (xs : List Val) (hne : xs ≠ []) (n : Nat) : ∀ (j : Nat), j < n →
    (cycleTake xs n)[j]? = xs[j % xs.length]? := by
  induction n with
  | zero => intro j h; exact absurd h (Nat.not_lt_zero j)
  | succ n ih =>
    intro j hj
    have hlen := cycleTake_length xs hne n
    rw [cycleTake, if_neg (by rw [List.isEmpty_iff]; exact hne)]
    by_cases hjn : j < n
    · rw [List.getElem?_append_left (by rw [hlen]; exact hjn)]; exact ih j hjn
    · obtain rfl : j = n := Nat.le_antisymm (Nat.le_of_lt_succ hj) (Nat.le_of_not_lt hjn)
      have hlt : j % xs.length < xs.length := Nat.mod_lt _ (List.length_pos_iff.mpr hne)
      rw [List.getElem?_append_right (by rw [hlen]; exact Nat.le_refl _), hlen, Nat.sub_self, List.getElem?_eq_getElem hlt]
      rfl

example : cycleTake [Val.int 1, Val.int 2] 5 = [Val.int 1, Val.int 2, Val.int 1, Val.int 2, Val.int 1] := by
  rfl

/-! ## step -/

/-- **step by position.** `step n` (n ≥ 1) yields the source elements at positions `0, n, 2n, …` -/
theorem everyNth_getElem? (n : Nat) (hn : n ≥ 1) (xs : List Val) (i : Nat) :
    (everyNth n xs)[i]? = xs[i * n]? := by
  induction i generalizing xs with
  | zero => rw [Nat.zero_mul, ← List.head?_eq_getElem?, ← List.head?_eq_getElem?, everyNth_head]
  | succ i ih =>
    cases xs with
    | nil => rfl
    | cons x xs =>
      rw [everyNth_cons, List.getElem?_cons_succ, ih, List.getElem?_drop,
        show (i + 1) * n = (n - 1 + i * n) + 1 by rw [Nat.succ_mul]; omega, List.getElem?_cons_succ]

theorem everyNth_one (xs : List Val) : everyNth 1 xs = xs :=
  List.ext_getElem? fun i => by rw [everyNth_getElem? 1 (Nat.le_refl 1), Nat.mul_one]

example : everyNth 2 [Val.int 0, Val.int 1, Val.int 2, Val.int 3, Val.int 4] = [Val.int 0, Val.int 2, Val.int 4] := by
  rfl

/-! ## chunks -/

def untuple : Val → List Val
  | .tuple xs => xs
  | _ => []

/-- **chunks round trip.** Concatenating the chunks gives back the source sequence (nothing lost,
duplicated or reordered), for every chunk size `n ≥ 1` and enough loop budget -/
theorem chunksOf_flatten (n : Nat) (hn : n ≥ 1) : ∀ (fuel : Nat) (xs : List Val), xs.length ≤ fuel →
    (chunksOf n fuel xs).flatMap untuple = xs := by
  intro fuel
  induction fuel with
  | zero => intro xs h; cases xs with
    | nil => rfl
    | cons x xs => cases h
  | succ fuel ih =>
    intro xs h
    cases xs with
    | nil => rfl
    | cons x xs =>
      rw [chunksOf, List.flatMap_cons, ih _ (by rw [List.length_drop]; exact Nat.sub_le_of_le_add (Nat.le_trans h (Nat.add_le_add_left hn fuel)))]
      exact List.take_append_drop n (x :: xs)

theorem chunksOf_sizes (n : Nat) (hn : n ≥ 1) : ∀ (fuel : Nat) (xs : List Val) (c : Val),
    c ∈ chunksOf n fuel xs → 1 ≤ (untuple c).length ∧ (untuple c).length ≤ n := by
  intro fuel
  induction fuel with
  | zero => intro xs c h; cases h
  | succ fuel ih =>
    intro xs c h
    cases xs with
    | nil => cases h
    | cons x xs =>
      rcases List.mem_cons.mp h with rfl | h
      · obtain ⟨m, rfl⟩ : ∃ m, n = m + 1 := ⟨n - 1, (Nat.sub_add_cancel hn).symm⟩
        exact ⟨Nat.succ_le_succ (Nat.zero_le _), List.length_take_le _ _⟩
      · exact ih _ c h

example : chunksOf 2 3 [Val.int 1, Val.int 2, Val.int 3] =
    [Val.tuple [Val.int 1, Val.int 2], Val.tuple [Val.int 3]] := by rfl

/-! ## to_map: `mapInsert` (IndexMap insert) -/

def lookup (k : Val) (m : List (Val × Val)) : Option Val :=
  (m.find? (fun e => Val.same e.1 k)).map Prod.snd

/-- an insert never reorders or drops keys -/
theorem mapInsert_keys (k v : Val) (m : List (Val × Val)) :
    (mapInsert k v m).map Prod.fst =
      if m.any (fun e => Val.same e.1 k) then m.map Prod.fst else m.map Prod.fst ++ [k] := by
  induction m with
  | nil => rfl
  | cons e m ih =>
    rw [mapInsert, List.any_cons]
    cases Val.same e.1 k with
    | true => rfl
    | false =>
      rw [if_neg Bool.false_ne_true, List.map_cons, ih, Bool.false_or]
      split <;> rfl

theorem mapInsert_lookup_same (k v : Val) (hk : Val.same k k = true) (m : List (Val × Val)) :
    lookup k (mapInsert k v m) = some v := by
  induction m with
  | nil => simp [mapInsert, lookup, hk]
  | cons e m ih =>
    obtain ⟨k', v'⟩ := e
    by_cases h : Val.same k' k = true
    · simp [mapInsert, lookup, h]
    · simp only [lookup] at ih
      simp [mapInsert, lookup, h, ih]

/-- last write wins, position of first write is kept -/
theorem mapInsert_overwrite (k v1 v2 : Val) (hk : Val.same k k = true) (m : List (Val × Val)) :
    mapInsert k v2 (mapInsert k v1 m) = mapInsert k v2 m := by
  induction m with
  | nil => simp [mapInsert, hk]
  | cons e m ih =>
    obtain ⟨k', v'⟩ := e
    by_cases h : Val.same k' k = true
    · simp [mapInsert, h]
    · simp [mapInsert, h, ih]

example : Val.same (Val.str [97]) (Val.str [97]) = true := by rfl

/-! ## string ordering behind `min` / `max` -/

theorem bytesLt_iff (a : List Nat) : ∀ (b : List Nat), bytesLt a b = true ↔ a < b := by
  induction a with
  | nil => intro b; cases b <;> simp [bytesLt]
  | cons x xs ih =>
    intro b
    cases b with
    | nil => simp [bytesLt]
    | cons y ys => simp [bytesLt, List.cons_lt_cons_iff, ih]

theorem bytesLt_irrefl (a : List Nat) : bytesLt a a = false :=
  Bool.eq_false_iff.mpr fun h => List.lt_irrefl a ((bytesLt_iff a a).mp h)

theorem bytesLt_asymm (a : List Nat) : ∀ (b : List Nat), bytesLt a b = true → bytesLt b a = false :=
  fun b h => Bool.eq_false_iff.mpr fun h' => List.lt_asymm ((bytesLt_iff a b).mp h) ((bytesLt_iff b a).mp h')

theorem bytesLt_trans (a : List Nat) : ∀ (b c : List Nat),
    bytesLt a b = true → bytesLt b c = true → bytesLt a c = true :=
  fun b c h1 h2 => (bytesLt_iff a c).mpr (List.lt_trans ((bytesLt_iff a b).mp h1) ((bytesLt_iff b c).mp h2))

theorem bytesLt_total (a : List Nat) : ∀ (b : List Nat), bytesLt a b = true ∨ a = b ∨ bytesLt b a = true := by
  intro b
  rw [bytesLt_iff, bytesLt_iff]
  rcases List.le_total a b with h | h
  · rcases List.le_iff_lt_or_eq.mp h with h | h
    · exact Or.inl h
    · exact Or.inr (Or.inl h)
  · rcases List.le_iff_lt_or_eq.mp h with h | h
    · exact Or.inr (Or.inr h)
    · exact Or.inr (Or.inl h.symm)

example : bytesLt [97] [97, 98] = true ∧ bytesLt [97, 98] [98] = true := by decide

/-! ## pipeline equivalences at the level of the denotation -/

theorem den_reversed_reversed (p : Pipe) : den (.reversed (.reversed p)) = den p := by
  show ((den p).map List.reverse).map List.reverse = den p
  cases den p with
  | none => rfl
  | some xs => exact congrArg some (List.reverse_reverse xs)

theorem den_skip_skip (a b : Nat) (p : Pipe) : den (.skip a (.skip b p)) = den (.skip (b + a) p) := by
  show ((den p).map (List.drop b)).map (List.drop a) = (den p).map (List.drop (b + a))
  cases den p with
  | none => rfl
  | some xs => exact congrArg some List.drop_drop

theorem den_chain_assoc (p q r : Pipe) :
    den (.chain (.chain p q) r) = den (.chain p (.chain q r)) := by
  simp only [den]
  cases den p with
  | none => rfl
  | some xs =>
    cases den q with
    | none => rfl
    | some ys =>
      cases den r with
      | none => rfl
      | some zs => exact congrArg some (List.append_assoc xs ys zs)

theorem den_reversed_chain (p q : Pipe) :
    den (.reversed (.chain p q)) = den (.chain (.reversed q) (.reversed p)) := by
  simp only [den]
  cases den p with
  | none => cases den q <;> rfl
  | some xs =>
    cases den q with
    | none => rfl
    | some ys => exact congrArg some List.reverse_append

theorem den_reversed_each (f : Fn) (p : Pipe) :
    den (.reversed (.each f p)) = den (.each f (.reversed p)) := by
  show ((den p).map (List.map f.app)).map List.reverse = ((den p).map List.reverse).map (List.map f.app)
  cases den p with
  | none => rfl
  | some xs => exact congrArg some List.map_reverse.symm

/-- the denotation of `take n` never has more than `n` elements — also over the endless `cycle` -/
theorem den_take_length (n : Nat) (p : Pipe) (xs : List Val) (h : den (.take n p) = some xs) :
    xs.length ≤ n := by
  have key : ∀ {q : Pipe}, (den q).map (List.take n) = some xs → xs.length ≤ n := by
    intro q h
    obtain ⟨ys, _, rfl⟩ := Option.map_eq_some_iff.mp h
    exact List.length_take_le n ys
  cases p with
  | cycle q =>
    obtain ⟨ys, _, rfl⟩ := Option.map_eq_some_iff.mp h
    exact cycleTake_length_le ys n
  | src s =>
    cases s with
    | repInf v => cases h; exact Nat.le_of_eq List.length_replicate
    | _ => exact key h
  | _ => exact key h

example : den (.take 3 (.cycle (.src (.seq [Val.int 1, Val.int 2])))) =
    some [Val.int 1, Val.int 2, Val.int 1] := by rfl

/-! ## the same laws for the state machines themselves (both sides denote the same list: `Denotes`) -/

/-- two bidirectional pipelines with the same denotation are indistinguishable by any interleaving of
`next` / `next_back` calls -/
theorem same_den_same_outsD (fuel : Nat) (p q : Pipe) (xs : List Val)
    (hp : p.regular = true) (hq : q.regular = true) (ep : p.err = none) (eq : q.err = none)
    (dp : den p = some xs) (dq : den q = some xs) (fp : p.fits fuel) (fq : q.fits fuel)
    (bp : p.bidir = true) (bq : q.bidir = true) (ds : List Bool) :
    outsD (build fuel p).c ds (build fuel p).s = outsD (build fuel q).c ds (build fuel q).s :=
  Denotes.outsD_eq ⟨hp, ep, dp, fp⟩ ⟨hq, eq, dq, fq⟩ bp bq ds

/-- **Skip ∘ Skip.** Two stacked `Skip` machines (two private counters) behave as one with the sum —
under every interleaving of `next` / `next_back` when the input is bidirectional -/
theorem skip_skip_machine (fuel a b : Nat) (p : Pipe) (xs : List Val)
    (hp : p.regular = true) (ep : p.err = none) (dp : den p = some xs) (fp : p.fits fuel)
    (bp : p.bidir = true) (ds : List Bool) :
    outsD (build fuel (.skip a (.skip b p))).c ds (build fuel (.skip a (.skip b p))).s
      = outsD (build fuel (.skip (b + a) p)).c ds (build fuel (.skip (b + a) p)).s := by
  have h : Denotes fuel p xs := ⟨hp, ep, dp, fp⟩
  have h2 : Denotes fuel (.skip a (.skip b p)) (xs.drop (b + a)) := List.drop_drop ▸ (h.skip b).skip a
  exact h2.outsD_eq (h.skip (b + a)) bp bp ds

example : ∃ (p : Pipe) (xs : List Val), p.regular = true ∧ p.err = none ∧ den p = some xs ∧ p.fits 8 ∧
    p.bidir = true ∧ xs.length = 3 :=
  ⟨.each .wrap (.src (.seq [Val.int 1, Val.int 2, Val.int 3])), _, rfl, rfl, rfl, by simp [Pipe.fits], rfl, rfl⟩

/-- **Reversed ∘ Reversed = id** on the state machines, under every interleaving of `next` /
`next_back` -/
theorem reversed_reversed_machine (fuel : Nat) (p : Pipe) (xs : List Val)
    (hp : p.regular = true) (ep : p.err = none) (dp : den p = some xs) (fp : p.fits fuel)
    (bp : p.bidir = true) (ds : List Bool) :
    outsD (build fuel (.reversed (.reversed p))).c ds (build fuel (.reversed (.reversed p))).s
      = outsD (build fuel p).c ds (build fuel p).s := by
  have h : Denotes fuel p xs := ⟨hp, ep, dp, fp⟩
  have h2 : Denotes fuel (.reversed (.reversed p)) xs := List.reverse_reverse xs ▸ (h.reversed bp).reversed rfl
  exact h2.outsD_eq h rfl bp ds

/-- **Reversed distributes over Each**: mapping then reversing = reversing then mapping, on the machines -/
theorem reversed_each_machine (fuel : Nat) (f : Fn) (p : Pipe) (xs : List Val)
    (hp : p.regular = true) (ep : p.err = none) (dp : den p = some xs) (fp : p.fits fuel)
    (bp : p.bidir = true) (ds : List Bool) :
    outsD (build fuel (.reversed (.each f p))).c ds (build fuel (.reversed (.each f p))).s
      = outsD (build fuel (.each f (.reversed p))).c ds (build fuel (.each f (.reversed p))).s := by
  have h : Denotes fuel p xs := ⟨hp, ep, dp, fp⟩
  have h2 : Denotes fuel (.each f (.reversed p)) (xs.map f.app).reverse :=
    List.map_reverse ▸ (h.reversed bp).each f
  exact ((h.each f).reversed bp).outsD_eq h2 rfl rfl ds

/-- **Chain is associative** on the machines (nesting of the `Option` of the exhausted first part) -/
theorem chain_assoc_machine (fuel : Nat) (p q r : Pipe) (xs ys zs : List Val)
    (hp : p.regular = true) (hq : q.regular = true) (hr : r.regular = true)
    (ep : p.err = none) (eq : q.err = none) (er : r.err = none)
    (dp : den p = some xs) (dq : den q = some ys) (dr : den r = some zs)
    (fp : p.fits fuel) (fq : q.fits fuel) (fr : r.fits fuel) (n : Nat) :
    outs (build fuel (.chain (.chain p q) r)).c n (build fuel (.chain (.chain p q) r)).s
      = outs (build fuel (.chain p (.chain q r))).c n (build fuel (.chain p (.chain q r))).s := by
  have h1 : Denotes fuel p xs := ⟨hp, ep, dp, fp⟩
  have h2 : Denotes fuel q ys := ⟨hq, eq, dq, fq⟩
  have h3 : Denotes fuel r zs := ⟨hr, er, dr, fr⟩
  have h4 : Denotes fuel (.chain p (.chain q r)) (xs ++ ys ++ zs) :=
    List.append_assoc xs ys zs ▸ h1.chain (h2.chain h3)
  exact ((h1.chain h2).chain h3).outs_eq h4 n

/-! ## consumers: min/max selection, sum as a splittable fold, call-sequence spec -/

/-- `min` and `max` of two values perform the same single comparison (same events) and select
complementary operands: together they always return both -/
theorem pickMin_pickMax_complement (a b x y : Val)
    (hmin : (pickMin a b).2 = .ok x) (hmax : (pickMax a b).2 = .ok y) :
    (pickMin a b).1 = (pickMax a b).1 ∧ ((x = a ∧ y = b) ∨ (x = b ∧ y = a)) := by
  unfold pickMin pickMax at *
  rcases h : ltOp a b with ⟨e, r⟩
  cases r with
  | error err => simp [h] at hmin
  | ok lt =>
    simp only [h] at hmin hmax ⊢
    cases lt <;> simp_all

example : (pickMin (Val.str [97]) (Val.str [98])).2 = .ok (Val.str [97]) ∧
    (pickMax (Val.str [97]) (Val.str [98])).2 = .ok (Val.str [98]) := ⟨rfl, rfl⟩

/-- **sum splits.** Summing a concatenation = summing the first part, then continuing from that
accumulator with the second part (errors of the first part win) -/
theorem sumFrom_append (xs : List Val) : ∀ (init : Val) (ys : List Val),
    sumFrom init (xs ++ ys) =
      (match sumFrom init xs with
       | .ok a => sumFrom a ys
       | .error e => .error e) := by
  induction xs with
  | nil => intro init ys; simp [sumFrom]
  | cons x xs ih =>
    intro init ys
    simp only [List.cons_append, sumFrom]
    cases h : (addOp init x).2 with
    | error e => simp
    | ok a => simp [ih]

theorem specCalls_all_next (b : Bool) (n : Nat) : ∀ (xs : List Val),
    specCalls b (List.replicate n true) xs = xs.take n ++ List.replicate (n - xs.length) endMarker := by
  induction n with
  | zero => intro xs; simp [specCalls]
  | succ n ih =>
    intro xs
    cases xs with
    | nil => simp [List.replicate_succ, specCalls, ih]
    | cons x xs => simp [List.replicate_succ, specCalls, ih]

/-- a forward-only iterator answers every `next_back` with the end marker and the `next` calls see
the sequence as if the `next_back` calls had not happened -/
theorem specCalls_forward_only (ds : List Bool) : ∀ (xs : List Val),
    (specCalls false ds xs).length = ds.length ∧
    (specCalls false (ds.filter id) xs) =
      ((ds.zip (specCalls false ds xs)).filter (fun e => e.1)).map Prod.snd := by
  induction ds with
  | nil => intro xs; simp [specCalls]
  | cons d ds ih =>
    intro xs
    cases d with
    | true =>
      cases xs with
      | nil => simp [specCalls, ih]
      | cons x xs => simp [specCalls, ih]
    | false => simp [specCalls, ih]

theorem specCalls_all_back (n : Nat) : ∀ (xs : List Val),
    specCalls true (List.replicate n false) xs =
      xs.reverse.take n ++ List.replicate (n - xs.length) endMarker := by
  induction n with
  | zero => intro xs; simp [specCalls]
  | succ n ih =>
    intro xs
    rcases List.eq_nil_or_concat xs with h | ⟨ini, l, h⟩
    · subst h; simp [List.replicate_succ, specCalls, ih]
    · subst h
      simp [List.replicate_succ, specCalls, ih]

end KotoVerif.C13Ext
