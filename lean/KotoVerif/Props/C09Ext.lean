/-
C09 — extension theorems about `Model/Lexer.lean` (`lexFuel`, `lexAll`): structure of the
token list (an error token can only be last; fuel stability), ordering / containment of byte ranges
and line numbers, and the length-sum form of losslessness.
-/
import KotoVerif.Props.C09

namespace KotoVerif.C09Ext
open KotoVerif.Lexer KotoVerif.C09

/-! ## structure of the token list -/

theorem lexFuel_length_le (src : List Ch) : ∀ fuel s, (lexFuel src fuel s).length ≤ fuel := by
  intro fuel s
  -- the cases of `lexFuel`: no fuel, end of stream, an `Error` token, a token and the rest of the run
  fun_induction lexFuel src fuel s with
  | case1 => exact Nat.le_refl _
  | case2 => exact Nat.zero_le _
  | case3 => exact Nat.succ_le_succ (Nat.zero_le _)
  | case4 _ _ _ _ _ _ _ ih => exact Nat.succ_le_succ ih

/-- **An error token can only be the last token** (from any state, with any fuel). -/
theorem error_only_last_fuel (src : List Ch) : ∀ fuel s pre l post,
    lexFuel src fuel s = pre ++ l :: post → l.tok = .error → post = [] := by
  intro fuel s
  fun_induction lexFuel src fuel s with
  | case1 => intro pre l post h; cases pre <;> cases h
  | case2 => intro pre l post h; cases pre <;> cases h
  | case3 =>
    intro pre l post h _
    cases pre with
    | nil => exact (List.cons.inj h).2.symm
    | cons p ps => cases ps <;> cases (List.cons.inj h).2
  | case4 _ _ _ _ _ _ hd ih =>
    intro pre l post h he
    cases pre with
    | nil => cases (List.cons.inj h).1; exact absurd he hd
    | cons p ps => exact ih ps l post (List.cons.inj h).2 he

/-- **An error token can only be the last token of `lexAll`.** -/
theorem error_only_last (src : List Ch) (pre post : List Lexed) (l : Lexed)
    (h : lexAll src = pre ++ l :: post) (he : l.tok = .error) : post = [] :=
  error_only_last_fuel src _ _ pre l post h he

/-- **Fuel stability.** If a run did not use up its fuel, any larger fuel yields the same tokens. -/
theorem lexFuel_stable (src : List Ch) : ∀ fuel s k, (lexFuel src fuel s).length < fuel →
    lexFuel src (fuel + k) s = lexFuel src fuel s := by
  intro fuel s k
  fun_induction lexFuel src fuel s with
  | case1 => intro h; cases h
  | case2 fuel s hs =>
    intro _
    rw [Nat.succ_add]
    simp only [lexFuel, hs]
  | case3 fuel s d s' hs _ hd =>
    intro _
    rw [Nat.succ_add]
    simp only [lexFuel, hs, hd, if_true]
    rfl
  | case4 fuel s d s' hs _ hd ih =>
    intro h
    rw [Nat.succ_add]
    simp only [lexFuel, hs, hd, if_false]
    rw [ih (Nat.lt_of_succ_lt_succ h)]

/-- **`lexAll` is fuel-independent** whenever it did not exhaust its fuel (decidable per input). -/
theorem lexAll_stable (src : List Ch) (k : Nat) (h : (lexAll src).length < 3 * byteLen src + 3) :
    lexFuel src (3 * byteLen src + 3 + k) {} = lexAll src :=
  lexFuel_stable src _ _ k h

example : (lexAll sampleOk).length < 3 * byteLen sampleOk + 3 := by rw [lexAll_sampleOk]; decide

/-! ## ordering and containment of byte ranges and lines -/

/-- **Tokens lie inside the input**, and their lines do not exceed its number of line breaks. -/
theorem tokens_within_input (src : List Ch) (ht : TableOk src) :
    ∀ l ∈ lexAll src, l.tok ≠ .error →
      l.startByte ≤ l.endByte ∧ l.endByte ≤ byteLen src ∧
      l.span.start.line ≤ nlCount src ∧ l.span.stop.line ≤ nlCount src := by
  refine lexAll_forall ht fun pre t post _ l _ h => ?_
  have b1 : byteLen src = byteLen pre + byteLen t + byteLen post := by
    rw [h.after.src_eq, byteLen_append, byteLen_append]
  have n1 : nlCount src = nlCount pre + nlCount t + nlCount post := by
    rw [h.after.src_eq, nlCount_append, nlCount_append]
  rw [h.startByte, h.endByte, h.startLine, h.stopLine]
  omega

/-- **Tokens never overlap and come in input order**: any two of them, not only neighbours as in
`tokens_contiguous`. -/
theorem tokens_pairwise_ordered (src : List Ch) (ht : TableOk src) :
    List.Pairwise (fun a b : Lexed => a.tok ≠ .error → b.tok ≠ .error → a.endByte ≤ b.startByte)
      (lexAll src) :=
  (lexFuel_pairwise ht _ _ _ _ (inv_init src)).1

example : TableOk sampleOk := by unfold TableOk; decide

/-! ## losslessness as a length sum -/

theorem chain_length_sum (ls : List Lexed) : ∀ a, Chain a ls → (∀ l ∈ ls, l.tok ≠ .error) →
    a + (ls.map (fun l => l.endByte - l.startByte)).sum = ls.foldl (fun _ l => l.endByte) a := by
  induction ls with
  | nil => intro a _ _; simp
  | cons l ls ih =>
    intro a hc hne
    obtain ⟨h1, h2⟩ := hc
    obtain ⟨e1, e2⟩ := h1 (hne l (by simp))
    have := ih l.endByte h2 (fun x hx => hne x (by simp [hx]))
    simp only [List.map_cons, List.sum_cons, List.foldl_cons]
    omega

/-- **Losslessness, length form.** When no error token is produced, the byte lengths of the tokens
add up exactly to the end offset of the last token (no gap, no overlap, nothing counted twice). -/
theorem token_lengths_sum (src : List Ch) (ht : TableOk src) (hne : ∀ l ∈ lexAll src, l.tok ≠ .error) :
    ((lexAll src).map (fun l => l.endByte - l.startByte)).sum =
      (lexAll src).foldl (fun _ l => l.endByte) 0 := by
  have := chain_length_sum (lexAll src) 0 (tokens_contiguous src ht) hne
  omega

example : ∀ l ∈ lexAll sampleOk, l.tok ≠ .error := by rw [lexAll_sampleOk]; decide

/-- **Lines are monotone inside a token.** Every non-error token's reported start line is at most its
reported stop line (and the difference is the number of line breaks inside the token). -/
theorem token_lines_monotone (src : List Ch) (ht : TableOk src) :
    ∀ l ∈ lexAll src, l.tok ≠ .error →
      ∃ pre mid, prefixAt l.endByte src = some (pre ++ mid) ∧ byteLen pre = l.startByte ∧
        l.span.stop.line = l.span.start.line + nlCount mid :=
  lexAll_forall ht fun pre t _ _ _ _ h =>
    ⟨pre, t, h.prefix_end, h.startByte.symm, h.startLine ▸ h.stopLine⟩

end KotoVerif.C09Ext
