/-
C03 — clauses of the property text about unpacking:
"ignoring `_` targets" (a target list of only `_` changes no register at all, for multi-assignment
and for `for`), "bind element-wise from the iterable" as a no-invented-values statement (every
named target ends up holding an element of the iterable or Null), independence of the bound value
from the previous register contents, and the all-right-hand-sides-first semantics of
`a, b = b, a` (`Unpack.multiAssignTemp`).
-/
import KotoVerif.Model.Match
import KotoVerif.Model.Unpack
import KotoVerif.Props.C03
import KotoVerif.Props.C03Ext

namespace KotoVerif.C03Ext2
open KotoVerif KotoVerif.Match KotoVerif.Unpack

/-- a target list without a named target (`_, _, _ = xs`) leaves the whole register file as it was,
whatever the iterable yields -/
theorem assign_only_wild (ts : List Tgt) (vs : List Val) (ρ : Env) (h : tgtNames ts = []) :
    assign ts vs ρ = ρ := by
  funext y
  exact C03Ext.assign_frame ts vs ρ y (by simp [h])

example : tgtNames [Tgt.wild, Tgt.wild] = [] := by decide

/-- the same for the whole statement `_, _ = rhs`: when `rhs` is iterable it succeeds, keeps every
register and yields `rhs` -/
theorem multiAssign_only_wild (ts : List Tgt) (rhs : Val) (ρ : Env) (xs : List Val)
    (h : tgtNames ts = []) (he : elems rhs = some xs) :
    multiAssign ts rhs ρ = some (ρ, rhs) := by
  simp [multiAssign, he, assign_only_wild ts xs ρ h]

example : elems (.tuple [.null, .null]) = some [.null, .null] := by rfl

/-- `for _, _ in it`: every body entry and the state after the loop have the registers of before -/
theorem forUnpack_only_wild (ts : List Tgt) (h : tgtNames ts = []) (it : Val) (ρ ρ' : Env)
    (steps : List Env) (hf : forUnpack ts it ρ = some (steps, ρ')) :
    ρ' = ρ ∧ ∀ σ ∈ steps, σ = ρ := by
  refine ⟨?_, ?_⟩
  · funext y
    exact (C03Ext.forUnpack_frame ts y (by simp [h]) it ρ ρ' steps hf).1
  · intro σ hσ
    funext y
    exact (C03Ext.forUnpack_frame ts y (by simp [h]) it ρ ρ' steps hf).2 σ hσ

/-- no invented values: after unpacking, a named target holds an element of the iterable or Null -/
theorem assign_value_from_source : ∀ (ts : List Tgt) (vs : List Val) (ρ : Env) (y : Name),
    y ∈ tgtNames ts → assign ts vs ρ y ∈ vs ∨ assign ts vs ρ y = .null
  | ts, vs, ρ, y, h => by
    obtain ⟨v, hm, hv⟩ := apply_mem (C03.tgtWrites ts vs) y (by rwa [C03.tgtWrites_names])
    rw [C03.assign_spec, hv]
    exact C03.tgtWrites_mem ts vs y v hm

example : (3 : Name) ∈ tgtNames [Tgt.wild, Tgt.id 3] := by decide

/-- what a named target receives does not depend on the registers before the assignment -/
theorem assign_target_indep (ts : List Tgt) (vs : List Val) (ρ₁ ρ₂ : Env) (y : Name)
    (h : y ∈ tgtNames ts) : assign ts vs ρ₁ y = assign ts vs ρ₂ y := by
  obtain ⟨v, _, hv⟩ := apply_mem (C03.tgtWrites ts vs) y (by rwa [C03.tgtWrites_names])
  rw [C03.assign_spec, C03.assign_spec, hv, hv]

/-- with `assign_target_indep`: the result at `y` depends on `ρ y` at most -/
theorem assign_pointwise (ts : List Tgt) (vs : List Val) (ρ₁ ρ₂ : Env) (y : Name)
    (h : ρ₁ y = ρ₂ y) : assign ts vs ρ₁ y = assign ts vs ρ₂ y := by
  by_cases hy : y ∈ tgtNames ts
  · exact assign_target_indep ts vs ρ₁ ρ₂ y hy
  · rw [C03Ext.assign_frame ts vs ρ₁ y hy, C03Ext.assign_frame ts vs ρ₂ y hy, h]

/-- `a, b = b, a` swaps: all right-hand sides are evaluated before the first target is written,
every other register is kept and the value of the statement is the tuple -/
theorem swap_via_temp_tuple (a b : Name) (hab : a ≠ b) (ρ : Env) :
    let r := multiAssignTemp [.id a, .id b] [ρ b, ρ a] ρ
    r.1 a = ρ b ∧ r.1 b = ρ a ∧ (∀ y, y ≠ a → y ≠ b → r.1 y = ρ y) ∧ r.2 = .tuple [ρ b, ρ a] := by
  have hba : b ≠ a := fun h => hab h.symm
  refine ⟨?_, ?_, ?_, rfl⟩
  · simp [multiAssignTemp, assignIdx, Env.set, hab]
  · simp [multiAssignTemp, assignIdx, Env.set]
  · intro y h1 h2
    simp [multiAssignTemp, assignIdx, Env.set, h1, h2]

example : (0 : Name) ≠ 1 := by decide

end KotoVerif.C03Ext2
