/-
C11 — facts that hold without side conditions. `source_slice` (Model/SrcSlice.lean): the converse of
`C11.srcslice_boundary` — whatever it returns without panicking is a contiguous piece of the source of
exactly the requested bytes, for EVERY source, table and span. Layout (Model/Layout.lean): the decision
of `render_group`, the break table and the output buffer for EVERY item tree, where Props/C11.lean
speaks of one-line trees.
-/
import KotoVerif.Lemmas.C11
import KotoVerif.Lemmas.C11Layout

namespace KotoVerif.C11Ext
open KotoVerif.SrcSlice

example : sliceText [⟨233, 2, 1⟩, ⟨57, 1, 1⟩, ⟨57, 1, 1⟩] 2 4 = some [⟨57, 1, 1⟩, ⟨57, 1, 1⟩] := by decide

/-- Asking for bytes past the end of the source panics. -/
theorem sliceText_beyond_end (src : List Ch) (s e : Nat) (h : byteLen src < e) :
    sliceText src s e = none := by
  cases hs : sliceText src s e with
  | none => rfl
  | some t =>
    obtain ⟨hse, pre, post, hp, hb, hc⟩ := C11.Lemmas.sliceText_sound _ _ _ _ hs
    have := congrArg byteLen hp
    simp [C11.Lemmas.byteLen_append] at this
    omega

example : byteLen [⟨233, 2, 1⟩, ⟨57, 1, 1⟩] < 4 := by decide

/-- The text of `source_slice(span)`, whenever it does not panic, is a contiguous piece of the source
that has exactly as many bytes as the computed byte range — for every source, every token table
(sorted or not) and every span (token boundary or not). -/
theorem sourceSliceText_sound (ls : List Line) (tbl : Table) (sp : Span) (t : List Ch)
    (h : sourceSliceText ls tbl sp = some t) :
    byteOf ls tbl sp.start ≤ byteOf ls tbl sp.stop ∧
    byteLen t = byteOf ls tbl sp.stop - byteOf ls tbl sp.start ∧
    ∃ pre post, ls.flatten = pre ++ t ++ post ∧ byteLen pre = byteOf ls tbl sp.start := by
  unfold sourceSliceText sourceSlice at h
  obtain ⟨hse, pre, post, hp, hb, hc⟩ := C11.Lemmas.sliceText_sound _ _ _ _ h
  exact ⟨hse, hc, pre, post, hp, hb⟩

example : sourceSliceText [[⟨233, 2, 1⟩, ⟨32, 1, 1⟩, ⟨57, 1, 1⟩]] [(⟨0, 2⟩, 3), (⟨0, 3⟩, 4)]
    ⟨⟨0, 2⟩, ⟨0, 3⟩⟩ = some [⟨57, 1, 1⟩] := by decide

example : lookup [(⟨0, 2⟩, 3), (⟨0, 3⟩, 4)] ⟨0, 3⟩ = some 4 := by decide

/-- At a token boundary the byte offset does not depend on the source text at all (no column
arithmetic is involved): the independence that makes the fix b1042e7 immune to character widths. -/
theorem byteOf_table_indep (ls ls' : List Line) (tbl : Table) (p : Pos) (b : Nat)
    (h : lookup tbl p = some b) : byteOf ls tbl p = b ∧ byteOf ls' tbl p = b := by
  simp [byteOf, h]

theorem lineOffset_eq_take (ls : List Line) : ∀ k, lineOffset ls k = byteLen (ls.take k).flatten :=
  C11.Lemmas.lineOffset_eq ls

theorem lineOffset_mono (ls : List Line) : ∀ k, lineOffset ls k ≤ lineOffset ls (k + 1) := by
  intro k
  rw [lineOffset_eq_take, lineOffset_eq_take, List.take_add_one, List.flatten_append,
    C11.Lemmas.byteLen_append]
  exact Nat.le_add_right _ _

theorem lineOffset_le_total (ls : List Line) : ∀ k, lineOffset ls k ≤ byteLen ls.flatten := by
  intro k
  have h := congrArg (fun l => byteLen l.flatten) (List.take_append_drop k ls)
  simp only [List.flatten_append, C11.Lemmas.byteLen_append] at h
  rw [lineOffset_eq_take]
  omega

/-! ### Layout model (`render_group` decision, break table, output buffer) — facts for EVERY item tree -/
section Layout
open KotoVerif.Layout

/-- Only whether the group is too long depends on line length and column: with more room a group
that took the single-line branch still takes it — for every item tree
(`C11.layout_decision_monotone` states it for one-line trees). -/
theorem broken_monotone_all (lineLen lineLen' col col' : Nat) (is : Items)
    (hb : broken lineLen col is = false) (hl : lineLen ≤ lineLen') (hc : col' ≤ col) :
    broken lineLen' col' is = false :=
  C11.LayoutLemmas.broken_mono lineLen lineLen' col col' is hb hl hc

example : broken 20 4 (.cons (.str 4 []) (.cons (.brk .spaceOrIndent) (.cons (.str 4 []) .nil))) = false := by
  decide

/-- Conversely a group with a forcing item or a trailing indented block is broken at every width. -/
theorem broken_of_force (lineLen col : Nat) (is : Items)
    (h : anyItem forceBreak is = true ∨ lastIs isIndentedBlock is = true) : broken lineLen col is = true := by
  rcases h with h | h <;> simp [broken, h]

example : anyItem forceBreak (.cons (.str 4 []) (.cons .lineBreak .nil)) = true := by decide

mutual
/-- `line_length()` never measures more than the single-line width plus the optional characters —
for every tree (no `flatOneLine` hypothesis; `layout_measure_exact` is the equality on flat trees). -/
theorem measure_le_item : ∀ (i : Item), lineLength i ≤ flatWidth i + optWidth i
  | .char w => Nat.le_add_right w 0
  | .optChar w => Nat.le_add_left w 0
  | .str w _ => Nat.le_add_right w 0
  | .lineBreak | .error => Nat.le_refl 0
  | .brk b => by cases b <;> decide
  | .group is => measure_le_items is
theorem measure_le_items : ∀ (is : Items), lineLengthItems is ≤ flatWidthItems is + optWidthItems is
  | .nil => Nat.le_refl 0
  | .cons i rest => by
      have hi := measure_le_item i
      have hr := measure_le_items rest
      have := C11.LayoutLemmas.lineLengthItems_cons_le i rest
      simp only [flatWidthItems, optWidthItems]
      omega
end

theorem not_tooLong_of_flat_fits (lineLen col : Nat) (is : Items)
    (h : col + flatWidthItems is + optWidthItems is ≤ lineLen) : tooLong lineLen col is = false := by
  have := measure_le_items is
  simp [tooLong]
  omega

example : 0 + flatWidthItems (.cons (.char 1) (.cons (.optChar 1) .nil))
    + optWidthItems (.cons (.char 1) (.cons (.optChar 1) .nil)) ≤ 2 := by decide

/-- `needs_linebreak` when nothing presses (not too long, not forced) is exactly `forces`, whatever
`accept_optional_linebreak` is. -/
theorem needsLinebreak_relaxed (b : Brk) (acc : Bool) : b.needsLinebreak false false acc = b.forces := by
  cases b <;> cases acc <;> rfl

/-- `needs_linebreak`: more pressure (too long, forced, optional line breaks accepted) never removes a
line break. -/
theorem needsLinebreak_mono (b : Brk) (tl f acc tl' f' acc' : Bool)
    (h1 : tl = true → tl' = true) (h2 : f = true → f' = true) (h3 : acc = true → acc' = true)
    (h : b.needsLinebreak tl f acc = true) : b.needsLinebreak tl' f' acc' = true := by
  cases b with
  | none | spaceOrIndentIfNecessary | indentIfNecessary | lineStart => exact h
  | indentedBreak | returnOrIndent | startBlock => rfl
  | spaceOrIndent | spaceOrReturn => exact h1 h
  | maybeReturn | maybeIndent =>
    simp only [Brk.needsLinebreak, Bool.or_eq_true, Bool.and_eq_true] at h ⊢
    exact h.imp h2 (And.imp h3 h1)

example : Brk.needsLinebreak .maybeReturn true false true = true := by decide

/-- In a group that fits and is not forced, a non-forcing break never starts a new line:
the action is a space or nothing (or the `LineStart` re-indent). -/
theorem action_relaxed (b : Brk) (ind acc : Bool) (h : b.forces = false) :
    b.action false false ind acc = .space ∨ b.action false false ind acc = .nothing
      ∨ (b = .lineStart ∧ b.action false false ind acc = .returnOnly) := by
  have hl : b.needsLinebreak false false acc = false := by rw [needsLinebreak_relaxed, h]
  simp only [Brk.action, hl, Bool.false_eq_true, if_false]
  cases b with
  | indentedBreak | returnOrIndent | startBlock => cases h
  | spaceOrIndent | spaceOrIndentIfNecessary | spaceOrReturn => exact .inl rfl
  | lineStart => exact .inr (.inr ⟨rfl, rfl⟩)
  | none | maybeIndent | indentIfNecessary | maybeReturn => exact .inr (.inl rfl)

example : Brk.forces .spaceOrReturn = false := by decide

/-- Appending a text to a non-empty buffer joins its first line to the buffer's last line: the
line count is the sum minus one (so the buffer never loses a line). -/
theorem append_length (o t : Out) (ho : o ≠ []) (ht : t ≠ []) :
    (o.append t).length + 1 = o.length + t.length := by
  unfold Out.append
  have hl : t.reverse.length = t.length := List.length_reverse
  cases hr : t.reverse with
  | nil => simp [hr] at hl; exact absurd (List.eq_nil_of_length_eq_zero hl.symm) ht
  | cons first more =>
    simp only [hr, List.length_cons] at hl
    simp [C11.LayoutLemmas.emit_length _ _ ho]
    omega

example : (Out.append [3, 1] [5, 2]).length + 1 = 2 + 2 := by decide

theorem flatItems_ne_nil (o : Opt) : ∀ (is : Items) (c : Nat) (out t : Out),
    flatItems o is c out = some t → out ≠ [] → t ≠ []
  | .nil, _, out, t, h, ho => by simp [flatItems] at h; simpa [← h] using ho
  | .cons i rest, c, out, t, h, ho => by
      simp only [flatItems] at h
      split at h
      · simp at h
      · exact flatItems_ne_nil o rest c _ t h (C11.LayoutLemmas.append_ne_nil _ _ ho)

theorem loopItems_out_ne_nil (o : Opt) (tl f ind : Bool) : ∀ (is : Items) (st st' : St),
    loopItems o tl f ind is st = some st' → st.out ≠ [] → st'.out ≠ []
  | .nil, st, st', h, ho => by simp [loopItems] at h; simpa [← h] using ho
  | .cons i rest, st, st', h, ho => by
      cases i with
      | brk b =>
        simp only [loopItems] at h
        exact loopItems_out_ne_nil o tl f ind rest _ st' h (C11.LayoutLemmas.stepBrk_out_ne_nil _ _ _ _ ho)
      | lineBreak =>
        simp only [loopItems] at h
        exact loopItems_out_ne_nil o tl f ind rest _ st' h (by simp [Out.newline])
      | _ =>
        rw [C11.LayoutLemmas.loopItems_item _ _ _ _ _ _ _ (by simp) (by simp)] at h
        split at h <;> obtain ⟨t, -, h⟩ := Option.bind_eq_some_iff.mp h
        · exact loopItems_out_ne_nil o tl f ind rest _ st' h (C11.LayoutLemmas.append_ne_nil _ _ ho)
        · exact loopItems_out_ne_nil o tl f ind rest _ st' h
            (C11.LayoutLemmas.stepItem_out_ne_nil _ _ _ _ _ _ _ _ ho)

/-- Every text `FormatItem::render` produces has at least one line. -/
theorem renderItem_ne_nil (o : Opt) (i : Item) (a r : Bool) (c : Nat) (t : Out)
    (h : renderItem o i a r c = some t) : t ≠ [] := by
  cases i with
  | error => simp [renderItem] at h
  | group is =>
    simp only [renderItem] at h
    split at h
    · simp only [Option.map_eq_some_iff] at h
      obtain ⟨st, hs, ht⟩ := h
      rw [← ht]
      exact loopItems_out_ne_nil o _ _ _ is _ st hs (by simp)
    · exact flatItems_ne_nil o is c _ t h (by simp)
  | _ => simp [renderItem] at h; simp [← h]

/-- `render_group` never yields an empty text. -/
theorem renderGroupLines_ne_nil (o : Opt) (is : Items) (ind : Bool) (col : Nat) (ws : List Nat)
    (h : renderGroupLines o is ind col = some ws) : ws ≠ [] := by
  simp only [renderGroupLines, Option.map_eq_some_iff] at h
  obtain ⟨t, ht, hw⟩ := h
  have := renderItem_ne_nil o _ _ _ _ t ht
  rw [← hw]
  simpa using this

example : renderGroupLines ⟨10, 2⟩ (.cons (.str 4 []) (.cons .lineBreak (.cons (.str 3 []) .nil))) false 0
    = some [4, 3] := by decide

end Layout

end KotoVerif.C11Ext
