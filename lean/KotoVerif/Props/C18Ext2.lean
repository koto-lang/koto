/-
C18 — second extension: end-to-end laws of whole import histories (`finalSt` over `hostRun`), stated
between any two points of a history: run-once, nothing left behind by failures, trace/loader growth.
-/
import KotoVerif.Props.C18Ext

namespace KotoVerif.C18Ext2
open KotoVerif.Modules KotoVerif.C18L KotoVerif.C18 KotoVerif.C18Ext

theorem history_split {cfg : Cfg} {fs : FS} {fuel : Nat} {a b : List Op} {s s' : St}
    (h1 : finalSt cfg fs fuel a init = some s) (h2 : finalSt cfg fs fuel b s = some s') :
    finalSt cfg fs fuel (a ++ b) init = some s' := by
  rw [finalSt_append, h1]; exact h2

/-- "runs exactly once per runtime however many modules import it", for whole histories: once a module
is imported at some point of a history, then after ANY further operations it is still cached with the
same exports map, and its top level has not started again. -/
theorem history_done_stable {cfg : Cfg} {fs : FS} {fuel : Nat} {a b : List Op} {s s' : St}
    (h1 : finalSt cfg fs fuel a init = some s) (h2 : finalSt cfg fs fuel b s = some s')
    (p : Path) (e : Exports) (hd : s.cache p = some (.done e)) :
    s'.cache p = some (.done e)
    ∧ s'.out.count (.enter p) = s.out.count (.enter p)
    ∧ s'.out.count (.done p) = 1 := by
  have inv := reachable_inv h1
  obtain ⟨hd', t, ht, hn⟩ := (sound_finalSt b h2 inv).2.done_stable hd
  refine ⟨hd', ?_, ?_⟩
  · rw [ht, List.count_append, List.count_eq_zero_of_not_mem hn]; rfl
  · have := (run_once (history_split h1 h2) p).2.1
    rw [this, doneB_of_eq hd']; rfl

example : (finalSt cfgEx fsEx 5 [opTry 4 20] init).map (fun s => doneB s.cache pB) = some true := by
  decide +kernel

/-- segment law: between any two points of a history, the events added for a module `p` balance —
every start of its top level in the segment ended in the segment (completed or failed), and a
completion is reported in the segment exactly when `p` became cached during it. -/
theorem history_segment_balance {cfg : Cfg} {fs : FS} {fuel : Nat} {a b : List Op} {s s' : St}
    (h1 : finalSt cfg fs fuel a init = some s) (h2 : finalSt cfg fs fuel b s = some s') (p : Path) :
    ∃ t, s'.out = s.out ++ t
      ∧ t.count (.enter p) = t.count (.done p) + t.count (.failed p)
      ∧ t.count (.done p) + (if doneB s.cache p then 1 else 0) = (if doneB s'.cache p then 1 else 0) := by
  have inv := reachable_inv h1
  obtain ⟨_, rel⟩ := sound_finalSt b h2 inv
  obtain ⟨t, ht, _⟩ := rel.out
  obtain ⟨_, d1, e1⟩ := run_once h1 p
  obtain ⟨_, d2, e2⟩ := run_once (history_split h1 h2) p
  rw [ht] at d2 e2
  simp only [List.count_append] at d2 e2
  refine ⟨t, ht, ?_, ?_⟩ <;> omega

/-- "a module whose import failed leaves nothing behind": at any point of any history, a module that
is not cached has never reported completion, and every start of its top level ended in a failure;
a cached one started exactly once more than it failed. -/
theorem history_uncached_all_failed {cfg : Cfg} {fs : FS} {fuel : Nat} {ops : List Op} {st : St}
    (h : finalSt cfg fs fuel ops init = some st) (p : Path) :
    (st.cache p = none → st.out.count (.done p) = 0
        ∧ st.out.count (.enter p) = st.out.count (.failed p))
    ∧ (∀ e, st.cache p = some (.done e) →
        st.out.count (.enter p) = st.out.count (.failed p) + 1) := by
  obtain ⟨_, d, e⟩ := run_once h p
  constructor
  · intro hn
    have : doneB st.cache p = false := by simp [doneB, hn]
    rw [this] at d
    simp at d
    omega
  · intro ex hd
    rw [doneB_of_eq hd] at d
    simp at d
    omega

/-- the cache only ever holds completed modules between operations, so at every point of a history
"not imported" and "imported" are the only two cases, decided by `doneB` -/
theorem history_cache_dichotomy {cfg : Cfg} {fs : FS} {fuel : Nat} {ops : List Op} {st : St}
    (h : finalSt cfg fs fuel ops init = some st) (p : Path) :
    (doneB st.cache p = false ↔ st.cache p = none) := by
  have hc := (run_once h p).1
  unfold doneB
  cases hcp : st.cache p with
  | none => simp
  | some en =>
    cases en with
    | inProgress => exact absurd hcp hc
    | done e => simp

/-- the loader's chunk cache and the module cache only grow along a history, and the loader always
covers the module cache (so a re-import never recompiles) -/
theorem history_caches_grow {cfg : Cfg} {fs : FS} {fuel : Nat} {a b : List Op} {s s' : St}
    (h1 : finalSt cfg fs fuel a init = some s) (h2 : finalSt cfg fs fuel b s = some s') (p : Path) :
    (s.loader p = true → s'.loader p = true)
    ∧ (doneB s.cache p = true → doneB s'.cache p = true)
    ∧ (doneB s'.cache p = true → s'.loader p = true) := by
  have inv := reachable_inv h1
  obtain ⟨inv', rel⟩ := sound_finalSt b h2 inv
  refine ⟨rel.loader p, ?_, ?_⟩
  · intro hd
    obtain ⟨e, he⟩ := doneB_true hd
    exact doneB_of_eq (rel.done p e he)
  · intro hd
    obtain ⟨e, he⟩ := doneB_true hd
    exact inv'.loaded p e he

end KotoVerif.C18Ext2
