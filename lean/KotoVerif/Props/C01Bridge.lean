/-
C01 — the two C01 layers connected: the compiler model's reference evaluator `Compile.eval`,
instantiated with the guide's value operations (`coreSem F`), *is* the reference semantics
`Core.eval` on the compiler model's fragment (`toCore`), and therefore compiled code computes what
the formalised language guide prescribes (`compile_correct_guide`). Definitions and the lockstep
induction are in `Lemmas/C01Bridge.lean`.
-/
import KotoVerif.Lemmas.C01Bridge
import KotoVerif.Props.C01Compile

namespace KotoVerif.C01
open KotoVerif KotoVerif.Compile

/-- **bridge, compiler model ⇒ guide**: a successful run of `Compile.eval (coreSem F)` is a
successful run of the reference semantics on the embedded expression — same value, related final
environments, nothing printed. -/
theorem bridge_ok (F : FloatOps) (e : Expr) (ρ ρ' : Env (coreSem F)) (st : Core.St) (v : Val)
    (hw : wfE e = true) (hr : EnvRel ρ st.env)
    (hev : eval (coreSem F) e ρ = some (v, ρ')) :
    ∃ fuel st', Core.eval F fuel (toCore e) st = (.ok v, st') ∧ EnvRel ρ' st'.env ∧ st'.out = st.out := by
  obtain ⟨st', h1, h2, h3⟩ := bridge_fwd F e ρ ρ' st v hw hr hev
  exact ⟨need e, st', h1 _ (Nat.le_refl _), h2, h3⟩

/-- the same with the fuel made explicit: every fuel `≥ need e` works, and gives the same state -/
theorem bridge_ok_fuel (F : FloatOps) (e : Expr) (ρ ρ' : Env (coreSem F)) (st : Core.St) (v : Val)
    (hw : wfE e = true) (hr : EnvRel ρ st.env)
    (hev : eval (coreSem F) e ρ = some (v, ρ')) :
    ∃ st', (∀ fuel, need e ≤ fuel → Core.eval F fuel (toCore e) st = (.ok v, st'))
      ∧ EnvRel ρ' st'.env ∧ st'.out = st.out :=
  bridge_fwd F e ρ ρ' st v hw hr hev

/-- **bridge, guide ⇒ compiler model**: a successful guide run, with whatever fuel, is a successful
run of `Compile.eval (coreSem F)` with the same value and a related final environment. -/
theorem bridge_ok_conv (F : FloatOps) (e : Expr) (ρ : Env (coreSem F)) (st st' : Core.St) (v : Val)
    (fuel : Nat) (hw : wfE e = true) (hr : EnvRel ρ st.env)
    (hev : Core.eval F fuel (toCore e) st = (.ok v, st')) :
    ∃ ρ', eval (coreSem F) e ρ = some (v, ρ') ∧ EnvRel ρ' st'.env := by
  obtain ⟨_, ρ', hv, he, h3, _⟩ := (lockstep_any_fuel F e ρ st st' fuel _ hw hr hev nofun).ok_inv nofun
  cases hv
  exact ⟨ρ', he, h3⟩

/-- errors correspond as well: with enough fuel the guide run ends in an error exactly when
`Compile.eval (coreSem F)` yields `none` -/
theorem bridge_err (F : FloatOps) (e : Expr) (ρ : Env (coreSem F)) (st : Core.St) (fuel : Nat)
    (hw : wfE e = true) (hr : EnvRel ρ st.env) (hn : need e ≤ fuel) :
    eval (coreSem F) e ρ = none ↔ ∃ er st', Core.eval F fuel (toCore e) st = (.err er, st') := by
  have h0 := lockstep F e ρ st fuel hw hr hn
  exact ⟨fun hc => by rw [hc] at h0; exact h0, fun ⟨er, s2, h2⟩ => by rw [h2] at h0; exact h0.err_inv⟩

/-- whole programs (empty environment), both directions in one statement -/
theorem bridge_ok_closed (F : FloatOps) (e : Expr) (hw : wfE e = true) (v : Val) :
    (∀ ρ', eval (coreSem F) e (fun _ => none) = some (v, ρ') →
        ∃ fuel st', Core.eval F fuel (toCore e) {} = (.ok v, st') ∧ EnvRel ρ' st'.env ∧ st'.out = [])
    ∧ (∀ fuel st', Core.eval F fuel (toCore e) {} = (.ok v, st') →
        ∃ ρ', eval (coreSem F) e (fun _ => none) = some (v, ρ') ∧ EnvRel ρ' st'.env) :=
  ⟨fun ρ' h => bridge_ok F e _ ρ' {} v hw EnvRel.empty h,
   fun fuel st' h => bridge_ok_conv F e _ {} st' v fuel hw EnvRel.empty h⟩

/-- **compile_correct against the language guide.** Let `e` be a well-formed, `safe` main-block
expression whose evaluation by the reference semantics of the guide succeeds with value `v` and
final state `st'`. If the compiler model compiles it (`Any` result, a main frame with `lc` locals),
then running the emitted *flat instruction stream* — under the guide's value operations — from
any register file terminates without fault, the returned register holds `v`, and every variable
bound in `st'.env` sits in its committed register with its final value. -/
theorem compile_correct_guide (F : FloatOps) (e : Expr) (lc : Nat) (code : Code) (out : Out) (Fr' : Frame)
    (hw : wfE e = true) (hs : safe [] none e = true)
    (hc : compile e .any (mainFrame lc) = some (code, out, Fr'))
    (fuel : Nat) (v : Val) (st' : Core.St)
    (hev : Core.eval F fuel (toCore e) {} = (.ok v, st'))
    (σ : Regs (coreSem F)) :
    ∃ σ' r, execFlat (coreSem F) (flatten code) σ = some σ' ∧ out.reg = some r ∧ σ' r = v ∧
      (∀ x w, Core.lookup x st'.env = some w → ∃ q, Has Fr' q x ∧ σ' q = w) := by
  obtain ⟨ρ', h1, h2⟩ :=
    bridge_ok_conv F e (fun _ => none) {} st' v fuel hw EnvRel.empty hev
  obtain ⟨σ', r, h3, h4, h5, h6⟩ := compile_correct_main (S := coreSem F) e lc code out Fr' hc hs σ ρ' v h1
  refine ⟨σ', r, h3, h4, h5, ?_⟩
  intro x w hx
  exact h6 x w (by rw [h2 x]; exact hx)

/-- the same, read from the compiler model's side: whenever `Compile.eval (coreSem F)` gives `v`,
the guide gives `v` too and the compiled code returns it -/
theorem compile_correct_guide_fwd (F : FloatOps) (e : Expr) (lc : Nat) (code : Code) (out : Out) (Fr' : Frame)
    (hw : wfE e = true) (hs : safe [] none e = true)
    (hc : compile e .any (mainFrame lc) = some (code, out, Fr'))
    (v : Val) (ρ' : Env (coreSem F)) (hev : eval (coreSem F) e (fun _ => none) = some (v, ρ'))
    (σ : Regs (coreSem F)) :
    ∃ fuel st' σ' r, Core.eval F fuel (toCore e) {} = (.ok v, st') ∧
      execFlat (coreSem F) (flatten code) σ = some σ' ∧ out.reg = some r ∧ σ' r = v := by
  obtain ⟨fuel, st', h1, _, _⟩ :=
    bridge_ok F e (fun _ => none) ρ' {} v hw EnvRel.empty hev
  obtain ⟨σ', r, h3, h4, h5, _⟩ := compile_correct_main (S := coreSem F) e lc code out Fr' hc hs σ ρ' v hev
  exact ⟨fuel, st', σ', r, h1, h3, h4, h5⟩

/-- compile, run the structured code from an all-`null` register file, and evaluate with the guide:
`(value in the returned register, value of the guide)` -/
def runBoth (e : Expr) (lc fuel : Nat) : Option (Val × Val) :=
  match compile e .any (mainFrame lc), Core.eval stubFloatOps fuel (toCore e) {} with
  | some (code, out, _), (.ok v, _) =>
    match exec (coreSem stubFloatOps) code (fun _ => Val.null), out.reg with
    | some σ', some r => some (σ' r, v)
    | _, _ => none
  | _, _ => none

/-- `progOk` = `x = 3; y = if x < 4 then x + 1 else 0; x = x + y; y and (x = x * 2)`: well-formed,
safe, compiles; compiled code and guide both give 14 -/
example : wfE progOk = true ∧ safe [] none progOk = true ∧
    runBoth progOk 2 40 matches some (.num (.i 14), .num (.i 14)) := by
  decide +kernel

/-- `x = 7; x %= 4; x <= 3 < 5` (compound assignment and a comparison chain): both give `true` -/
def progChain : Expr :=
  .seq (.assign 0 (.int 7)) (.seq (.compound .rem 0 (.int 4)) (.chain3 .le .lt (.var 0) (.int 3) (.int 5)))

example : wfE progChain = true ∧ safe [] none progChain = true ∧
    runBoth progChain 1 40 matches some (.bool true, .bool true) := by
  decide +kernel

/-- the point of `compound_regression_witness`: `x += x` with `x = 'a'` fails in *both* evaluators,
for every `F` (`Compile.eval (coreSem F)` yields `none`, the guide a type error) -/
example (F : FloatOps) :
    eval (coreSem F) progCompound (fun x => if x = 0 then some (Val.str [97]) else none) = none
    ∧ Core.eval F 5 (toCore progCompound) { env := [(0, Val.str [97])] }
        = (.err .type, { env := [(0, Val.str [97])] }) :=
  ⟨rfl, rfl⟩

/-- … as `bridge_err` predicts (its hypotheses are satisfiable on that point) -/
example (F : FloatOps) : ∃ er st', Core.eval F 5 (toCore progCompound) { env := [(0, Val.str [97])] } = (.err er, st') :=
  (bridge_err F progCompound (fun x => if x = 0 then some (Val.str [97]) else none)
    { env := [(0, Val.str [97])] } 5 (by decide) (by intro x; simp only [Core.lookup]) (by decide)).1 rfl

/-- the hypotheses of `compile_correct_guide` are jointly satisfiable (instantiated on `progOk`) -/
example (σ : Regs (coreSem stubFloatOps)) :
    ∃ code out σ' r, (compile progOk .any (mainFrame 2)).map (fun p => (p.1, p.2.1)) = some (code, out) ∧
      execFlat (coreSem stubFloatOps) (flatten code) σ = some σ' ∧ out.reg = some r ∧
      σ' r = Val.int 14 := by
  cases hc : compile progOk .any (mainFrame 2) with
  | none => exact absurd hc (by decide)
  | some p =>
    obtain ⟨code, out, Fr'⟩ := p
    cases hg : Core.eval stubFloatOps 40 (toCore progOk) {} with
    | mk res st' =>
      have hres : res = .ok (Val.int 14) := by
        have : (Core.eval stubFloatOps 40 (toCore progOk) {}).1 = .ok (Val.int 14) := by rfl
        rw [hg] at this; exact this
      subst hres
      obtain ⟨σ', r, h1, h2, h3, _⟩ :=
        compile_correct_guide stubFloatOps progOk 2 code out Fr' (by decide) (by decide) hc 40 _ st' hg σ
      exact ⟨code, out, σ', r, rfl, h1, h2, h3⟩

end KotoVerif.C01
