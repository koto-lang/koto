/-
C12 — errors point at the right place: property theorems about `Model/SrcMap.lean` (source map
and span stack), `Model/Trace.lean` (trace collection while unwinding) and `Model/Excerpt.lean`
(the arithmetic of `format_source_excerpt`).
-/
import KotoVerif.Model.SrcMap
import KotoVerif.Model.Excerpt
import KotoVerif.Model.Trace
import KotoVerif.Lemmas.C12

namespace KotoVerif.C12
open KotoVerif.SrcMap KotoVerif.Excerpt KotoVerif.Trace
open KotoVerif.C12L (spA spB spR exPushes exTree exCalls)

def Sorted (es : List Entry) : Prop := es.Pairwise (fun a b => a.1 ≤ b.1)

def StrictSorted (es : List Entry) : Prop := es.Pairwise (fun a b => a.1 < b.1)

/-! ## 1. the source map -/

example : pushAll exPushes = [(0, spA), (5, spB), (9, spA)] := by decide

/-- Merging equal neighbouring spans (`DebugInfo::push`) loses nothing. -/
theorem srcmap_lossless (es : List Entry) (h : Sorted es) (q : Nat) :
    lookup (pushAll es) q = lookup es q :=
  C12L.lookup_pushAll es h q

example : Sorted exPushes ∧ (pushAll exPushes).length < exPushes.length ∧
    ∀ q < 12, lookup (pushAll exPushes) q = lookup exPushes q := by
  unfold Sorted; decide

/-- `get_source_span` = span of the last entry with `ip ≤ query`. -/
theorem lookup_spec (m : List Entry) (h : Sorted m) (q : Nat) :
    lookup m q = ((m.filter (fun e => decide (e.1 ≤ q))).getLast?).map (·.2) :=
  C12L.lookup_spec m h q

example : Sorted exPushes ∧ lookup exPushes 6 = some spB ∧ lookup exPushes 100 = some spA := by
  unfold Sorted; decide

theorem lookup_none_before_first (i : Nat) (s : Span) (rest : List Entry) (q : Nat) (h : q < i) :
    lookup ((i, s) :: rest) q = none :=
  C12L.lookup_cons_gt s rest h

example : lookup [(3, spA), (5, spB)] 2 = none := by decide

theorem lookup_hit (m : List Entry) (h : StrictSorted m) (q : Nat) (sp : Span)
    (hm : (q, sp) ∈ m) : lookup m q = some sp :=
  C12L.lookup_hit m q sp h hm

example : StrictSorted exPushes ∧ (5, spB) ∈ exPushes ∧ lookup exPushes 5 = some spB := by
  unfold StrictSorted; decide

/-- An instruction emitted with `push_op_without_span` is reported with the span of the nearest
preceding spanned instruction. -/
theorem nospan_inherits (m : List Entry) (_h : Sorted m) (p q : Nat) (hpq : p ≤ q)
    (hnone : ∀ e ∈ m, ¬ (p < e.1 ∧ e.1 ≤ q)) : lookup m q = lookup m p :=
  C12L.lookup_nospan m p q hpq hnone

example : Sorted exPushes ∧ (5 ≤ 6) ∧ (∀ e ∈ exPushes, ¬ (5 < e.1 ∧ e.1 ≤ 6)) ∧
    lookup exPushes 6 = lookup exPushes 5 := by
  unfold Sorted; decide

/-! ## 2. the span stack -/

/-- `push_span`/`pop_span` bracketing: every compile step leaves the span stack as found. -/
theorem span_stack_balanced (t : Steps) (s : CState) : (compile t s).stack = s.stack :=
  C12L.compile_stack t s

example : (compile exTree { stack := [spR] }).stack = [spR] := by decide

/-- The stack-based compile records exactly the lexically scoped annotation (the span of the
innermost enclosing node). -/
theorem compile_entries (t : Steps) (cur : Span) (stk : List Span) (ip : Nat) (es : List Entry)
    (ins : List (Nat × Option Span)) :
    let r := compile t { ip := ip, stack := cur :: stk, entries := es, instrs := ins }
    r.entries = es ++ (annot t cur ip).1 ∧ r.ip = (annot t cur ip).2 := by
  intro r
  exact C12L.compile_annot t cur stk ip es ins

example : (compile exTree { stack := [spR] }).entries
    = [(0, spA), (2, spA), (5, spB), (9, spA), (13, spR)] := by decide

/-- Each instruction emitted with `push_op`, looked up in the finished (compressed) debug info at
its own ip, carries the span of the innermost enclosing node. -/
theorem instr_span (root : Span) (t : Steps) (h : t.sizesPos = true) :
    ∀ e ∈ (annot t root 0).1, lookup (debugInfoOf root t) e.1 = some e.2 :=
  C12L.instr_span root t h

/-- nested nodes, equal neighbours merged, an op after a child node (ip 9: outer span again), an
instruction without a span (ip 6: inherits the child's span) -/
example : exTree.sizesPos = true ∧
    (annot exTree spR 0).1 = [(0, spA), (2, spA), (5, spB), (9, spA), (13, spR)] ∧
    debugInfoOf spR exTree = [(0, spA), (5, spB), (9, spA), (13, spR)] ∧
    (∀ e ∈ (annot exTree spR 0).1, lookup (debugInfoOf spR exTree) e.1 = some e.2) ∧
    lookup (debugInfoOf spR exTree) 9 = some spA ∧
    lookup (debugInfoOf spR exTree) 6 = some spB := by decide

/-! ## 3. the trace -/

/-- General form for any stack: frames without barrier and without an (allowed) catch entry are
popped, each remaining frame contributes its call site, the first barrier frame ends it. -/
theorem unwind_frames (allow : Bool) (fs : List Frame) (b : Frame) (below : List Frame)
    (tr : List IFrame)
    (hfs : ∀ f ∈ fs, f.barrier = false ∧ (f.hasCatch && allow) = false)
    (hb : b.barrier = true ∧ (b.hasCatch && allow) = false) :
    unwindGo allow (fs ++ b :: below) tr
      = .uncaught (tr ++ ((fs ++ [b]).drop 1).map (fun g => ⟨g.chunk, g.retIp⟩)) :=
  C12L.unwind_frames allow fs b below tr hfs hb

/-- with `allow_catch = false` catch entries are ignored; frames below the barrier are not reported -/
example :
    let fs : List Frame := [⟨3, 0, false, false⟩, ⟨2, 4, true, false⟩]
    let b : Frame := ⟨1, 7, true, true⟩
    (∀ f ∈ fs, f.barrier = false ∧ (f.hasCatch && false) = false) ∧
    (b.barrier = true ∧ (b.hasCatch && false) = false) ∧
    unwindGo false (fs ++ b :: [⟨0, 3, false, true⟩]) [⟨3, 11⟩]
      = .uncaught [⟨3, 11⟩, ⟨2, 4⟩, ⟨1, 7⟩] := by decide

/-- The trace is the failing instruction's frame first, then each enclosing call site, innermost
first. -/
theorem trace_order (calls : List Call) (fault : Nat) (h : ∀ c ∈ calls, c.inTry = false) :
    predict calls fault false
      = .uncaught (⟨lastChunk 0 calls, fault⟩ :: (callSites 0 calls).reverse) :=
  C12L.trace_order calls fault h

example : (∀ c ∈ exCalls, c.inTry = false) ∧
    predict exCalls 11 false = .uncaught [⟨3, 11⟩, ⟨2, 4⟩, ⟨1, 7⟩, ⟨0, 3⟩] := by decide

/-- The error is caught exactly when the failing instruction or one of the calls of the chain lies
inside a `try` block. -/
theorem trace_caught_iff (calls : List Call) (fault : Nat) (ft : Bool) :
    predict calls fault ft = .caught ↔ (ft = true ∨ ∃ c ∈ calls, c.inTry = true) :=
  C12L.trace_caught_iff calls fault ft

example : predict [⟨3, 1, false⟩, ⟨7, 2, true⟩, ⟨4, 3, false⟩] 11 false = .caught ∧
    predict exCalls 11 true = .caught ∧
    predict exCalls 11 false ≠ .caught := by decide

/-! ### errors that cross native re-entries (callbacks run by core-library functions) -/

/-- No `try` anywhere: the trace across native re-entries is, entry by entry from the innermost,
[adaptor creation frame]? ++ failing / native-call instruction ++ that entry's call sites,
innermost first. -/
theorem trace_order_native (segs : List Seg) (tr : List IFrame)
    (h : ∀ s ∈ segs, s.failInTry = false ∧ ∀ c ∈ s.calls, c.inTry = false) :
    predictSegs segs tr = .uncaught (tr ++ (segs.map segFrames).flatten) :=
  C12L.trace_order_native segs tr h

/-- eager callback (e.g. `fold`): the callback called at ip 4 of the function passed, fails at 0;
the outer entry's native call is at ip 3 of a function called at ip 6 -/
example :
    let segs : List Seg := [{ calls := [⟨4, 0, false⟩], failIp := 0 },
                            { calls := [⟨6, 0, false⟩], failIp := 3 }]
    (∀ s ∈ segs, s.failInTry = false ∧ ∀ c ∈ s.calls, c.inTry = false) ∧
    predictSegs segs [] = .uncaught [⟨0, 0⟩, ⟨0, 4⟩, ⟨0, 3⟩, ⟨0, 6⟩] := by decide

/-- lazy adaptor (e.g. `each`) created at ip 2: its creation frame comes before the native call that
consumed the iterator; distinct chunks, three entries -/
example :
    predictSegs [{ calls := [⟨4, 0, false⟩], failIp := 0 },
                 { calls := [⟨6, 0, false⟩], failIp := 3, adaptorIp := some 2 }] []
      = .uncaught [⟨0, 0⟩, ⟨0, 4⟩, ⟨0, 2⟩, ⟨0, 3⟩, ⟨0, 6⟩] ∧
    predictSegs [{ calls := [⟨4, 5, false⟩, ⟨1, 6, false⟩], failIp := 9 },
                 { calls := [⟨6, 2, false⟩], failIp := 3, adaptorIp := some 2 },
                 { calls := [], failIp := 8 }] []
      = .uncaught [⟨6, 9⟩, ⟨5, 1⟩, ⟨0, 4⟩, ⟨2, 2⟩, ⟨2, 3⟩, ⟨0, 6⟩, ⟨0, 8⟩] := by decide

/-- One entry alone is `predict` (consistency with the single-entry model). -/
theorem predictSegs_single (calls : List Call) (fault : Nat) (ft : Bool) :
    predictSegs [{ calls := calls, failIp := fault, failInTry := ft }] [] = predict calls fault ft := by
  simp only [predictSegs, predict, unwind, List.nil_append, List.append_nil]
  generalize unwindGo true _ _ = o
  cases o <;> rfl

example : predictSegs [{ calls := exCalls, failIp := 11 }] []
    = .uncaught [⟨3, 11⟩, ⟨2, 4⟩, ⟨1, 7⟩, ⟨0, 3⟩] := by decide

/-- The staged mechanism on ONE shared stack (eager callbacks run on the same VM): the callback
frame `b` has a barrier, the frames `gs ++ [root]` of the outer entry lie below it. The first
unwinding stops at `b` with `t1` = `tr` ++ the call sites of `fs`/`b`; then (`call_and_run_function`
pops `b`, the outer loop's `pop_call_stack_on_error` pushes the new top's instruction frame — its
`retIp` — and continues) the second stage yields `tr` ++ the call sites of every frame below the top
one down to and including `root`: the same as if `b` had been an ordinary call frame (last
conjunct). -/
theorem native_reentry_same_stack (allow : Bool) (fs gs : List Frame) (b root : Frame)
    (below : List Frame) (tr : List IFrame)
    (hfs : ∀ f ∈ fs, f.barrier = false ∧ (f.hasCatch && allow) = false)
    (hb : b.barrier = true ∧ (b.hasCatch && allow) = false)
    (hgs : ∀ f ∈ gs, f.barrier = false ∧ (f.hasCatch && allow) = false)
    (hr : root.barrier = true ∧ (root.hasCatch && allow) = false) :
    ∃ t1, unwindGo allow (fs ++ b :: (gs ++ root :: below)) tr = .uncaught t1 ∧
      t1 = tr ++ ((fs ++ [b]).drop 1).map (fun g => (⟨g.chunk, g.retIp⟩ : IFrame)) ∧
      (match gs ++ [root] with
        | [] => True
        | g :: rest =>
          unwindGo allow (g :: (rest ++ below)) (t1 ++ [⟨g.chunk, g.retIp⟩])
            = .uncaught (tr ++ ((fs ++ b :: (gs ++ [root])).drop 1).map
                (fun g => (⟨g.chunk, g.retIp⟩ : IFrame)))) ∧
      unwindGo allow (fs ++ { b with barrier := false } :: (gs ++ root :: below)) tr
        = .uncaught (tr ++ ((fs ++ b :: (gs ++ [root])).drop 1).map
            (fun g => (⟨g.chunk, g.retIp⟩ : IFrame))) :=
  C12L.native_reentry_same_stack allow fs gs b root below tr hfs hb hgs hr

/-- callback chunk 3 called from chunk 2 (the callback frame, barrier) at ip 4; below it the outer
entry: chunk 1 (native call at ip 7) called from the root chunk 0 at ip 3 -/
example :
    let fs : List Frame := [⟨3, 0, false, false⟩]
    let b : Frame := ⟨2, 4, false, true⟩
    let gs : List Frame := [⟨1, 7, false, false⟩]
    let root : Frame := ⟨0, 3, false, true⟩
    (∀ f ∈ fs, f.barrier = false ∧ (f.hasCatch && true) = false) ∧
    (b.barrier = true ∧ (b.hasCatch && true) = false) ∧
    (∀ f ∈ gs, f.barrier = false ∧ (f.hasCatch && true) = false) ∧
    (root.barrier = true ∧ (root.hasCatch && true) = false) ∧
    unwindGo true (fs ++ b :: (gs ++ [root])) [⟨3, 11⟩] = .uncaught [⟨3, 11⟩, ⟨2, 4⟩] ∧
    unwindGo true (gs ++ [root]) [⟨3, 11⟩, ⟨2, 4⟩, ⟨1, 7⟩]
      = .uncaught [⟨3, 11⟩, ⟨2, 4⟩, ⟨1, 7⟩, ⟨0, 3⟩] := by decide

/-! ## 4. excerpt arithmetic -/

theorem excerpt_total (n : Nat) (sp : Span) (h : Guard n sp) : ∃ o, excerpt n sp = .ok o :=
  C12L.excerpt_total n sp h

example : Guard 3 ⟨⟨1, 2⟩, ⟨1, 5⟩⟩ ∧
    excerpt 3 ⟨⟨1, 2⟩, ⟨1, 5⟩⟩ = .ok ⟨(2, 3), 1, [(2, 1)], some (3, 3)⟩ := by decide

/-- A span inside the text: exactly the lines `start.line ..= end.line` are quoted, numbered from
one; single-line spans are underlined from the start column over the span's width. -/
theorem excerpt_exact (n : Nat) (sp : Span) (h : Guard n sp) (he : sp.stop.line < n) :
    ∃ o, excerpt n sp = .ok o ∧
      o.quoted.map (·.2) = List.range' sp.start.line (sp.stop.line - sp.start.line + 1) ∧
      (∀ p ∈ o.quoted, p.1 = p.2 + 1) ∧
      o.header = (sp.start.line + 1, sp.start.col + 1) ∧
      (sp.start.line = sp.stop.line →
        o.underline = some (sp.start.col + 1, sp.stop.col - sp.start.col)) :=
  C12L.excerpt_exact n sp h he

example : Guard 12 ⟨⟨8, 2⟩, ⟨10, 0⟩⟩ ∧ 10 < 12 ∧
    excerpt 12 ⟨⟨8, 2⟩, ⟨10, 0⟩⟩ = .ok ⟨(9, 3), 2, [(9, 8), (10, 9), (11, 10)], none⟩ := by decide

/-- A multi-line span that runs past the last line (a `NewLine` token at the end of the input ends on
line `n`): the lines that exist are quoted. -/
theorem excerpt_truncates (n : Nat) (sp : Span) (h : Guard n sp)
    (hm : sp.start.line < sp.stop.line) (he : n ≤ sp.stop.line) :
    ∃ o, excerpt n sp = .ok o ∧
      o.quoted.map (·.2) = List.range' sp.start.line (n - sp.start.line) := by
  refine ⟨_, C12L.excerpt_multi hm, ?_⟩
  rw [C12L.multiOut, C12L.map_snd_quoted,
    Nat.min_eq_right (Nat.le_succ_of_le (Nat.sub_le_sub_right he _))]

example : Guard 2 ⟨⟨1, 4⟩, ⟨2, 0⟩⟩ ∧ 1 < 2 ∧ 2 ≤ 2 ∧
    excerpt 2 ⟨⟨1, 4⟩, ⟨2, 0⟩⟩ = .ok ⟨(2, 5), 1, [(2, 1)], none⟩ := by decide

theorem excerpt_panic_iff (n : Nat) (sp : Span) :
    (∃ p, excerpt n sp = .panic p) ↔
      (sp.stop.line < sp.start.line ∨
        (sp.start.line = sp.stop.line ∧ (n ≤ sp.start.line ∨ sp.stop.col < sp.start.col))) :=
  C12L.excerpt_panic_iff n sp

example : excerpt 5 ⟨⟨3, 0⟩, ⟨2, 0⟩⟩ = .panic .lineUnderflow := by decide

/-- The guard is necessary: a zero-width span on the line after the final line break (the
end-of-input position of a text ending in "\n") fails. -/
theorem excerpt_panic_outside_guard : excerpt 1 ⟨⟨1, 0⟩, ⟨1, 0⟩⟩ = .panic .noSuchLine := by decide

theorem excerpt_panic_outside_guard_col : excerpt 1 ⟨⟨0, 3⟩, ⟨0, 1⟩⟩ = .panic .colUnderflow := by
  decide

example : ¬ Guard 1 ⟨⟨1, 0⟩, ⟨1, 0⟩⟩ ∧ ¬ Guard 1 ⟨⟨0, 3⟩, ⟨0, 1⟩⟩ := by decide

end KotoVerif.C12
