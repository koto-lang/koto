/-
C20 — theorems about the layers around `ser` / `de` / `norm` in `Model/Serde.lean` (`serW`, `jsonLayer`,
`jsonInt`, `tomlDatetime`, `tomlOrd`, `toKoto`): what one stage emits the next one accepts, and the side
conditions survive a trip. All statements are for all inputs.
-/
import KotoVerif.Model.Serde
import KotoVerif.Lemmas.C20
import KotoVerif.Props.C20

namespace KotoVerif.C20Ext
open KotoVerif KotoVerif.Serde KotoVerif.C20

mutual
theorem jsonLayer_idem : ∀ s : SVal, jsonLayer (jsonLayer s) = jsonLayer s
  | .f64 b => by
    by_cases h : finiteBits b = true <;> simp [jsonLayer, h]
  | .seq xs => by simp [jsonLayer, jsonLayerL_idem xs]
  | .map es => by simp [jsonLayer, jsonLayerE_idem es]
  | .unit | .none | .some _ | .bool _ | .i64 _ | .u64 _ | .i128 _ | .u128 _ | .char _ | .str _
  | .bytes _ | .newtype _ | .enum _ _ => rfl
theorem jsonLayerL_idem : ∀ xs : List SVal, jsonLayerL (jsonLayerL xs) = jsonLayerL xs
  | [] => rfl
  | x :: xs => by
    show jsonLayer (jsonLayer x) :: jsonLayerL (jsonLayerL xs) = _
    rw [jsonLayer_idem x, jsonLayerL_idem xs]
    rfl
theorem jsonLayerE_idem : ∀ es : List (SVal × SVal), jsonLayerE (jsonLayerE es) = jsonLayerE es
  | [] => rfl
  | (k, v) :: es => by
    show (k, jsonLayer (jsonLayer v)) :: jsonLayerE (jsonLayerE es) = _
    rw [jsonLayer_idem v, jsonLayerE_idem es]
    rfl
end

/-! ### The JSON contract (`jsonLayer`) never turns a document `KValueVisitor` accepts into one it rejects,
or back -/

mutual
theorem de_jsonLayer_isSome : ∀ s : SVal, (de (jsonLayer s)).isSome = (de s).isSome
  | .f64 b => by
    show (de (if finiteBits b = true then SVal.f64 b else SVal.unit)).isSome = _
    split <;> rfl
  | .seq xs => (Option.isSome_map.trans (deL_jsonLayer_isSome xs)).trans Option.isSome_map.symm
  | .map es => (Option.isSome_map.trans (deE_jsonLayer_isSome es)).trans Option.isSome_map.symm
  | .unit | .none | .some _ | .bool _ | .i64 _ | .u64 _ | .i128 _ | .u128 _ | .char _ | .str _
  | .bytes _ | .newtype _ | .enum _ _ => rfl
theorem deL_jsonLayer_isSome : ∀ xs : List SVal, (deL (jsonLayerL xs)).isSome = (deL xs).isSome
  | [] => rfl
  | x :: xs => by
    show (deL (jsonLayer x :: jsonLayerL xs)).isSome = _
    rw [deL_cons_isSome, deL_cons_isSome, de_jsonLayer_isSome x, deL_jsonLayer_isSome xs]
theorem deE_jsonLayer_isSome : ∀ es : List (SVal × SVal), (deE (jsonLayerE es)).isSome = (deE es).isSome
  | [] => rfl
  | (k, v) :: es => by
    show (deE ((k, jsonLayer v) :: jsonLayerE es)).isSome = _
    rw [deE_cons_isSome, deE_cons_isSome, de_jsonLayer_isSome v, deE_jsonLayer_isSome es]
end

/-! ### TOML date/time literals: what the reader hands over is accepted, and the resulting value
is a fixed point of the whole pipeline (stable "from then on"), for every literal text. -/

theorem tomlDatetime_stable (X : Ext) (text : List Nat) :
    de (tomlDatetime text) = some (.map [(.str tomlDatetimeKey, .str text)]) ∧
    serW X (.map [(.str tomlDatetimeKey, .str text)]) = some (tomlDatetime text) ∧
    tomlAccepts (tomlDatetime text) = true ∧
    norm X (.map [(.str tomlDatetimeKey, .str text)]) = .map [(.str tomlDatetimeKey, .str text)] ∧
    tomlOrd (.map [(.str tomlDatetimeKey, .str text)]) = .map [(.str tomlDatetimeKey, .str text)] := by
  refine ⟨?_, ?_, ?_, ?_, ?_⟩
  · simp [tomlDatetime, de, deE, hashable, buildMap, buildFrom, insertKV]
  · have hd : depth (.map [(.str tomlDatetimeKey, .str text)]) ≤ writerDepthLimit := by
      simp [depth, depthE, writerDepthLimit]
    simp [serW, hd, ser, serE, keyStr, tomlDatetime]
  · simp [tomlDatetime, tomlAccepts, tomlNoUnitE, tomlNoUnit]
  · simp [norm, normE, keyStr, buildMap, buildFrom, insertKV]
  · simp [tomlOrd, tomlPlain, tomlTables, isTableLike]

/-! ### The external facts `Ext` (float formatting, casts) play no role on string-keyed values — the
property's domain. -/

mutual
theorem ser_ext_indep (X Y : Ext) : ∀ v : Val, strKeys v = true → ser X v = ser Y v
  | .null, _ | .bool _, _ | .num (.i _), _ | .num (.f _), _ | .str _, _ | .range _ _, _ => by simp [ser]
  | .list xs, h | .tuple xs, h => by
    simp [ser, serL_ext_indep X Y xs h]
  | .map es, h => by
    simp [ser, serE_ext_indep X Y es h]
theorem serL_ext_indep (X Y : Ext) : ∀ xs : List Val, strKeysL xs = true → serL X xs = serL Y xs
  | [], _ => by simp [serL]
  | x :: xs, h => by
    simp only [strKeysL, Bool.and_eq_true] at h
    simp [serL, ser_ext_indep X Y x h.1, serL_ext_indep X Y xs h.2]
theorem serE_ext_indep (X Y : Ext) : ∀ es : List (Val × Val), strKeysE es = true → serE X es = serE Y es
  | [], _ => by simp [serE]
  | (k, v) :: es, h => by
    cases k with
    | str s =>
      have h' : (strKeys v && strKeysE es) = true := h
      rw [Bool.and_eq_true] at h'
      simp [serE, keyStr, ser_ext_indep X Y v h'.1, serE_ext_indep X Y es h'.2]
    | _ => cases h
end

example : strKeys (.map [(.str [97], .list [.null, .num (.f 0)])]) = true := by decide

mutual
theorem norm_ext_indep (X Y : Ext) : ∀ v : Val, strKeys v = true → norm X v = norm Y v
  | .null, _ | .bool _, _ | .num _, _ | .str _, _ | .range _ _, _ => by simp [norm]
  | .list xs, h | .tuple xs, h => by
    simp [norm, normL_ext_indep X Y xs h]
  | .map es, h => by
    simp [norm, normE_ext_indep X Y es h]
theorem normL_ext_indep (X Y : Ext) : ∀ xs : List Val, strKeysL xs = true → normL X xs = normL Y xs
  | [], _ => by simp [normL]
  | x :: xs, h => by
    simp only [strKeysL, Bool.and_eq_true] at h
    simp [normL, norm_ext_indep X Y x h.1, normL_ext_indep X Y xs h.2]
theorem normE_ext_indep (X Y : Ext) : ∀ es : List (Val × Val), strKeysE es = true → normE X es = normE Y es
  | [], _ => by simp [normE]
  | (k, v) :: es, h => by
    cases k with
    | str s =>
      have h' : (strKeys v && strKeysE es) = true := h
      rw [Bool.and_eq_true] at h'
      simp [normE, keyStr, norm_ext_indep X Y v h'.1, normE_ext_indep X Y es h'.2]
    | _ => cases h
end

/-! ### "Sequences come back as tuples", deeply: no list survives anywhere in a normal form. -/

mutual
/-- no `.list` in any value position -/
def noList : Val → Bool
  | .list _ => false
  | .tuple xs => noListL xs
  | .map es => noListE es
  | _ => true
def noListL : List Val → Bool
  | [] => true
  | x :: xs => noList x && noListL xs
def noListE : List (Val × Val) → Bool
  | [] => true
  | (_, v) :: es => noList v && noListE es
end

theorem noListE_iff : ∀ es : List (Val × Val), noListE es = true ↔ ∀ e ∈ es, noList e.2 = true
  | [] => by simp [noListE]
  | (k, v) :: r => by simp [noListE, noListE_iff r]

theorem noListL_iff : ∀ xs : List Val, noListL xs = true ↔ ∀ x ∈ xs, noList x = true
  | [] => by simp [noListL]
  | x :: r => by simp [noListL, noListL_iff r]

theorem norm_noList (X : Ext) (v : Val) : noList (norm X v) = true := by
  induction v using Val.ind with
  | null | bool _ | num _ | str _ | range _ _ => rfl
  | list xs ih | tuple xs ih => exact (noListL_iff _).2 ((forall_mem_normL X).2 ih)
  | map es ih =>
    exact (noListE_iff _).2 fun e he => (norm_map_entries X (noList · = true) es ih e he).2

theorem normL_noList (X : Ext) : ∀ xs : List Val, noListL (normL X xs) = true :=
  fun xs => norm_noList X (.tuple xs)

/-! ### "Sequences come back as tuples" for every document: whatever data-model tree a parser hands
to `KValueVisitor`, the resulting value has no list — what the writer itself emitted included
(`roundtrip_noList`). -/

mutual
theorem de_noList : ∀ (s : SVal) (v : Val), de s = some v → noList v = true
  | .unit, v, h | .none, v, h => by cases h; rfl
  | .some s, v, h | .newtype s, v, h => de_noList s v h
  | .bool _, v, h | .i64 _, v, h => by cases h; rfl
  | .u64 n, v, h | .i128 n, v, h | .u128 n, v, h => by
    simp only [de, ofI] at h; split at h
    · cases h; rfl
    · cases h
  | .f64 _, v, h | .char _, v, h | .str _, v, h => by cases h; rfl
  | .bytes bs, v, h => by
    simp [de] at h; subst h
    simp only [noList]
    induction bs with
    | nil => rfl
    | cons b bs ih => simp [noListL, noList, ih]
  | .seq xs, v, h => by
    obtain ⟨vs, hl, rfl⟩ := Option.map_eq_some_iff.mp (show (deL xs).map Val.tuple = some v from h)
    exact deL_noList xs vs hl
  | .map es, v, h => by
    obtain ⟨kvs, hl, rfl⟩ := Option.map_eq_some_iff.mp
      (show (deE es).map (fun kvs => Val.map (buildMap kvs)) = some v from h)
    exact (noListE_iff _).2 fun e he => deE_noList es kvs hl e (mem_of_mem_buildMap he)
  | .enum a b, v, h => by
    simp only [de] at h
    cases ha : de a with
    | none => simp [ha] at h
    | some k =>
      cases hb : de b with
      | none => simp [ha, hb] at h
      | some w =>
        simp only [ha, hb] at h
        split at h
        · cases h; simp [noList, noListE, de_noList b w hb]
        · cases h
theorem deL_noList : ∀ (xs : List SVal) (vs : List Val), deL xs = some vs → noListL vs = true
  | [], vs, h => by cases h; rfl
  | x :: xs, vs, h => by
    obtain ⟨w, ws, h1, h2, rfl⟩ := (deL_cons_some _ _ _).1 h
    show (noList w && noListL ws) = true
    rw [de_noList x w h1, deL_noList xs ws h2]
    rfl
theorem deE_noList : ∀ (es : List (SVal × SVal)) (kvs : List (Val × Val)), deE es = some kvs →
    ∀ e ∈ kvs, noList e.2 = true
  | [], kvs, h => by cases h; exact fun _ he => nomatch he
  | (k, x) :: es, kvs, h => by
    obtain ⟨_, w, ws, _, h1, h2, _, rfl⟩ := (deE_cons_some _ _ _ _).1 h
    intro e he
    rcases List.mem_cons.mp he with rfl | he
    · exact de_noList x w h1
    · exact deE_noList es ws h2 e he
end

-- a document with a byte string, an enum and a nested sequence is accepted
example : (de (.map [(.str [97], .seq [.bytes [1, 2], .enum (.str [98]) (.seq [.unit])])])).isSome = true := by
  decide

/-- what comes back from text contains no list, for every value the writer accepts -/
theorem roundtrip_noList (X : Ext) (v : Val) (s : SVal) (w : Val)
    (h : serW X v = some s) (hw : de s = some w) : noList w = true :=
  de_noList s w hw

example : serW ⟨fun _ => [], fun _ => 0, fun _ => 0, fun _ => 0, fun _ => false, fun _ => 0, fun _ => 0, fun _ => 0⟩
    (.list [.list [.null]]) = some (.seq [.seq [.unit]]) := by rfl

/-! ### The writer's domain is closed under taking parts: if a container is accepted, so is
every element / entry value (no hidden global condition besides depth and serializability). -/

theorem serW_map_parts (X : Ext) (es : List (Val × Val)) (h : (serW X (.map es)).isSome = true) :
    ∀ e ∈ es, (serW X e.2).isSome = true := by
  intro e he
  rw [serW_isSome] at h
  simp only [serializable, depth, Bool.and_eq_true] at h
  have h2 := of_decide_eq_true h.2
  rw [serW_isSome]
  simp only [Bool.and_eq_true, decide_eq_true_eq]
  have h2' : depthE es ≤ writerDepthLimit := by omega
  exact ⟨(serializableE_iff es).1 h.1 e he, (depthE_le_iff _ es).1 h2' e he⟩

theorem serW_seq_parts (X : Ext) (xs : List Val)
    (h : (serW X (.list xs)).isSome = true ∨ (serW X (.tuple xs)).isSome = true) :
    ∀ x ∈ xs, (serW X x).isSome = true := by
  intro x hx
  have h' : serializableL xs = true ∧ depthL xs + 1 ≤ writerDepthLimit := by
    rcases h with h | h <;> rw [serW_isSome] at h <;>
      simp only [serializable, depth, Bool.and_eq_true] at h <;>
      exact ⟨h.1, of_decide_eq_true h.2⟩
  rw [serW_isSome]
  simp only [Bool.and_eq_true, decide_eq_true_eq]
  have h2' : depthL xs ≤ writerDepthLimit := by omega
  exact ⟨(serializableL_iff xs).1 h'.1 x hx, (depthL_le_iff _ xs).1 h2' x hx⟩

example : (serW ⟨fun _ => [], fun _ => 0, fun _ => 0, fun _ => 0, fun _ => false, fun _ => 0, fun _ => 0, fun _ => 0⟩
    (.map [(.num (.i 1), .list [.null])])).isSome = true := by decide

/-! ### The serializer never emits an integer the visitor would reject. -/

theorem ser_intsInRange (X : Ext) (v : Val) (s : SVal) (h : ser X v = some s) : intsInRange s = true := by
  apply de_isSome_inRange
  rw [de_of_ser X v s h]; rfl

/-! ### JSON integer literals: complete classification of what the visitor answers. -/

theorem jsonInt_de_spec (X : Ext) (n : Int) :
    de (jsonInt X n) =
      if i64Min ≤ n ∧ n ≤ i64Max then some (.num (.i (Int64.ofInt n)))
      else if n ≤ 18446744073709551615 ∧ i64Max < n then none
      else some (.num (.f (X.big2f n))) :=
  de_jsonInt X n

/-! ### serializer.rs produces only values inside the property's domain: whatever `to_koto_value`
returns is serializable (no range anywhere) and string-keyed, so it can go on to JSON/YAML/TOML. -/

theorem good_of_parts (kvs : List (Val × Val))
    (h : ∀ e ∈ kvs, (∃ s, e.1 = Val.str s) ∧ (serializable e.2 = true ∧ strKeys e.2 = true)) :
    serializable (.map (buildMap kvs)) = true ∧ strKeys (.map (buildMap kvs)) = true :=
  ⟨(serializableE_iff _).2 fun e he => (h e (mem_of_mem_buildMap he)).2.1,
   (strKeysE_iff _).2 fun e he => ⟨(h e (mem_of_mem_buildMap he)).1, (h e (mem_of_mem_buildMap he)).2.2⟩⟩

mutual
theorem toKoto_good (X : Ext) : ∀ (x : RVal) (v : Val), toKoto X x = some v →
    serializable v = true ∧ strKeys v = true
  | .unit, v, h | .bool _, v, h | .f32 _, v, h | .f64 _, v, h | .char _, v, h | .str _, v, h
  | .none, v, h | .variant _ .unit _, v, h => by cases h; exact ⟨rfl, rfl⟩
  | .int n, v, h => by
    simp only [toKoto, ofI] at h
    split at h
    · cases h; exact ⟨rfl, rfl⟩
    · cases h
  | .some x, v, h => toKoto_good X x v h
  | .seq xs, v, h | .tuple xs, v, h => by
    obtain ⟨vs, hl, rfl⟩ := Option.map_eq_some_iff.mp
      (show (toKotoL X xs).map Val.tuple = some v from h)
    exact toKotoL_good X xs vs hl
  | .map es, v, h | .struct es, v, h => by
    obtain ⟨kvs, hl, rfl⟩ := Option.map_eq_some_iff.mp
      (show (toKotoF X es).map (fun kvs => Val.map (buildMap kvs)) = some v from h)
    exact good_of_parts kvs (toKotoF_good X es kvs hl)
  | .variant name .newtype p, v, h | .variant name .tuple p, v, h | .variant name .struct p, v, h => by
    obtain ⟨w, hp, rfl⟩ := Option.map_eq_some_iff.mp
      (show (toKoto X p).map (fun v => Val.map [(.str name, v)]) = some v from h)
    have := toKoto_good X p w hp
    show (serializable w && true) = true ∧ (strKeys w && true) = true
    rw [this.1, this.2]
    exact ⟨rfl, rfl⟩
theorem toKotoL_good (X : Ext) : ∀ (xs : List RVal) (vs : List Val), toKotoL X xs = some vs →
    serializableL vs = true ∧ strKeysL vs = true
  | [], vs, h => by cases h; exact ⟨rfl, rfl⟩
  | x :: xs, vs, h => by
    obtain ⟨w, ws, h1, h2, rfl⟩ := (toKotoL_cons_some _ _ _ _).1 h
    have a := toKoto_good X x w h1
    have b := toKotoL_good X xs ws h2
    show (serializable w && serializableL ws) = true ∧ (strKeys w && strKeysL ws) = true
    rw [a.1, a.2, b.1, b.2]
    exact ⟨rfl, rfl⟩
theorem toKotoF_good (X : Ext) : ∀ (es : List (Name × RVal)) (kvs : List (Val × Val)),
    toKotoF X es = some kvs →
    ∀ e ∈ kvs, (∃ s, e.1 = Val.str s) ∧ (serializable e.2 = true ∧ strKeys e.2 = true)
  | [], kvs, h => by cases h; exact fun _ he => nomatch he
  | (n, x) :: es, kvs, h => by
    obtain ⟨w, ws, h1, h2, rfl⟩ := (toKotoF_cons_some _ _ _ _ _).1 h
    intro e he
    rcases List.mem_cons.mp he with rfl | he
    · exact ⟨⟨n, rfl⟩, toKoto_good X x w h1⟩
    · exact toKotoF_good X es ws h2 e he
end

example : toKoto ⟨fun _ => [], fun _ => 0, fun _ => 0, fun _ => 0, fun _ => false, fun _ => 0, fun _ => 0, fun _ => 0⟩
    (.struct [([97], .some (.int 3)), ([98], .variant [99] .newtype (.seq [.unit]))]) =
    some (.map [(.str [97], .num (.i 3)), (.str [98], .map [(.str [99], .tuple [.null])])]) := by decide

/-- **Rust data → Koto value → text → Koto value** always succeeds within the writer's depth and ends
in the normal form of the value `to_koto_value` produced. -/
theorem toKoto_then_text (X : Ext) (x : RVal) (v : Val) (h : toKoto X x = some v)
    (hd : depth v ≤ writerDepthLimit) :
    ∃ s, serW X v = some s ∧ de s = some (norm X v) ∧ strKeys v = true := by
  have g := toKoto_good X x v h
  have h0 := de_ser X v g.1 hd
  cases hs : serW X v with
  | none => simp [hs] at h0
  | some s => exact ⟨s, rfl, by simpa [hs] using h0, g.2⟩

/-! ### TOML's reordering changes only the order: it preserves exactly the side conditions that
decide whether TOML accepts a value (no null, serializable) and the nesting depth — so the reordered
value is accepted again. -/

mutual
theorem tomlOrd_noNull : ∀ v : Val, noNull (tomlOrd v) = noNull v
  | .null | .bool _ | .num _ | .str _ | .range _ _ => rfl
  | .map es => by
    simp only [tomlOrd, noNull, noNullE_append]; exact tomlSplit_noNull es
  | .tuple xs | .list xs => by
    by_cases h : (!xs.isEmpty && xs.all isMap) = true
    · simp only [tomlOrd, h, ↓reduceIte, noNull, tomlOrdL_noNull xs]
    · simp [tomlOrd, h]
theorem tomlOrdL_noNull : ∀ xs : List Val, noNullL (tomlOrdL xs) = noNullL xs
  | [] => rfl
  | x :: xs => by simp [tomlOrdL, noNullL, tomlOrd_noNull x, tomlOrdL_noNull xs]
theorem tomlSplit_noNull : ∀ es : List (Val × Val),
    (noNullE (tomlPlain es) && noNullE (tomlTables es)) = noNullE es
  | [] => rfl
  | (k, v) :: es => by
    have ih := tomlSplit_noNull es
    by_cases h : isTableLike v = true
    · simp only [tomlPlain, tomlTables, h, ↓reduceIte, noNullE, tomlOrd_noNull v, ← ih]
      exact Bool.and_left_comm _ _ _
    · simp only [tomlPlain, tomlTables, h, ↓reduceIte, noNullE, Bool.false_eq_true, ← ih]
      exact Bool.and_assoc _ _ _
end

mutual
theorem tomlOrd_serializable : ∀ v : Val, serializable (tomlOrd v) = serializable v
  | .null | .bool _ | .num _ | .str _ | .range _ _ => rfl
  | .map es => by
    simp only [tomlOrd, serializable, serializableE_append]; exact tomlSplit_serializable es
  | .tuple xs | .list xs => by
    by_cases h : (!xs.isEmpty && xs.all isMap) = true
    · simp only [tomlOrd, h, ↓reduceIte, serializable, tomlOrdL_serializable xs]
    · simp [tomlOrd, h]
theorem tomlOrdL_serializable : ∀ xs : List Val, serializableL (tomlOrdL xs) = serializableL xs
  | [] => rfl
  | x :: xs => by simp [tomlOrdL, serializableL, tomlOrd_serializable x, tomlOrdL_serializable xs]
theorem tomlSplit_serializable : ∀ es : List (Val × Val),
    (serializableE (tomlPlain es) && serializableE (tomlTables es)) = serializableE es
  | [] => rfl
  | (k, v) :: es => by
    have ih := tomlSplit_serializable es
    by_cases h : isTableLike v = true
    · simp only [tomlPlain, tomlTables, h, ↓reduceIte, serializableE, tomlOrd_serializable v, ← ih]
      exact Bool.and_left_comm _ _ _
    · simp only [tomlPlain, tomlTables, h, ↓reduceIte, serializableE, Bool.false_eq_true, ← ih]
      exact Bool.and_assoc _ _ _
end

mutual
theorem tomlOrd_depth : ∀ v : Val, depth (tomlOrd v) = depth v
  | .null | .bool _ | .num _ | .str _ | .range _ _ => rfl
  | .map es => by
    simp only [tomlOrd, depth, depthE_append, tomlSplit_depth es]
  | .tuple xs | .list xs => by
    by_cases h : (!xs.isEmpty && xs.all isMap) = true
    · simp only [tomlOrd, h, ↓reduceIte, depth, tomlOrdL_depth xs]
    · simp [tomlOrd, h]
theorem tomlOrdL_depth : ∀ xs : List Val, depthL (tomlOrdL xs) = depthL xs
  | [] => rfl
  | x :: xs => by simp [tomlOrdL, depthL, tomlOrd_depth x, tomlOrdL_depth xs]
theorem tomlSplit_depth : ∀ es : List (Val × Val),
    max (depthE (tomlPlain es)) (depthE (tomlTables es)) = depthE es
  | [] => rfl
  | (k, v) :: es => by
    have ih := tomlSplit_depth es
    by_cases h : isTableLike v = true
    · simp only [tomlPlain, tomlTables, h, ↓reduceIte, depthE, tomlOrd_depth v, ← ih]
      exact Nat.max_left_comm _ _ _
    · simp only [tomlPlain, tomlTables, h, ↓reduceIte, depthE, Bool.false_eq_true, ← ih]
      exact Nat.max_assoc _ _ _
end

/-- **TOML second trip is accepted**: if the writer + TOML accept `v`, they accept `tomlOrd v` as well
(same serializability, same depth, still a null-free map). What TOML hands back is `tomlOrd (norm X v)`;
`norm X v` is accepted too (`serializable_norm`, `depth_norm_le`, `toml_result_compatible`), so this
applies there. -/
theorem toml_reordered_accepted (X : Ext) (v : Val) (s : SVal)
    (h : serW X v = some s) (ha : tomlAccepts s = true) :
    ∃ s', serW X (tomlOrd v) = some s' ∧ tomlAccepts s' = true := by
  have hs := (serW_eq_some X v s h).2
  have hacc : (isMap v && noNull v) = true := by rw [← toml_accepts_iff X v s hs]; exact ha
  have hsome : (serW X (tomlOrd v)).isSome = true := by
    have h0 : (serW X v).isSome = true := by simp [h]
    rw [serW_isSome] at h0 ⊢
    rw [tomlOrd_serializable, tomlOrd_depth]; exact h0
  obtain ⟨s', hs'⟩ := Option.isSome_iff_exists.mp hsome
  refine ⟨s', hs', ?_⟩
  rw [toml_accepts_iff X (tomlOrd v) s' (serW_eq_some X _ s' hs').2, isMap_tomlOrd, tomlOrd_noNull]
  exact hacc

/-! ### non-vacuity witnesses for the hypotheses used above -/

/-- a fixed instance of the external facts, for the witnesses -/
def X0 : Ext := ⟨fun _ => [], fun _ => 0, fun _ => 0, fun _ => 0, fun _ => false, fun _ => 0, fun _ => 0, fun _ => 0⟩

-- serW_seq_parts
example : (serW X0 (.tuple [.list [.null], .num (.i 2)])).isSome = true := by decide
-- ser_intsInRange
example : ser X0 (.list [.num (.i 5)]) = some (.seq [.i64 5]) := by rfl
-- toKoto_then_text
example : toKoto X0 (.struct [([97], .seq [.int 1])]) = some (.map [(.str [97], .tuple [.num (.i 1)])]) ∧
    depth (.map [(.str [97], .tuple [.num (.i 1)])]) ≤ writerDepthLimit := by decide
-- toml_reordered_accepted: a map whose table entry comes first (so tomlOrd really reorders)
example : serW X0 (.map [(.str [97], .map [(.str [120], .num (.i 1))]), (.str [98], .num (.i 2))]) =
      some (.map [(.str [97], .map [(.str [120], .i64 1)]), (.str [98], .i64 2)]) ∧
    tomlAccepts (.map [(.str [97], .map [(.str [120], .i64 1)]), (.str [98], .i64 2)]) = true :=
  ⟨by rfl, by decide⟩

end KotoVerif.C20Ext
