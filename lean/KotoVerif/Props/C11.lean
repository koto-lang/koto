/-
C11 — theorems about the modelled pieces of the formatter: the format options of a placeholder
(Model/FmtOptions.lean), `source_slice` (Model/SrcSlice.lean) and the render half of the layout
engine, `FormatItem::render` / `render_group` (Model/Layout.lean). The builder half
(`format_node` / `GroupBuilder`: Ast and comments → item tree) is NOT modelled; for it the check is
per-program translation validation (harness/src/bin/c11.rs).
-/
import KotoVerif.Model.FmtOptions
import KotoVerif.Model.SrcSlice
import KotoVerif.Model.Layout
import KotoVerif.Lemmas.C11
import KotoVerif.Lemmas.C11Layout

namespace KotoVerif.C11
open KotoVerif.FmtOptions KotoVerif.SrcSlice

/-! ## Format options: `parse (render o) = o` -/

/-- `fmtopts_roundtrip`: for every well-formed option set (`WF`, Model/FmtOptions.lean: widths and
precisions below 2³², and a fill that `parse` can produce in that combination), re-rendering the
options and parsing the result gives the same options. `g`, `g2` are the lengths of the first two
grapheme clusters the segmenter reports for the rendered string; `GraphemeOk` says it sees a
multi-code-point fill as one cluster and, when an alignment follows it, the alignment character as a
cluster of its own. (Finding F-C11-2, fixed in /repo 7549768: `render_format_options` dropped the
representation.) -/
theorem fmtopts_roundtrip (o : Opts) (g g2 : Nat) (hwf : WF o) (hg : GraphemeOk o g g2) :
    parse (render o) g g2 = .ok o :=
  Lemmas.roundtrip o g g2 hwf hg

/-- Non-vacuity: a fill cluster of two code points, centred, width 20, precision 10, exponent. -/
example : WF { fill := some [129782, 127997], align := .center, minWidth := some 20, precision := some 10, repr := some .expLower }
    ∧ GraphemeOk { fill := some [129782, 127997], align := .center, minWidth := some 20, precision := some 10, repr := some .expLower } 2 1 := by
  decide

example : parse (render { fill := some [129782, 127997], align := .center, minWidth := some 20, precision := some 10, repr := some .expLower }) 2 1
    = .ok { fill := some [129782, 127997], align := .center, minWidth := some 20, precision := some 10, repr := some .expLower } := by
  decide

/-- Non-vacuity: `08.3b`; `x<4294967295x` (the fill `x` is also a representation letter, the width is
the largest allowed); `>?`; `.0`; `X`; a lone fill `_`. -/
example : WF { fill := some [48], minWidth := some 8, precision := some 3, repr := some .binary }
    ∧ WF { fill := some [120], align := .left, minWidth := some 4294967295, repr := some .hexLower }
    ∧ WF { align := .right, repr := some .debug } ∧ WF { precision := some 0 }
    ∧ WF { repr := some .hexUpper } ∧ WF { fill := some [95] } := by decide

/-- Regression for F-C11-2: the options of `{z:x}` survive re-rendering. -/
theorem fmtopts_hex_roundtrip :
    parse [120] 1 0 = .ok { repr := some .hexLower } ∧ render { repr := some .hexLower } = [120] := by
  decide

/-- The width bound in `WF` is needed: 2³² renders to a string `parse` rejects. -/
theorem fmtopts_width_bound_needed :
    parse (render { minWidth := some 4294967296 }) 1 1 = .error .tooLarge := by decide

/-- A lone fill cannot carry a representation (`{x:_x}` is a parse error), which is why `WF`
excludes that combination. -/
theorem fmtopts_lone_fill_no_repr :
    parse (render { fill := some [95], repr := some .hexLower }) 1 1 = .error (.unexpected 120) := by
  decide

/-- `fmtopts_parse_wf`: `WF` in `fmtopts_roundtrip` excludes nothing the parser can produce, whatever
cluster lengths the segmenter reports. -/
theorem fmtopts_parse_wf (s : List Nat) (g g2 : Nat) (o : Opts) (h : parse s g g2 = .ok o) : WF o :=
  Lemmas.parse_wf s g g2 o h

/-- Non-vacuity: `_<08.3x` — fill and alignment (taken by the check in front of the loop, since the
segmenter reports `_` and `<` as clusters of their own), zero fill overriding the fill, width,
precision, representation. -/
example : parse [95, 60, 48, 56, 46, 51, 120] 1 1
    = .ok { fill := some [48], align := .left, minWidth := some 8, precision := some 3, repr := some .hexLower } := by
  decide

/-- `fmtopts_reparse_stable`: what the formatter does to a placeholder — parse the options of the
source, render them, and the result is parsed again — gives the same options, for EVERY format
string the parser accepts (clause (2) of the property for format options, proved rather than
tested). -/
theorem fmtopts_reparse_stable (s : List Nat) (g g2 g' g2' : Nat) (o : Opts)
    (h : parse s g g2 = .ok o) (hg : GraphemeOk o g' g2') : parse (render o) g' g2' = .ok o :=
  Lemmas.roundtrip o g' g2' (Lemmas.parse_wf s g g2 o h) hg

/-- `fmtopts_render_idempotent`: formatting a second time leaves the option text unchanged
(clause (5) for format options): `render (parse (render (parse s))) = render (parse s)`. -/
theorem fmtopts_render_idempotent (s : List Nat) (g g2 g' g2' : Nat) (o : Opts)
    (h : parse s g g2 = .ok o) (hg : GraphemeOk o g' g2') :
    ∃ o', parse (render o) g' g2' = .ok o' ∧ render o' = render o :=
  ⟨o, fmtopts_reparse_stable s g g2 g' g2' o h hg, rfl⟩

/-- `fmtopts_render_injective`: no two meanings share a canonical spelling. -/
theorem fmtopts_render_injective (o₁ o₂ : Opts) (g g2 : Nat) (h₁ : WF o₁) (h₂ : WF o₂)
    (hg₁ : GraphemeOk o₁ g g2) (hg₂ : GraphemeOk o₂ g g2) (h : render o₁ = render o₂) : o₁ = o₂ := by
  have e₁ := Lemmas.roundtrip o₁ g g2 h₁ hg₁
  have e₂ := Lemmas.roundtrip o₂ g g2 h₂ hg₂
  rw [h] at e₁
  rw [e₁] at e₂
  exact Except.ok.inj e₂

theorem fmtopts_canonical_fixpoint (o : Opts) (g g2 : Nat) (hwf : WF o) (hg : GraphemeOk o g g2) :
    (parse (render o) g g2).map render = .ok (render o) := by
  rw [Lemmas.roundtrip o g g2 hwf hg]
  rfl

/-- When the fill is at most one code point the segmenter hypothesis is vacuous. -/
theorem fmtopts_reparse_stable_simple (s : List Nat) (g g2 g' g2' : Nat) (o : Opts)
    (h : parse s g g2 = .ok o) (hf : ∀ f, o.fill = some f → f.length ≤ 1) :
    parse (render o) g' g2' = .ok o := by
  apply fmtopts_reparse_stable s g g2 g' g2' o h
  unfold GraphemeOk graphemeOk
  cases hfl : o.fill with
  | none => rfl
  | some f =>
    match f, hf f hfl with
    | [], _ => rfl
    | [_], _ => rfl
    | _ :: _ :: _, hl => simp at hl

/-- Regression for C15's parser fix 60c7e2a: a fill cluster that starts with a representation letter
(`x̄` = `x` + U+0304) in front of an alignment is the fill — before the fix `x` was read as the hex
representation and the combining mark was an unexpected token — and it survives re-rendering. -/
theorem fmtopts_cluster_fill :
    parse [120, 772, 60, 53] 2 1 = .ok { fill := some [120, 772], align := .left, minWidth := some 5 }
      ∧ WF { fill := some [120, 772], align := .left, minWidth := some 5 }
      ∧ render { fill := some [120, 772], align := .left, minWidth := some 5 } = [120, 772, 60, 53]
      -- an alignment character that carries a combining mark (second cluster of two code points)
      -- still goes through the per-character arms
      ∧ parse [120, 772, 60, 772, 53] 2 2 = .error (.unexpected 772) := by decide

/-! ## `source_slice` (since /repo b1042e7: token-boundary table, column arithmetic as fallback) -/

/-- `srcslice_boundary`: whatever the byte lengths and display widths of the characters in front, and
whatever positions `sp`, `ep` the lexer reports for the token's ends, if the token-boundary table maps
`sp` and `ep` to the token's true byte offsets (and to nothing else), `source_slice` returns exactly
the token's text. This is the case for every number literal, comment and `#[fmt:skip]` region (their
spans are token spans; the table is built from the same lexer pass that produced those spans). -/
theorem srcslice_boundary (ls : List Line) (tbl : Table) (k : Nat) (pre tok post : List Ch) (sp ep : Pos)
    (hline : ls[k]? = some (pre ++ tok ++ post))
    (hbytes : ∀ l ∈ ls, ∀ c ∈ l, 1 ≤ c.bytes)
    (hs : (sp, truePos ls k pre) ∈ tbl) (he : (ep, truePos ls k (pre ++ tok)) ∈ tbl)
    (hfs : ∀ b, (sp, b) ∈ tbl → b = truePos ls k pre)
    (hfe : ∀ b, (ep, b) ∈ tbl → b = truePos ls k (pre ++ tok)) :
    sourceSliceText ls tbl { start := sp, stop := ep } = some tok :=
  Lemmas.slice_text_tbl ls tbl k pre tok post sp ep hline hbytes hs he hfs hfe

/-- Non-vacuity and regression for F-C11-3: `é = 1; 99` — with the table, the span of `99`
(columns 7..9, bytes 8..10) is copied as `99`, and the span of `1` as `1`. -/
theorem srcslice_witness_fixed :
    let a (c : Nat) : Ch := { cp := c, bytes := 1, width := 1 }
    let e : Ch := { cp := 233, bytes := 2, width := 1 }
    let line : Line := [e, a 32, a 61, a 32, a 49, a 59, a 32, a 57, a 57, a 10]
    let tbl : Table := [(⟨0, 0⟩, 0), (⟨0, 1⟩, 2), (⟨0, 2⟩, 3), (⟨0, 3⟩, 4), (⟨0, 4⟩, 5), (⟨0, 5⟩, 6),
      (⟨0, 6⟩, 7), (⟨0, 7⟩, 8), (⟨0, 9⟩, 10), (⟨1, 0⟩, 11)]
    sourceSliceText [line] tbl { start := lexPos 0 (line.take 7), stop := lexPos 0 (line.take 9) }
        = some [a 57, a 57]
      ∧ sourceSliceText [line] tbl { start := lexPos 0 (line.take 4), stop := lexPos 0 (line.take 5) }
        = some [a 49] := by decide

/-- `'éé'#c`: the comment (columns 4..6, bytes 6..8) is copied whole; no character is cut. -/
theorem srcslice_no_panic_fixed :
    let a (c : Nat) : Ch := { cp := c, bytes := 1, width := 1 }
    let e : Ch := { cp := 233, bytes := 2, width := 1 }
    let line : Line := [a 39, e, e, a 39, a 35, a 99, a 10]
    let tbl : Table := [(⟨0, 0⟩, 0), (⟨0, 1⟩, 1), (⟨0, 3⟩, 5), (⟨0, 4⟩, 6), (⟨0, 6⟩, 8), (⟨1, 0⟩, 9)]
    sourceSliceText [line] tbl { start := lexPos 0 (line.take 4), stop := lexPos 0 (line.take 6) }
      = some [a 35, a 99] := by decide

/-! ### The fallback (positions that are not token boundaries) — and what the code did before the fix -/

/-- Off the table `byte_offset` is the column arithmetic. -/
theorem srcslice_fallback (ls : List Line) (tbl : Table) (p : Pos) (h : lookup tbl p = none) :
    byteOf ls tbl p = byteOfCol ls p := by
  simp [byteOf, h]

/-- If every character in front of a point on its line advances the lexer's column by its byte
length, the byte offset the column arithmetic computes for that point is the true one — for every
line and every point (multi-line tokens included). -/
theorem srcslice_ascii_offsets (ls : List Line) (k₁ k₂ : Nat) (pre₁ pre₂ : List Ch)
    (h₁ : ∀ c ∈ pre₁, c.width = c.bytes) (h₂ : ∀ c ∈ pre₂, c.width = c.bytes) :
    sourceSliceCol ls { start := lexPos k₁ pre₁, stop := lexPos k₂ pre₂ }
      = (truePos ls k₁ pre₁, truePos ls k₂ pre₂) :=
  Lemmas.slice_offsets ls k₁ k₂ pre₁ pre₂ h₁ h₂

/-- `srcslice_ascii`: the column arithmetic alone returns the token's text when every character
of `pre` and `tok` has column advance = byte length. -/
theorem srcslice_ascii (ls : List Line) (k : Nat) (pre tok post : List Ch)
    (hline : ls[k]? = some (pre ++ tok ++ post))
    (hbytes : ∀ l ∈ ls, ∀ c ∈ l, 1 ≤ c.bytes)
    (hpre : ∀ c ∈ pre, c.width = c.bytes) (htok : ∀ c ∈ tok, c.width = c.bytes) :
    sourceSliceTextCol ls { start := lexPos k pre, stop := lexPos k (pre ++ tok) } = some tok :=
  Lemmas.slice_text_col ls k pre tok post hline hbytes hpre htok

/-- Non-vacuity: `x = 42` on the second line. -/
example :
    let a (c : Nat) : Ch := { cp := c, bytes := 1, width := 1 }
    sourceSliceTextCol [[a 35, a 10], [a 120, a 32, a 61, a 32, a 52, a 50, a 10]]
      { start := lexPos 1 [a 120, a 32, a 61, a 32], stop := lexPos 1 [a 120, a 32, a 61, a 32, a 52, a 50] }
      = some [a 52, a 50] := by decide

/-- The column arithmetic alone (the whole behaviour before /repo b1042e7, still the fallback; finding
F-C11-3): `é = 1; 99` is read as `" 9"`, and `'éé'#c` cuts a character. So the hypothesis of
`srcslice_ascii` cannot be dropped for the fallback, and `srcslice_boundary` needs the table. -/
theorem srcslice_fallback_witness :
    let a (c : Nat) : Ch := { cp := c, bytes := 1, width := 1 }
    let e : Ch := { cp := 233, bytes := 2, width := 1 }
    let line : Line := [e, a 32, a 61, a 32, a 49, a 59, a 32, a 57, a 57, a 10]
    let line2 : Line := [a 39, e, e, a 39, a 35, a 99, a 10]
    sourceSliceTextCol [line] { start := lexPos 0 (line.take 7), stop := lexPos 0 (line.take 9) }
        = some [a 32, a 57]
      ∧ sourceSliceTextCol [line2] { start := lexPos 0 (line2.take 4), stop := lexPos 0 (line2.take 6) }
        = none := by decide


/-! ## One layer of the layout engine: the single-line / break decision of `render_group`

`FormatItem::{line_length, force_break, is_indented_block}`, the condition of the `if` in
`render_group` and the single-line branch of `render`. The builder (Ast → item tree) is not modelled,
so nothing here is a statement about `format` as a whole. -/

section Layout
open KotoVerif.Layout

/-- `layout_measure_exact`: for an item tree whose single-line rendering is one line (no forcing
break, line break, multi-line text or error anywhere), the length `line_length()` measures and the
width the single-line branch emits differ exactly by the `OptionalChar`s (measured, not emitted)
and the `SpaceOrReturn` breaks (emitted as a space, measured as 0). -/
theorem layout_measure_exact (is : Items) (h : flatOneLineItems is = true) :
    lineLengthItems is + returnSpacesItems is = flatWidthItems is + optWidthItems is :=
  LayoutLemmas.measure_items is h

/-- `layout_flat_within_limit`: a group that takes the single-line branch at column `col` ends at
most `returnSpaces` columns beyond `line_length` — within the limit when it has no `SpaceOrReturn`. -/
theorem layout_flat_within_limit (lineLen col : Nat) (is : Items) (h : flatOneLineItems is = true)
    (hcol : col ≤ lineLen) (hb : broken lineLen col is = false) :
    col + flatWidthItems is ≤ lineLen + returnSpacesItems is := by
  have hm := LayoutLemmas.measure_items is h
  have hfit := LayoutLemmas.fits_of_not_broken lineLen col is hb
  omega

/-- `layout_nested_flat`: when a group takes the single-line branch, every nested group — rendered
by `render_group` again at the same `column` — takes it too, at every depth: the single-line branch
really emits one line. -/
theorem layout_nested_flat (lineLen col : Nat) (is : Items) (h : flatOneLineItems is = true)
    (hb : broken lineLen col is = false) : nestedFlatItems lineLen col is = true :=
  LayoutLemmas.nested_items lineLen col is h (LayoutLemmas.fits_of_not_broken lineLen col is hb)

/-- `layout_decision_stable` (group-level idempotence): without `OptionalChar`s and `SpaceOrReturn`s
the decision for a one-line tree is the decision for the single piece of text it emits — reading
the emitted line back as text of that width, at the same column and options, gives the same answer. -/
theorem layout_decision_stable (lineLen col : Nat) (is : Items) (h : flatOneLineItems is = true)
    (ho : optWidthItems is = 0) (hr : returnSpacesItems is = 0) :
    broken lineLen col is = broken lineLen col (.cons (.str (flatWidthItems is) []) .nil) := by
  have hm := LayoutLemmas.measure_items is h
  have h2 : flatOneLineItems (.cons (.str (flatWidthItems is) []) .nil) = true := by
    simp [flatOneLineItems, flatOneLine]
  rw [LayoutLemmas.broken_eq_tooLong lineLen col is h,
    LayoutLemmas.broken_eq_tooLong lineLen col _ h2]
  simp only [tooLong, lineLengthItems]
  have : lineLengthItems is = flatWidthItems is := by omega
  simp [this]

/-- `layout_decision_monotone`: a one-line tree that fits keeps fitting with more room. -/
theorem layout_decision_monotone (lineLen lineLen' col col' : Nat) (is : Items)
    (h : flatOneLineItems is = true) (hb : broken lineLen col is = false)
    (hl : lineLen ≤ lineLen') (hc : col' ≤ col) : broken lineLen' col' is = false :=
  LayoutLemmas.broken_mono lineLen lineLen' col col' is hb hl hc

/-- Non-vacuity: `x = 1` as the tree the builder makes for an assignment. -/
example :
    let is : Items := .cons (.str 1 []) (.cons (.brk .spaceOrIndentIfNecessary) (.cons (.char 1)
      (.cons (.brk .spaceOrIndentIfNecessary) (.cons (.str 1 []) .nil))))
    flatOneLineItems is = true ∧ broken 100 0 is = false ∧ lineLengthItems is = 5
      ∧ flatWidthItems is = 5 := by decide

/-- The two hypotheses of `layout_decision_stable` / the slack in `layout_flat_within_limit` are real
(both replayed on the formatter): `from abcd import defg` is 21 columns wide but measures 20, so it
stays on one line at line_length 20; `[1, 2]` is 6 columns wide but measures 7 (the optional
trailing comma), so at line_length 6 it is broken although it would fit. -/
theorem layout_measure_witnesses :
    let imp : Items := .cons (.str 4 []) (.cons (.brk .spaceOrIndent) (.cons (.str 4 [])
      (.cons (.brk .spaceOrReturn) (.cons (.str 6 []) (.cons (.brk .spaceOrIndent)
      (.cons (.group (.cons (.str 4 []) .nil)) .nil))))))
    let lst : Items := .cons (.char 1) (.cons (.brk .maybeIndent) (.cons (.str 1 []) (.cons (.char 1)
      (.cons (.brk .spaceOrIndentIfNecessary) (.cons (.str 1 []) (.cons (.optChar 1)
      (.cons (.brk .maybeReturn) (.cons (.char 1) .nil))))))))
    (broken 20 0 imp = false ∧ flatWidthItems imp = 21)
      ∧ (broken 6 0 lst = true ∧ flatWidthItems lst = 6 ∧ broken 7 0 lst = false) := by decide


/-! ### The render functions (`FormatItem::render`, both branches of `render_group`)

`renderItem` / `flatItems` / `loopItems` of `Model/Layout.lean` model the whole render layer: what a
group's item tree is turned into, as the widths of the emitted lines. Every group the formatter
renders while formatting the sampled programs is compared with it on each run (hook H6 v2). -/

/-- `layout_single_line_render`: on a one-line tree that fits, `render_group` emits exactly one line,
of width `flatWidth` — the `layout_*` statements above are statements about `renderItem`. -/
theorem layout_single_line_render (o : Opt) (is : Items) (ind : Bool) (col : Nat)
    (h : flatOneLineItems is = true) (hb : broken o.lineLen col is = false) :
    renderGroupLines o is ind col = some [flatWidthItems is] := by
  have hfl := LayoutLemmas.flat_items o col is h (LayoutLemmas.fits_of_not_broken o.lineLen col is hb) 0
  unfold broken at hb
  simp only [renderGroupLines, renderItem, hb, Bool.false_eq_true, if_false]
  simpa using hfl

/-- `layout_render_text_fixpoint`: rendered lines, re-read as items (every line one piece of text,
`LayoutLemmas.reify`), render to themselves — whatever the options, the column and the `indented`
flag: the render functions never reflow text. -/
theorem layout_render_text_fixpoint (o : Opt) (ind : Bool) (col l : Nat) (ls : List Nat) :
    renderGroupLines o (LayoutLemmas.reify (l :: ls)) ind col = some (l :: ls) :=
  LayoutLemmas.render_reify o ind col l ls

/-- `layout_render_idempotent_on_text` (group-level idempotence, text form): render a group, re-measure
the rendered lines as items, render again — under any options, column and flag — and the line widths
are the same. -/
theorem layout_render_idempotent_on_text (o o' : Opt) (is : Items) (ind ind' : Bool) (col col' l : Nat)
    (ls : List Nat) (_h : renderGroupLines o is ind col = some (l :: ls)) :
    renderGroupLines o' (LayoutLemmas.reify (l :: ls)) ind' col' = some (l :: ls) :=
  layout_render_text_fixpoint o' ind' col' l ls

/-- `layout_too_long_as_forced`: in a group that is not itself indented and has no
`SpaceOrIndent` / `SpaceOrReturn` break and no `OptionalChar` among its direct items, the break loop
produces the same result whether the group is broken because it is too long or because a break is
forced (and then whether or not it is also too long). -/
theorem layout_too_long_as_forced (o : Opt) (tl : Bool) (is : Items) (st : St)
    (hok : LayoutLemmas.okItems is = true) (hp : LayoutLemmas.okBrk st.pending = true) :
    loopItems o true false false is st = loopItems o tl true false is st :=
  LayoutLemmas.tooLong_as_force o tl is st hok hp

/-- `layout_upgrade_idempotent` (group-level idempotence, tree form): the second pass finds line
breaks where the first pass broke a too-long group, and the builder then pushes `IndentedBreak` where
it pushed `MaybeIndent` (`maybe_force_indent`, `indented_break`: `LayoutLemmas.upgrade`). For a group
that is not itself indented, broken only because it is too long, without `SpaceOrIndent` /
`SpaceOrReturn` / `OptionalChar` direct items, the upgraded tree renders to exactly the same text —
at the same options and column, whether or not the upgraded group still measures as too long. -/
theorem layout_upgrade_idempotent (o : Opt) (is : Items) (ro : Bool) (col : Nat)
    (hok : LayoutLemmas.okItems is = true) (htl : tooLong o.lineLen col is = true)
    (hf : anyItem forceBreak is = false) :
    renderItem o (.group (LayoutLemmas.upgrade is)) false ro col = renderItem o (.group is) false ro col :=
  LayoutLemmas.render_upgrade o is ro col hok htl hf

/-- Non-vacuity: `|aaaa, bbbb|` (function arguments: `|`, MaybeIndent, `aaaa`, `,`,
SpaceOrIndentIfNecessary, `bbbb`, MaybeReturn, `|`) at line_length 8: too long, rendered on four
lines `|` / `  aaaa,` / `  bbbb` / `|`; the upgraded tree is a different tree and renders to the same lines. -/
example :
    let is : Items := .cons (.char 1) (.cons (.brk .maybeIndent) (.cons (.str 4 []) (.cons (.char 1)
      (.cons (.brk .spaceOrIndentIfNecessary) (.cons (.str 4 []) (.cons (.brk .maybeReturn)
      (.cons (.char 1) .nil)))))))
    let o : Opt := { lineLen := 8, indentWidth := 2 }
    LayoutLemmas.okItems is = true ∧ tooLong o.lineLen 0 is = true ∧ anyItem forceBreak is = false
      ∧ anyItem forceBreak (LayoutLemmas.upgrade is) = true
      ∧ renderGroupLines o is false 0 = some [1, 7, 6, 1]
      ∧ renderGroupLines o (LayoutLemmas.upgrade is) false 0 = some [1, 7, 6, 1] := by decide

/-- The `not itself indented` hypothesis is needed, and this is a real cause of non-idempotence
(the sub-cause "assignment value moved below `=` at the same indent" of F-C11-6): in an INDENTED
group a `SpaceOrIndentIfNecessary` that does not fit turns into `MaybeReturn` — line break WITHOUT
indent — while the second pass, finding the line break, pushes `IndentedBreak`, which in an indented
group is treated as `MaybeIndent` — line break WITH indent. `x =` / `vvvvvv` at line_length 6:
first pass lines [3, 6], second pass [3, 8]. -/
theorem layout_indented_upgrade_unstable :
    let o : Opt := { lineLen := 6, indentWidth := 2 }
    let pass1 : Items := .cons (.str 1 []) (.cons (.brk .spaceOrIndentIfNecessary) (.cons (.char 1)
      (.cons (.brk .spaceOrIndentIfNecessary) (.cons (.str 6 []) .nil))))
    let pass2 : Items := .cons (.str 1 []) (.cons (.brk .spaceOrIndentIfNecessary) (.cons (.char 1)
      (.cons (.brk .indentedBreak) (.cons (.str 6 []) .nil))))
    renderGroupLines o pass1 true 0 = some [3, 6] ∧ renderGroupLines o pass2 true 0 = some [3, 8]
      ∧ renderGroupLines o pass1 false 0 = some [3, 8] ∧ renderGroupLines o pass2 false 0 = some [3, 8] := by
  decide

/-- The action table: what the break logic puts in front of the next item. `SpaceOrIndent` always
separates the items (space or line break) … -/
theorem layout_action_spaceOrIndent (tl f ind acc : Bool) :
    Brk.action .spaceOrIndent tl f ind acc = (if tl then .newlineIndent else .space) := by
  cases tl <;> cases f <;> cases ind <;> cases acc <;> rfl

/-- … and so does `SpaceOrReturn` (between `from x` and `import y`) since /repo 506c2fd: line break
and return to the start column when the line is too long, a space otherwise — in every flag
combination. Before that commit `needs_return` answered `true` for it, so a group that was
force-broken without being too long got `group_start_indent` with NO line break in front (nothing at
column 0): `from # c` / `  foo import bar` became `fooimport` (F-C11-14). Regression:
`from abcd`·`import x` with a forced break renders 16 = 4+1+4+1+6 columns wide. -/
theorem layout_action_spaceOrReturn_fixed :
    (∀ tl f ind acc, Brk.action .spaceOrReturn tl f ind acc = (if tl then .newline else .space))
      ∧ renderGroupLines { lineLen := 100, indentWidth := 2 }
          (.cons (.str 4 []) (.cons (.brk .spaceOrIndent) (.cons (.str 4 []) (.cons (.brk .spaceOrReturn)
            (.cons (.str 6 []) (.cons (.brk .indentedBreak) (.cons (.str 1 []) .nil)))))))
          false 0 = some [16, 3] := by
  constructor
  · intro tl f ind acc; cases tl <;> cases f <;> cases ind <;> cases acc <;> rfl
  · decide

/-- first pass / second pass actions agree for the builder's upgrades when the group is not indented:
`MaybeIndent` under too-long = `IndentedBreak` under force = the break a non-fitting
`…IfNecessary` turns into — always line break + indent. -/
theorem layout_action_upgrade_stable (tl acc : Bool) :
    Brk.action .maybeIndent true false false true = .newlineIndent
      ∧ Brk.action .indentedBreak tl true false acc = .newlineIndent
      ∧ Brk.action (ifNecessaryBreak false) tl true false acc = .newlineIndent
      ∧ Brk.action (ifNecessaryBreak false) true false false true = .newlineIndent := by
  cases tl <;> cases acc <;> decide

end Layout

end KotoVerif.C11
