/-
C14 — extension: further laws of the executable model the driver runs (`pair`, `sortvals`,
`sortpairs`, `mapsort`, and the `OMap` operations behind every history step): the ordering operators
and `compare_values` against each other and against the key order of `map.sort()`, the laws of
`insert_full` / `shift_remove` / `get_index_of`, of the sorts, of the conversion between keys and heap
values, and what every history of container commands leaves unchanged.
-/
import KotoVerif.Model.Equal
import KotoVerif.Model.Sort
import KotoVerif.Model.Heap
import KotoVerif.Lemmas.C14Heap
import KotoVerif.Lemmas.C14KeyPER
import KotoVerif.Lemmas.C14Map
import KotoVerif.Lemmas.C14Sort
import KotoVerif.Lemmas.C14NumOrder
import KotoVerif.Lemmas.C14KeyOrder

namespace KotoVerif
namespace C14Ext
open Equal Sorting OMap

/-! ### ordering operators -/

/-- `a <= b` is defined exactly when `a > b` is, and is its negation (all values, NaN included) -/
theorem le_is_not_gt (F : FloatOps) (a b : Val) : vle F a b = (vgt F a b).map (!·) := by
  induction a, b using ordering_cases F with
  | num | str => rfl
  | other a b _ h2 h3 _ => rw [h2, h3]; rfl

/-- `a >= b` is defined exactly when `a < b` is, and is its negation -/
theorem ge_is_not_lt (F : FloatOps) (a b : Val) : vge F a b = (vlt F a b).map (!·) := by
  induction a, b using ordering_cases F with
  | num | str => rfl
  | other a b h1 _ _ h4 => rw [h1, h4]; rfl

/-- wherever the sort comparator of `list.sort` is defined it agrees with the key order of `map.sort()` -/
theorem compareValues_eq_keyCmp (F : FloatOps) (a b : Val) (o : Ordering)
    (h : compareValues F a b = some o) : keyCmp F a b = o := by
  induction a, b using ordering_cases F with
  | num x y => exact Option.some.inj ((compareValues_num F x y).symm.trans h)
  | str s t => exact Option.some.inj ((compareValues_str F s t).symm.trans h)
  | other a b h1 => rw [compareValues_none F a b h1] at h; cases h

example : compareValues F0 (.str [1]) (.str [2]) = some .lt := by decide

/-- the five ordering observations of a `pair` request are defined together -/
theorem ordering_defined_together (F : FloatOps) (a b : Val) :
    (vgt F a b).isSome = (vlt F a b).isSome ∧ (vle F a b).isSome = (vlt F a b).isSome ∧
    (vge F a b).isSome = (vlt F a b).isSome ∧ (compareValues F a b).isSome = (vlt F a b).isSome := by
  induction a, b using ordering_cases F with
  | num x y => exact ⟨rfl, rfl, rfl, by rw [compareValues_num]; rfl⟩
  | str s t => exact ⟨rfl, rfl, rfl, by rw [compareValues_str]; rfl⟩
  | other a b h1 h2 h3 h4 => rw [compareValues_none F a b h1, h1, h2, h3, h4]; exact ⟨rfl, rfl, rfl, rfl⟩

theorem lt_gt_exclusive (F : FloatOps) (a b : Val) (h : vlt F a b = some true) :
    vgt F a b = some false ∧ compareValues F a b = some .lt := by
  induction a, b using ordering_cases F with
  | num x y =>
    have h' : numCmp F x y = .lt := eq_of_beq (Option.some.inj h)
    exact ⟨by show some (numCmp F x y == .gt) = _; rw [h']; rfl, by rw [compareValues_num, h']⟩
  | str s t =>
    have h1 : bytesLt s t = true := Option.some.inj h
    exact ⟨congrArg some (bytesLt_asymm s t h1), by rw [compareValues_str]; unfold bytesCmp; rw [h1]; rfl⟩
  | other a b h1 => rw [h1] at h; cases h

example : vlt F0 (.str [1]) (.str [2]) = some true := by decide

/-! ### keys -/

theorem keyEq_hashable_rules (F : FloatOps) :
    KeyEqRules F (fun a b => hashable a = true ∧ hashable b = true)
      (fun xs ys => hashableList xs = true ∧ hashableList ys = true) where
  null := ⟨rfl, rfl⟩
  bool _ := ⟨rfl, rfl⟩
  num _ _ _ := ⟨rfl, rfl⟩
  str _ := ⟨rfl, rfl⟩
  range _ _ := ⟨rfl, rfl⟩
  tuple _ _ h := h
  nil := ⟨rfl, rfl⟩
  cons _ _ _ _ h1 h2 := ⟨Bool.and_eq_true_iff.mpr ⟨h1.1, h2.1⟩, Bool.and_eq_true_iff.mpr ⟨h1.2, h2.2⟩⟩

theorem keyEq_hashable (F : FloatOps) (a b : Val) (h : keyEq F a b = true) :
    hashable a = true ∧ hashable b = true :=
  keyEq_rel (keyEq_hashable_rules F) a b h

theorem keyEqList_hashable (F : FloatOps) : ∀ (xs ys : List Val), keyEqList F xs ys = true →
    hashableList xs = true ∧ hashableList ys = true :=
  keyEqList_rel (keyEq_hashable_rules F)

example : keyEq F0 (.tuple [.null, .str [1]]) (.tuple [.null, .str [1]]) = true := by decide

theorem unhashable_finds_nothing {β : Type} (F : FloatOps) (k : Val) (hk : hashable k = false)
    (es : List (Val × β)) : lookupBy (keyEq F) k es = none ∧ findIdx (keyEq F) k es = none := by
  have hno : Absent (keyEq F) k es := fun e _ =>
    Bool.eq_false_iff.mpr (fun hh => by simp [(keyEq_hashable F k e.1 hh).1] at hk)
  exact ⟨lookupBy_absent hno, findIdx_absent hno⟩

example : hashable (.list [.null]) = false := by decide

/-! ### the order-preserving map -/

/-- `insert_full` returns the value a lookup would have found -/
theorem insert_returns_lookup {β : Type} (m : Val → Val → Bool) (k : Val) (v : β) (es : List (Val × β)) :
    (OMap.insert m k v es).2 = lookupBy m k es := by
  rcases probe m k es with h | ⟨pre, k', v', post, rfl, h, hk⟩
  · rw [insert_absent h, lookupBy_absent h]
  · rw [insert_found h hk, lookupBy_found h hk]

/-- `shift_remove` returns the value a lookup would have found -/
theorem remove_returns_lookup {β : Type} (m : Val → Val → Bool) (k : Val) (es : List (Val × β)) :
    (OMap.remove m k es).2 = lookupBy m k es := by
  rcases probe m k es with h | ⟨pre, k', v', post, rfl, h, hk⟩
  · rw [remove_absent h, lookupBy_absent h]
  · rw [remove_found h hk, lookupBy_found h hk]

/-- `get_index_of` finds an index exactly when a lookup finds a value -/
theorem findIdx_isSome_iff_lookup {β : Type} (m : Val → Val → Bool) (k : Val) (es : List (Val × β)) :
    (findIdx m k es).isSome = (lookupBy m k es).isSome := by
  rcases probe m k es with h | ⟨pre, k', v', post, rfl, h, hk⟩
  · rw [findIdx_absent h, lookupBy_absent h]; rfl
  · rw [findIdx_found h hk, lookupBy_found h hk]; rfl

theorem insert_length {β : Type} (m : Val → Val → Bool) (k : Val) (v : β) (es : List (Val × β)) :
    (OMap.insert m k v es).1.length = es.length + (if (lookupBy m k es).isSome then 0 else 1) := by
  rcases probe m k es with h | ⟨pre, k', v', post, rfl, h, hk⟩
  · simp [insert_absent h, lookupBy_absent h]
  · simp [insert_found h hk, lookupBy_found h hk]

theorem remove_length {β : Type} (m : Val → Val → Bool) (k : Val) (es : List (Val × β)) :
    (OMap.remove m k es).1.length + (if (lookupBy m k es).isSome then 1 else 0) = es.length := by
  rcases probe m k es with h | ⟨pre, k', v', post, rfl, h, hk⟩
  · simp [remove_absent h, lookupBy_absent h]
  · simp [remove_found h hk, lookupBy_found h hk]; omega

theorem lookup_after_insert {β : Type} (m : Val → Val → Bool) (k : Val) (v : β) (es : List (Val × β))
    (hk : m k k = true) : lookupBy m k (OMap.insert m k v es).1 = some v := by
  rcases probe m k es with h | ⟨pre, k', v', post, rfl, h, hk'⟩
  · rw [insert_absent h, lookupBy_found h hk]
  · rw [insert_found h hk', lookupBy_found h hk']

example : keyEq F0 (.str [1]) (.str [1]) = true := by decide

theorem insert_idempotent {β : Type} (m : Val → Val → Bool) (k : Val) (v : β) (es : List (Val × β))
    (hk : m k k = true) : (OMap.insert m k v (OMap.insert m k v es).1).1 = (OMap.insert m k v es).1 := by
  rcases probe m k es with h | ⟨pre, k', v', post, rfl, h, hk'⟩
  · rw [insert_absent h, insert_found h hk]
  · rw [insert_found h hk', insert_found h hk']

theorem lookup_insert_other {β : Type} {m : Val → Val → Bool} (hm : KeyPER m) (k k2 : Val) (v : β)
    (es : List (Val × β)) (hne : m k2 k = false) :
    lookupBy m k2 (OMap.insert m k v es).1 = lookupBy m k2 es := by
  rcases probe m k es with h | ⟨pre, k', v', post, rfl, h, hk⟩
  · simp [insert_absent h, lookupBy_append, lookupBy, hne]
  · have : m k2 k' = false := by rw [hm.symm, ← per_same_verdict hm k k' k2 hk, hm.symm]; exact hne
    simp [insert_found h hk, lookupBy_append, lookupBy, this]

example : KeyPER (keyEq F0) := F0_keyPER

/-! ### sorting -/

theorem sortBy_of_sorted {α : Type} (lt : α → α → Bool) (xs : List α) (hs : Sorted lt xs) :
    sortBy lt xs = xs := by
  induction xs with
  | nil => rfl
  | cons x xs ih =>
    have hs' := List.pairwise_cons.mp hs
    simp only [sortBy, ih hs'.2]
    cases xs with
    | nil => rfl
    | cons y ys => simp [insertBy, hs'.1 y (by simp)]

theorem sortBy_idempotent {α : Type} {lt : α → α → Bool} (h : TotalPreorder lt) (xs : List α) :
    sortBy lt (sortBy lt xs) = sortBy lt xs :=
  sortBy_of_sorted lt _ (sortBy_sorted h xs)

example : TotalPreorder bytesLt := ⟨bytesLt_asymm, bytesLe_trans⟩

/-- `sort_by_key` orders the key column exactly as `sort` orders the keys alone, and fails exactly when it does -/
theorem sortPairs_keys {β : Type} (F : FloatOps) (kvs : List (Val × β)) :
    (sortPairs F kvs).map (·.map Prod.fst) = sortVals F (kvs.map Prod.fst) := by
  simp only [sortPairs, sortVals]
  split
  · simp only [Option.map_some]
    rw [map_sortBy (α := Val × β) Prod.fst (valLt F) kvs]
  · rfl

theorem sortVals_perm (F : FloatOps) (xs ys : List Val) (h : sortVals F xs = some ys) :
    ys.Perm xs ∧ ys.length = xs.length := by
  simp only [sortVals] at h
  split at h
  · have := Option.some.inj h
    subst this
    exact ⟨sortBy_perm _ xs, (sortBy_perm _ xs).length_eq⟩
  · cases h

example : (sortVals F0 [.str [2], .str [1]]).isSome = true := by decide

theorem sortPairs_perm {β : Type} (F : FloatOps) (kvs out : List (Val × β)) (h : sortPairs F kvs = some out) :
    out.Perm kvs := by
  simp only [sortPairs] at h
  split at h
  · have := Option.some.inj h
    subst this
    exact sortBy_perm _ kvs
  · cases h

/-- `map.sort()` never loses, duplicates or rebinds an entry, and its key column is the sorted key column -/
theorem sortEntries_perm_keys {β : Type} (F : FloatOps) (es : List (Val × β)) :
    (sortEntries F es).Perm es ∧
    keys (sortEntries F es) = sortBy (fun a b => keyCmp F a b == .lt) (keys es) := by
  refine ⟨sortBy_perm _ es, ?_⟩
  simp only [sortEntries, keys]
  exact map_sortBy (α := Val × β) Prod.fst (fun a b => keyCmp F a b == .lt) es

/-- whether `sort` succeeds does not depend on the order of the input -/
theorem sortable_perm (xs ys : List Val) (hp : xs.Perm ys) : sortable xs = sortable ys := by
  rw [sortable_eq, sortable_eq, hp.length_eq, hp.all_eq, hp.all_eq]

theorem sortVals_again (F : FloatOps) (xs ys : List Val) (h : sortVals F xs = some ys) :
    (sortVals F ys).isSome = true := by
  have hp := (sortVals_perm F xs ys h).1
  have hs : sortable xs = true := by
    simp only [sortVals] at h
    split at h
    · assumption
    · cases h
  simp [sortVals, sortable_perm ys xs hp, hs]

/-! ### keys ⇄ heap values (`ValueKey::try_from` / `KValue::from(key)`) -/

open Heap in
mutual
theorem toVal_ofVal : ∀ (v : Val), hashable v = true → Heap.toVal? (Heap.ofVal v) = some v
  | .null, _ => rfl
  | .bool _, _ => rfl
  | .num _, _ => rfl
  | .str _, _ => rfl
  | .range _ _, _ => rfl
  | .tuple xs, h => by
    simp only [hashable] at h
    simp [Heap.ofVal, Heap.toVal?, toValList_ofValList xs h]
  | .list _, h => by simp [hashable] at h
  | .map _, h => by simp [hashable] at h
theorem toValList_ofValList : ∀ (xs : List Val), hashableList xs = true →
    Heap.toValList? (Heap.ofValList xs) = some xs
  | [], _ => rfl
  | x :: xs, h => by
    simp only [hashableList, Bool.and_eq_true] at h
    simp [Heap.ofValList, Heap.toValList?, toVal_ofVal x h.1, toValList_ofValList xs h.2]
end

example : hashable (.tuple [.str [1], .null]) = true := by decide

mutual
theorem ofVal_toVal : ∀ (h : Heap.HVal) (v : Val), Heap.toVal? h = some v →
    hashable v = true ∧ Heap.ofVal v = h
  | .null, v, e => by simp [Heap.toVal?] at e; subst e; simp [hashable, Heap.ofVal]
  | .bool _, v, e => by simp [Heap.toVal?] at e; subst e; simp [hashable, Heap.ofVal]
  | .num _, v, e => by simp [Heap.toVal?] at e; subst e; simp [hashable, Heap.ofVal]
  | .str _, v, e => by simp [Heap.toVal?] at e; subst e; simp [hashable, Heap.ofVal]
  | .range _ _, v, e => by simp [Heap.toVal?] at e; subst e; simp [hashable, Heap.ofVal]
  | .tuple xs, v, e => by
    simp only [Heap.toVal?, Option.map_eq_some_iff] at e
    obtain ⟨ys, hy, rfl⟩ := e
    have := ofValList_toValList xs ys hy
    simp [hashable, Heap.ofVal, this]
  | .lref _, v, e => by simp [Heap.toVal?] at e
  | .mref _, v, e => by simp [Heap.toVal?] at e
theorem ofValList_toValList : ∀ (hs : List Heap.HVal) (vs : List Val), Heap.toValList? hs = some vs →
    hashableList vs = true ∧ Heap.ofValList vs = hs
  | [], vs, e => by simp [Heap.toValList?] at e; subst e; simp [hashableList, Heap.ofValList]
  | x :: xs, vs, e => by
    simp only [Heap.toValList?] at e
    split at e
    · cases e
    · rename_i y hy
      split at e
      · cases e
      · rename_i ys hys
        have e' := Option.some.inj e
        subst e'
        have h1 := ofVal_toVal x y hy
        have h2 := ofValList_toValList xs ys hys
        simp [hashableList, Heap.ofValList, h1, h2]
end

example : (Heap.toVal? (.tuple [.str [1], .null])).isSome = true := by decide

theorem handles_are_not_keys (h : Nat) :
    Heap.toKey? (.lref h) = none ∧ Heap.toKey? (.mref h) = none ∧
    ∀ v : Val, Heap.ofVal v ≠ .lref h ∧ Heap.ofVal v ≠ .mref h := by
  refine ⟨rfl, rfl, fun v => ?_⟩
  cases v <;> simp [Heap.ofVal]

/-! ### heap: objects keep their kind -/

example : (Heap.getList [.list []] 0).isSome = true := by decide
example : (Heap.getMap [.map []] 0).isSome = true := by decide

theorem swapLists_involutive (heap : Heap.Heap) (h h' : Nat) (xs ys : List Heap.HVal)
    (hx : Heap.getList heap h = some xs) (hy : Heap.getList heap h' = some ys) :
    (Heap.swapLists (Heap.swapLists heap h h').1 h h').1 = heap := by
  have hlt := Heap.getList_lt heap h xs hx
  have hlt' := Heap.getList_lt heap h' ys hy
  have ex : heap[h]? = some (.list xs) := Heap.getList_eq_some.mp hx
  have ey : heap[h']? = some (.list ys) := Heap.getList_eq_some.mp hy
  have ex' : heap[h]'hlt = .list xs := by
    rw [List.getElem?_eq_getElem hlt] at ex; exact Option.some.inj ex
  have ey' : heap[h']'hlt' = .list ys := by
    rw [List.getElem?_eq_getElem hlt'] at ey; exact Option.some.inj ey
  have g1 : Heap.getList ((heap.set h (.list ys)).set h' (.list xs)) h = some (if h = h' then xs else ys) := by
    simp only [Heap.getList, List.getElem?_set, List.length_set]
    by_cases e : h = h'
    · subst e; simp [hlt]
    · simp [e, Ne.symm e, hlt]
  have g2 : Heap.getList ((heap.set h (.list ys)).set h' (.list xs)) h' = some xs := by
    simp only [Heap.getList, List.getElem?_set, List.length_set]
    simp [hlt']
  simp only [Heap.swapLists, hx, hy, Heap.setObj, g1, g2]
  apply List.ext_getElem?
  intro i
  simp only [List.getElem?_set, List.length_set]
  by_cases e : h = h'
  · subst e
    have : xs = ys := by simp_all
    subst this
    by_cases ei : h = i
    · subst ei; simp [hlt, ex']
    · simp [ei]
  · by_cases ei' : h' = i
    · subst ei'; simp [hlt', ey', e]
    · by_cases ei : h = i
      · subst ei; simp [hlt, ex', ei']
      · simp [ei, ei']

example : Heap.getList [.list [.null], .list []] 0 = some [.null] := rfl

/-- invariant over every history of container commands (list ops, map ops, `list.swap`, on any
handles, valid or not): the heap keeps its size, every list handle still denotes a list and every
map handle still denotes a map — no alias ever dangles or changes kind -/
theorem history_keeps_kinds (F : FloatOps) (mech : Bool)
    (cmds : List (Nat × Nat × Option (Heap.LOp ⊕ Heap.MOp))) (heap : Heap.Heap) :
    let run := fun (hp : Heap.Heap) (c : Nat × Nat × Option (Heap.LOp ⊕ Heap.MOp)) =>
      match c.2.2 with
      | some (.inl l) => (Heap.onList F hp c.1 l).1
      | some (.inr m) => (Heap.onMap F mech hp c.1 m).1
      | none => (Heap.swapLists hp c.1 c.2.1).1
    (cmds.foldl run heap).length = heap.length ∧
    (∀ h', (Heap.getList heap h').isSome = true → (Heap.getList (cmds.foldl run heap) h').isSome = true) ∧
    (∀ h', (Heap.getMap heap h').isSome = true → (Heap.getMap (cmds.foldl run heap) h').isSome = true) := by
  intro run
  induction cmds generalizing heap with
  | nil => simp
  | cons c cs ih =>
    simp only [List.foldl_cons]
    obtain ⟨h, h2, o⟩ := c
    have step : (run heap (h, h2, o)).length = heap.length ∧
        (∀ h', (Heap.getList (run heap (h, h2, o)) h').isSome = (Heap.getList heap h').isSome) ∧
        (∀ h', (Heap.getMap (run heap (h, h2, o)) h').isSome = (Heap.getMap heap h').isSome) := by
      cases o with
      | some lm =>
        cases lm with
        | inl l =>
          exact ⟨Heap.onList_length F heap h l, fun h' => (Heap.onList_kinds F heap h l h').1,
            fun h' => (Heap.onList_kinds F heap h l h').2⟩
        | inr m =>
          exact ⟨Heap.onMap_length F mech heap h m, fun h' => (Heap.onMap_kinds F mech heap h m h').1,
            fun h' => (Heap.onMap_kinds F mech heap h m h').2⟩
      | none =>
        exact ⟨Heap.swapLists_length heap h h2, fun h' => (Heap.swapLists_kinds heap h h2 h').1,
          fun h' => (Heap.swapLists_kinds heap h h2 h').2⟩
    have := ih (run heap (h, h2, o))
    exact ⟨this.1.trans step.1, fun h' hl => this.2.1 h' ((step.2.1 h').trans hl),
      fun h' hl => this.2.2 h' ((step.2.2 h').trans hl)⟩

end C14Ext
end KotoVerif
