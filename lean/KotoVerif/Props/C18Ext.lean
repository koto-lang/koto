/-
C18 — extension: further laws of the executable model `Model/Modules.lean` (all definitions below are
reached from the driver): i64 wrap-around of compound assignments, `IndexMap::insert` key order,
`export *` (exportAll) final values, nested from-paths, histories (`runOps` / `finalSt`), closures'
captures, `import` on a held value, and where a canonical path resolves its imports.
-/
import KotoVerif.Props.C18

namespace KotoVerif.C18Ext
open KotoVerif.Modules KotoVerif.C18L

/-! ## i64 arithmetic of compound assignments -/

theorem wrap64_range (n : Int) :
    -9223372036854775808 ≤ wrap64 n ∧ wrap64 n < 9223372036854775808 := by
  unfold wrap64; omega

theorem wrap64_of_range (n : Int) (h1 : -9223372036854775808 ≤ n) (h2 : n < 9223372036854775808) :
    wrap64 n = n := by
  unfold wrap64; omega

example : (-9223372036854775808 : Int) ≤ 5 ∧ (5 : Int) < 9223372036854775808 := by decide

theorem wrap64_idem (n : Int) : wrap64 (wrap64 n) = wrap64 n := by
  have h := wrap64_range n
  exact wrap64_of_range _ h.1 h.2

/-- wrapping is a congruence modulo 2^64 -/
theorem wrap64_congr (n : Int) : (wrap64 n - n) % 18446744073709551616 = 0 := by
  unfold wrap64; omega

theorem powInt_range (a : Int) (n : Nat) :
    -9223372036854775808 ≤ powInt a n ∧ powInt a n < 9223372036854775808 := by
  cases n with
  | zero => simp [powInt]
  | succ m => simp only [powInt]; exact wrap64_range _

/-- a compound assignment `k op= b` on an i64 left operand yields an i64, for every operator and every
right operand: the model never leaves the value range of the implementation -/
theorem apply_range (op : COp) (a b : Int)
    (h1 : -9223372036854775808 ≤ a) (h2 : a < 9223372036854775808) :
    -9223372036854775808 ≤ op.apply a b ∧ op.apply a b < 9223372036854775808 := by
  cases op with
  | add => exact wrap64_range _
  | sub => exact wrap64_range _
  | mul => exact wrap64_range _
  | pow =>
    simp only [COp.apply]
    split
    · exact ⟨h1, h2⟩
    · exact powInt_range _ _
  | rem =>
    simp only [COp.apply]
    split
    · exact ⟨h1, h2⟩
    · have : (Int.tmod a b).natAbs ≤ a.natAbs := by rw [Int.natAbs_tmod]; exact Nat.mod_le _ _
      by_cases ha : 0 ≤ a
      · have h3 : 0 ≤ Int.tmod a b := Int.tmod_nonneg b ha
        omega
      · have h3 : 0 ≤ Int.tmod (-a) b := Int.tmod_nonneg b (by omega)
        rw [Int.neg_tmod] at h3
        omega

example : (-9223372036854775808 : Int) ≤ 7 ∧ (7 : Int) < 9223372036854775808 := by decide

/-! ## `IndexMap::insert`: key order -/

def keys {α : Type} (l : List (Name × α)) : List Name := l.map (·.1)

theorem keys_cons {α : Type} (k : Name) (v : α) (l : List (Name × α)) : keys ((k, v) :: l) = k :: keys l := rfl

theorem lookup_isSome_iff {α : Type} (k : Name) (l : List (Name × α)) :
    (lookup k l).isSome ↔ k ∈ keys l := by
  induction l with
  | nil => exact ⟨fun h => (by cases h), fun h => (by cases h)⟩
  | cons kv rest ih =>
    obtain ⟨k', v'⟩ := kv
    rw [keys_cons, List.mem_cons]
    unfold lookup
    split
    · next h => exact ⟨fun _ => Or.inl h.symm, fun _ => rfl⟩
    · next h => exact ⟨fun hs => Or.inr (ih.mp hs), fun hm => ih.mpr (hm.resolve_left fun e => h e.symm)⟩

/-- re-inserting an existing key keeps every key at its position (the insertion order that
`Koto::exports()` shows is the order of FIRST export) -/
theorem insert_keys_mem {α : Type} (k : Name) (v : α) (l : List (Name × α)) (h : k ∈ keys l) :
    keys (Modules.insert k v l) = keys l := by
  induction l with
  | nil => simp [keys] at h
  | cons kv rest ih =>
    obtain ⟨k', v'⟩ := kv
    unfold Modules.insert
    by_cases hk : k' = k
    · simp [hk, keys]
    · have h' : k ∈ keys rest := by
        simp only [keys, List.map_cons, List.mem_cons] at h
        rcases h with h | h
        · exact absurd h.symm hk
        · exact h
      have := ih h'
      simp only [keys] at this
      simp [hk, keys, this]

example : (60 : Name) ∈ keys [((60 : Name), V.int 1), (61, V.int 2)] := by decide

theorem insert_keys_not_mem {α : Type} (k : Name) (v : α) (l : List (Name × α)) (h : k ∉ keys l) :
    keys (Modules.insert k v l) = keys l ++ [k] := by
  induction l with
  | nil => simp [keys, Modules.insert]
  | cons kv rest ih =>
    obtain ⟨k', v'⟩ := kv
    unfold Modules.insert
    simp only [keys, List.map_cons, List.mem_cons, not_or] at h
    have hk : ¬ k' = k := fun hh => h.1 hh.symm
    have := ih h.2
    simp only [keys] at this
    simp [hk, keys, this]

example : (62 : Name) ∉ keys [((60 : Name), V.int 1), (61, V.int 2)] := by decide

theorem nodup_snoc {α : Type} {l : List α} {a : α} (h : l.Nodup) (ha : a ∉ l) : (l ++ [a]).Nodup :=
  List.nodup_append.mpr ⟨h, by simp, fun x hx y hy hxy => ha (by
    rw [List.mem_singleton] at hy; rw [← hy, ← hxy]; exact hx)⟩

theorem insert_keys_nodup {α : Type} (k : Name) (v : α) (l : List (Name × α)) (h : (keys l).Nodup) :
    (keys (Modules.insert k v l)).Nodup := by
  by_cases hk : k ∈ keys l
  · rw [insert_keys_mem k v l hk]; exact h
  · rw [insert_keys_not_mem k v l hk]; exact nodup_snoc h hk

example : (keys [((60 : Name), V.int 1), (61, V.int 2)]).Nodup := by decide

/-! ## `export *` under export_top_level_ids (`exportAll`) -/

theorem exportAll_frame (es : List (Name × V)) (st : St) :
    (exportAll es st).cache = st.cache ∧ (exportAll es st).loader = st.loader
      ∧ (exportAll es st).out = st.out ∧ (exportAll es st).exports.main = st.exports.main
      ∧ (exportAll es st).exports.tests = st.exports.tests
      ∧ (exportAll es st).exports.fns = st.exports.fns := by
  induction es generalizing st with
  | nil => exact ⟨rfl, rfl, rfl, rfl, rfl, rfl⟩
  | cons kv rest ih =>
    obtain ⟨k, v⟩ := kv
    exact ih (setData k v st)

theorem exportAll_lookup_other (es : List (Name × V)) (st : St) (k : Name) (h : k ∉ keys es) :
    lookup k (exportAll es st).exports.data = lookup k st.exports.data := by
  induction es generalizing st with
  | nil => rfl
  | cons kv rest ih =>
    obtain ⟨k', v⟩ := kv
    rw [keys_cons, List.mem_cons, not_or] at h
    show lookup k (exportAll rest (setData k' v st)).exports.data = _
    rw [ih _ h.2]; exact setData_lookup_ne k' k v st h.1

example : (62 : Name) ∉ keys [((60 : Name), V.int 1), (61, V.int 2)] := by decide

/-- every entry of a (duplicate-free) wildcard-imported map ends up in the exports map with the
imported value -/
theorem exportAll_lookup (es : List (Name × V)) (st : St) (k : Name) (v : V)
    (hnd : (keys es).Nodup) (h : (k, v) ∈ es) :
    lookup k (exportAll es st).exports.data = some v := by
  induction es generalizing st with
  | nil => cases h
  | cons kv rest ih =>
    obtain ⟨k', v'⟩ := kv
    rw [keys_cons, List.nodup_cons] at hnd
    show lookup k (exportAll rest (setData k' v' st)).exports.data = some v
    rcases List.mem_cons.mp h with h | h
    · cases h
      rw [exportAll_lookup_other rest _ k hnd.1]; exact lookup_insert_self k v _
    · exact ih _ hnd.2 h

example : (keys [((60 : Name), V.int 1), (61, V.int 2)]).Nodup
    ∧ ((61 : Name), V.int 2) ∈ [((60 : Name), V.int 1), (61, V.int 2)] := by decide

/-! ## nested from-paths -/

theorem accessPath_append (cache : Path → Option Entry) (v : V) (ks ls : List Name) :
    accessPath cache v (ks ++ ls) =
      match accessPath cache v ks with
      | .error e => .error e
      | .ok x => accessPath cache x ls := by
  induction ks generalizing v with
  | nil => simp [accessPath]
  | cons k rest ih =>
    simp only [List.cons_append, accessPath]
    cases access cache v k with
    | error e => simp
    | ok x => simpa using ih x

/-- only completed modules can be accessed: a nested from-path of length ≥ 1 on a value that is not a
completed module's map is an access error -/
theorem accessPath_unresolved (cache : Path → Option Entry) (v : V) (k : Name) (ks : List Name)
    (h : resolve cache v = none) : accessPath cache v (k :: ks) = .error .access := by
  simp [accessPath, access, h]

example : resolve (fun _ => none) (V.int 3) = none := by decide

/-! ## `import` on a held value -/

/-- `ImportAll` on a held value succeeds exactly on non-scalars and returns the value itself -/
theorem importValue_ok_iff (v w : V) : importValue v = .ok w ↔ (w = v ∧ v.scalar = false) := by
  cases v <;> simp [importValue, V.scalar, eq_comm]

theorem importValue_error (v : V) (e : Err) (h : importValue v = .error e) : e = .type ∧ v.scalar = true := by
  cases v <;> simp_all [importValue, V.scalar]

example : importValue (V.int 1) = .error .type := rfl

/-! ## histories -/

theorem runOps_length (cfg : Cfg) (fs : FS) (fuel : Nat) (ops : List Op) (st : St)
    (rs : List (Option Err × St)) (h : runOps cfg fs fuel ops st = some rs) : rs.length = ops.length := by
  induction ops generalizing st rs with
  | nil => simp [runOps] at h; simp [h]
  | cons op rest ih =>
    simp only [runOps] at h
    split at h
    · simp at h
    · rename_i r st1 _
      split at h
      · simp at h
      · rename_i rs' hrs
        simp at h
        subst h
        simp [ih st1 rs' hrs]

theorem finalSt_append (cfg : Cfg) (fs : FS) (fuel : Nat) (a b : List Op) (st : St) :
    finalSt cfg fs fuel (a ++ b) st = (finalSt cfg fs fuel a st).bind (finalSt cfg fs fuel b) := by
  induction a generalizing st with
  | nil => simp [finalSt]
  | cons op rest ih =>
    simp only [List.cons_append, finalSt]
    cases hostRun cfg fs fuel op st with
    | none => simp
    | some x => simpa using ih x.2

theorem runOps_finalSt (cfg : Cfg) (fs : FS) (fuel : Nat) (ops : List Op) (st : St)
    (rs : List (Option Err × St)) (h : runOps cfg fs fuel ops st = some rs) :
    finalSt cfg fs fuel ops st = some ((rs.getLast?.map (·.2)).getD st) := by
  induction ops generalizing st rs with
  | nil => simp [runOps] at h; simp [finalSt, h]
  | cons op rest ih =>
    simp only [runOps] at h
    simp only [finalSt]
    split at h
    · simp at h
    · rename_i r st1 hr
      split at h
      · simp at h
      · rename_i rs' hrs
        simp at h
        subst h
        rw [ih st1 rs' hrs]
        cases rs' with
        | nil => simp
        | cons x xs =>
          cases hl : (x :: xs).getLast? with
          | none => simp at hl
          | some y => simp [hl]

theorem runOps_isSome_iff (cfg : Cfg) (fs : FS) (fuel : Nat) (ops : List Op) (st : St) :
    (runOps cfg fs fuel ops st).isSome = (finalSt cfg fs fuel ops st).isSome := by
  induction ops generalizing st with
  | nil => simp [runOps, finalSt]
  | cons op rest ih =>
    simp only [runOps, finalSt]
    cases hostRun cfg fs fuel op st with
    | none => simp
    | some x =>
      obtain ⟨r, st1⟩ := x
      simp only
      rw [← ih st1]
      cases runOps cfg fs fuel rest st1 <;> simp

/-! ## closures capture by value, and only what they read before binding -/

theorem lookup_filter {α : Type} (P : Name → Bool) (k : Name) (l : List (Name × α)) :
    lookup k (l.filter (fun kv => P kv.1)) = if P k then lookup k l else none := by
  induction l with
  | nil => simp [lookup]
  | cons kv rest ih =>
    obtain ⟨k', v'⟩ := kv
    by_cases hp : P k' = true
    · by_cases hk : k' = k
      · subst hk; simp [List.filter, hp, lookup]
      · simp only [List.filter, hp, lookup, hk, if_false, ih]
    · by_cases hk : k' = k
      · subst hk
        simp only [Bool.not_eq_true] at hp
        simp [List.filter, hp, ih]
      · simp only [Bool.not_eq_true] at hp
        simp only [List.filter, hp, lookup, hk, if_false, ih]

theorem mkClosure_locals (ic : Bool) (fr : Frame) (mk : Nat) (body : List Act) (k : Name) :
    lookup k (mkClosure ic fr mk body).locals =
      if (captureSet ic body []).contains k then lookup k fr.locals else none := by
  simp only [mkClosure]
  exact lookup_filter (fun n => (captureSet ic body []).contains n) k fr.locals

theorem captureSet_not_bound (ic : Bool) (body : List Act) (bound : List Name) (k : Name)
    (h : k ∈ captureSet ic body bound) : k ∉ bound := by
  induction body generalizing bound with
  | nil => simp [captureSet] at h
  | cons a rest ih =>
    simp only [captureSet, List.mem_append, List.mem_filter] at h
    rcases h with h | h
    · intro hb; simp [hb] at h
    · intro hb
      exact ih (a.binds ++ bound) h (List.mem_append_right _ hb)

example : (5 : Name) ∈ captureSet false [Act.show 1 5] [] := by decide

/-! ## wildcard imports: `add_wildcard_import` -/

/-- the wildcard list stays duplicate-free (each map instance at most once), with or without the
refresh repair -/
theorem addWild_nodup (r : Bool) (v : V) (fr : Frame) (h : fr.wild.Nodup) :
    (addWild r v fr).wild.Nodup := by
  unfold addWild
  split
  · split
    · exact nodup_snoc (h.erase v) (fun hv => ((List.Nodup.mem_erase_iff h).mp hv).1 rfl)
    · exact h
  · next hc => exact nodup_snoc h (fun hv => hc (by simpa using hv))

example : ([V.int 1, V.int 2] : List V).Nodup := by decide

/-- as it is (finding F-C18-10): repeating a wildcard import of a map that is already present changes
nothing, so `add_wildcard_import` is idempotent -/
theorem addWild_false_idem (v : V) (fr : Frame) :
    addWild false v (addWild false v fr) = addWild false v fr := by
  by_cases h : v ∈ fr.wild
  · have h1 : addWild false v fr = fr := by simp [addWild, h]
    rw [h1, h1]
  · have h1 : addWild false v fr = { fr with wild := fr.wild ++ [v] } := by simp [addWild, h]
    rw [h1]
    simp [addWild]

/-- with the refresh repair the imported map is always the most recent one … -/
theorem addWild_refresh_last (v : V) (fr : Frame) :
    ∃ w, (addWild true v fr).wild = w ++ [v] := by
  unfold addWild
  split
  · exact ⟨fr.wild.erase v, rfl⟩
  · exact ⟨fr.wild, rfl⟩

/-- … so every key of the freshly wildcard-imported module reads that module's value, whatever was
imported before (the precedence that the repair of F-C18-10 restores) -/
theorem wildRefresh_precedence (cache : Path → Option Entry) (k : Name) (mv : V) (fr : Frame)
    (es : List (Name × V)) (x : V) (hr : resolve cache mv = some es) (hk : lookup k es = some x) :
    wildGet cache k (addWild true mv fr).wild = some x := by
  obtain ⟨w, hw⟩ := addWild_refresh_last mv fr
  rw [hw]
  exact C18.wildcard_binds cache k w mv es x hr hk

example : resolve (fun _ => some (.done { data := [(60, V.int 5)] })) (V.mref C18.pA) = some [(60, V.int 5)]
    ∧ lookup 60 [((60 : Name), V.int 5)] = some (V.int 5) := ⟨rfl, rfl⟩

/-- the other direction of precedence, in both variants: a first-time wildcard import never changes what
keys that the new map lacks resolve to -/
theorem addWild_new_other (r : Bool) (cache : Path → Option Entry) (k : Name) (mv : V) (fr : Frame)
    (hnew : fr.wild.contains mv = false)
    (hk : (resolve cache mv).bind (lookup k) = none) :
    wildGet cache k (addWild r mv fr).wild = wildGet cache k fr.wild := by
  have hm : mv ∉ fr.wild := by simpa using hnew
  rw [(addWild_wild r mv fr).2.1 hm]
  simp [wildGet, hk]

example : ([] : List V).contains (V.int 1) = false
    ∧ (resolve (fun _ => none) (V.int 1)).bind (lookup 3) = none := ⟨rfl, rfl⟩

/-! ## statement lists and loops compose -/

theorem execActs_append (cfg : Cfg) (fs : FS) (rec : Runner) (xs ys : List Act) (fr : Frame) (s : St) :
    execActs cfg fs rec (xs ++ ys) fr s =
      match execActs cfg fs rec xs fr s with
      | none => none
      | some (some e, fr1, s1) => some (some e, fr1, s1)
      | some (none, fr1, s1) => execActs cfg fs rec ys fr1 s1 := by
  induction xs generalizing fr s with
  | nil => rfl
  | cons a rest ih =>
    simp only [List.cons_append, execActs]
    cases h : execAct cfg fs rec a fr s with
    | none => rfl
    | some x =>
      obtain ⟨e, fr1, s1⟩ := x
      cases e with
      | some e => rfl
      | none => exact ih fr1 s1

theorem compoundLoop_add (cfg : Cfg) (k : Name) (op : COp) (r : Rhs) (m n : Nat) (fr : Frame) (st : St) :
    compoundLoop cfg k op r (m + n) fr st =
      match compoundLoop cfg k op r m fr st with
      | (some e, fr1, st1) => (some e, fr1, st1)
      | (none, fr1, st1) => compoundLoop cfg k op r n fr1 st1 := by
  induction m generalizing fr st with
  | zero => rw [Nat.zero_add]; rfl
  | succ m ih =>
    rw [Nat.succ_add]
    simp only [compoundLoop]
    cases h : compoundStep cfg k op r fr st with
    | mk e rest =>
      obtain ⟨fr1, st1⟩ := rest
      cases e with
      | some e => rfl
      | none => exact ih fr1 st1

theorem compoundStep_error_unchanged (cfg : Cfg) (k : Name) (op : COp) (r : Rhs) (fr fr' : Frame)
    (st st' : St) (e : Err) (h : compoundStep cfg k op r fr st = (some e, fr', st')) :
    st' = st ∧ fr'.locals = fr.locals ∧ fr'.wild = fr.wild := by
  rcases compoundStep_spec cfg k op r fr st with ⟨_, heq⟩ | ⟨_, _, heq, _⟩
  · rw [heq] at h; cases h; exact ⟨rfl, rfl, rfl⟩
  · rw [heq] at h; cases h

example : (compoundStep { runImportTests := false, hostTests := false } 60 .add (.lit 1) { dir := [] } {}).1
    = some .idNotFound := rfl

/-! ## right-hand sides and plain multi-assignment -/

theorem evalRhs_length (cfg : Cfg) (fr : Frame) (st : St) (rhs : List Rhs) (vs : List V)
    (h : evalRhs cfg fr st rhs = some vs) : vs.length = rhs.length := by
  induction rhs generalizing vs with
  | nil => simp [evalRhs] at h; simp [h]
  | cons r rest ih =>
    cases r with
    | lit n =>
      simp only [evalRhs, Option.map_eq_some_iff] at h
      obtain ⟨ws, hws, rfl⟩ := h
      simp [ih ws hws]
    | ref k =>
      simp only [evalRhs] at h
      split at h
      · simp at h
      · simp only [Option.map_eq_some_iff] at h
        obtain ⟨ws, hws, rfl⟩ := h
        simp [ih ws hws]

example : evalRhs { runImportTests := false, hostTests := false } { dir := [] } {} [.lit 1, .lit 2]
    = some [V.int 1, V.int 2] := rfl

theorem readId_emit (cfg : Cfg) (fr : Frame) (st : St) (ev : Event) (k : Name) :
    readId cfg fr (emit ev st) k = readId cfg fr st k := rfl

/-- an assignment whose targets are ids and `_` only (no map patterns) never fails, whatever the
number of values on the right -/
theorem bindTargets_plain_ok (b : Bool) (ts : List Target) (vs : List V) (fr : Frame) (st : St)
    (hplain : ∀ t ∈ ts, ∀ es, t ≠ .mapPat es) : (bindTargets b ts vs fr st).1 = none := by
  induction ts generalizing vs fr st with
  | nil => simp [bindTargets]
  | cons t rest ih =>
    have hrest : ∀ t ∈ rest, ∀ es, t ≠ .mapPat es := fun t ht => hplain t (List.mem_cons_of_mem _ ht)
    cases t with
    | id k => simp only [bindTargets]; exact ih _ _ _ hrest
    | ignored => simp only [bindTargets]; exact ih _ _ _ hrest
    | mapPat es => exact absurd rfl (hplain _ List.mem_cons_self es)

example : ∀ t ∈ [Target.id 1, Target.ignored], ∀ es, t ≠ .mapPat es := by
  intro t ht es; simp at ht; rcases ht with h | h <;> simp [h]

/-! ## export_top_level_ids and import items -/

/-- with both repairs (F-C18-1, F-C18-5) the key that export_top_level_ids exports for an import item
is exactly the local the item binds — and nothing is exported for an item that binds nothing -/
theorem exportKey_repaired (it : Item) :
    it.exportKey? true true = if it.binds then some it.target else none := by
  unfold Item.exportKey? Item.binds Item.target
  cases hs : it.str <;> cases ha : it.as_ <;> simp

/-- as it is, the exported key differs from the bound local exactly for aliased id items and for
aliased string items (the two findings), and agrees everywhere else -/
theorem exportKey_asis_agrees_iff (it : Item) :
    it.exportKey? false false = (if it.binds then some it.target else none)
      ↔ (it.as_ = none ∨ (it.str = false ∧ it.as_ = some it.name)) := by
  unfold Item.exportKey? Item.binds Item.target
  cases hs : it.str <;> cases ha : it.as_ <;> simp [eq_comm]

/-! ## once a local, always a local (the compile-time local / non-local decision of `compile_load_id`
stays valid): `Frame.Ext`, which holds along every statement (`execTActs_ext`), read for two of them. The
runtime half of what the walk says of them is not used here, so any configuration will do. -/

theorem frameExt_keys {fr fr' : Frame} (h : Frame.Ext fr fr') {n : Name} (hn : n ∈ keys fr.locals) :
    n ∈ keys fr'.locals :=
  (lookup_isSome_iff n _).mp (h.locals n ((lookup_isSome_iff n _).mpr hn))

example : (60 : Name) ∈ keys [((60 : Name), V.int 1)] := by decide

/-- a (multi-)assignment with any target shapes never unbinds a local, whether it succeeds or fails -/
theorem bindTargets_locals_mono (b : Bool) (ts : List Target) (vs : List V) (fr : Frame) (st : St)
    (n : Name) (h : n ∈ keys fr.locals) : n ∈ keys (bindTargets b ts vs fr st).2.1.locals :=
  frameExt_keys (eff_bindTargets (cfg := C18.cfgEx) (fs := default) (rec := default) b ts rfl
    (fun _ _ _ => trivial)).2 h

/-- `from m import a, b as c` never unbinds a local, whether it succeeds or fails -/
theorem fromItems_locals_mono (al sa : Bool) (mv : V) (items : List Item) (fr : Frame) (st : St)
    (n : Name) (h : n ∈ keys fr.locals) : n ∈ keys (fromItems al sa mv items fr st).2.1.locals :=
  frameExt_keys (eff_fromItems (cfg := C18.cfgEx) (fs := default) (rec := default) al sa mv items rfl
    (fun _ _ _ _ _ => trivial)).2 h

example : (60 : Name) ∈ keys ({ dir := [], locals := [(60, V.int 1)] } : Frame).locals := by decide

/-! ## a file and its canonical spelling resolve imports in the same directory -/

theorem folder_norm (p : Path) : p.norm.folder = p.folder := by
  simp [Path.folder, Path.norm, C18.normSegs_map_some]

end KotoVerif.C18Ext
