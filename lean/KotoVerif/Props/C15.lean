/-
C15 — Strings stay valid text; indexing, splitting and formatting are exact.

Property theorems about the models `Model/Str.lean` and `Model/FmtSpec.lean`, for ALL byte strings and
ALL Unicode facts (`UFacts` / the segmentation oracle `gFirst` are universally quantified; hypotheses on
them are stated explicitly: `Progress`, `CutsAtBoundaries`, additivity of the cluster count).
Where the model (= the code) violates the property, the negation is proved with a concrete witness
(the `*_witness` theorems; each names its finding F-C15-n and, where there is one, the model parameter that
describes the repaired code) and the positive theorem states exactly what is excluded.
-/
import KotoVerif.Model.Str
import KotoVerif.Model.FmtSpec
import KotoVerif.Lemmas.C15Utf8
import KotoVerif.Lemmas.C15Slice
import KotoVerif.Lemmas.C15Ops
import KotoVerif.Lemmas.C15Closed
import KotoVerif.Lemmas.C15Refine
import KotoVerif.Lemmas.C15Split
import KotoVerif.Lemmas.C15Enc
import KotoVerif.Lemmas.C15Esc
import KotoVerif.Lemmas.C15Num
import KotoVerif.Lemmas.C15Fmt

namespace KotoVerif.C15
open KotoVerif.Utf8 KotoVerif.Str KotoVerif.FmtSpec

def strBytes : Res → Option Bytes
  | .str b => some b
  | _ => none

def errKind : Res → Option String
  | .err k => some k
  | _ => none

/-- "h" ++ "é" as a literal-like slice and as a run-time (`Full`) string -/
def hé : Bytes := [0x68, 0xC3, 0xA9]
def héSlice : KStr := KStr.ofSlice hé 0 3
def héFull : KStr := KStr.ofString hé

theorem héSlice_wf : héSlice.WF :=
  ⟨by decide, by decide, by decide, by decide, by decide, by decide, by decide, by decide⟩

/-! ## Slicing -/

/-- **slice_valid**: on the checked storage forms a successful re-slice inside the string has both ends
on character boundaries, returns exactly `bytes[a, b)`, and that is well-formed UTF-8 -/
theorem slice_valid {s t : KStr} (hw : s.WF) (hf : s.form ≠ .full) {a b : Nat} (hb : b ≤ s.len)
    (h : s.withBounds a b = some t) :
    a ≤ b ∧ isBoundary s.bytes a = true ∧ isBoundary s.bytes b = true ∧
      t.bytes = (s.bytes.drop a).take (b - a) ∧ validUtf8 t.bytes = true := by
  have e := (KStr.withBounds_eq_strGet hw hf (a := a) hb).symm
  rw [h, Option.map_some] at e
  have hc := strGet_isSome.mp (by rw [e]; rfl)
  have hb' : t.bytes = (s.bytes.drop a).take (b - a) := Option.some.inj (e.symm.trans (if_pos hc))
  exact ⟨hc.1, hc.2.1, hc.2.2, hb', hb' ▸ valid_slice hw.bytes_valid hc.1 hc.2.1 hc.2.2⟩

example : ∃ t, héSlice.withBounds 1 3 = some t ∧ t.bytes = [0xC3, 0xA9] := by decide +kernel

/-- **slice_err**: a request that would cut through a character (or is reversed) is refused -/
theorem slice_err {s : KStr} (hw : s.WF) (hf : s.form ≠ .full) {a b : Nat} (hb : b ≤ s.len)
    (h : ¬(a ≤ b ∧ isBoundary s.bytes a = true ∧ isBoundary s.bytes b = true)) :
    s.withBounds a b = none :=
  Option.map_eq_none_iff.mp ((KStr.withBounds_eq_strGet hw hf hb).trans (if_neg h))

example : héSlice.withBounds 1 2 = none := by decide +kernel

/-- **slice_total**: a request on character boundaries always succeeds on the checked forms -/
theorem slice_total {s : KStr} (hw : s.WF) (hf : s.form ≠ .full) {a b : Nat} (hb : b ≤ s.len)
    (h : a ≤ b ∧ isBoundary s.bytes a = true ∧ isBoundary s.bytes b = true) :
    ∃ t, s.withBounds a b = some t := by
  obtain ⟨t, ht, _⟩ := Option.map_eq_some_iff.mp ((KStr.withBounds_eq_strGet hw hf hb).trans (if_pos h))
  exact ⟨t, ht⟩

example : (héSlice.withBounds 0 1).isSome = true := by decide +kernel

/-- the content of the shared buffer outside the slice is irrelevant to checked re-slicing -/
theorem withBounds_buffer_irrelevant {s s' : KStr} (hw : s.WF) (hw' : s'.WF) (hf : s.form ≠ .full)
    (hf' : s'.form ≠ .full) (hbytes : s.bytes = s'.bytes) {a b : Nat} (hb : b ≤ s.len) :
    (s.withBounds a b).map KStr.bytes = (s'.withBounds a b).map KStr.bytes := by
  have hl : s.len = s'.len := by
    rw [← KStr.bytes_length hw, ← KStr.bytes_length hw', hbytes]
  rw [KStr.withBounds_eq_strGet hw hf hb, KStr.withBounds_eq_strGet hw' hf' (hl ▸ hb), hbytes]

example : héSlice.bytes = (KStr.ofSlice (0x78 :: hé ++ [0x79]) 1 4).bytes := by decide +kernel

/-- `s[i]` on the checked forms: the one-byte character at `i`, or one of the three errors -/
theorem index_spec {s : KStr} (hw : s.WF) (hf : s.form ≠ .full) (i : Int) :
    index s i =
      if i < 0 then .err "neg"
      else if i.toNat ≥ s.len then .err "index"
      else match strGet s.bytes i.toNat (i.toNat + 1) with
        | some b => .str b
        | none => .err "utf8" := by
  simp only [index]
  split
  · rfl
  · split
    · rfl
    · rename_i h1 h2
      rw [← KStr.withBounds_eq_strGet hw hf (a := i.toNat) (by omega : i.toNat + 1 ≤ s.len)]
      cases s.withBounds i.toNat (i.toNat + 1) <;> rfl

example : errKind (index héSlice 1) = some "utf8" ∧ strBytes (index héSlice 0) = some [0x68] := by decide +kernel

/-- `KRange::indices` never leaves the string: every range index request is in bounds -/
theorem range_indices_in_bounds (st : Option Int) (en : Option (Int × Bool)) (len : Nat) :
    (rangeIndices st en len).1 ≤ (rangeIndices st en len).2 ∧ (rangeIndices st en len).2 ≤ len :=
  clampI_pair _ _ len

example : rangeIndices (some (-1)) (some (99, true)) 3 = (0, 3) := by decide +kernel

/-- **slice_full_witness** (negation, F-C15-1): on the `Full` storage form the model — as the code —
accepts a cut through a character and returns malformed UTF-8 -/
theorem slice_full_witness :
    strBytes (index héFull 1) = some [0xC3] ∧ validUtf8 [0xC3] = false ∧
    errKind (index héSlice 1) = some "utf8" := by decide +kernel

/-- with requests/C15-fix-1.diff applied (storage form `fullV`) the witness is refused, and `slice_valid`,
`slice_err`, `slice_total`, `index_spec` above apply to run-time strings too (their hypothesis is
`form ≠ .full`) -/
theorem slice_full_fixed : errKind (index (KStr.ofStringV hé) 1) = some "utf8" ∧ (KStr.ofStringV hé).form ≠ .full := by
  decide +kernel

/-- what does hold for the `Full` form: `with_bounds` never fails and returns the raw bytes; the result is
well-formed when the cut happens to be on character boundaries (missing in the code: the check
`string.get(bounds).is_some()` in `StringSlice::new`) -/
theorem slice_full_partial {s : KStr} (hw : s.WF) (hf : s.form = .full) {a b : Nat} (hab : a ≤ b)
    (ha : isBoundary s.bytes a = true) (hb : isBoundary s.bytes b = true) :
    ∃ t, s.withBounds a b = some t ∧ t.bytes = (s.bytes.drop a).take (b - a) ∧ validUtf8 t.bytes = true := by
  obtain ⟨t, ht, hb'⟩ := Option.map_eq_some_iff.mp (KStr.withBounds_full hw hf a b)
  exact ⟨t, ht, hb', hb' ▸ valid_slice hw.bytes_valid hab ha hb⟩

example : ∃ t, héFull.withBounds 1 3 = some t ∧ t.bytes = [0xC3, 0xA9] := by decide +kernel

/-- **with_bounds_own_end_witness** (F-C15-10, Rust API level): on a slice, `with_bounds` is validated against
the shared buffer only — a request beyond the slice's own end succeeds and returns bytes that are not part
of the string (`KString::from("abcdef").with_bounds(0..2).unwrap().with_bounds(0..4)` is `"abcd"`); with
requests/C15-fix-8.diff applied it is refused. The VM never asks beyond the end (`range_indices_in_bounds`,
`validate_index`, the size checks of the unpacking instructions), so scripts cannot observe it. -/
theorem with_bounds_own_end_witness :
    ((KStr.ofSlice [97, 98, 99, 100, 101, 102] 0 2).withBoundsApi 0 4).map KStr.bytes = some [97, 98, 99, 100] ∧
    ((KStr.ofSlice [97, 98, 99, 100, 101, 102] 0 2).withBoundsApi 0 4 true).map KStr.bytes = none := by decide +kernel

/-- with the own-end check every successful API-level re-slice is inside the string, so `slice_valid`
applies without a side condition -/
theorem with_bounds_api_fixed {s t : KStr} {a b : Nat} (h : s.withBoundsApi a b true = some t) :
    b ≤ s.len ∧ s.withBounds a b = some t := by
  simp only [KStr.withBoundsApi] at h
  split at h
  · cases h
  · rename_i hc
    exact ⟨by simp at hc; omega, h⟩

def nullCount : Res → Nat
  | .tuple xs => (xs.filter fun r => match r with | .null => true | _ => false).length
  | _ => 0

/-- **unpack_null_witness** (F-C15-9): the unpacking instructions (`TempIndex`, `SliceFrom`, `SliceTo`) turn a
cut through a character into `null` — `match 'aé'` with `(rest..., last)` binds both to null — where `s[i]`
raises an error; with requests/C15-fix-7.diff applied (`strict`) it is the same error -/
theorem unpack_null_witness :
    nullCount (unpackTail (KStr.ofSlice [0x61, 0xC3, 0xA9] 0 3) 1) = 2 ∧
    errKind (unpackTail (KStr.ofSlice [0x61, 0xC3, 0xA9] 0 3) 1 true) = some "utf8" ∧
    nullCount (unpackHead (KStr.ofSlice [0x61, 0xC3, 0xA9] 0 3) 1) = 0 := by decide +kernel

def isPanic : Res → Bool
  | .panic _ => true
  | _ => false

/-- **repeat_overflow_witness** (F-C15-11): a result above `isize::MAX` bytes panics inside `str::repeat`
(`capacity overflow`); with requests/C15-fix-9.diff applied it is a runtime error; the empty string can be
repeated any number of times -/
theorem repeat_overflow_witness :
    isPanic (repeatOp (KStr.ofSlice [97, 98] 0 2) 9223372036854775807) = true ∧
    errKind (repeatOp (KStr.ofSlice [97, 98] 0 2) 9223372036854775807 true) = some "toolarge" ∧
    strBytes (repeatOp (KStr.ofSlice [] 0 0) 9223372036854775807) = some [] := by decide +kernel

/-- `repeat` below the limit: exactly `n` copies, in every variant of the code -/
theorem repeat_spec {s : KStr} (hw : s.WF) {n : Int} (hn : 0 ≤ n) (hsz : s.len * n.toNat ≤ isizeMax) (c : Bool) :
    repeatOp s n c = .str (repeatB n.toNat s.bytes) := by
  simp only [repeatOp]
  rw [if_neg (by omega)]
  split
  · rename_i h0
    have hb : s.bytes = [] := List.length_eq_zero_iff.mp (by rw [KStr.bytes_length hw]; exact h0)
    simp [hb, repeatB, flat]
  · rw [if_neg (by omega)]

/-- **split_api_own_end_witness** (F-C15-12, Rust API level): `StringSlice::split` beyond the slice's own end
succeeds and the first half reads the neighbouring text; with requests/C15-fix-10.diff applied it is refused -/
theorem split_api_own_end_witness :
    ((({ KStr.ofSlice [97, 98, 99, 100, 101, 102] 0 2 with form := .large } : KStr).splitAtApi 4).map
      (fun pr => pr.1.bytes)) = some [97, 98, 99, 100] ∧
    (({ KStr.ofSlice [97, 98, 99, 100, 101, 102] 0 2 with form := .large } : KStr).splitAtApi 4 true).isNone = true ∧
    (({ KStr.ofSlice [97, 98, 99, 100, 101, 102] 0 2 with form := .large } : KStr).splitAtApi 1 true).isSome = true := by
  decide +kernel

/-! ## Well-formedness is preserved (`utf8_closed`) -/

theorem utf8_closed_cut {s : Bytes} {a b : Nat} (hv : validUtf8 s = true) (hab : a ≤ b)
    (ha : isBoundary s a = true) (hb : isBoundary s b = true) :
    validUtf8 ((s.drop a).take (b - a)) = true := valid_slice hv hab ha hb

example : validUtf8 ((hé.drop 1).take 2) = true := by decide +kernel

/-- concatenation (`+`, string building) and `repeat` -/
theorem utf8_closed_concat {a b : Bytes} (ha : validUtf8 a = true) (hb : validUtf8 b = true) :
    validUtf8 (a ++ b) = true := valid_append ha hb

theorem utf8_closed_repeat {s : Bytes} (n : Nat) (h : validUtf8 s = true) : validUtf8 (repeatB n s) = true :=
  valid_replicate n h

example : validUtf8 (repeatB 3 hé) = true := by decide +kernel

theorem utf8_closed_chars {U : UFacts} (hp : Progress U.gFirst) (hb : CutsAtBoundaries U.gFirst) {s : Bytes}
    (hv : validUtf8 s = true) : ∀ p ∈ charsB U s, validUtf8 p = true :=
  segs_valid hp hb s.length s (Nat.le_refl _) hv

/-- every piece of `split(pattern)` — any pattern, the empty one included -/
theorem utf8_closed_split {pat s : Bytes} (hpv : validUtf8 pat = true) (hv : validUtf8 s = true) :
    ∀ p ∈ splitB pat (s.length + 2) s, validUtf8 p = true := by
  cases pat with
  | cons c r =>
    rw [splitB_of_ne_nil (List.cons_ne_nil c r)]
    exact splitNE_valid hpv (List.cons_ne_nil c r) _ s (by omega) hv
  | nil =>
    rw [splitB_empty _ s (by omega)]
    intro p hp
    simp only [List.mem_cons, List.mem_append, List.not_mem_nil, or_false] at hp
    rcases hp with rfl | hp | rfl
    · exact valid_nil
    · exact charsOf_valid hv p hp
    · exact valid_nil

theorem utf8_closed_lines {s : Bytes} (hv : validUtf8 s = true) : ∀ l ∈ linesB s [], validUtf8 l = true :=
  linesB_valid hv

theorem utf8_closed_trim (U : UFacts) {s : Bytes} (hv : validUtf8 s = true) :
    validUtf8 (trimB U s) = true ∧ validUtf8 (trimStartB U s) = true ∧ validUtf8 (trimEndB U s) = true :=
  ⟨trimB_valid U hv, trimStartB_valid U hv, trimEndB_valid U hv⟩

/-- `strip_prefix` / `strip_suffix` with a well-formed pattern -/
theorem utf8_closed_strip {p r : Bytes} (hp : validUtf8 p = true) :
    (validUtf8 (p ++ r) = true → validUtf8 r = true) ∧ (validUtf8 (r ++ p) = true → validUtf8 r = true) :=
  ⟨fun h => valid_of_append_left h hp, fun h => valid_of_append_right h hp⟩

/-- `replace` (non-empty pattern: leftmost non-overlapping occurrences; empty pattern: the replacement is
inserted around every character) -/
theorem utf8_closed_replace {pat to s : Bytes} (hpv : validUtf8 pat = true) (htv : validUtf8 to = true)
    (hv : validUtf8 s = true) : validUtf8 (replaceB pat to s) = true := by
  cases pat with
  | nil => exact replaceB_empty_valid htv hv
  | cons c r =>
    rw [replaceB_of_ne_nil (List.cons_ne_nil c r)]
    exact replaceNE_valid hpv (List.cons_ne_nil c r) htv _ s hv

theorem utf8_closed_chars_of {s : Bytes} (hv : validUtf8 s = true) : ∀ c ∈ charsOf s, validUtf8 c = true :=
  charsOf_valid hv

/-- escape processing of a well-formed literal gives a well-formed string (when it succeeds), for the
current code and for the code with any of the repairs `EscCfg` describes -/
theorem utf8_closed_escape (U : UFacts) (checked : EscCfg) {lit out : Bytes} (hv : validUtf8 lit = true)
    (h : unescape U lit checked = .ok out) : validUtf8 out = true := unescape_valid U checked hv h

example : validUtf8 (replaceB [0xC3, 0xA9] [0x2C] hé) = true := by decide +kernel

/-- `to_lowercase` / `to_uppercase`, for every table of case images that are well-formed -/
theorem utf8_closed_case (U : UFacts) (hl : ∀ c, validUtf8 (U.lower c) = true) (hu : ∀ c, validUtf8 (U.upper c) = true)
    (s : Bytes) : validUtf8 (lowerB U s) = true ∧ validUtf8 (upperB U s) = true := by
  constructor
  · exact valid_flatten (fun x hx => by obtain ⟨c, _, rfl⟩ := List.mem_map.mp hx; exact hl c)
  · exact valid_flatten (fun x hx => by obtain ⟨c, _, rfl⟩ := List.mem_map.mp hx; exact hu c)

theorem utf8_closed_pad (g : Bytes → Nat) (isNum : Bool) {rendered : Bytes} (o : Opts)
    (hr : validUtf8 rendered = true) (hf : validUtf8 (o.fill.getD [32]) = true) :
    validUtf8 (pad g isNum rendered (some o)) = true := pad_valid g isNum o false hr hf

/-- **formatting**: what `run_string_push` appends is well-formed UTF-8 — every value kind of `FVal` (strings,
integers, booleans, null; not the floats, containers and objects of `XVal`), every representation, precision
(truncation by grapheme clusters), every alignment — for every segmentation oracle that makes progress and
cuts at character boundaries, given a well-formed value and fill -/
theorem utf8_closed_format (g : Bytes → Nat) (hp : Progress g) (hb : CutsAtBoundaries g) (v : FVal) (o : Opts)
    (exact : Bool) (hv : ∀ s, v = .str s → validUtf8 s = true) (hf : validUtf8 (o.fill.getD [32]) = true) :
    validUtf8 (applyFmt g v (some o) exact) = true := applyFmt_valid g hp hb v o exact hv hf

example : validUtf8 (applyFmt gFirstChar (.int (-1200)) (some { minWidth := some 9, rep := some .expLower, fill := some [0xC3, 0xA9] })) = true := by
  decide +kernel

/-- the bytes of a well-formed string are bytes (never above 0xF4) -/
theorem bytes_spec {s : Bytes} (hv : validUtf8 s = true) : ∀ b ∈ s, b ≤ 0xF4 :=
  u8run_bytes_le ((validUtf8_iff s).mp hv)

example : ∃ s : Bytes, validUtf8 s = true ∧ s = hé := ⟨hé, by decide, rfl⟩

/-! ## chars, char_indices, split, lines, trim -/

/-- **chars_join**: concatenating `chars()` reproduces the string — for every segmentation oracle that
makes progress -/
theorem chars_join {U : UFacts} (hp : Progress U.gFirst) (s : Bytes) : (charsB U s).flatten = s :=
  segs_flatten hp s.length s (Nat.le_refl _)

theorem chars_nonempty {U : UFacts} (hp : Progress U.gFirst) (s : Bytes) : ∀ p ∈ charsB U s, p ≠ [] :=
  segs_nonempty hp s.length s (Nat.le_refl _)

example : charsB UFacts.trivial hé = [[0x68], [0xC3, 0xA9]] := by decide +kernel

/-- **char_indices_cover**: the ranges are non-empty, consecutive, start at 0 and end at the length -/
theorem char_indices_cover {U : UFacts} (hp : Progress U.gFirst) (bs : Bytes) :
    Tiles (charIndicesLoop U bs (bs.length + 1) 0) 0 bs.length :=
  charIndices_tiles hp bs (bs.length + 1) 0 (Nat.zero_le _) (by omega)

example : charIndicesLoop UFacts.trivial hé 4 0 = [(0, 1), (1, 3)] := by decide +kernel

/-- **split_join**: the pieces re-joined with the pattern are the string — for EVERY pattern (for the
empty pattern this says that the concatenation of the pieces is the string) -/
theorem split_join (pat s : Bytes) : joinWith pat (splitB pat (s.length + 2) s) = s :=
  splitB_join pat s

example : splitB [0x2C] 6 [0x61, 0x2C, 0x62, 0x2C] = [[0x61], [0x62], []] := by decide +kernel

/-- **split terminates for every pattern**: more fuel than `len + 2` changes nothing (the iteration ends by
itself: the repaired `Split` sets `start = len + 1` after the last piece) -/
theorem split_terminates (pat s : Bytes) (fuel : Nat) (h : s.length + 2 ≤ fuel) :
    splitB pat fuel s = splitB pat (s.length + 2) s := by
  cases pat with
  | cons c r =>
    rw [splitB_of_ne_nil (List.cons_ne_nil c r), splitB_of_ne_nil (List.cons_ne_nil c r)]
    exact splitNE_fuel_irrelevant (List.cons_ne_nil c r) _ _ s (by omega) (by omega)
  | nil => rw [splitB_empty _ s (by omega), splitB_empty _ s (by omega)]

/-- the empty pattern splits into `''`, the characters, `''`: exactly `chars + 2` pieces -/
theorem split_empty_pattern (s : Bytes) :
    splitB [] (s.length + 2) s = [] :: (charsOf s ++ [[]]) ∧
    (splitB [] (s.length + 2) s).length = (charsOf s).length + 2 := by
  have h := splitB_empty (s.length + 2) s (by omega)
  exact ⟨h, by rw [h]; simp⟩

example : splitB [] 5 [0x61, 0xC3, 0xA9, 0x62] = [[], [0x61], [0xC3, 0xA9], [0x62], []] ∧ splitB [] 2 [] = [[], []] := by
  decide +kernel

/-- piece count: at most one piece per byte plus one for a non-empty pattern, `chars + 2` for the empty one;
in every case at most `bytes + 2` -/
theorem split_count_le (pat s : Bytes) : (splitB pat (s.length + 2) s).length ≤ s.length + 2 := by
  cases pat with
  | cons c r =>
    rw [splitB_of_ne_nil (List.cons_ne_nil c r)]
    exact Nat.le_succ_of_le (splitNE_length_le (List.cons_ne_nil c r) (s.length + 2) s (by omega))
  | nil =>
    rw [splitB_empty _ s (by omega), ← segs_gFirstChar_eq s.length s (Nat.le_refl _)]
    have := segs_length_le progress_gFirstChar s.length s (Nat.le_refl _)
    simp only [List.length_cons, List.length_append, List.length_nil]
    omega

theorem split_nonempty (pat s : Bytes) : splitB pat (s.length + 2) s ≠ [] := by
  cases pat with
  | cons c r =>
    rw [splitB_of_ne_nil (List.cons_ne_nil c r)]
    exact splitNE_ne_nil _ (Nat.add_one_pos _) s
  | nil => simp [splitB]

/-- for a non-empty pattern the first piece is empty exactly when the input is empty or starts with the
pattern — so (with the recursion `splitNE`) an empty piece arises only at the start, at the end, or between
two adjacent matches -/
theorem split_empty_piece {pat : Bytes} (hp : pat ≠ []) (fuel : Nat) (rest : Bytes) :
    (splitNE pat (fuel + 1) rest).head? = some [] ↔ (rest = [] ∨ pat.isPrefixOf rest = true) := by
  simp only [splitNE]
  cases hf : findAt pat rest with
  | none =>
    simp only [List.head?_cons, Option.some.injEq]
    constructor
    · intro h; exact Or.inl h
    · rintro (h | h)
      · exact h
      · rw [findAt_zero_of_prefix h] at hf; cases hf
  | some e =>
    simp only [List.head?_cons, Option.some.injEq]
    have hle := findAt_some_le hf
    have hpl : 0 < pat.length := List.length_pos_iff.mpr hp
    constructor
    · intro h
      right
      have he : e = 0 := by
        have := congrArg List.length h
        simp only [List.length_take, List.length_nil] at this
        omega
      subst he
      have hs := findAt_some hf
      simp only [List.take_zero, List.nil_append, Nat.zero_add] at hs
      rw [List.isPrefixOf_iff_prefix]
      exact ⟨_, hs.symm⟩
    · rintro (h | h)
      · subst h; simp only [List.length_nil] at hle; omega
      · rw [findAt_zero_of_prefix h] at hf
        cases hf; simp

/-- **lines_spec**: `lines` is characterised by two equations — a string without a line feed is one line
(no line if it is empty); otherwise the first line is the text before the first line feed with one
trailing carriage return removed, followed by the lines of the rest — and no line contains a line feed -/
theorem lines_spec :
    (∀ pre : Bytes, (∀ b ∈ pre, b ≠ 10) → linesB pre [] = if pre.isEmpty then [] else [pre]) ∧
    (∀ pre post : Bytes, (∀ b ∈ pre, b ≠ 10) → linesB (pre ++ 10 :: post) [] = stripCR pre :: linesB post []) ∧
    (∀ s : Bytes, ∀ l ∈ linesB s [], ∀ b ∈ l, b ≠ 10) :=
  ⟨linesB_no_lf, linesB_unfold, linesB_lines_no_lf⟩

example : linesB [0x61, 13, 10, 0x62, 10, 10, 0x63, 13] [] = [[0x61], [0x62], [], [0x63, 13]] := by decide +kernel

/-- the carriage return is dropped only directly before the line feed -/
theorem lines_crlf (pre post : Bytes) (h : ∀ b ∈ pre, b ≠ 10) :
    linesB (pre ++ 13 :: 10 :: post) [] = pre :: linesB post [] := by
  have h' : ∀ b ∈ pre ++ [13], b ≠ 10 := by
    intro b hb
    rcases List.mem_append.mp hb with hb | hb
    · exact h b hb
    · simp at hb; omega
  have := linesB_unfold (pre ++ [13]) post h'
  simp only [List.append_assoc, List.singleton_append] at this
  rw [this]
  simp [stripCR]

/-- **trim_spec**: `trim_start` removes a front of white-space characters, at a character boundary, and
what remains does not start with one; `trim_end` removes an end of white-space characters, at a character
boundary (that what remains does not end with one is not part of the statement); nothing else changes -/
theorem trim_spec (U : UFacts) (s : Bytes) :
    (∃ ws : List Bytes, (∀ c ∈ ws, U.isWhite c = true) ∧ s = flat ws ++ trimStartB U s ∧
      (∀ c, ((charsOf s).dropWhile U.isWhite).head? = some c → U.isWhite c = false) ∧
      isBoundary s (flat ws).length = true) ∧
    (∃ ws : List Bytes, (∀ c ∈ ws, U.isWhite c = true) ∧ s = trimEndB U s ++ flat ws ∧
      isBoundary s (trimEndB U s).length = true) :=
  ⟨trimStartB_spec U s, trimEndB_spec U s⟩

example : trimB UFacts.trivial [32, 0x61, 0xC3, 0xA9, 32, 10] = [0x61, 0xC3, 0xA9] := by decide +kernel

/-- **trim(pattern) order witness**: the model trims the front first and then the end *of the remainder*.
On `'aaa'.trim 'aa'`, `'ababa'.trim 'aba'` and `'ééé'.trim 'éé'` this differs from trimming both ends
independently on the input (which would give the empty string) — at the byte level and at the code level -/
theorem trim_pattern_order_witness :
    trimMatchesB [97, 97] [97, 97, 97] = [97] ∧ trimMatchesIndependentB [97, 97] [97, 97, 97] = [] ∧
    trimMatchesB [97, 98, 97] [97, 98, 97, 98, 97] = [98, 97] ∧
    trimMatchesIndependentB [97, 98, 97] [97, 98, 97, 98, 97] = [] ∧
    trimMatchesB [0xC3, 0xA9, 0xC3, 0xA9] [0xC3, 0xA9, 0xC3, 0xA9, 0xC3, 0xA9] = [0xC3, 0xA9] ∧
    strBytes (trimOp UFacts.trivial (KStr.ofString [97, 97, 97]) (some [97, 97])) = some [97] ∧
    strBytes (trimOp UFacts.trivial (KStr.ofSlice [97, 98, 97, 98, 97] 0 5) (some [97, 98, 97])) = some [98, 97] := by
  decide +kernel

/-- `trim_start(pattern)`: the input is some copies of the pattern followed by the result, and the result
does not start with the pattern (non-empty pattern) -/
theorem trim_start_pattern_spec {pat : Bytes} (hp : pat ≠ []) (s : Bytes) :
    ∃ k, s = repPat k pat ++ trimStartMatchesB pat s.length s ∧
      pat.isPrefixOf (trimStartMatchesB pat s.length s) = false :=
  trimStartMatchesB_spec hp s.length s (Nat.le_refl _)

example : trimStartMatchesB [97, 97] 5 [97, 97, 97, 97, 97] = [97] := by decide +kernel

/-! ## The code-level operations compute the byte-level definitions

The driver runs the `KStr`-level functions (offsets into the shared buffer, `with_bounds(..).unwrap()`);
the laws above are about the byte-level functions. These theorems connect the two for every well-formed
string in every storage form — in particular no `unwrap()` of these call sites can fail. -/

/-- `chars()`: repeated `pop_front` yields the grapheme segmentation -/
theorem chars_refines (U : UFacts) (hp : Progress U.gFirst) (hb : CutsAtBoundaries U.gFirst) {s : KStr}
    (hw : s.WF) : ∃ ts : List KStr, charsLoop U (s.len + 1) s = some ts ∧
      ts.map KStr.bytes = segs U.gFirst (s.len + 1) s.bytes :=
  Option.map_eq_some_iff.mp (charsLoop_refines U hb (s.len + 1) s hw)

/-- `chars().reversed()`: repeated `pop_back` yields the segmentation from the back, and re-reversed it
concatenates to the string -/
theorem rchars_refines (U : UFacts) (hp : Progress U.gLast)
    (hb : ∀ s : Bytes, s ≠ [] → isBoundary s (s.length - U.gLast s) = true) {s : KStr} (hw : s.WF) :
    ∃ ts : List KStr, rcharsLoop U (s.len + 1) s = some ts ∧
      ts.map KStr.bytes = rsegs U.gLast (s.len + 1) s.bytes :=
  Option.map_eq_some_iff.mp (rcharsLoop_refines U hb (s.len + 1) s hw)

theorem rchars_join {U : UFacts} (hp : Progress U.gLast) (s : Bytes) :
    (rcharsB U s).reverse.flatten = s := rsegs_flatten hp (s.length + 1) s (by omega)

example : rcharsB UFacts.trivial hé = [[0xC3, 0xA9], [0x68]] := by decide +kernel

/-- `split(pattern)`: the iterator yields `splitB` — for every (well-formed) pattern, the empty one
included; the loop ends by itself with fuel to spare -/
theorem split_refines {s : KStr} (hw : s.WF) {pat : Bytes} (hpv : validUtf8 pat = true) :
    ∃ ts : List KStr, splitLoop s pat (s.len + 3) 0 false = some ts ∧
      ts.map KStr.bytes = splitB pat (s.len + 2) s.bytes :=
  Option.map_eq_some_iff.mp (splitLoop_refines_all hw hpv)

/-- split by predicate: the current code drops the piece after a separator at the very end
(F-C15-6; `split(',')` keeps it); with requests/C15-fix-4.diff applied (`keepTrailing`) both forms agree -/
theorem split_with_trailing_witness :
    (match splitWithOp UFacts.trivial (fun g => g == [0x2C]) (KStr.ofString [0x61, 0x2C, 0x62, 0x2C]) with
      | .tuple xs => xs.length | _ => 0) = 2 ∧
    (match splitWithOp UFacts.trivial (fun g => g == [0x2C]) (KStr.ofString [0x61, 0x2C, 0x62, 0x2C]) true with
      | .tuple xs => xs.length | _ => 0) = 3 ∧
    (splitB [0x2C] 6 [0x61, 0x2C, 0x62, 0x2C]).length = 3 := by decide +kernel

theorem lines_refines {s : KStr} (hw : s.WF) :
    ∃ ts : List KStr, linesLoop s (s.len + 1) 0 = some ts ∧ ts.map KStr.bytes = linesB s.bytes [] :=
  Option.map_eq_some_iff.mp (linesLoop_refines hw)

theorem trim_refines (U : UFacts) {s : KStr} (hw : s.WF) :
    trimOp U s none = .str (trimB U s.bytes) ∧ trimStartOp U s none = .str (trimStartB U s.bytes) ∧
    trimEndOp U s none = .str (trimEndB U s.bytes) :=
  ⟨trimOp_refines U hw, trimStartOp_refines U hw, trimEndOp_refines U hw⟩

theorem strip_prefix_refines {s : KStr} (hw : s.WF) {pat : Bytes} (hp : validUtf8 pat = true) :
    stripPrefixOp s pat = if pat.isPrefixOf s.bytes then .str (s.bytes.drop pat.length) else .null :=
  stripPrefixOp_refines hw hp

example : strBytes (trimOp UFacts.trivial (KStr.ofSlice [120, 32, 0x61, 32, 121] 1 4) none) = some [0x61] := by decide +kernel

/-! ## Formatting -/

/-- **align_spec**: the fill counts of the four alignments (numbers are right-aligned by default,
everything else left-aligned; centre puts the smaller half on the left) -/
theorem align_spec (n : Nat) :
    fillCounts .left true n = (0, n) ∧ fillCounts .left false n = (0, n) ∧
    fillCounts .right true n = (n, 0) ∧ fillCounts .right false n = (n, 0) ∧
    fillCounts .default true n = (n, 0) ∧ fillCounts .default false n = (0, n) ∧
    (n < 16777216 → ∀ b, fillCounts .center b n = (n / 2, (n + 1) / 2)) :=
  ⟨rfl, rfl, rfl, rfl, rfl, rfl, fun h b => center_floor_ceil b h⟩

example : fillCounts .center false 3 = (1, 2) := by decide +kernel

/-- **center_f32_witness** (negation, F-C15-2): with 2^24+1 missing characters the centred halves add up
to 2^24 only — the field is one character too narrow -/
theorem center_f32_witness :
    (fillCounts .center false 16777217).1 + (fillCounts .center false 16777217).2 = 16777216 := by decide +kernel

/-- with requests/C15-fix-2.diff applied (`exactCenter = true`) the halves always add up -/
theorem center_exact_sum (a : Align) (b : Bool) (n : Nat) :
    (fillCounts a b n true).1 + (fillCounts a b n true).2 = n := fillCounts_sum a b n true (.inl rfl)

/-- **width_at_least**: a formatted field has at least the requested number of grapheme clusters —
under the stated hypotheses: the cluster count is additive over the concatenated pieces (excluded:
F-C15-4), the fill is at least one cluster, and a centred field misses fewer than 2^24 (excluded: F-C15-2) -/
theorem width_at_least (g : Bytes → Nat) (v : FVal) (o : Opts) (w : Nat) (hw : o.minWidth = some w)
    (hc : o.align ≠ .center ∨ w - cnt g (render g v (some o)) < 16777216)
    (hfill : 1 ≤ cnt g (o.fill.getD [32]))
    (hadd : ∀ l r, cnt g (rep_ l (o.fill.getD [32]) ++ render g v (some o) ++ rep_ r (o.fill.getD [32]))
                    = l * cnt g (o.fill.getD [32]) + cnt g (render g v (some o)) + r * cnt g (o.fill.getD [32])) :
    w ≤ cnt g (applyFmt g v (some o)) :=
  pad_width g (isNumber v) (render g v (some o)) o w hw hc hfill hadd

example : applyFmt gFirstChar (.str [0xC3, 0xA9]) (some { align := .center, minWidth := some 4, fill := some [42] })
    = [42, 0xC3, 0xA9, 42, 42] := by decide +kernel

/-- a toy segmentation in which U+0301 (CC 81) joins the preceding character -/
def gToy : Bytes → Nat
  | 0xCC :: 0x81 :: _ => 2
  | _ :: 0xCC :: 0x81 :: _ => 3
  | [] => 0
  | _ :: _ => 1

/-- **width_merge_witness** (negation, F-C15-4): a value that starts with a combining mark, right-aligned
to width 3 with `*`, has only 2 clusters: the last fill character and the mark merge -/
theorem width_merge_witness :
    cnt gToy (applyFmt gToy (.str [0xCC, 0x81]) (some { align := .right, minWidth := some 3, fill := some [42] })) = 2 := by
  decide +kernel

theorem width_no_padding (g : Bytes → Nat) (v : FVal) (o : Opts)
    (h : o.minWidth.getD 0 ≤ cnt g (render g v (some o))) : applyFmt g v (some o) = render g v (some o) :=
  pad_wide g (isNumber v) _ o h

/-- **fmtspec_roundtrip** on a grid of 660 option values (all alignments × fills none/`*`/`0`/`é` ×
widths none/0/5/12 × precisions none/0/2 × representations none/`?`/`x`/`E`, minus the values that have
no text form): the canonical text re-parses to the same options.
PARTIAL: proved by evaluation on the grid, not for all option values (the general statement needs
"parsing the decimal digits of n gives n" for all n). -/
theorem fmtspec_roundtrip_grid_partial :
    ∀ o ∈ gridOpts, okOpts (parse gFirstChar (renderOpts o)) = some o := by decide +kernel

example : gridOpts.length = 660 := by decide +kernel

/-- parse facts: the empty string is the default; fill + alignment + width + precision + representation;
the `0` flag; a representation character in front of an alignment character is a fill -/
theorem fmtspec_parse_facts :
    okOpts (parse gFirstChar []) = some {} ∧
    okOpts (parse gFirstChar [42, 94, 56, 46, 50, 63]) =
      some { align := .center, minWidth := some 8, precision := some 2, fill := some [42], rep := some .debug } ∧
    okOpts (parse gFirstChar [48, 56]) = some { minWidth := some 8, fill := some [48] } ∧
    okOpts (parse gFirstChar [101, 60, 51]) = some { align := .left, minWidth := some 3, fill := some [101] } ∧
    errOf (parse gFirstChar [42, 53]) = some (.unexpectedToken [53]) ∧
    errOf (parse gFirstChar [46, 120]) = some (.expectedNumber [120]) ∧
    errOf (parse gFirstChar [52, 50, 57, 52, 57, 54, 55, 50, 57, 54]) = some .tooLarge := by decide +kernel

/-- a quirk of the parser the model mirrors: a fill *cluster* whose first character is a representation
character (here `e` + U+0301, a decomposed "é") is not recognised as a fill -/
theorem fmtspec_cluster_fill_quirk :
    errOf (parse gToy [101, 0xCC, 0x81, 60, 53]) = some (.unexpectedToken [0xCC, 0x81]) ∧
    okOpts (parse gToy [97, 0xCC, 0x81, 60, 53]) =
      some { align := .left, minWidth := some 5, fill := some [97, 0xCC, 0x81] } := by decide +kernel

/-- with requests/C15-fix-6.diff applied (`clusterFirst`) a fill cluster followed by an alignment character
is a fill whatever its first character is (F-C15-8) -/
theorem fmtspec_cluster_fill_fixed :
    okOpts (parse gToy [101, 0xCC, 0x81, 60, 53] true) =
      some { align := .left, minWidth := some 5, fill := some [101, 0xCC, 0x81] } ∧
    okOpts (parse gToy [53, 0xCC, 0x81, 94, 55] true) =
      some { align := .center, minWidth := some 7, fill := some [53, 0xCC, 0x81] } ∧
    okOpts (parse gToy [42, 94, 56, 46, 50, 63] true) = okOpts (parse gToy [42, 94, 56, 46, 50, 63]) := by decide +kernel

/-! ## Every value kind × every representation (`renderX`) -/

def okX : Except PErr Bytes → Option Bytes
  | .ok b => some b
  | .error _ => none

def errX : Except PErr Bytes → Option PErr
  | .ok _ => none
  | .error e => some e

/-- 1234.5, 1.23456, 2.75, 255.0, 0.125, 2.5 with their shortest decimals -/
def f1234_5 : XVal := .float 0x40934A0000000000 { digits := [49, 50, 51, 52, 53], exp := 3 }
def f1_23456 : XVal := .float 0x3FF3C0C1FC8F3238 { digits := [49, 50, 51, 52, 53, 54], exp := 0 }
def f2_75 : XVal := .float 0x4006000000000000 { digits := [50, 55, 53], exp := 0 }
def f255 : XVal := .float 0x406FE00000000000 { digits := [50, 53, 53], exp := 2 }
def f0_125 : XVal := .float 0x3FC0000000000000 { digits := [49, 50, 53], exp := -1 }
def f2_5 : XVal := .float 0x4004000000000000 { digits := [50, 53], exp := 0 }

/-- without the precision repair, the value kinds of `FVal` render exactly as `render` says (the theorems about
`render` / `applyFmt` above speak about `renderX` too) -/
theorem renderX_base (g : Bytes → Nat) (v : FVal) (o : Option Opts) (cfg : FmtCfg) (h : cfg.precRepr = false) :
    renderX g (.base v) o cfg = .ok (render g v o) := by
  cases v <;> simp [renderX, h]

/-- floats: plain display, `e` and `E` (they differ in the exponent letter — seeded change C15-mut12), fixed
precision with ties to even on the exact binary value, integral floats through the radix representations -/
theorem format_float_facts :
    okX (renderX gFirstChar f1234_5 (some {})) = some [49, 50, 51, 52, 46, 53] ∧                          -- 1234.5
    okX (renderX gFirstChar f1234_5 (some { rep := some .expLower })) = some [49, 46, 50, 51, 52, 53, 101, 51] ∧  -- 1.2345e3
    okX (renderX gFirstChar f1234_5 (some { rep := some .expUpper })) = some [49, 46, 50, 51, 52, 53, 69, 51] ∧   -- 1.2345E3
    okX (renderX gFirstChar f255 (some {})) = some [50, 53, 53, 46, 48] ∧                                 -- 255.0
    okX (renderX gFirstChar f0_125 (some { precision := some 2 })) = some [48, 46, 49, 50] ∧              -- 0.12
    okX (renderX gFirstChar f2_5 (some { precision := some 0 })) = some [50] ∧                            -- 2
    okX (renderX gFirstChar f255 (some { rep := some .hexLower })) = some [102, 102] ∧                    -- ff
    okX (renderX gFirstChar f1234_5 (some { rep := some .debug })) = some [49, 50, 51, 52, 46, 53] := by decide +kernel

/-- **precision_repr_witness** (F-C15-15): a precision given with `e` / `?` is dropped; with
requests/C15-fix-13.diff applied it is honoured (exact value, ties to even, exponent bumped when the
mantissa rounds up to 10) -/
theorem precision_repr_witness :
    okX (renderX gFirstChar f1_23456 (some { precision := some 2, rep := some .expLower }))
      = some [49, 46, 50, 51, 52, 53, 54, 101, 48] ∧                                                       -- 1.23456e0
    okX (renderX gFirstChar f1_23456 (some { precision := some 2, rep := some .expLower }) { precRepr := true })
      = some [49, 46, 50, 51, 101, 48] ∧                                                                   -- 1.23e0
    okX (renderX gFirstChar f1_23456 (some { precision := some 2, rep := some .debug }) { precRepr := true })
      = some [49, 46, 50, 51] ∧                                                                            -- 1.23
    okX (renderX gFirstChar (.base (.int 1250)) (some { precision := some 1, rep := some .expLower }))
      = some [49, 46, 50, 53, 101, 51] ∧                                                                   -- 1.25e3
    okX (renderX gFirstChar (.base (.int 1250)) (some { precision := some 1, rep := some .expLower }) { precRepr := true })
      = some [49, 46, 50, 101, 51] ∧                                                                       -- 1.2e3
    okX (renderX gFirstChar (.base (.int 995)) (some { precision := some 1, rep := some .expUpper }) { precRepr := true })
      = some [49, 46, 48, 69, 51] := by decide +kernel                                                             -- 1.0E3

/-- **radix_float_witness** (F-C15-16): `x` on 2.75 prints `2`; with requests/C15-fix-14.diff applied it is a
runtime error, while a float that is an integer value keeps working -/
theorem radix_float_witness :
    okX (renderX gFirstChar f2_75 (some { rep := some .hexLower })) = some [50] ∧
    errX (renderX gFirstChar f2_75 (some { rep := some .hexLower }) { radixStrict := true }) = some .reprNotInteger ∧
    okX (renderX gFirstChar f255 (some { rep := some .hexUpper }) { radixStrict := true }) = some [70, 70] := by decide +kernel

/-- containers and objects: strings are quoted inside containers, `?` reaches the elements (`@debug`), the
integer-only representations leave other kinds alone, precision cuts by grapheme clusters -/
theorem format_container_facts :
    okX (renderX gFirstChar (.tuple [.int 1, .str [97], .null]) (some {}))
      = some [40, 49, 44, 32, 39, 97, 39, 44, 32, 110, 117, 108, 108, 41] ∧                                -- (1, 'a', null)
    okX (renderX gFirstChar (.map [([97], .int 1)]) (some { rep := some .hexLower })) = some [123, 97, 58, 32, 49, 125] ∧  -- {a: 1}
    okX (renderX gFirstChar (.tuple [.obj [79] [68], .int 5]) (some { rep := some .debug })) = some [40, 68, 44, 32, 53, 41] ∧  -- (D, 5)
    okX (renderX gFirstChar (.obj [79, 66, 74] [68]) (some { precision := some 2 })) = some [79, 66] ∧     -- OB
    okX (renderX gFirstChar (.list []) (some {})) = some [91, 93] := by decide +kernel

/-! ## to_number -/

/-- **to_number is exact on rendered integers**: the decimal text of every `i64` (what `'{n}'` produces)
parses back to the same integer -/
theorem to_number_exact {n : Int} (hlo : i64min ≤ n) (hhi : n ≤ i64max) :
    toNumberB (FmtSpec.showInt n) = .int n := toNumberB_showInt hlo hhi

/-- tag of a numeric result: `(1, n)` integer, `(2, 0)` null, `(3, 0)` float, `(4, 0)` error -/
def numTag : Res → Nat × Int
  | .int n => (1, n)
  | .null => (2, 0)
  | .float => (3, 0)
  | .err _ => (4, 0)
  | _ => (0, 0)

/-- prefixes, signs, overflow and the float fall-back, as the code does them -/
theorem to_number_facts :
    numTag (toNumberB [48, 120, 45, 102, 102]) = (1, -255) ∧                     -- "0x-ff"
    numTag (toNumberB [43, 53]) = (1, 5) ∧                                       -- "+5"
    numTag (toNumberB [48, 120]) = (2, 0) ∧                                      -- "0x"
    numTag (toNumberB [105, 110, 102]) = (3, 0) ∧                                -- "inf"
    numTag (toNumberB [49, 101, 53]) = (3, 0) ∧                                  -- "1e5"
    numTag (toNumberB [32, 53]) = (2, 0) ∧                                       -- " 5"
    numTag (toNumberB (FmtSpec.showDec 9223372036854775808)) = (3, 0) ∧          -- i64::MAX + 1
    numTag (toNumberBaseB [122, 122] 36) = (1, 1295) ∧                           -- "zz" base 36
    numTag (toNumberBaseB [49] 37) = (4, 0) := by decide +kernel

/-- **zero_flag_sign_witness** (F-C15-14): the `0` flag puts the zeroes in front of the sign — `'{-5:03}'` is
`0-5`, which is not a number any more; with requests/C15-fix-12.diff applied it is `-05`; an explicit `0>` fill
is not the flag -/
theorem zero_flag_sign_witness :
    applyFmt gFirstChar (.int (-5)) (some { minWidth := some 3, fill := some [48] }) = [48, 45, 53] ∧
    numTag (toNumberB [48, 45, 53]) = (2, 0) ∧
    applyFmtSign gFirstChar (.int (-5)) (some { minWidth := some 3, fill := some [48] }) = [45, 48, 53] ∧
    numTag (toNumberB [45, 48, 53]) = (1, -5) ∧
    applyFmtSign gFirstChar (.int (-5)) (some { align := .right, minWidth := some 4, fill := some [48] })
      = [48, 48, 45, 53] := by decide +kernel

/-- **zero_flag_exact**: with the sign-aware `0` flag, `'{n:0w}'.to_number() = n` for every `i64`, every width
and every segmentation oracle -/
theorem zero_flag_exact (g : Bytes → Nat) {n : Int} (hlo : i64min ≤ n) (hhi : n ≤ i64max) (w : Nat) (c : Bool) :
    toNumberB (applyFmtSign g (.int n) (some { minWidth := some w, fill := some [48] }) c) = .int n := by
  have hrender : render g (.int n) (some { minWidth := some w, fill := some [48] }) = showInt n := by
    simp [render]
  by_cases hneg : n < 0
  · have hsi : showInt n = 45 :: showDec n.natAbs := if_pos hneg
    obtain ⟨k, hk⟩ := pad_zero_form g (showDec n.natAbs) (some (w - 1)) c
    have happ : applyFmtSign g (.int n) (some { minWidth := some w, fill := some [48] }) c
        = 45 :: (List.replicate k 48 ++ showDec n.natAbs) := by
      simp only [applyFmtSign, hrender, hsi, isNumber, List.head?_cons, List.drop_succ_cons, List.drop_zero,
        Option.map_some, and_self, if_true]
      rw [← hk]
    have := toNumberB_padded hlo hhi k
    rwa [if_pos hneg, List.singleton_append, ← happ] at this
  · have hsi : showInt n = showDec n.natAbs := by
      rw [showInt, if_neg hneg]; congr 1; omega
    obtain ⟨k, hk⟩ := pad_zero_form g (showDec n.natAbs) (some w) c
    have hhead : (showDec n.natAbs).head? ≠ some 45 := by
      intro h
      have := showDec_digits _ 45 (List.mem_of_mem_head? h)
      omega
    have happ : applyFmtSign g (.int n) (some { minWidth := some w, fill := some [48] }) c
        = List.replicate k 48 ++ showDec n.natAbs := by
      simp only [applyFmtSign, hrender, hsi, isNumber, hhead, and_false, if_false]
      exact hk
    have := toNumberB_padded hlo hhi k
    rwa [if_neg hneg, List.nil_append, ← happ] at this

/-! ## Escape codes -/

def okBytes : Except String Bytes → Option Bytes
  | .ok b => some b
  | .error _ => none

def errName : Except String Bytes → Option String
  | .ok _ => none
  | .error e => some e

/-- **escape (simple arms)**: for every row of the table generated from `escape_string_character`, the
escape produces exactly the tabulated character and consumes exactly one character -/
theorem escape_simple (U : UFacts) (checked : EscCfg) (cs : List Bytes) :
    ∀ r ∈ KotoVerif.Gen.simpleEscapeTable, escapeOne U checked ([r.1] :: cs) = .ok ([r.2], cs) := by
  intro r hr
  have h : KotoVerif.Gen.simpleEscape r.1 = some r.2 := by
    revert r; decide
  simp [escapeOne, ascii?, h]

/-- the generated table is exactly the table of the language guide ("String Escape Codes"):
`\\n` newline, `\\r` carriage return, `\\t` tab, `\\'`, `\\"`, `\\\\`, `\\{` — and nothing else -/
theorem escape_table_documented :
    KotoVerif.Gen.simpleEscape 110 = some 10 ∧ KotoVerif.Gen.simpleEscape 114 = some 13 ∧
    KotoVerif.Gen.simpleEscape 116 = some 9 ∧ KotoVerif.Gen.simpleEscape 39 = some 39 ∧
    KotoVerif.Gen.simpleEscape 34 = some 34 ∧ KotoVerif.Gen.simpleEscape 92 = some 92 ∧
    KotoVerif.Gen.simpleEscape 123 = some 123 ∧ KotoVerif.Gen.simpleEscapeTable.length = 7 := by decide +kernel

/-- the table is a function both ways: no two escapes produce the same character -/
theorem escape_table_injective :
    ∀ r ∈ KotoVerif.Gen.simpleEscapeTable, ∀ r' ∈ KotoVerif.Gen.simpleEscapeTable,
      (r.1 = r'.1 ∨ r.2 = r'.2) → r = r' := by decide +kernel

theorem escape_numeric_facts :
    okBytes (unescape UFacts.trivial [92, 117, 123, 52, 49, 125]) = some [0x41] ∧                     -- \u{41}
    okBytes (unescape UFacts.trivial [92, 117, 123, 49, 48, 102, 102, 102, 102, 125]) = some [0xF4, 0x8F, 0xBF, 0xBF] ∧  -- \u{10ffff}
    errName (unescape UFacts.trivial [92, 117, 123, 100, 56, 48, 48, 125]) = some "UnicodeEscapeCodeOutOfRange" ∧     -- \u{d800}
    errName (unescape UFacts.trivial [92, 117, 123, 49, 49, 48, 48, 48, 48, 125]) = some "UnicodeEscapeCodeOutOfRange" ∧ -- \u{110000}
    okBytes (unescape UFacts.trivial [92, 120, 55, 102]) = some [0x7F] ∧                                 -- \x7f
    errName (unescape UFacts.trivial [92, 120, 56, 48]) = some "AsciiEscapeCodeOutOfRange" ∧             -- \x80
    okBytes (unescape UFacts.trivial [0x61, 92, 10, 32, 32, 0x62]) = some [0x61, 0x62] := by decide +kernel     -- line continuation

/-- **escape_u_overflow_witness** (F-C15-3): nine hex digits overflow the `u32` accumulator — the model
reports the overflow (a panic with overflow checks; without them the code wraps to U+0041) -/
theorem escape_u_overflow_witness :
    errName (unescape UFacts.trivial [92, 117, 123, 49, 48, 48, 48, 48, 48, 48, 52, 49, 125]) = some "PANIC:overflow" := by
  decide +kernel

/-- with requests/C15-fix-3.diff applied (`overflow := true`) the overflow is the out-of-range error -/
theorem escape_u_overflow_fixed :
    errName (unescape UFacts.trivial [92, 117, 123, 49, 48, 48, 48, 48, 48, 48, 52, 49, 125] { overflow := true })
      = some "UnicodeEscapeCodeOutOfRange" := by decide +kernel

/-- **escape_digit_count_witness** (F-C15-13): `\\u{}` is accepted as U+0000 and seven digits are accepted;
with requests/C15-fix-11.diff applied one to six digits are required -/
theorem escape_digit_count_witness :
    okBytes (unescape UFacts.trivial [92, 117, 123, 125]) = some [0] ∧
    errName (unescape UFacts.trivial [92, 117, 123, 125] { digits := true }) = some "UnexpectedCharInNumericEscapeCode" ∧
    okBytes (unescape UFacts.trivial [92, 117, 123, 48, 48, 48, 48, 48, 52, 49, 125]) = some [0x41] ∧
    errName (unescape UFacts.trivial [92, 117, 123, 48, 48, 48, 48, 48, 52, 49, 125] { digits := true })
      = some "UnicodeEscapeCodeOutOfRange" ∧
    okBytes (unescape UFacts.trivial [92, 117, 123, 48, 48, 48, 48, 52, 49, 125] { digits := true }) = some [0x41] := by
  decide +kernel

/-- `\\u{…}`: the encoding of every scalar value is well-formed UTF-8 -/
theorem escape_encode_valid {cp : Nat} (h : isScalar cp = true) : validUtf8 (utf8Enc cp) = true :=
  utf8Enc_valid h

example : isScalar 0x1F44B = true ∧ utf8Enc 0x1F44B = [0xF0, 0x9F, 0x91, 0x8B] := by decide +kernel

end KotoVerif.C15
