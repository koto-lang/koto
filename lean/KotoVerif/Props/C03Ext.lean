/-
C03 — the unpacking model as `Drivers/C03.lean` runs it (`ma`, `mt`, `for` requests): `Unpack.multiAssign`,
`multiAssignTemp`, `forSteps`, `forUnpack`, `elems`, `splitChars`, and the final register value of
`Unpack.assign` (`C03.tgtWrites_spec` is about membership in the write list only).
-/
import KotoVerif.Model.Match
import KotoVerif.Model.Unpack
import KotoVerif.Props.C03

namespace KotoVerif.C03Ext
open KotoVerif KotoVerif.Match KotoVerif.Unpack

/-! ## `assign`: frame and exact value per target -/

theorem assign_frame (ts : List Tgt) (vs : List Val) (ρ : Env) (y : Name) (h : y ∉ tgtNames ts) :
    assign ts vs ρ y = ρ y := by
  rw [C03.assign_spec]
  exact apply_frame ρ _ y (by rwa [C03.tgtWrites_names])

example : (3 : Name) ∉ tgtNames [.id 0, .wild, .id 1] := by simp [tgtNames]

/-- element-wise binding, Null when the stream is shorter; the second hypothesis: a later target of
the same name would overwrite it -/
theorem assign_get : ∀ (ts : List Tgt) (vs : List Val) (ρ : Env) (i : Nat) (x : Name),
    ts[i]? = some (.id x) → x ∉ tgtNames (ts.drop (i + 1)) →
    assign ts vs ρ x = vs[i]?.getD .null
  | [], _, _, _, _, h, _ => by simp at h
  | t :: ts, vs, ρ, 0, x, h, hn => by
    obtain rfl : t = .id x := by simpa using h
    rw [C03.assign_id, assign_frame ts _ _ x (by simpa using hn), List.head?_eq_getElem?]
    simp [Env.set]
  | t :: ts, vs, ρ, i + 1, x, h, hn => by
    have ih := fun ρ' => assign_get ts vs.tail ρ' i x (by simpa using h) (by simpa using hn)
    rw [List.getElem?_tail] at ih
    cases t with
    | id z => rw [C03.assign_id, ih]
    | wild => rw [C03.assign_wild, ih]

example : ([Tgt.id 0, .wild, .id 1])[2]? = some (.id 1) ∧
    (1 : Name) ∉ tgtNames (([Tgt.id 0, .wild, .id 1]).drop 3) := by simp [tgtNames]

/-- the same in terms of the declarative `unpack` -/
theorem assign_get_unpack (ts : List Tgt) (vs : List Val) (ρ : Env) (i : Nat) (x : Name)
    (h : ts[i]? = some (.id x)) (hn : x ∉ tgtNames (ts.drop (i + 1))) :
    some (assign ts vs ρ x) = (unpack ts.length vs)[i]? := by
  have hi : i < ts.length := (List.getElem?_eq_some_iff.1 h).1
  have hl : i < (unpack ts.length vs).length := by rw [C03.unpack_length]; exact hi
  rw [assign_get ts vs ρ i x h hn, List.getElem?_eq_getElem hl, C03.unpack_get _ _ _ hi]

theorem assign_ignores_extras : ∀ (ts : List Tgt) (vs : List Val) (ρ : Env),
    assign ts vs ρ = assign ts (vs.take ts.length) ρ
  | [], _, _ => rfl
  | .id x :: ts, vs, ρ => by
    rw [C03.assign_id, C03.assign_id, assign_ignores_extras ts]; cases vs <;> simp
  | .wild :: ts, vs, ρ => by
    rw [C03.assign_wild, C03.assign_wild, assign_ignores_extras ts]; cases vs <;> simp

theorem assign_pad_null : ∀ (ts : List Tgt) (vs : List Val) (k : Nat) (ρ : Env),
    assign ts (vs ++ List.replicate k .null) ρ = assign ts vs ρ
  | [], _, _, _ => rfl
  | .id x :: ts, [], 0, ρ => rfl
  | .id x :: ts, [], k + 1, ρ => assign_pad_null ts [] k (ρ.set x .null)
  | .id x :: ts, v :: vs, k, ρ => assign_pad_null ts vs k (ρ.set x v)
  | .wild :: ts, [], 0, ρ => rfl
  | .wild :: ts, [], k + 1, ρ => assign_pad_null ts [] k ρ
  | .wild :: ts, _ :: vs, k, ρ => assign_pad_null ts vs k ρ

/-- multi-assignment is determined by the declarative `unpack` of the stream -/
theorem assign_unpack (ts : List Tgt) (vs : List Val) (ρ : Env) :
    assign ts vs ρ = assign ts (unpack ts.length vs) ρ := by
  rw [C03.unpack_spec, assign_pad_null, ← assign_ignores_extras]

/-- `a, b = x, y` (temporary tuple, `TempIndex`) and `a, b = (x, y)` (iterator, `IterUnpack`)
write the same registers and have the same value -/
theorem multiAssignTemp_eq_multiAssign (ts : List Tgt) (vs : List Val) (ρ : Env) :
    multiAssign ts (.tuple vs) ρ = some (multiAssignTemp ts vs ρ) := by
  simp [multiAssign, multiAssignTemp, elems, C03.assignIdx_spec]

/-- the value of a multi-assignment is the right-hand side itself -/
theorem multiAssign_value (ts : List Tgt) (rhs : Val) (ρ ρ' : Env) (r : Val)
    (h : multiAssign ts rhs ρ = some (ρ', r)) : r = rhs := by
  unfold multiAssign at h
  cases he : elems rhs with
  | none => simp [he] at h
  | some xs => simp [he] at h; exact h.2.symm

example : multiAssign [.id 0] (.tuple [.null]) (fun _ => .null) =
    some (assign [.id 0] [.null] (fun _ => .null), .tuple [.null]) := by simp [multiAssign, elems]

/-- a multi-assignment raises (`elems rhs = none`) exactly when the right-hand side is a range without
both bounds -/
theorem elems_none_iff (v : Val) :
    elems v = none ↔ ∃ a b, v = .range a b ∧ (a = none ∨ b = none) := by
  constructor
  · intro h
    cases v with
    | range a b =>
      cases a with
      | none => exact ⟨none, b, rfl, .inl rfl⟩
      | some a =>
        cases b with
        | none => exact ⟨some a, none, rfl, .inr rfl⟩
        | some b => cases h
    | _ => cases h
  · rintro ⟨a, b, rfl, rfl | rfl⟩
    · rfl
    · cases a <;> rfl

/-- lists and tuples unpack alike -/
theorem multiAssign_list_tuple (ts : List Tgt) (xs : List Val) (ρ : Env) :
    (multiAssign ts (.list xs) ρ).map Prod.fst = (multiAssign ts (.tuple xs) ρ).map Prod.fst := by
  simp [multiAssign, elems]

/-! ## `for` loops -/

/-- what one iteration does to the registers (`none` = the element cannot be iterated): a single
argument receives the element itself, `_` nothing, several arguments unpack the element -/
def bodyEnv (ts : List Tgt) (e : Val) (ρ : Env) : Option Env :=
  match ts with
  | [.id x] => some (ρ.set x e)
  | [.wild] => some ρ
  | _ => (elems e).map (fun xs => assign ts xs ρ)

/-- the loop is the iteration of `bodyEnv`, recording the registers at every body entry -/
theorem forSteps_cons (ts : List Tgt) (e : Val) (es : List Val) (ρ : Env) :
    forSteps ts (e :: es) ρ =
      (bodyEnv ts e ρ).bind (fun ρ1 => (forSteps ts es ρ1).map (fun r => (ρ1 :: r.1, r.2))) := by
  match ts with
  | [] => simp only [forSteps, bodyEnv]; cases elems e <;> rfl
  | [.id x] => rfl
  | [.wild] => rfl
  | t :: t' :: ts => simp only [forSteps, bodyEnv]; cases elems e <;> rfl

theorem bodyEnv_multi (ts : List Tgt) (e : Val) (ρ : Env) (h : 2 ≤ ts.length) :
    bodyEnv ts e ρ = (elems e).map (fun xs => assign ts xs ρ) := by
  match ts, h with
  | t :: t' :: ts, _ => simp [bodyEnv]

theorem forSteps_cons_some {ts : List Tgt} {e : Val} {es : List Val} {ρ ρ' : Env} {steps : List Env}
    (h : forSteps ts (e :: es) ρ = some (steps, ρ')) :
    ∃ ρ1 steps', bodyEnv ts e ρ = some ρ1 ∧ forSteps ts es ρ1 = some (steps', ρ') ∧ steps = ρ1 :: steps' := by
  rw [forSteps_cons] at h
  cases hb : bodyEnv ts e ρ with
  | none => simp [hb] at h
  | some ρ1 =>
    simp only [hb, Option.bind_some, Option.map_eq_some_iff, Prod.mk.injEq] at h
    obtain ⟨⟨steps', ρ''⟩, h1, rfl, rfl⟩ := h
    exact ⟨ρ1, steps', rfl, h1, rfl⟩

theorem forSteps_append (ts : List Tgt) : ∀ (es fs : List Val) (ρ : Env),
    forSteps ts (es ++ fs) ρ =
      (forSteps ts es ρ).bind (fun r1 => (forSteps ts fs r1.2).map (fun r2 => (r1.1 ++ r2.1, r2.2)))
  | [], fs, ρ => by simp [forSteps]
  | e :: es, fs, ρ => by
    simp only [List.cons_append, forSteps_cons]
    cases bodyEnv ts e ρ with
    | none => simp
    | some ρ1 =>
      simp only [Option.bind_some]
      rw [forSteps_append ts es fs ρ1]
      cases forSteps ts es ρ1 with
      | none => simp
      | some r => simp; cases forSteps ts fs r.2 <;> simp

/-- the body is entered exactly once per element of the iterable -/
theorem forSteps_length (ts : List Tgt) : ∀ (es : List Val) (ρ ρ' : Env) (steps : List Env),
    forSteps ts es ρ = some (steps, ρ') → steps.length = es.length
  | [], ρ, ρ', steps, h => by simp [forSteps] at h; simp [h.1]
  | e :: es, ρ, ρ', steps, h => by
    obtain ⟨ρ1, steps', _, h1, rfl⟩ := forSteps_cons_some h
    simp [forSteps_length ts es _ _ _ h1]

theorem forSteps_step (ts : List Tgt) : ∀ (es : List Val) (ρ ρ' : Env) (steps : List Env),
    forSteps ts es ρ = some (steps, ρ') → ∀ (i : Nat) (σ : Env), steps[i]? = some σ →
      ∃ e ρ0, es[i]? = some e ∧ bodyEnv ts e ρ0 = some σ
  | [], ρ, ρ', steps, h, i, σ, hs => by simp [forSteps] at h; obtain ⟨rfl, rfl⟩ := h; simp at hs
  | e :: es, ρ, ρ', steps, h, i, σ, hs => by
    obtain ⟨ρ1, steps', hb, h1, rfl⟩ := forSteps_cons_some h
    cases i with
    | zero => obtain rfl : ρ1 = σ := by simpa using hs
              exact ⟨e, ρ, rfl, hb⟩
    | succ i => exact forSteps_step ts es _ _ _ h1 i σ (by simpa using hs)

/-- `for x in it`: at the `i`-th body entry `x` holds the `i`-th element -/
theorem for_single_binds (x : Name) (es : List Val) (ρ ρ' : Env) (steps : List Env)
    (h : forSteps [.id x] es ρ = some (steps, ρ')) (i : Nat) (σ : Env) (hs : steps[i]? = some σ) :
    es[i]? = some (σ x) := by
  obtain ⟨e, ρ0, he, hb⟩ := forSteps_step _ es ρ ρ' steps h i σ hs
  simp [bodyEnv] at hb; subst hb; simp [he, Env.set]

/-- `for a, b, … in it`: at the `i`-th body entry the `j`-th argument holds the `j`-th element of
the unpacked `i`-th element (Null when it is shorter; extras ignored) -/
theorem for_multi_binds (ts : List Tgt) (hts : 2 ≤ ts.length) (es : List Val) (ρ ρ' : Env)
    (steps : List Env) (h : forSteps ts es ρ = some (steps, ρ')) (i : Nat) (σ : Env)
    (hs : steps[i]? = some σ) (j : Nat) (y : Name) (hj : ts[j]? = some (.id y))
    (hn : y ∉ tgtNames (ts.drop (j + 1))) :
    ∃ e xs, es[i]? = some e ∧ elems e = some xs ∧ σ y = xs[j]?.getD .null := by
  obtain ⟨e, ρ0, he, hb⟩ := forSteps_step _ es ρ ρ' steps h i σ hs
  rw [bodyEnv_multi ts e ρ0 hts] at hb
  cases hx : elems e with
  | none => simp [hx] at hb
  | some xs =>
    simp [hx] at hb; subst hb
    exact ⟨e, xs, he, hx, assign_get ts xs ρ0 j y hj hn⟩

example : ∃ steps ρ', forSteps [.id 0, .id 1] [.tuple [.null]] (fun _ => .bool true) = some (steps, ρ') ∧
    steps.length = 1 := by
  simp [forSteps, elems]

/-- after the loop the registers are those of the last body entry (several arguments "keep their
last values"); an empty iterable leaves them as they were -/
theorem forSteps_final (ts : List Tgt) : ∀ (es : List Val) (ρ ρ' : Env) (steps : List Env),
    forSteps ts es ρ = some (steps, ρ') → ρ' = steps.getLast?.getD ρ
  | [], ρ, ρ', steps, h => by simp [forSteps] at h; obtain ⟨rfl, rfl⟩ := h; simp
  | e :: es, ρ, ρ', steps, h => by
    obtain ⟨ρ1, steps', _, h1, rfl⟩ := forSteps_cons_some h
    rw [forSteps_final ts es _ _ _ h1]
    cases steps' <;> simp [List.getLast?_cons]

theorem bodyEnv_frame (ts : List Tgt) (y : Name) (hy : y ∉ tgtNames ts) (e : Val) (ρ ρ1 : Env)
    (h : bodyEnv ts e ρ = some ρ1) : ρ1 y = ρ y := by
  unfold bodyEnv at h
  split at h
  · rename_i x
    have hx : y ≠ x := by simpa [tgtNames] using hy
    simp at h; subst h; simp [Env.set, hx]
  · simp at h; subst h; rfl
  · cases he : elems e with
    | none => simp [he] at h
    | some xs => simp [he] at h; subst h; exact assign_frame ts xs ρ y hy

theorem forSteps_frame (ts : List Tgt) (y : Name) (hy : y ∉ tgtNames ts) :
    ∀ (es : List Val) (ρ ρ' : Env) (steps : List Env),
    forSteps ts es ρ = some (steps, ρ') → ρ' y = ρ y ∧ ∀ σ ∈ steps, σ y = ρ y
  | [], ρ, ρ', steps, h => by simp [forSteps] at h; obtain ⟨rfl, rfl⟩ := h; simp
  | e :: es, ρ, ρ', steps, h => by
    obtain ⟨ρ1, steps', hb, h1, rfl⟩ := forSteps_cons_some h
    have e0 := bodyEnv_frame ts y hy e ρ ρ1 hb
    have ih := forSteps_frame ts y hy es _ _ _ h1
    rw [e0] at ih
    exact ⟨ih.1, List.forall_mem_cons.2 ⟨e0, ih.2⟩⟩

example : (5 : Name) ∉ tgtNames [.id 0, .wild] := by simp [tgtNames]

/-- a loop with one argument never unpacks its elements, so it cannot fail on them -/
theorem forSteps_single_total (t : Tgt) (es : List Val) (ρ : Env) :
    (forSteps [t] es ρ).isSome = true := by
  induction es generalizing ρ with
  | nil => simp [forSteps]
  | cons e es ih =>
    rw [forSteps_cons]
    cases t with
    | id x => simp [bodyEnv]; exact ih _
    | wild => simp [bodyEnv]; exact ih _

/-- a loop with several arguments raises exactly when some element cannot be iterated -/
theorem forSteps_none_iff (ts : List Tgt) (hts : 2 ≤ ts.length) : ∀ (es : List Val) (ρ : Env),
    forSteps ts es ρ = none ↔ ∃ e ∈ es, elems e = none
  | [], ρ => by simp [forSteps]
  | e :: es, ρ => by
    rw [forSteps_cons, bodyEnv_multi ts e ρ hts]
    cases he : elems e with
    | none => simp [he]
    | some xs => simp [he, forSteps_none_iff ts hts es]

/-! ## strings: the characters unpacking yields (`splitChars`) and the byte view of `match` -/

/-- round trip: concatenating the characters gives back the bytes -/
theorem splitChars_flatten : ∀ (bs cur : List Nat),
    (splitChars bs cur).flatten = cur.reverse ++ bs
  | [], cur => by
    unfold splitChars; cases cur <;> simp
  | b :: bs, cur => by
    unfold splitChars
    split
    · rw [splitChars_flatten bs (b :: cur)]; simp
    · rw [List.flatten_append, splitChars_flatten bs [b]]
      cases cur <;> simp

theorem splitChars_nonempty : ∀ (bs cur : List Nat) (c : List Nat),
    c ∈ splitChars bs cur → c ≠ []
  | [], cur, c, h => by
    unfold splitChars at h; cases cur <;> simp at h
    subst h; simp
  | b :: bs, cur, c, h => by
    unfold splitChars at h
    split at h
    · exact splitChars_nonempty bs (b :: cur) c h
    · rw [List.mem_append] at h
      rcases h with h | h
      · cases cur <;> simp at h
        subst h; simp
      · exact splitChars_nonempty bs [b] c h

/-- on ASCII (more generally: no continuation byte) every byte is its own character, so the byte
view used by `match` and the character view used by unpacking coincide; `cur` is the character being
collected -/
theorem splitChars_noCont : ∀ (bs : List Nat), noCont bs = true → ∀ (cur : List Nat),
    splitChars bs cur = (if cur.isEmpty then [] else [cur.reverse]) ++ bs.map (fun b => [b])
  | [], _, cur => by simp [splitChars]
  | b :: bs, h, cur => by
    simp only [noCont, List.all_cons, Bool.and_eq_true, Bool.not_eq_true'] at h
    rw [splitChars, if_neg (by simp [h.1]), splitChars_noCont bs h.2 [b]]
    rfl

example : ∀ b ∈ [104, 105], isCont b = false := by decide

theorem strBounds_single (bs : List Nat) (h : noCont bs = true) (i : Nat) (hi : i < bs.length) :
    strBounds bs i (i + 1) = .str [bs[i]] := by
  rw [strBounds_ok bs i (i + 1) h (by omega) hi, List.drop_eq_getElem_cons hi, Nat.add_sub_cancel_left]
  rfl

/-- on a string without multi-byte characters the element list `match` destructures (byte view,
`Match.view`) is the element list unpacking iterates (`Unpack.elems`, characters): the universal
form of `ascii_string_view_witness`; F-C03-10 is confined to the complement -/
theorem str_view_eq_elems (bs : List Nat) (h : noCont bs = true) :
    (view (.str bs)).map Prod.fst = elems (.str bs) := by
  simp only [view, h, elems, splitChars_noCont bs h [], if_true, Option.map_some]
  congr 1
  apply List.ext_getElem
  · simp
  · intro i h1 h2
    have hi : i < bs.length := by simpa using h1
    simp [strBounds_single bs h i hi]

example : noCont [104, 105] = true := by decide

/-! ## `forUnpack` (what the driver's `for` request runs) -/

/-- a `for` loop is `forSteps` over the iterable's elements; afterwards a single named argument is
set to Null, nothing else is touched -/
theorem forUnpack_spec (ts : List Tgt) (it : Val) (ρ ρ' : Env) (steps : List Env) :
    forUnpack ts it ρ = some (steps, ρ') →
    ∃ es ρl, elems it = some es ∧ forSteps ts es ρ = some (steps, ρl) ∧
      ρ' = match ts with | [.id x] => ρl.set x .null | _ => ρl := by
  intro h
  unfold forUnpack at h
  cases he : elems it with
  | none => simp [he] at h
  | some es =>
    simp only [he, Option.map_eq_some_iff] at h
    obtain ⟨⟨a, b⟩, hf, h⟩ := h
    refine ⟨es, b, rfl, ?_⟩
    split at h <;> cases h
    · exact ⟨hf, rfl⟩
    · next hne => exact ⟨hf, by split; exact absurd rfl (hne _); rfl⟩

/-- a single named argument holds Null after the loop (`IterNext` stores Null on exhaustion) -/
theorem forUnpack_single_null (x : Name) (it : Val) (ρ ρ' : Env) (steps : List Env)
    (h : forUnpack [.id x] it ρ = some (steps, ρ')) : ρ' x = .null := by
  obtain ⟨_, ρl, _, _, rfl⟩ := forUnpack_spec _ it ρ ρ' steps h
  simp [Env.set]

example : ∃ steps ρ', forUnpack [.id 0] (.tuple [.bool true]) (fun _ => .bool false) = some (steps, ρ') := by
  simp [forUnpack, forSteps, elems]

/-- a `for` loop writes only its named arguments, at every body entry and afterwards -/
theorem forUnpack_frame (ts : List Tgt) (y : Name) (hy : y ∉ tgtNames ts) (it : Val) (ρ ρ' : Env)
    (steps : List Env) (h : forUnpack ts it ρ = some (steps, ρ')) :
    ρ' y = ρ y ∧ ∀ σ ∈ steps, σ y = ρ y := by
  obtain ⟨es, ρl, _, hf, rfl⟩ := forUnpack_spec ts it ρ ρ' steps h
  have fr := forSteps_frame ts y hy es ρ ρl steps hf
  refine ⟨?_, fr.2⟩
  split
  · next x =>
    have hx : y ≠ x := by simpa [tgtNames] using hy
    simp [Env.set, hx, fr.1]
  · exact fr.1

/-- with several arguments the registers after the loop are those of the last body entry -/
theorem forUnpack_multi_keeps_last (ts : List Tgt) (hts : 2 ≤ ts.length) (it : Val) (ρ ρ' : Env)
    (steps : List Env) (h : forUnpack ts it ρ = some (steps, ρ')) :
    ρ' = steps.getLast?.getD ρ := by
  obtain ⟨es, ρl, _, hf, rfl⟩ := forUnpack_spec ts it ρ ρ' steps h
  split
  · simp at hts
  · exact forSteps_final ts es ρ _ steps hf

/-- the body of `for … in it` is entered once per element, in particular never for an empty one -/
theorem forUnpack_length (ts : List Tgt) (it : Val) (ρ ρ' : Env) (steps : List Env) (es : List Val)
    (he : elems it = some es) (h : forUnpack ts it ρ = some (steps, ρ')) :
    steps.length = es.length := by
  obtain ⟨es', ρl, he', hf, _⟩ := forUnpack_spec ts it ρ ρ' steps h
  rw [he] at he'; cases he'; exact forSteps_length ts es ρ ρl steps hf

/-- a bounded range yields `stop - start` elements (one more when inclusive, none when reversed),
the `i`-th being `start + i` -/
theorem elems_range (a e : Int64) (incl : Bool) (xs : List Val)
    (h : elems (.range (some a) (some (e, incl))) = some xs) :
    xs.length = ((if incl then e.toInt + 1 else e.toInt) - a.toInt).toNat ∧
    ∀ (i : Nat) (hi : i < xs.length), xs[i] = Val.num (.i (Int64.ofInt (a.toInt + (i : Int)))) := by
  simp only [elems, Option.some.injEq] at h
  subst h
  refine ⟨by simp, ?_⟩
  intro i hi
  simp

example : ∃ xs, elems (.range (some 1) (some (3, true))) = some xs := ⟨_, rfl⟩

/-! ## `multiAssign` (what the driver's `ma` request runs): the property's clause -/

/-- `a, b, … = rhs`: target `i` receives element `i` of the iterated right-hand side, Null when it
is missing; extras and `_` targets are ignored; nothing but the named targets is written -/
theorem multiAssign_binds (ts : List Tgt) (rhs : Val) (ρ ρ' : Env) (r : Val) (xs : List Val)
    (he : elems rhs = some xs) (h : multiAssign ts rhs ρ = some (ρ', r)) :
    (∀ (i : Nat) (x : Name), ts[i]? = some (.id x) → x ∉ tgtNames (ts.drop (i + 1)) →
        ρ' x = xs[i]?.getD .null) ∧
    (∀ y, y ∉ tgtNames ts → ρ' y = ρ y) := by
  simp [multiAssign, he] at h
  obtain ⟨rfl, _⟩ := h
  exact ⟨fun i x hi hn => assign_get ts xs ρ i x hi hn, fun y hy => assign_frame ts xs ρ y hy⟩

/-- a value that is not iterable is unpacked as a one-element stream: `a, b = 5` gives `a = 5`,
`b = null` -/
theorem multiAssign_scalar (x y : Name) (n : Num) (ρ : Env) :
    ∃ ρ', multiAssign [.id x, .id y] (.num n) ρ = some (ρ', .num n) ∧ (x ≠ y → ρ' x = .num n) ∧
      ρ' y = .null ∧ ∀ z, z ≠ x → z ≠ y → ρ' z = ρ z := by
  refine ⟨assign [.id x, .id y] [.num n] ρ, by simp [multiAssign, elems], ?_, ?_, ?_⟩
  · intro hxy; simp [assign, Env.set, hxy]
  · simp [assign, Env.set]
  · intro z hx hy; simp [assign, Env.set, hx, hy]

example : elems (.tuple [.null, .bool true]) = some [.null, .bool true] := rfl

end KotoVerif.C03Ext
