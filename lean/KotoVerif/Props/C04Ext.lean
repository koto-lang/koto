/-
C04 — extension: further theorems about the guide-level evaluator `Try.run` and the helper
definitions it uses (`accepts`, `bindKeys`, `getLocal`/`setLocal`, `callResult`, `finish`,
`thenFinally`, `insertByKey`/`sortByKey`, `runProg`), all of which the driver executes.
-/
import KotoVerif.Model.TryEval
import KotoVerif.Lemmas.C04

namespace KotoVerif.C04Ext

open KotoVerif.Try

variable (cfg : Cfg) (P : Prog)

/-! ## try / finally algebra -/

/-- A `try` with no catch block and no `finally` is transparent: it is exactly its body, for every
outcome (in particular an error passes unchanged with the raise-point state). -/
theorem try_no_handlers_transparent (n : Nat) (b : E) (σ : St) :
    run cfg P (n + 1) (.ev (.try_ b [] none)) σ = run cfg P n (.ev b) σ := by
  rw [run_try_none]
  cases n with
  | zero => rfl
  | succ n =>
    generalize run cfg P (n + 1) (.ev b) σ = r
    obtain ⟨s, σ1⟩ := r
    cases s <;> rfl

/-- A `finally` block that itself exits abruptly (error, return, break, continue, out of fuel)
replaces whatever outcome was pending — the pending error/return is dropped. -/
theorem finally_abrupt_overrides (n : Nat) (b f : E) (cs : List Catch) (σ σ1 σ2 : St) (s1 s2 : Sig)
    (h1 : run cfg P (n + 1) (.ev (.try_ b cs none)) σ = (s1, σ1)) (hs1 : s1 ≠ .oof)
    (h2 : run cfg P n (.ev f) σ1 = (s2, σ2)) (hs2 : ∀ v, s2 ≠ .ok v) :
    run cfg P (n + 1) (.ev (.try_ b cs (some f))) σ = (s2, σ2) := by
  rw [run_try_some, h1, thenFinally_eq _ hs1, h2]
  cases s2 <;> first | rfl | exact absurd rfl (hs2 _)

example : run guide {} 3 (.ev (.try_ (.fault .idx) [] (some (.ret (.lit .null))))) {} =
    (.ret .null, {}) := by decide +kernel

/-- the state after a try-with-finally is always the state in which the `finally` block ended
(unless fuel ran out before it): nothing the `finally` block did to variables, containers or the
trace is undone by the pending outcome. -/
theorem thenFinally_state (r1 : Res) (runF : St → Res) (h : r1.1 ≠ .oof) :
    (thenFinally r1 runF).2 = (runF r1.2).2 := by
  rw [thenFinally_eq runF h, finish_snd]

example : ((.err .null, ({} : St)) : Res).1 ≠ .oof := by decide +kernel

/-! ## function frames -/

/-- only `ok`, `err`, `oof` cross a frame boundary -/
def FrameSig : Sig → Prop
  | .ok _ => True
  | .err _ => True
  | .oof => True
  | _ => False

theorem callResult_class (l : List Val) (r : Res) : FrameSig (callResult l r).1 := by
  rcases r with ⟨s, σ⟩
  cases s <;> simp [callResult, FrameSig]

theorem callResult_locals (l : List Val) (r : Res) : (callResult l r).2.locals = l := by
  rcases r with ⟨s, σ⟩
  cases s <;> simp [callResult]

/-- **A call never changes the caller's variables**, whatever happens inside it (normal return,
`return`, an error raised at any depth, out of fuel, wrong argument count, unknown function). -/
theorem callF_frame_locals (n : Nat) (f : Nat) (args : List Val) (σ : St) :
    (run cfg P n (.callF f args) σ).2.locals = σ.locals := by
  cases n with
  | zero => rfl
  | succ n =>
    rw [run_succ]
    obtain ⟨d, -, h⟩ | ⟨k, h⟩ := runStep_callF P f args σ <;> rw [h]
    exact callResult_locals _ _

/-- `return`, `break`, `continue` never escape a function call: its outcome is a value, an error,
or out-of-fuel. -/
theorem callF_signal_class (n : Nat) (f : Nat) (args : List Val) (σ : St) :
    FrameSig (run cfg P n (.callF f args) σ).1 := by
  cases n with
  | zero => trivial
  | succ n =>
    rw [run_succ]
    obtain ⟨d, -, h⟩ | ⟨k, h⟩ := runStep_callF P f args σ <;> rw [h]
    · exact callResult_class _ _
    · trivial

/-- **A run ends with a value, an error carrying the thrown value, or out of fuel** — never with a
stray control signal — and with no live locals. -/
theorem runProg_signal_class (fuel : Nat) :
    FrameSig (runProg cfg P fuel).1 ∧ (runProg cfg P fuel).2.locals = [] := by
  exact ⟨callResult_class _ _, callResult_locals _ _⟩

/-- a `break`/`continue` that reaches the top level of a function or of the program is reported
as an (outside-envelope) error, not silently dropped -/
theorem stray_loop_signal_is_error (l : List Val) (s : Sig) (σ : St) (h : s = .brk ∨ s = .cont) :
    (callResult l (s, σ)).1 = .err (errK (.other 1)) := by
  rcases h with rfl | rfl <;> rfl

/-! ## catch arguments -/

/-- a type hint (not a map pattern) accepts exactly the values of that type -/
theorem accepts_hint_iff (t : Ty) (v : Val) (h : ∀ ks, t ≠ .keys ks) :
    accepts (some t) v = true ↔ v.ty = t := by
  cases t <;> simp_all [accepts]

example : ∀ ks, Ty.string ≠ .keys ks := by intro ks; simp

/-- a map pattern only ever accepts maps -/
theorem accepts_keys_only_maps (ks : List Nat) (v : Val) (h : accepts (some (.keys ks)) v = true) :
    ∃ fs, v = .mp fs := by
  cases v <;> simp_all [accepts]

example : accepts (some (.keys [0, 2])) (.mp [(2, 5), (0, 1)]) = true := by decide +kernel

/-- map patterns are monotone: a pattern asking for fewer keys accepts everything a pattern asking
for more keys accepts (so a wider pattern placed first shadows a narrower one placed later). -/
theorem accepts_keys_mono (ks ks' : List Nat) (v : Val) (hsub : ∀ k ∈ ks', k ∈ ks)
    (h : accepts (some (.keys ks)) v = true) : accepts (some (.keys ks')) v = true := by
  cases v <;> simp_all [accepts]

example : ∀ k ∈ [2], k ∈ [0, 2] := by decide +kernel

/-! ## locals and map-pattern bindings -/

/-- a map pattern leaves every local below its first binding slot untouched -/
theorem bindKeys_below (fs : List (Nat × Int)) (ks : List Nat) : ∀ (σ : St) (x y : Nat), y < x →
    getLocal (bindKeys σ x fs ks) y = getLocal σ y := by
  induction ks with
  | nil => intro σ x y _; rfl
  | cons k ks ih =>
    intro σ x y h
    simp only [bindKeys]
    rw [ih _ (x + 1) y (by omega), getLocal_setLocal]
    simp; omega

/-- **the `i`-th key of a map pattern is bound to local `x + i`** with the value the caught map has
under that key (for patterns of any length, any map). -/
theorem bindKeys_binds (fs : List (Nat × Int)) (ks : List Nat) : ∀ (σ : St) (x i : Nat) (h : i < ks.length),
    getLocal (bindKeys σ x fs ks) (x + i) =
      ((recGet fs ks[i]).map Val.int).getD Val.null := by
  induction ks with
  | nil => intro σ x i h; simp at h
  | cons k ks ih =>
    intro σ x i h
    simp only [bindKeys]
    cases i with
    | zero =>
      show getLocal _ x = _
      rw [bindKeys_below fs ks _ (x + 1) x (by omega), getLocal_setLocal, if_pos rfl]
      simp only [List.getElem_cons_zero]
      cases recGet fs k <;> rfl
    | succ i =>
      rw [show x + (i + 1) = x + 1 + i by omega, ih _ (x + 1) i (by simpa using h)]
      simp

example : getLocal (bindKeys {} 3 [(7, 40), (9, 50)] [9, 7]) 4 = .int 40 := by decide +kernel

/-! ## the native `sort` adaptor's key sort -/

theorem insertByKey_perm (k : Int) (v : Val) (l : List (Int × Val)) :
    (insertByKey k v l).Perm ((k, v) :: l) := by
  induction l with
  | nil => simp [insertByKey]
  | cons a l ih =>
    rcases a with ⟨k', v'⟩
    simp only [insertByKey]
    split
    · exact List.Perm.refl _
    · exact (List.Perm.cons _ ih).trans (List.Perm.swap _ _ _)

/-- `sortByKey` (used by the native `sort` adaptor after all key callbacks succeeded) returns a
permutation of the (key, element) pairs: no element is lost or duplicated. -/
theorem sortByKey_perm (kvs : List (Int × Val)) : (sortByKey kvs).Perm kvs := by
  suffices h : ∀ acc, (kvs.foldl (fun acc kv => insertByKey kv.1 kv.2 acc) acc).Perm (kvs.reverse ++ acc) by
    have := h []
    simp only [List.append_nil] at this
    exact this.trans (List.reverse_perm _)
  induction kvs with
  | nil => intro acc; simp
  | cons a l ih =>
    intro acc
    simp only [List.foldl_cons, List.reverse_cons, List.append_assoc, List.singleton_append]
    refine (ih _).trans ?_
    exact List.Perm.append_left _ (insertByKey_perm a.1 a.2 acc)

theorem sortByKey_length (kvs : List (Int × Val)) : (sortByKey kvs).length = kvs.length :=
  (sortByKey_perm kvs).length_eq

def KeySorted (l : List (Int × Val)) : Prop := l.Pairwise (fun a b => a.1 ≤ b.1)

theorem insertByKey_sorted (k : Int) (v : Val) (l : List (Int × Val)) (h : KeySorted l) :
    KeySorted (insertByKey k v l) := by
  induction l with
  | nil => simp [insertByKey, KeySorted]
  | cons a l ih =>
    rcases a with ⟨k', v'⟩
    simp only [KeySorted, List.pairwise_cons] at h
    simp only [insertByKey]
    split
    · rename_i hlt
      simp only [KeySorted, List.pairwise_cons]
      refine ⟨?_, h.1, h.2⟩
      intro b hb
      rcases List.mem_cons.1 hb with rfl | hb
      · simp; omega
      · have := h.1 b hb; simp at this ⊢; omega
    · rename_i hge
      simp only [KeySorted, List.pairwise_cons]
      refine ⟨?_, ih h.2⟩
      intro b hb
      have hb' := (insertByKey_perm k v l).mem_iff.1 hb
      rcases List.mem_cons.1 hb' with rfl | hb'
      · simp; omega
      · exact h.1 b hb'

theorem sortByKey_sorted (kvs : List (Int × Val)) : KeySorted (sortByKey kvs) :=
  List.foldlRecOn kvs _ List.Pairwise.nil fun acc h kv _ => insertByKey_sorted kv.1 kv.2 acc h

/-! ## monotonicity of the observable state over every run -/

/-- **Markers already printed are never retracted, containers never disappear**: whatever a task
does — including raising an error that unwinds through any number of frames, native callbacks and
generators — the trace before it is a prefix of the trace after it, and the heap only gains cells. -/
theorem run_trace_prefix (n : Nat) (t : Task) (σ : St) : σ.out <+: (run cfg P n t σ).2.out :=
  (run_grows cfg P n t σ).1

theorem run_heap_grows (n : Nat) (t : Task) (σ : St) : σ.heap.length ≤ (run cfg P n t σ).2.heap.length :=
  (run_grows cfg P n t σ).2

/-- in particular the state handed to a catch block (the raise-point state) extends the state at
the entry of the try block: every marker printed and every list created before the raise is there. -/
theorem raise_state_extends_entry (n : Nat) (b : E) (σ σ1 : St) (v : Val)
    (h : run cfg P n (.ev b) σ = (.err v, σ1)) : σ.out <+: σ1.out ∧ σ.heap.length ≤ σ1.heap.length := by
  have := run_grows cfg P n (.ev b) σ
  rw [h] at this
  exact this

example : run guide {} 4 (.ev (.seq [.emit 1 none, .fault .asrt])) {} =
    (.err (errK .assert), { out := [⟨1, none⟩] }) := by decide +kernel

/-! ## fuel is only a termination device -/

/-- the outcome of a terminating task is unique: two fuels on which it finishes agree -/
theorem run_fuel_deterministic (n m : Nat) (t : Task) (σ : St)
    (hn : (run cfg P n t σ).1 ≠ .oof) (hm : (run cfg P m t σ).1 ≠ .oof) :
    run cfg P n t σ = run cfg P m t σ := by
  rcases Nat.le_total n m with h | h
  · exact (run_fuel_mono cfg P n t σ m h hn).symm
  · exact run_fuel_mono cfg P m t σ n h hm

/-- whole programs: the result (value / error message) and the printed trace of a run that
finishes do not depend on the fuel -/
theorem runProg_fuel_mono (n m : Nat) (h : (runProg cfg P n).1 ≠ .oof) (hm : n ≤ m) :
    runProg cfg P m = runProg cfg P n := by
  unfold runProg at h ⊢
  rw [run_fuel_mono cfg P n _ _ m hm (callResult_not_oof h)]

example : (runProg guide { main := .try_ (.fault .idx) [(none, 0, .emit 1 none)] (some (.emit 2 none)) } 4).1 ≠ .oof := by
  decide +kernel

end KotoVerif.C04Ext
