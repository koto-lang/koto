/-
C05 — accepted programs compile to well-formed code; limits are reported as errors.

Property theorems only. The whole compiler is not modelled: the per-program guarantee is the
executable verifier `wfChunk` (Model/WF.lean) run by the check on the chunks the real compiler
produced; what is proved here, for all inputs, is
  * the instruction codec (`varu32_roundtrip`, `instr_roundtrip`, `decode_progress`),
  * the soundness of the verifier w.r.t. the abstract VM of Model/AbsVM.lean
    (`wf_sound_jumps`, `wf_sound_regs`, `wf_sound_balance`),
  * the offset checks (`offset_checked`, `jump_back_checked`),
  * the register allocator invariant and limits (`frame_inv`, `frame_limits`,
    `frame_new_wrap_witness`, `frame_new_guarded`),
  * `compile_wf`: the C01 compiler core (`Model/Compile.lean`) emits code that `wfChunk` accepts.
-/
import KotoVerif.Lemmas.C05Codec
import KotoVerif.Lemmas.C05Frame
import KotoVerif.Lemmas.C05WF
import KotoVerif.Lemmas.C05Sweep
import KotoVerif.Lemmas.C05CompileWF
import KotoVerif.Lemmas.C05CompileLoopWF

namespace KotoVerif.C05
open KotoVerif.Gen KotoVerif.Bytecode KotoVerif.Frame

/-! ## Codec -/

/-- `push_var_u32` followed by `get_var_u32!` is the identity on `u32`, whatever follows. -/
theorem varu32_roundtrip (n : Nat) (r : List Nat) (h : n < 2 ^ 32) :
    decodeVar (encodeVar n ++ r) = some (n, r) := by
  have := decodeVarN_encodeVar n r (by simpa using h)
  simp [decodeVar, this]

example : decodeVar (encodeVar 300 ++ [7]) = some (300, [7]) := by decide
example : encodeVar 4294967295 = [255, 255, 255, 255, 15] := by decide

/-- Every instruction of every opcode — operands matching the opcode's layout, values in the range
of their fields — decodes from its encoding to itself, consuming exactly its own bytes. -/
theorem instr_roundtrip (i : Instr) (r : List Nat) (h : i.valid = true) :
    decode (encode i ++ r) = .ok i (encode i).length r :=
  decode_encode i r h

/-- the hypothesis is satisfiable for every opcode: each opcode has a valid instruction -/
theorem instr_roundtrip_covers_all_opcodes :
    ∀ op ∈ Op.all, ∃ args, (Instr.mk op args).valid = true := by
  intro op h
  exact ⟨(layout op).map (fun _ => 0),
    (by decide +kernel : ∀ op ∈ Op.all, (Instr.mk op ((layout op).map fun _ => 0)).valid = true) op h⟩

theorem op_all_complete (op : Op) : op ∈ Op.all := op.mem_all

example : (Instr.mk .StringPush [3, 36, 12, 2]).valid = true := by decide
example : decode (encode ⟨.StringPush, [3, 36, 12, 2]⟩ ++ [9]) = .ok ⟨.StringPush, [3, 36, 12, 2]⟩ 5 [9] := by
  decide
example : decode (encode ⟨.TryAccess, [1, 2, 300, 515]⟩) = .ok ⟨.TryAccess, [1, 2, 300, 515]⟩ 7 [] := by
  decide

/-- The reader always makes progress: a decoded instruction consumes `size ≥ 2` bytes and exactly
those (termination of `InstructionReader` as an iterator; positions tile the chunk). -/
theorem decode_progress (bs : List Nat) (i : Instr) (size : Nat) (rest : List Nat)
    (h : decode bs = .ok i size rest) : 2 ≤ size ∧ bs.length = size + rest.length :=
  ⟨(decode_len bs i size rest h).1, (decode_len bs i size rest h).2.1⟩

/-- unknown opcodes and truncated operands are `Instruction::Error`, one trailing byte ends the stream -/
example : decode [200, 0] = .bad ∧ decode [1, 5] = .bad ∧ decode [1] = .stop := by decide

/-! ## Offsets -/

/-- `update_offset_placeholder` reports exactly the offsets that do not fit a `u16`. -/
theorem offset_checked (off : Nat) : updateOffset off = none ↔ off > 65535 := by
  unfold updateOffset
  split <;> simp <;> omega

/-- accepted offsets are written faithfully -/
theorem offset_faithful (off : Nat) (bs : List Nat) (h : updateOffset off = some bs) :
    ∃ a b, bs = [a, b] ∧ decodeU16 a b = off := by
  unfold updateOffset at h
  split at h
  · simp at h; subst h
    exact ⟨_, _, rfl, by simp [decodeU16]; omega⟩
  · simp at h

/-- **jump_back_checked** (finding F-C05-1, fixed by f85bfca): `push_jump_back_op` reports exactly
the backward distances that do not fit a `u16` — the same law as `offset_checked`
(`jumpBackOffset` has the body of `updateOffset`). -/
theorem jump_back_checked (off : Nat) : jumpBackOffset off = none ↔ off > 65535 :=
  offset_checked off

/-- accepted backward distances are written faithfully -/
theorem jump_back_faithful (off : Nat) (bs : List Nat) (h : jumpBackOffset off = some bs) :
    ∃ a b, bs = [a, b] ∧ decodeU16 a b = off :=
  offset_faithful off bs h

example : jumpBackOffset 65577 = none ∧ jumpBackOffset 41 = some [41, 0] := by decide

/-! ## Soundness of the verifier

`chunkUnits bytes` lists the units (top level and every nested function body) of a chunk with the
listing the verifier checked. For a chunk accepted by `wfChunk`, in every unit: -/

/-- **jumps**: after any instruction of the unit, every instruction pointer the VM can take (fall
through, forward/backward offsets, catch offset, `Function` skip) is an instruction boundary of the
same unit; and every configuration reachable from the unit's entry — by executing instructions or
by unwinding to a handler — sits on an instruction of the unit. -/
theorem wf_sound_jumps (bytes : List Nat) (consts : List CKind) (h : wfChunk bytes consts = true)
    (base need : Nat) (l : List Ann) (hu : (base, need, l) ∈ chunkUnits bytes) :
    (∀ a ∈ l, ∃ ps, succPcs a = some ps ∧ ∀ p ∈ ps, ∃ b ∈ l, b.pc = p)
    ∧ (∀ c, Reach l ⟨base, 0, 0, []⟩ c → ∃ a ∈ l, a.pc = c.pc) := by
  have hf := wfChunk_units bytes consts h _ hu
  obtain ⟨a0, _, _, _, _, hall⟩ := hf.entry
  refine ⟨?_, ?_⟩
  · intro a ha
    obtain ⟨ps, hs, hp⟩ := (hall a ha).succs
    refine ⟨ps, hs, fun p hpp => ?_⟩
    obtain ⟨b, hb⟩ := hp p hpp
    exact ⟨b, (findPc_some _ _ _ hb).1, (findPc_some _ _ _ hb).2⟩
  · intro c hr
    obtain ⟨⟨a, ha, _⟩, _⟩ := good_reach consts base need l hf c hr
    exact ⟨a, (findPc_some _ _ _ ha).1, (findPc_some _ _ _ ha).2⟩

/-- **registers**: the unit starts with its only `NewFrame`; every register any instruction of the
unit addresses (operands and call / tuple / sequence windows) is below its `register_count`, hence
inside the register vector whenever `registers.len ≥ register_base + register_count` — which
`NewFrame`, `pop_frame` and `call_native_function` (re-)establish by `registers.resize`. -/
theorem wf_sound_regs (bytes : List Nat) (consts : List CKind) (h : wfChunk bytes consts = true)
    (base need : Nat) (l : List Ann) (hu : (base, need, l) ∈ chunkUnits bytes) :
    ∃ a0 ∈ l, a0.pc = base ∧ a0.ins.op = .NewFrame ∧ need ≤ argAt a0.ins 0
      ∧ (∀ a ∈ l, a.ins.op = .NewFrame → a.pc = base)
      ∧ ∀ a ∈ l, ∀ r ∈ regAccesses a.ins, ∀ regBase len, regBase + argAt a0.ins 0 ≤ len → regBase + r < len := by
  have hf := wfChunk_units bytes consts h _ hu
  obtain ⟨a0, h0, hop, _, hneed, hall⟩ := hf.entry
  refine ⟨a0, (findPc_some _ _ _ h0).1, (findPc_some _ _ _ h0).2, hop, hneed, hf.oneFrame, ?_⟩
  intro a ha r hr rb len hlen
  have := (hall a ha).regs r hr
  omega

/-- **constants**: every constant operand is in range and of the kind the VM reads it as. -/
theorem wf_sound_consts (bytes : List Nat) (consts : List CKind) (h : wfChunk bytes consts = true)
    (base need : Nat) (l : List Ann) (hu : (base, need, l) ∈ chunkUnits bytes) :
    ∀ a ∈ l, ∀ kc ∈ constOperands a.ins.fields a.ins.args, consts[kc.2]? = some kc.1 := by
  have hf := wfChunk_units bytes consts h _ hu
  obtain ⟨a0, _, _, _, _, hall⟩ := hf.entry
  exact fun a ha => (hall a ha).consts

/-- **balance**: no configuration reachable from the unit's entry is faulty — the instruction
pointer is on an instruction of the unit (so control never runs past the unit's end), a builder
instruction never finds its builder stack empty (`MissingSequenceBuilder`, `MissingStringBuilder`),
a backward jump stays inside the chunk. Builder and try depths agree along every edge
(`wf_jump_depth_exact`); a `Return` may leave builders open — `pop_frame` discards them (fix 97373d1),
as unwinding to a handler discards those opened since its `TryStart` (Model/AbsVM.lean). -/
theorem wf_sound_balance (bytes : List Nat) (consts : List CKind) (h : wfChunk bytes consts = true)
    (base need : Nat) (l : List Ann) (hu : (base, need, l) ∈ chunkUnits bytes)
    (c : Cfg) (hr : Reach l ⟨base, 0, 0, []⟩ c) : ¬ Fault l c := by
  have hf := wfChunk_units bytes consts h _ hu
  exact good_no_fault consts base need l hf c (good_reach consts base need l hf c hr)

/-- **the listing is the decoding**: every entry of a unit's listing (the instructions the
soundness theorems speak about) is what `InstructionReader::next` (`decode`) reads at that position
of the unit's bytes; for the top-level unit these are the chunk's bytes at `pc`. -/
theorem listing_decodes (base : Nat) (bs : List Nat) (anns : List Ann) (subs : List Sub)
    (h : unitListing base bs = some (anns, subs)) :
    ∀ a ∈ anns, base ≤ a.pc ∧ ∃ rest, decode (bs.drop (a.pc - base)) = .ok a.ins a.size rest :=
  unitListing_decodes base bs anns subs h

theorem listing_decodes_top (bytes : List Nat) (anns : List Ann) (subs : List Sub)
    (h : unitListing 0 bytes = some (anns, subs)) :
    ∀ a ∈ anns, ∃ rest, decode (bytes.drop a.pc) = .ok a.ins a.size rest := by
  intro a ha
  obtain ⟨_, rest, hd⟩ := unitListing_decodes 0 bytes anns subs h a ha
  exact ⟨rest, by simpa using hd⟩

/-- **unit separation**: in a chunk accepted by `wfChunk`, no execution of a unit — by fall-through,
by any jump, or by unwinding to a handler — ever reaches a `NewFrame` other than the unit's own first
instruction, nor any position inside a nested unit (a `Function` body, or the jumped-over body of an
unused function literal, fix 30b24e7): those positions are not instructions of the unit's listing,
and every reachable configuration sits on one. A regression of that fix (the body inlined without the
`Jump`) is rejected, see `wf_rejects_witnesses`. -/
theorem wf_unit_separation (bytes : List Nat) (consts : List CKind) (h : wfChunk bytes consts = true)
    (base need : Nat) (l : List Ann) (hu : (base, need, l) ∈ chunkUnits bytes)
    (c : Cfg) (hr : Reach l ⟨base, 0, 0, []⟩ c) :
    ∃ a ∈ l, a.pc = c.pc ∧ (a.ins.op = .NewFrame → c.pc = base) := by
  have hf := wfChunk_units bytes consts h _ hu
  obtain ⟨⟨a, ha, _⟩, _⟩ := good_reach consts base need l hf c hr
  have hm := findPc_some _ _ _ ha
  exact ⟨a, hm.1, hm.2, fun hop => by rw [← hm.2]; exact hf.oneFrame a hm.1 hop⟩

/-- the real chunk of `|| 42` / `print "hello"` after fix 30b24e7 — `Jump` over the unused literal's
body — is accepted, and the body is a unit of its own with its own frame -/
theorem wf_accepts_skipped_unit :
    wfChunk [0, 5, 55, 7, 0, 0, 2, 7, 1, 42, 62, 1, 12, 2, 0, 11, 4, 1, 60, 1, 2, 3, 1, 0, 62, 1] [.str, .str] = true
    ∧ (chunkUnits [0, 5, 55, 7, 0, 0, 2, 7, 1, 42, 62, 1, 12, 2, 0, 11, 4, 1, 60, 1, 2, 3, 1, 0, 62, 1]).map
        (fun u => (u.1, u.2.2.map (·.pc))) = [(0, [0, 2, 12, 15, 18, 24]), (5, [5, 7, 10])] := by decide +kernel

/-- … and rejected when the jump does not cover exactly one complete frame unit (too short, too
long), when the enclosing unit jumps to the skipped `NewFrame`, when the skipped body uses a register
beyond its own `NewFrame`, or when the skipped body itself falls off its end -/
theorem wf_rejects_bad_skipped_units :
    wfChunk [0, 5, 55, 5, 0, 0, 2, 7, 1, 42, 62, 1, 12, 2, 0, 11, 4, 1, 60, 1, 2, 3, 1, 0, 62, 1] [.str, .str] = false
    ∧ wfChunk [0, 5, 55, 10, 0, 0, 2, 7, 1, 42, 62, 1, 12, 2, 0, 11, 4, 1, 60, 1, 2, 3, 1, 0, 62, 1] [.str, .str] = false
    ∧ wfChunk [0, 5, 57, 1, 3, 0, 55, 7, 0, 0, 2, 7, 1, 42, 62, 1, 62, 1] [] = false
    ∧ wfChunk [0, 5, 55, 7, 0, 0, 2, 7, 4, 42, 62, 1, 62, 1] [] = false
    ∧ wfChunk [0, 5, 55, 5, 0, 0, 2, 7, 1, 42, 62, 1] [] = false := by decide +kernel

/-- **builders are bracket-structured, and dynamic depth = static depth**: in an accepted chunk the
builder instructions of every unit are properly nested `Start … Finish` brackets in listing order, all
closed by the end of the unit (`linOk`), and in every configuration reachable from the unit's entry the
numbers of open sequence and string builders are the static nesting depths of the current instruction
in that bracket structure (`bracketAt`). Hence
* a `Start` without its `Finish` is rejected, also in straight-line code that ends in `Return`;
* at the unit's entry, at every jump target and at every instruction outside all brackets the builder
  stacks are as at frame entry; inside a bracket they hold exactly the enclosing brackets' builders;
* a `Return` (or an error leaving the frame) finds open builders only when it sits inside a literal's
  bracket — those are what `pop_frame` / the catch path truncate away (fix 97373d1): the VM's contract
  is "a frame may be left from inside a literal; inside the frame every builder instruction works on
  the builder of its own bracket", and this is what is accepted, no more;
* with compiler fix 2f5d1ea (`break` / `continue` finish the loop body's open builders before jumping)
  the bracket structure is the one `linLex` computes: an exit sequence — `Finish` instructions directly
  followed by an unconditional `Jump` / `JumpBack` — closes its brackets on the leaving path only, the
  code after the jump continues inside them (a rule under which every `Finish` closes its bracket for all
  following code rejects these chunks). The jump's target still sees exactly the depth at the jump. -/
theorem wf_builders_bracketed (bytes : List Nat) (consts : List CKind) (h : wfChunk bytes consts = true)
    (base need : Nat) (l : List Ann) (hu : (base, need, l) ∈ chunkUnits bytes) :
    linOk 0 0 l = true
    ∧ ∀ c, Reach l ⟨base, 0, 0, []⟩ c → bracketAt 0 0 l c.pc = some (c.seq, c.str) := by
  have hf := wfChunk_units bytes consts h _ hu
  refine ⟨hf.brackets, fun c hr => ?_⟩
  obtain ⟨⟨a, ha, had⟩, _⟩ := good_reach consts base need l hf c hr
  have hm := findPc_some _ _ _ ha
  have := bracketAt_of_linOk base l 0 0 hf.sorted hf.brackets a hm.1 _ had
  rw [hm.2] at this
  exact this

/-- exit sequences (finding F-C05-5, fixed by 2f5d1ea) on concrete chunks. Accepted: a conditional
`break` inside a list literal that finishes the list before jumping while the other branch continues
the literal (`Start; JumpIfFalse L; ToList tmp; Jump END; L: ToList r; END: Return` — the instruction at
`L` has static depth 1 again, the jump and the exit are at depth 0); the same with a string nested in
the list (two finishing instructions); an unconditional `break` (the rest of the literal is dead code);
a literal assigned at the end of a loop body (`ToList x; JumpBack`, nothing is restored); the real chunk
of `for x in (1, 2)` / `y = [1, (if x == 1 then continue), 3]` / `print y`. Rejected: the jump without
the finishing instruction (the chunk before the fix: the exit is reached with and without the builder);
an exit sequence whose other branch never finishes the literal; one finishing instruction too many; a
jump to the next instruction between two finishing instructions (nothing left to finish); and — by
the bracket rule alone — an other branch that returns inside the literal although no `Finish` follows. -/
theorem wf_exit_sequences :
    wfChunk [0, 3, 19, 2, 57, 1, 5, 0, 22, 2, 55, 2, 0, 22, 1, 62, 1] [] = true
    ∧ (match unitListing 0 [0, 3, 19, 2, 57, 1, 5, 0, 22, 2, 55, 2, 0, 22, 1, 62, 1] with
       | some (l, _) => (bracketAt 0 0 l 8, bracketAt 0 0 l 10, bracketAt 0 0 l 13, bracketAt 0 0 l 15)
       | none => (none, none, none, none)) = (some (1, 0), some (0, 0), some (1, 0), some (0, 0))
    ∧ wfChunk [0, 3, 19, 2, 24, 2, 57, 1, 7, 0, 26, 2, 22, 2, 55, 4, 0, 26, 2, 22, 1, 62, 1] [] = true
    ∧ wfChunk [0, 3, 19, 2, 22, 2, 55, 2, 0, 22, 1, 62, 1] [] = true
    ∧ wfChunk [0, 3, 19, 2, 22, 2, 56, 7, 0, 62, 1] [] = true
    ∧ wfChunk [0, 9, 2, 3, 19, 2, 6, 6, 7, 7, 2, 21, 6, 2, 23, 5, 18, 4, 5, 65, 1, 4, 49, 0, 19, 3, 6, 5, 6, 8, 53,
        7, 1, 8, 57, 7, 10, 0, 2, 3, 22, 7, 56, 26, 0, 55, 2, 0, 2, 6, 7, 7, 3, 21, 5, 3, 22, 2, 12, 5, 2, 1, 7, 2,
        60, 3, 5, 6, 1, 0, 56, 54, 0, 62, 3] [.str, .str, .str] = true
    ∧ wfChunk [0, 3, 19, 2, 57, 1, 3, 0, 55, 2, 0, 22, 1, 62, 1] [] = false
    ∧ wfChunk [0, 3, 19, 2, 57, 1, 5, 0, 22, 2, 55, 0, 0, 62, 1] [] = false
    ∧ wfChunk [0, 3, 19, 2, 57, 1, 7, 0, 22, 2, 22, 2, 55, 2, 0, 22, 1, 62, 1] [] = false
    ∧ wfChunk [0, 3, 19, 2, 22, 2, 55, 0, 0, 22, 1, 62, 1] [] = false
    ∧ wfChunk [0, 3, 19, 2, 57, 1, 5, 0, 22, 2, 55, 2, 0, 62, 1, 62, 1] [] = false := by decide +kernel

/-- **try balance at jumps is exact** (finding F-C05-6, fixed by 0e9e81b): in an accepted chunk the
depth triple — open try blocks included — at the target of every reachable `Jump` / `JumpBack` is the
depth at the jump itself: a `break` / `continue` that leaves try blocks must have closed them
(`TryEnd`) before jumping, or the loop exit / loop head, which is also reached with the loop's own
depth, would be a join with two depths. -/
theorem wf_jump_depth_exact (bytes : List Nat) (consts : List CKind) (h : wfChunk bytes consts = true)
    (base need : Nat) (l : List Ann) (hu : (base, need, l) ∈ chunkUnits bytes)
    (a : Ann) (ha : a ∈ l) (d : Depth) (hd : a.d = some d) (hop : a.ins.op = .Jump ∨ a.ins.op = .JumpBack) :
    ∃ ps, succPcs a = some ps ∧ ∀ p ∈ ps, ∃ b ∈ l, b.pc = p ∧ b.d = some d := by
  have hf := wfChunk_units bytes consts h _ hu
  obtain ⟨a0, _, _, _, _, hall⟩ := hf.entry
  obtain ⟨d', ps, he, hs, hflow⟩ := (hall a ha).flow d hd
  have hdd : d' = d := by
    rcases hop with hop | hop <;> simp [applyEff, hop] at he <;> exact he.symm
  subst hdd
  refine ⟨ps, hs, fun p hp => ?_⟩
  obtain ⟨b, hb, hbd⟩ := hflow p hp
  exact ⟨b, (findPc_some _ _ _ hb).1, (findPc_some _ _ _ hb).2, hbd⟩

/-- a `while`-shaped loop whose body is `try break catch …`: accepted with the `TryEnd` that
0e9e81b emits before the `break` jump, rejected without it (the loop exit would be reached with try
depth 0 from the loop head and 1 from the `break`) -/
theorem wf_break_out_of_try :
    wfChunk [0, 3, 57, 1, 19, 0, 84, 1, 10, 0, 85, 0, 55, 10, 0, 85, 0, 55, 2, 0, 85, 0, 56, 23, 0, 62, 1] [] = true
    ∧ wfChunk [0, 3, 57, 1, 19, 0, 84, 1, 10, 0, 2, 2, 55, 10, 0, 85, 0, 55, 2, 0, 85, 0, 56, 23, 0, 62, 1] [] = false := by
  decide +kernel

/-- non-vacuity: the real chunk of `f = |a, b| a + (b or 42)` (a nested unit with a forward jump)
is accepted, and has two units -/
example : wfChunk [0, 2, 27, 1, 2, 0, 0, 0, 18, 0, 0, 5, 1, 4, 2, 58, 4, 3, 0, 7, 4, 42, 37, 3, 1, 4, 62, 3, 62, 1]
    [.str, .str, .str] = true := by decide +kernel
example : (chunkUnits [0, 2, 27, 1, 2, 0, 0, 0, 18, 0, 0, 5, 1, 4, 2, 58, 4, 3, 0, 7, 4, 42, 37, 3, 1, 4, 62, 3, 62,
    1]).map (fun u => (u.1, u.2.1, u.2.2.length)) = [(0, 0, 3), (10, 3, 6)] := by decide +kernel

/-- the verifier rejects: the real chunk of `|| 42` / `print 'hello'` (finding F-C05-4: a frame that
no `Function` instruction delimits), a jump into the middle of an instruction, a register beyond the
frame, a constant of the wrong kind, a join reached with and without an open sequence (the shape of
`break` inside a list literal, finding F-C05-5) — while a `Return` inside a sequence's
`Start … ToList` bracket is accepted (`[1, (return 2)]`: the VM discards the builder, fix 97373d1) and
a `SequenceStart` / `StringStart` that no finish instruction closes is rejected although the
straight-line code has no join (the shape of an interpolated string in statement position compiled
with `StringStart` but without `StringFinish`) -/
theorem wf_rejects_witnesses :
    wfChunk [0, 5, 0, 2, 7, 1, 42, 62, 1, 12, 2, 0, 11, 4, 1, 60, 1, 2, 3, 1, 0, 62, 1] [.str, .str] = false
    ∧ wfChunk [0, 2, 55, 1, 0, 7, 1, 42, 62, 1] [] = false
    ∧ wfChunk [0, 2, 2, 2, 62, 1] [] = false
    ∧ wfChunk [0, 2, 10, 1, 0, 62, 1] [.str] = false
    ∧ wfChunk [0, 2, 57, 1, 2, 0, 19, 1, 62, 1] [] = false
    ∧ wfChunk [0, 2, 19, 1, 62, 1, 22, 1, 62, 1] [] = true
    ∧ wfChunk [0, 2, 19, 1, 62, 1] [] = false
    ∧ wfChunk [0, 2, 24, 3, 7, 1, 9, 62, 1] [] = false := by decide +kernel

/-- **wf_flags_sound** (function flags): in a chunk that passes `flagsOk`, the body of a `Function`
instruction whose `NON_LOCAL_ACCESS` flag is clear contains no `LoadNonLocal` and creates no function
whose flag is set — so a frame that `run_make_function` creates without non-locals never reads them and
never reaches `UnexpectedError` (`non_locals.is_none()`) when creating a nested function; and the
same holds for every nested unit, with the flags of the instruction that creates it. -/
theorem wf_flags_sound (fuel base f : Nat) (bs : List Nat) (items : List Ann) (subs : List Sub)
    (h : flagsUnit (fuel + 1) base (some f) bs = true)
    (hs : sweep (bs.length + 1) base bs = some (items, subs)) (hf : nonLocalFlag f = false) :
    (∀ a ∈ items, a.ins.op ≠ .LoadNonLocal)
    ∧ (∀ a ∈ items, a.ins.op = .Function → nonLocalFlag (argAt a.ins 4) = false)
    ∧ (∀ s ∈ subs, flagsUnit fuel s.base (ownerFlags items s) s.bytes = true) := by
  simp only [flagsUnit, hs, Bool.and_eq_true, List.all_eq_true] at h
  obtain ⟨h1, h2⟩ := h
  have hn : needsNonLocals items = false := by
    cases hx : needsNonLocals items
    · rfl
    · simp [hx, hf] at h1
  simp only [needsNonLocals, List.any_eq_false] at hn
  refine ⟨?_, ?_, h2⟩
  · intro a ha hop
    have := hn a ha
    simp [hop] at this
  · intro a ha hop
    have := hn a ha
    cases hfl : nonLocalFlag (argAt a.ins 4)
    · rfl
    · simp [hop, hfl] at this

/-- the flag rule on concrete chunks (`f = |n = 1| offset` and a function nested in a function): a body
that loads a non-local under a clear flag is rejected, under a set flag accepted; an inner function with
the flag inside an outer one without it is rejected (the shape the VM answers with `UnexpectedError`);
`wfChunk` accepts all of them — the flag rule is a separate condition. -/
theorem wf_flags_witnesses :
    flagsOk [0, 2, 27, 1, 1, 1, 0, 0, 7, 0, 0, 3, 12, 2, 0, 62, 2, 62, 1] = false
    ∧ flagsOk [0, 2, 27, 1, 1, 1, 0, 8, 7, 0, 0, 3, 12, 2, 0, 62, 2, 62, 1] = true
    ∧ flagsOk [0, 2, 27, 1, 0, 0, 0, 0, 19, 0, 0, 3, 27, 2, 0, 0, 0, 8, 7, 0, 0, 3, 12, 2, 0, 62, 2, 62, 2, 62, 1] = false
    ∧ flagsOk [0, 2, 27, 1, 0, 0, 0, 8, 19, 0, 0, 3, 27, 2, 0, 0, 0, 8, 7, 0, 0, 3, 12, 2, 0, 62, 2, 62, 2, 62, 1] = true
    ∧ wfChunk [0, 2, 27, 1, 1, 1, 0, 0, 7, 0, 0, 3, 12, 2, 0, 62, 2, 62, 1] [.str] = true := by decide +kernel

/-! ## Register allocator (`frame.rs`) -/

/-- **frame_inv**: for every history of allocator operations, run as the compiler runs them (the
first error aborts), from any state satisfying the invariant (`Inv`: the live temporaries are exactly
`tb … tb+tc-1` on the stack in LIFO order, `tb + tc ≤ 255`, locals below `tb`):
* `temporary_base` never changes, the high-water mark only grows and `registers_used()` fits a `u8`;
* every register handed out or returned by any operation is below the final `registers_used()` —
  the `register_count` written into `NewFrame`;
* if no operation failed the invariant holds again. -/
theorem frame_inv (s : Frame.Frame) (h : Inv s) (ops : List FOp) :
    (s.run ops).1.tb = s.tb
    ∧ (s.run ops).1.registersUsed = some ((s.run ops).1.tb + (s.run ops).1.used)
    ∧ (∀ r, Obs.reg r ∈ (s.run ops).2 → ∀ n, (s.run ops).1.registersUsed = some n → r + 1 ≤ n)
    ∧ ((∀ o ∈ (s.run ops).2, o.isFailure = false) → Inv (s.run ops).1) := by
  obtain ⟨hw, hr, hi⟩ := run_spec s h ops
  have hu : (s.run ops).1.registersUsed = some ((s.run ops).1.tb + (s.run ops).1.used) := by
    have hfit := hw.fits
    have hn : ¬ ((s.run ops).1.tb + (s.run ops).1.used > 255) := by omega
    simp [Frame.registersUsed, u8Max, hn]
  refine ⟨hw.tb, hu, ?_, hi⟩
  intro r hr' n hn
  rw [hu] at hn
  cases hn
  have := hr r hr'
  omega

/-- temporaries are handed out as `tb + tc` and returned in LIFO order -/
theorem frame_lifo (s : Frame.Frame) (h : Inv s) (hlt : s.tb + s.tc < 255) :
    ∃ s1 s2, s.pushRegister = .ok s1 (s.tb + s.tc) ∧ s1.popRegister = .ok s2 (s.tb + s.tc)
      ∧ s2.stack = s.stack ∧ s2.tc = s.tc ∧ s2.locals = s.locals := by
  rcases push_spec s h with ⟨he, _⟩ | ⟨_, s1, hp, hi1, hw1, htc1, hl1⟩
  · omega
  · rcases pop_spec s1 hi1 with ⟨h0, _⟩ | ⟨_, s2, hp2, hi2, hw2, htc2, _, hl2⟩
    · omega
    · refine ⟨s1, s2, hp, ?_, ?_, by omega, hl2.trans hl1⟩
      · rw [hp2, hw1.tb, htc1]; congr 1
      · rw [hi2.stack, h.stack, hw2.tb, hw1.tb, htc2, htc1]; congr 1

/-- **frame_limits**: exceeding the register space is an error, never a wrapped register:
`push_register` at `tb + tc = 255` is `StackOverflow`; a new local at index `≥ tb` is
`LocalRegisterOverflow`; neither panics nor returns a register in a state satisfying the invariant. -/
theorem frame_limits (s : Frame.Frame) (h : Inv s) :
    (s.tb + s.tc = 255 → s.pushRegister = .err s .stackOverflow)
    ∧ (∀ id, s.getAssignedOrReserved id = .unassigned → s.tb ≤ s.locals.length →
        (∃ s', s.assignLocal id = .err s' .localRegisterOverflow)
        ∧ (∃ s', s.reserveLocal id = .err s' .localRegisterOverflow))
    ∧ (∀ s' r, s.pushRegister = .ok s' r → r < 255)
    ∧ (∀ id s' r, s.assignLocal id = .ok s' r → r < s.tb)
    ∧ (∀ id s' r, s.reserveLocal id = .ok s' r → r < s.tb) := by
  refine ⟨?_, ?_, ?_, ?_, ?_⟩
  · intro he
    rcases push_spec s h with ⟨_, hp⟩ | ⟨hlt, _⟩
    · exact hp
    · omega
  · intro id hun hge
    rcases pushLocal_spec s h (.assigned id) with ⟨hlt, _⟩ | ⟨_, s1, he1, _⟩
    · omega
    · rcases pushLocal_spec s h (.reserved id []) with ⟨hlt, _⟩ | ⟨_, s2, he2, _⟩
      · omega
      · exact ⟨⟨s1, by simp [Frame.assignLocal, hun, he1]⟩, ⟨s2, by simp [Frame.reserveLocal, hun, he2]⟩⟩
  · intro s' r hp
    rcases push_spec s h with ⟨_, he⟩ | ⟨hlt, s1, he, _⟩
    · rw [he] at hp; cases hp
    · rw [he] at hp; cases hp; exact hlt
  · intro id s' r ha
    rcases assign_spec s h id with ⟨s1, r1, he, _, hw, hr⟩ | ⟨s1, e, he, _⟩
    · rw [he] at ha; cases ha; rw [← hw.tb]; exact hr
    · rw [he] at ha; cases ha
  · intro id s' r ha
    rcases reserve_spec s h id with ⟨s1, r1, he, _, hw, hr⟩ | ⟨s1, he, _, _⟩
    · rw [he] at ha; cases ha; rw [← hw.tb]; exact hr
    · rw [he] at ha; cases ha

/-- `Frame::new` establishes the invariant (named arguments are counted in `local_count`). -/
theorem frame_new_inv (lc : Nat) (args : List Arg) (caps : List Nat) (s : Frame.Frame)
    (h : Frame.new lc args caps = .ok s ())
    (hargs : args.length ≤ lc + placeholders args) (hc : caps.length < 256) (ha : args.length < 256) :
    Inv s ∧ s.tb = baseSum lc args caps :=
  ⟨(new_inv lc args caps s h hargs hc ha).1, (new_inv lc args caps s h hargs hc ha).2.1⟩

/-- non-vacuity: a frame with two named arguments, a placeholder and a capture -/
example : ∃ s, Frame.new 3 [.local_ 1, .placeholder, .local_ 2] [7] = .ok s () ∧ s.tb = 6 :=
  ⟨_, rfl, rfl⟩

/-- **frame_new_wrap_witness** (finding F-C05-3, about `Frame::new` itself — the compiler does not
reach it with such counts, see `frame_new_guarded`): `1 + locals + captures + placeholders` is summed in
`u8` without a check. With 248 locals and 12 captures the sum is 261: a build with overflow checks
panics, a build without wraps to `temporary_base = 5`, below the frame's own locals — so the
allocator invariant (`locals.length ≤ tb`) fails and temporaries would overlap locals. 255 locals
alone already overflow (`1 + 255`). This is the negation of "limits are reported as errors". -/
theorem frame_new_wrap_witness :
    Frame.new 248 [] (List.range 12) = .panic
    ∧ (Frame.newWrapping 248 [] (List.range 12)).tb = 5
    ∧ ¬ Inv (Frame.newWrapping 248 [] (List.range 12))
    ∧ Frame.new 255 [] [] = .panic := by
  refine ⟨by decide, by decide, ?_, by decide⟩
  intro h
  have := h.locals
  revert this
  decide

/-- **frame_new_guarded** (finding F-C05-3, fixed by 4f80b78): through the compiler's guard
`Frame::new` is only reached with a sum that fits — it then never panics or wraps, and the base is the
exact sum; above the limit the guard reports the compile error. So `frame_new_wrap_witness` is a
statement about `Frame::new` called directly, not about anything the compiler does. -/
theorem frame_new_guarded (lc : Nat) (args : List Arg) (caps : List Nat) :
    (baseSum lc args caps > 255 → Frame.newGuarded lc args caps = none)
    ∧ (baseSum lc args caps ≤ 255 →
        ∃ s, Frame.newGuarded lc args caps = some (.ok s ()) ∧ s.tb = baseSum lc args caps) := by
  refine ⟨?_, ?_⟩
  · intro h
    simp [Frame.newGuarded, u8Max, h]
  · intro h
    have : ¬ (baseSum lc args caps > u8Max) := Nat.not_lt.2 h
    exact ⟨_, by rw [Frame.newGuarded, if_neg this, new_of_fits lc args caps h], rfl⟩

/-- the inputs of `frame_new_wrap_witness` are compile errors -/
example : Frame.newGuarded 248 [] (List.range 12) = none ∧ Frame.newGuarded 255 [] [] = none := by decide

/-! ## The compiler core emits well-formed code (`compile_wf`)

`Model/Compile.lean` (C01) models the compiler's result-register protocol for the scalar /
conditional core and is tied to the real compiler instruction for instruction (harness `c01k2`).
`Lemmas/C05CompileWF.lean` encodes its flat instruction stream with `Model/Encode.lean`
(`encodeMain`: `NewFrame registers_used`, the body with instruction skips turned into byte offsets,
`Return result`). -/

open KotoVerif.Compile in
/-- **compile_wf** (DESIGN §6 C05): for *every* expression of the compiler core, compiled as a main
block with `Any`, the emitted code — `NewFrame registers_used`, the flattened stream with its
instruction skips turned into byte offsets, `Return result`, encoded with `Model/Encode.lean` — is
accepted by the verifier `wfChunk`: the sweep of the bytes is exactly the listing of the emitted
instructions (codec round trip), every jump offset hits the listed pc of its target (an offset is the
byte size of the instructions it skips, `encL_head`), every instruction is reachable (by induction over
`Code`, counted in instructions) and every successor is an instruction of the unit, all registers are
below `registers_used`, the integer constants are in the pool, and there is nothing to balance. The side
conditions are the limits the real compiler reports as errors: at most 254 locals
(`FunctionPropertyLimit` otherwise; that `registers_used ≤ 255` then holds for whatever was compiled is
proved, `compile_fits`: `push_register` refuses register 255) and code that fits the u16 jump offsets
(`JumpOffsetIsTooLarge` otherwise). `cidx` gives the pool index of an integer literal; `hc` asks of
*every* integer (not only the literals of `e`) that its index names an integer constant of the pool.
With `wf_sound_jumps/regs/balance` this gives: no execution of such a chunk meets an internal fault. -/
theorem compile_wf (e : Compile.Expr) (lc : Nat) (code : Compile.Code) (out : Compile.Out)
    (F' : Compile.Frame) (cidx : Int → Nat) (consts : List CKind)
    (h : Compile.compile e .any { tb := 1 + lc } = some (code, out, F'))
    (hlc : lc ≤ 254) (hsz : sizeOf cidx (flatten code) ≤ 65535)
    (hc : ∀ n, cidx n < 4294967296 ∧ consts[cidx n]? = some .int) :
    ∃ r, out.reg = some r ∧ wfChunk (encodeMain cidx F'.registersUsed (flatten code) r) consts = true := by
  obtain ⟨hregs, ⟨r, hr, hrlt⟩, _, _⟩ := compile_wf_flat e lc code out F' h
  have hru : F'.registersUsed ≤ 255 :=
    compile_fits e .any _ code out F' h (by simp only [U]; omega)
  exact ⟨r, hr, wfChunk_encodeMain cidx consts _ r code hru hrlt hregs hsz hc⟩

open KotoVerif.Compile in
/-- the same for the packaged pipeline `compileMain = compile → flatten → encodeMain` -/
theorem compile_wf_main (e : Compile.Expr) (lc : Nat) (cidx : Int → Nat) (consts : List CKind) (bytes : List Nat)
    (h : compileMain cidx e lc = some bytes)
    (hlc : lc ≤ 254)
    (hlim : ∀ code out F', Compile.compile e .any { tb := 1 + lc } = some (code, out, F') →
      sizeOf cidx (flatten code) ≤ 65535)
    (hc : ∀ n, cidx n < 4294967296 ∧ consts[cidx n]? = some .int) :
    wfChunk bytes consts = true := by
  unfold compileMain at h
  cases hcmp : Compile.compile e .any { tb := 1 + lc } with
  | none => simp [hcmp] at h
  | some res =>
    obtain ⟨code, out, F'⟩ := res
    have hsz := hlim code out F' hcmp
    obtain ⟨r, hr, hwf⟩ := compile_wf e lc code out F' cidx consts hcmp hlc hsz hc
    simp only [hcmp, hr] at h
    cases h
    exact hwf

open KotoVerif.Compile in
/-- **compile_wf_loops** (statement layer, `Model/CompileLoop.lean`): a main block of statements —
expression statements, blocks, `if` / `if-else` with statement branches, `while` and `until` loops,
arbitrarily nested — followed by a final expression, compiled by `compileProg` and encoded with
`encodeProg` (forward skips and `JumpBack` distances turned into byte offsets), is accepted by
`wfChunk`: the backward jump of every loop lands on the first instruction of its condition, the
conditional exit jump on the instruction after the `JumpBack`. Not covered by this theorem (for them
see `compile_wf_cert`): `break` / `continue` and `loop` without a condition, which leave unreachable
instructions behind (the `Jump` over an else branch after a then branch that ends in `break`, the code
after an endless `loop`) — the proof technique here shows that `annotate` reaches every instruction. -/
theorem compile_wf_loops (s : Compile.Stmt) (e : Compile.Expr) (lc : Nat) (flat : List Compile.LFlat)
    (o : Compile.Out) (F2 : Compile.Frame) (cidx : Int → Nat) (consts : List CKind)
    (h : compileProg s e lc = some (flat, o, F2)) (hs : SimpleS s) (hlc : lc ≤ 254)
    (hsz : sizeOfL cidx flat ≤ 65535)
    (hc : ∀ n, cidx n < 4294967296 ∧ consts[cidx n]? = some .int) :
    ∃ r, o.reg = some r ∧ wfChunk (encodeProg cidx F2.registersUsed flat r) consts = true := by
  obtain ⟨r, hr, hrlt, hu, hrng, hregs, hcov⟩ := compileProg_facts h hlc
  exact ⟨r, hr, wfChunk_encodeProg cidx consts _ r _ hu hrlt hrng (hcov hs) hregs hsz hc⟩

open KotoVerif.Compile in
/-- non-vacuity, evaluated in the kernel: `x0 = 0; while x0 < 300 { x0 += 1; if x0 == 7 { x1 = x0 }
else { until x1 { x1 = true } } }; x0` compiles, is in the fragment, and its bytes are accepted -/
theorem compile_wf_loops_instance :
    (match compileProg
        (.seq (.expr (.assign 0 (.int 0)))
          (.loop (some (.cmp .lt (.var 0) (.int 300), false))
            (.seq (.expr (.compound .add 0 (.int 1)))
              (.ite (.cmp .eq (.var 0) (.int 7)) (.expr (.assign 1 (.var 0)))
                (.loop (some (.var 1, true)) (.expr (.assign 1 (.bool true))))))))
        (.var 0) 2 with
      | some (flat, o, F2) => o.reg.any (fun r => wfChunk (encodeProg (fun _ => 0) F2.registersUsed flat r) [.int])
      | none => false) = true := by decide +kernel

open KotoVerif.Compile in
/-- **compile_wf_cert** (the whole statement layer — `break`, `continue` and endless `loop` included):
for *every* main block `s ; e` that `compileProg` compiles, the sweep of the encoded bytes is the
listing of the emitted instructions and that listing passes the verifier's check `checkAnns` (with the
depth `(0,0,0)` everywhere — an annotation may also cover instructions no execution reaches, such as
the `Jump` over an else branch after a then branch that ends in `break`). The jumps of `break` and
`continue` are in range whatever the nesting (`flatAux_range`), and in a stream whose jumps are in range
every byte offset lands on the pc of its target instruction (`tgt_rest`). `checkAnns` is everything the
soundness theorems use; what this does not give for `break` / `continue` / endless `loop` is that the
verifier's own inference `annotate` arrives at an accepted annotation — `wfChunk … = true` is the
theorem `compile_wf_loops` for the fragment without them, and is observed by translation validation
on the real chunks. -/
theorem compile_wf_cert (s : Compile.Stmt) (e : Compile.Expr) (lc : Nat) (flat : List Compile.LFlat)
    (o : Compile.Out) (F2 : Compile.Frame) (cidx : Int → Nat) (consts : List CKind)
    (h : compileProg s e lc = some (flat, o, F2)) (hlc : lc ≤ 254) (hsz : sizeOfL cidx flat ≤ 65535)
    (hc : ∀ n, cidx n < 4294967296 ∧ consts[cidx n]? = some .int) :
    ∃ r, o.reg = some r
      ∧ sweep ((encodeProg cidx F2.registersUsed flat r).length + 1) 0 (encodeProg cidx F2.registersUsed flat r)
          = some (lay none 0 (progInstrs cidx F2.registersUsed flat r), [])
      ∧ checkAnns consts 0 0 (lay (some Z) 0 (progInstrs cidx F2.registersUsed flat r)) = true := by
  obtain ⟨r, hr, hrlt, hu, hrng, hregs, -⟩ := compileProg_facts h hlc
  obtain ⟨hbody, htgt⟩ := progInstrs_ok cidx consts F2.registersUsed r _ hu hrlt hrng hregs hsz hc
  exact ⟨r, hr, cert_of_program F2.registersUsed _ consts (Nat.lt_succ_of_le hu) hbody htgt⟩

open KotoVerif.Compile in
/-- **compile_no_internal_fault**: consequently, for every main block of the statement layer, every
configuration the abstract VM can reach from the entry of the compiled code is fault-free: the
instruction pointer is on an emitted instruction, every jump — forward, backward, `break`, `continue`
— has landed on one, and control never runs past the end of the unit. -/
theorem compile_no_internal_fault (s : Compile.Stmt) (e : Compile.Expr) (lc : Nat) (flat : List Compile.LFlat)
    (o : Compile.Out) (F2 : Compile.Frame) (cidx : Int → Nat) (consts : List CKind)
    (h : compileProg s e lc = some (flat, o, F2)) (hlc : lc ≤ 254) (hsz : sizeOfL cidx flat ≤ 65535)
    (hc : ∀ n, cidx n < 4294967296 ∧ consts[cidx n]? = some .int) :
    ∃ r, o.reg = some r ∧ ∀ c, Reach (lay (some Z) 0 (progInstrs cidx F2.registersUsed flat r)) ⟨0, 0, 0, []⟩ c →
      ¬ Fault (lay (some Z) 0 (progInstrs cidx F2.registersUsed flat r)) c := by
  obtain ⟨r, hr, _, hchk⟩ := compile_wf_cert s e lc flat o F2 cidx consts h hlc hsz hc
  have hf := unitFacts_of_checkAnns consts 0 0 _ hchk
  exact ⟨r, hr, fun c hreach => good_no_fault consts 0 0 _ hf c (good_reach consts 0 0 _ hf c hreach)⟩

open KotoVerif.Compile in
/-- non-vacuity, evaluated in the kernel, with `break`, `continue`, an endless `loop` and dead code:
`x0 = 0; loop { x0 += 1; if x0 == 3 { continue } else { if x0 > 9 { break } }; while true { break } };
x0` compiles and the executable `wfChunk` accepts its bytes -/
theorem compile_wf_break_continue_instance :
    (match compileProg
        (.seq (.expr (.assign 0 (.int 0)))
          (.loop none
            (.seq (.expr (.compound .add 0 (.int 1)))
              (.seq (.ite (.cmp .eq (.var 0) (.int 3)) .cont (.ifThen (.cmp .gt (.var 0) (.int 9)) .brk))
                (.loop (some (.bool true, false)) .brk)))))
        (.var 0) 1 with
      | some (flat, o, F2) => o.reg.any (fun r => wfChunk (encodeProg (fun _ => 0) F2.registersUsed flat r) [.int])
      | none => false) = true := by decide +kernel

open KotoVerif.Compile in
/-- the flat-level facts behind it (registers, jump targets, frame size), for every expression -/
theorem compile_wf_flat_level (e : Compile.Expr) (lc : Nat) (code : Compile.Code) (out : Compile.Out)
    (F' : Compile.Frame) (h : Compile.compile e .any { tb := 1 + lc } = some (code, out, F')) :
    (∀ f ∈ flatten code, ∀ r ∈ flatRegs f, r < F'.registersUsed)
    ∧ (∃ r, out.reg = some r ∧ r < F'.registersUsed)
    ∧ jumpsOk (flatten code) = true
    ∧ 1 + lc ≤ F'.registersUsed :=
  compile_wf_flat e lc code out F' h

open KotoVerif.Compile in
/-- the general register bound behind it: any expression, any result mode, any well-formed frame -/
theorem compile_regs_bound (e : Compile.Expr) (m : Compile.Mode) (F : Compile.Frame) (code : Compile.Code)
    (out : Compile.Out) (F' : Compile.Frame) (h : Compile.compile e m F = some (code, out, F'))
    (hw : Compile.WF F) (ht : F.tc ≤ F.tmax) (hfix : ∀ r, m = .fixed r → r < F.tb + F.tmax) :
    F'.tb = F.tb ∧ F.tmax ≤ F'.tmax ∧ F'.tc ≤ F'.tmax
    ∧ ∀ f ∈ flatten code, ∀ r ∈ flatRegs f, r < F'.tb + F'.tmax := by
  obtain ⟨hm, ht', hcb⟩ := compile_regs e m F code out F' h hw ht hfix
  exact ⟨hm.tb, hm.tmax, ht', flatten_regs code _ hcb⟩

open KotoVerif.Compile in
/-- **compile_wf_instances** (non-vacuity of `compile_wf`, evaluated in the kernel): on concrete
programs of the core (assignment of a pooled integer, `if`/`else` with a comparison, `and`, negation;
compound assignment, a chained comparison, `or`, `if` without `else`) the whole pipeline
`compile → flatten → encodeMain → wfChunk` evaluates to `true` in the kernel.
`x0 = 300; if x0 < 5 then x0 and true else -x0` encodes to the bytes the real compiler emits for it
(checked against `koto -i`), up to the index of the constant 300. -/
theorem compile_wf_instances :
    (compileMain (fun _ => 0)
      (.seq (.assign 0 (.int 300))
        (.ite (.cmp .lt (.var 0) (.int 5)) (.and (.var 0) (.bool true)) (.un .neg (.var 0)))) 1).any
      (fun bs => wfChunk bs [.int]) = true
    ∧ (compileMain (fun _ => 0)
      (.seq (.assign 0 (.int (-7)))
        (.seq (.compound .add 0 (.bin .mul (.var 0) (.int 2)))
          (.or (.chain3 .lt .le (.int 1) (.var 0) (.int 9)) (.ifThen (.var 0) (.assign 1 .null))))) 2).any
      (fun bs => wfChunk bs [.int]) = true := by decide +kernel

end KotoVerif.C05
