/-
C19 — second extension module: end-to-end statements that connect the concurrent model (Part 2 of
`Model/Cell.lean`) with the single-threaded cell scripts of both builds (Part 1).
-/
import KotoVerif.Model.Cell
import KotoVerif.Props.C19
import KotoVerif.Props.C19Ext

namespace KotoVerif.C19Ext2
open KotoVerif.Cell KotoVerif.C19 KotoVerif.C19Ext

variable {σ ρ : Type}

/-! ### 1. every concurrent (arc) execution is a single-threaded script run of EITHER build -/

/-- **Concurrent arc execution ≡ some single-threaded rc (or arc) run.** For every schedule of N
threads on one shared cell, take the operations in the order of their effect steps and run them as
one bracketed single-threaded script under `RefCell` (rc) or `RwLock` (arc): the script ends with
the lock free and exactly the concurrent final data, and every thread's results are the values of
that script attributed to the issuing threads. -/
theorem concurrent_refines_script (m : Mode) (d0 : σ) (progs : List (List (Op σ ρ)))
    (sched : List Nat) :
    let g := exec (init d0 progs) sched
    let r := run m { data := d0 } ((g.lin.map (·.2)).flatMap bracket)
    r.2 = { data := g.data } ∧
    ∀ (t : Nat) (th : Thread σ ρ), g.threads[t]? = some th →
      th.results = resOf t ((g.lin.map (·.1)).zip (vals r.1)) := by
  intro g r
  have hi := (inv_reachable d0 progs sched).data
  have hb := C19.rc_arc_equiv_brackets m d0 (g.lin.map (·.2))
  have hs := seqAll_eq d0 g.lin
  exact ⟨by rw [hb.2, hi.data_eq, hs], fun t th ht => by rw [(hi.sees t th ht).results_eq, hs, hb.1]⟩

/-- the two builds cannot be told apart on the linearization of any concurrent execution -/
theorem concurrent_script_mode_indep (d0 : σ) (progs : List (List (Op σ ρ))) (sched : List Nat) :
    let g := exec (init d0 progs) sched
    let s : List (Act σ ρ) := (g.lin.map (·.2)).flatMap bracket
    vals (run .rc { data := d0 } s).1 = vals (run .arc { data := d0 } s).1 ∧
    (run .rc { data := d0 } s).2 = (run .arc { data := d0 } s).2 := by
  intro g s
  have h1 := C19.rc_arc_equiv_brackets .rc d0 (g.lin.map (·.2))
  have h2 := C19.rc_arc_equiv_brackets .arc d0 (g.lin.map (·.2))
  exact ⟨h1.1.trans h2.1.symm, h1.2.trans h2.2.symm⟩

/-! ### 2. invariants: only WRITE operations have to preserve them -/

/-- Stronger form of `C19Ext.concurrent_invariant`: a read operation's `f` may return any data
component (it is never stored), so only the operations that take the exclusive guard have to
preserve `P`. -/
theorem concurrent_invariant_writes (P : σ → Prop) (d0 : σ) (progs : List (List (Op σ ρ)))
    (h0 : P d0)
    (hops : ∀ p ∈ progs, ∀ o ∈ p, o.write = true → ∀ d, P d → P (o.f d).1) (sched : List Nat) :
    P (exec (init d0 progs) sched).data :=
  exec_invariant P d0 progs h0 hops sched

/-- **Readers never change a shared container**, whatever their `f` computes, under every
interleaving of any number of threads. -/
theorem concurrent_reads_keep_data (d0 : σ) (progs : List (List (Op σ ρ)))
    (hr : ∀ p ∈ progs, ∀ o ∈ p, o.write = false) (sched : List Nat) :
    (exec (init d0 progs) sched).data = d0 := by
  apply concurrent_invariant_writes (fun d => d = d0) d0 progs rfl _ sched
  intro p hp o ho hw
  rw [hr p hp o ho] at hw
  cases hw

example : ∀ p ∈ [[LOp.size.toOp, (LOp.get 0).toOp], [LOp.snapshot.toOp]], ∀ o ∈ p,
    o.write = false := by decide

/-- list instance: threads that only issue read operations of the harness table (size, get, first,
last, contains, snapshot, isEmpty, ==, slices) leave the shared list as it was -/
theorem concurrent_list_reads_keep_data (l0 : List Int) (progs : List (List LOp))
    (hr : ∀ p ∈ progs, ∀ o ∈ p, o.isWrite = false) (sched : List Nat) :
    (exec (init l0 (progs.map (·.map LOp.toOp))) sched).data = l0 := by
  apply concurrent_reads_keep_data
  intro p hp o ho
  obtain ⟨q, hq, rfl⟩ := List.mem_map.1 hp
  obtain ⟨lo, hlo, rfl⟩ := List.mem_map.1 ho
  exact hr q hq lo hlo

/-! ### 3. schedules: ids of threads that do not exist are harmless -/

theorem stepP_out_of_range (p : Policy) (g : Conc σ ρ) (t : Nat) (h : g.threads.length ≤ t) :
    stepP p g t = g := by
  have : g.threads[t]? = none := List.getElem?_eq_none h
  simp [stepP, this]

theorem execP_out_of_range (p : Policy) (g : Conc σ ρ) (sched : List Nat)
    (h : ∀ t ∈ sched, g.threads.length ≤ t) : execP p g sched = g := by
  induction sched with
  | nil => rfl
  | cons t rest ih =>
    have ht := stepP_out_of_range p g t (h t List.mem_cons_self)
    simp only [execP, List.foldl_cons, ht]
    exact ih (fun u hu => h u (List.mem_cons_of_mem _ hu))

example : ∀ t ∈ [2, 5, 7], (init (0 : Nat) [[], ([] : List (Op Nat Nat))]).threads.length ≤ t := by
  decide

theorem execP_append (p : Policy) (g : Conc σ ρ) (s1 s2 : List Nat) :
    execP p g (s1 ++ s2) = execP p (execP p g s1) s2 := by
  simp [execP, List.foldl_append]

/-! ### 4. one thread: the concurrent model collapses to the sequential meaning -/

/-- With a single thread, a finished execution (any schedule) has exactly the sequential meaning
`seqOps` of its program: final data and results. -/
theorem single_thread_is_sequential (d0 : σ) (p : List (Op σ ρ)) (sched : List Nat)
    (th : Thread σ ρ) (h : (exec (init d0 [p]) sched).threads[0]? = some th) (hfin : th.prog = []) :
    (exec (init d0 [p]) sched).data = (seqOps d0 p).2 ∧ th.results = (seqOps d0 p).1 := by
  have hi := (inv_reachable d0 [p] sched).data
  generalize exec (init d0 [p]) sched = g at hi h
  -- only thread 0 has a program, so every linearised operation is tagged 0 …
  have hall : ∀ e ∈ g.lin, e.1 = 0 := fun e he => by
    obtain ⟨q, hq, _⟩ := hi.mem e he
    exact Nat.lt_one_iff.1 (lt_of_getElem? hq)
  -- … and the linearization is the whole program
  have hp : p = g.lin.map (·.2) := by
    have := (hi.sees 0 th h).order
    rw [hfin, List.append_nil, opsOf, filter_tag_eq_self 0 _ hall] at this
    exact Option.some.inj this
  have hs := seqAll_eq d0 g.lin
  rw [← hp] at hs
  refine ⟨hi.data_eq.trans (congrArg Prod.fst hs), ?_⟩
  rw [(hi.sees 0 th h).results_eq, hs, resOf, filter_tag_eq_self 0 _ fun e he => ?_, List.map_snd_zip]
  · rw [seqOps_length, hp, List.length_map, List.length_map]; exact Nat.le_refl _
  · obtain ⟨e', he', heq⟩ := List.mem_map.1 (List.of_mem_zip he).1
    exact heq ▸ hall e' he'

/-- non-vacuity: one thread, one write operation, four micro-steps: finished -/
example : ((exec (init (0 : Nat) [[({ write := true, f := fun d => (d + 1, d) } : Op Nat Nat)]])
    [0, 0, 0, 0]).threads[0]?.map (fun th => th.prog.length)) = some 0 := by decide

end KotoVerif.C19Ext2
