/-
C06 — Host safety, for the panic kernels of `Model/Guards.lean`. Per kernel `k`: `k_total` — `k … ≠ .panic`
for ALL inputs in the machine ranges that satisfy the caller's guard; where that is false for the code as
it is, `k_panic_witness` — a concrete input with `k … = .panic` (by `decide`), replayed on the
implementation by `harness/src/bin/c06.rs` — and `k_partial`, stating which inputs are excluded.
Everything outside the kernels is exploration, not proof (see props/C06.json).
-/
import KotoVerif.Lemmas.C06Spec

namespace KotoVerif.C06
open KotoVerif.Guards

/-! ## the flag-parametrised kernels (`Fx`, requests/C06-fix-*.diff) with no flag set

With no repair the generalised kernels are the kernels the theorems below speak about (so every theorem
speaks about what the driver runs). Where the link is `rfl`, the theorems below take a fact about
`…G Fx.none` for the plain kernel without rewriting; the other links are rewritten with (`▸`). -/

theorem asBoundedRangeG_none (r : KRange) : asBoundedRangeG Fx.none r = asBoundedRange r := rfl
theorem rangeSizeG_none (r : KRange) : rangeSizeG Fx.none r = rangeSize r := by
  unfold rangeSizeG rangeSize; rfl
theorem rangeContainsG_none (r : KRange) (n : Int) : rangeContainsG Fx.none r n = rangeContains r n := rfl
theorem rangeIndicesG_none (r : KRange) (m : Int) : rangeIndicesG Fx.none r m = rangeIndices r m := rfl
theorem rangeIntersectionG_none (a b : KRange) : rangeIntersectionG Fx.none a b = rangeIntersection a b := by
  unfold rangeIntersectionG rangeIntersection; rfl
theorem runIndexSeqRangeG_none (len : Int) (r : KRange) : runIndexSeqRangeG Fx.none len r = runIndexSeqRange len r := rfl
theorem runIndexRangeNumG_none (r : KRange) (n : NumView) : runIndexRangeNumG Fx.none r n = runIndexRangeNum r n := by
  unfold runIndexRangeNumG runIndexRangeNum; rw [rangeSizeG_none]; rfl
theorem indexAssignListRangeG_none (len : Int) (r : KRange) :
    indexAssignListRangeG Fx.none len r = indexAssignListRange len r := rfl
theorem runTempIndexRangeG_none (r : KRange) (i : Int) : runTempIndexRangeG Fx.none r i = runTempIndexRange r i := by
  unfold runTempIndexRangeG runTempIndexRange
  simp only [Fx.none, Bool.false_eq_true, ite_false]
  rfl

theorem sizeHintG_none (c : Cursor) : sizeHintG Fx.none c = sizeHint c := rfl
theorem absIntG_none (a : Int) : absIntG Fx.none a = absInt a := by
  unfold absIntG absInt; rfl
theorem rangeExpandedG_none (s e n : Int) : rangeExpandedG Fx.none s e n = rangeExpanded s e n := rfl
theorem runRemainderAssignG_none (a b : Int) :
    runRemainderAssignG Fx.none a b = (runRemainderAssign a b).map' some := by
  unfold runRemainderAssignG runRemainderAssign; simp [Fx.none]
theorem shiftLeftG_none (a : Int) (b : NumView) : shiftLeftG Fx.none a b = shiftLeft a b :=
  (shiftLeft_eq_G a b).symm
theorem shiftRightG_none (a : Int) (b : NumView) : shiftRightG Fx.none a b = shiftRight a b :=
  (shiftRight_eq_G a b).symm

/-! ## KRange::as_bounded_range -/

/-- finding F-C06-5: the code has no guard for the inclusive range that ends at `i64::MAX` -/
theorem asBoundedRange_panic_iff (r : KRange) (h : KRange.wf r) :
    asBoundedRange r = .panic ↔ r.endsAtMax :=
  Res.sat.panic_iff (((asBoundedRangeG_spec Fx.none r).imp (endOverflows_none_iff h).1 False.elim).mono
    fun _ hq he => hq.1 ((endOverflows_none_iff h).2 he))

theorem asBoundedRange_total (r : KRange) (h : KRange.wf r) (hg : ¬ r.endsAtMax) :
    asBoundedRange r ≠ .panic := fun hp => hg ((asBoundedRange_panic_iff r h).1 hp)

/-- `size (0..=9223372036854775807)` -/
theorem asBoundedRange_panic_witness :
    asBoundedRange ⟨some 0, some (9223372036854775807, true)⟩ = .panic := by decide

example : KRange.wf ⟨some 0, some (10, true)⟩ ∧ ¬ KRange.endsAtMax ⟨some 0, some (10, true)⟩ := by
  refine ⟨⟨?_, ?_⟩, by decide⟩
  · intro s hs; cases hs; decide
  · intro e i he; cases he; decide

/-! ## KRange::size -/

/-- `size (i64::MIN..i64::MAX)` (finding F-C06-7) -/
theorem rangeSize_panic_witness :
    rangeSize ⟨some (-9223372036854775808), some (9223372036854775807, false)⟩ = .panic := by decide

theorem rangeSize_partial (r : KRange) (h : KRange.wf r) (hg : ¬ r.endsAtMax)
    (hd : ∀ s e, asBoundedRange r = .ok (s, e) → e - s ≤ I64_MAX) : rangeSize r ≠ .panic := by
  obtain ⟨⟨s, e⟩, hok, _, _, hle, _⟩ :=
    ((asBoundedRangeG_spec Fx.none r).imp (not_endOverflows_of_guard _ h hg) id).exists_ok
  exact rangeSizeG_none r ▸ ((rangeSizeG_spec Fx.none r hok hle).imp (fun hp => hp.2.2
    ⟨Int.le_trans (by decide) (Int.sub_nonneg_of_le hle), hd s e hok⟩) id).ne_panic

example : rangeSize ⟨some 2, some (5, true)⟩ = .ok (some 4) := by decide

/-! ## KRange::contains, indices, intersection -/

theorem rangeContains_total (r : KRange) (h : KRange.wf r) (hg : ¬ r.endsAtMax) (n : Int) :
    rangeContains r n ≠ .panic :=
  ((rangeContainsG_spec Fx.none r n).imp (not_endOverflows_of_guard _ h hg) id).ne_panic

theorem rangeIndices_total (r : KRange) (h : KRange.wf r) (hg : ¬ r.endsAtMax) (m : Int) (hm : inLen m) :
    ∃ a b, rangeIndices r m = .ok (a, b) ∧ 0 ≤ a ∧ a ≤ b ∧ b ≤ m := by
  obtain ⟨⟨a, b⟩, hok, hab⟩ :=
    ((rangeIndicesG_spec Fx.none r m hm).imp (not_endOverflows_of_guard _ h hg) id).exists_ok
  exact ⟨a, b, hok, hab⟩

theorem rangeIntersection_total (a b : KRange) (ha : KRange.wf a) (hb : KRange.wf b)
    (hga : ¬ a.endsAtMax) (hgb : ¬ b.endsAtMax) : rangeIntersection a b ≠ .panic :=
  rangeIntersectionG_none a b ▸ ((rangeIntersectionG_spec Fx.none a b).imp (fun h =>
    h.elim (not_endOverflows_of_guard _ ha hga) (not_endOverflows_of_guard _ hb hgb)) id).ne_panic

example : rangeIndices ⟨some (-3), none⟩ 4 = .ok (0, 4) := by decide
example : rangeIntersection ⟨some 10, some (20, false)⟩ ⟨some 15, some (25, false)⟩ = .ok (some (15, 20)) := by decide

/-! ## KRange::pop_front / pop_back -/

/-- `*start += 1` is guarded by `start < end`: no overflow in either representation -/
theorem popFront_total (large : Bool) (s e : Int) (incl : Bool)
    (hs : if large then inI64 s else inI32 s) (he : if large then inI64 e else inI32 e) :
    popFront large s e incl ≠ .panic :=
  ((popFront_spec large s e incl).imp (fun h => h.2 (inRepr_step large hs he h.1).1) id).ne_panic

/-- `*end - 1` / `*end -= 1` are guarded by `start < end` -/
theorem popBack_total (large : Bool) (s e : Int) (incl : Bool)
    (hs : if large then inI64 s else inI32 s) (he : if large then inI64 e else inI32 e) :
    popBack large s e incl ≠ .panic := by
  unfold popBack
  by_cases hlt : s < e
  · simp only [hlt, if_true, ckRepr_ok large (inRepr_step large hs he hlt).2]
    cases incl <;> simp
  · simp only [hlt, if_false]
    split <;> (try split) <;> simp

example : popFront false 2147483646 2147483647 true = .ok (some 2147483646, 2147483647, 2147483647, true) := by decide
example : popBack true (-9223372036854775808) (-9223372036854775807) false
    = .ok (some (-9223372036854775808), -9223372036854775808, -9223372036854775808, false) := by decide

/-! ## signed_index_to_unsigned, validate_index, run_index, run_slice, run_temp_index -/

theorem signedIndexToUnsigned_total (index size : Int) (hi : inI8 index) (hs : inUsize size) :
    ∃ i, signedIndexToUnsigned index size = .ok i ∧ 0 ≤ i ∧ (index < 0 → i ≤ size) ∧
      (0 ≤ index → i = index) := by
  obtain ⟨i, hok, hneg, hpos⟩ :=
    ((signedIndexToUnsigned_spec index size).imp (fun h => h hs) id).exists_ok
  exact ⟨i, hok, by have := hs.1; omega, fun h => by have := hneg h; have := hs.1; omega, hpos⟩

theorem validateIndex_total (n : NumView) (size : Option Int) : validateIndex n size ≠ .panic :=
  (validateIndex_spec n size).ne_panic

/-- `l[n]`, `t[n]`, `m[n]`: the guard protects `data[index]` for every number -/
theorem runIndexSeqNum_total (len : Int) (n : NumView) (hn : n.wf) : runIndexSeqNum len n ≠ .panic :=
  Res.ne_panic_iff.2 <| (validateIndex_spec n (some len)).bind fun i hi => by
    rw [sat_sliceIndex, if_pos ⟨hi.1 ▸ hn.1, hi.2 len rfl⟩]; trivial

/-- `l[range]`, `t[range]` -/
theorem runIndexSeqRange_total (len : Int) (hl : inLen len) (r : KRange) (h : KRange.wf r) (hg : ¬ r.endsAtMax) :
    runIndexSeqRange len r ≠ .panic :=
  ((runIndexSeqRangeG_spec Fx.none len hl r).imp (not_endOverflows_of_guard _ h hg) id).ne_panic

/-- `s[n]`: `index + 1` cannot overflow behind the guard -/
theorem runIndexStrNum_total (len : Int) (hl : inLen len) (n : NumView) (hn : n.wf) :
    runIndexStrNum len n ≠ .panic :=
  Res.ne_panic_iff.2 <| (validateIndex_spec n (some len)).bind fun i hi => by
    have h0 : 0 ≤ i := hi.1 ▸ hn.1
    rw [ckUsize_ok (inUsize_of_le_len (Int.le_add_one h0) (Int.add_one_le_of_lt (hi.2 len rfl)) hl)]
    exact Res.sat.ok trivial

/-- `(9223372036854775807..)[1]` (finding F-C06-11): with no end there is no size, hence no bounds
check, and `start + index` overflows -/
theorem runIndexRangeNum_panic_witness :
    runIndexRangeNum ⟨some 9223372036854775807, none⟩ ⟨false, true, true, 1, 1⟩ = .panic := by decide

/-- an index below the size stays below the end, which is an `i64` -/
theorem runIndexRangeNum_partial (r : KRange) (h : KRange.wf r) (hg : ¬ r.endsAtMax) (hb : r.isBounded = true)
    (n : NumView) (hn : n.wf) (hsz : rangeSize r ≠ .panic) : runIndexRangeNum r n ≠ .panic := by
  obtain ⟨⟨s, e⟩, hok, _, hs, hle, hw⟩ :=
    ((asBoundedRangeG_spec Fx.none r).imp (not_endOverflows_of_guard _ h hg) id).exists_ok
  have hsize := (rangeSizeG_spec Fx.none r hok hle).safe (rangeSizeG_none r ▸ hsz)
  rw [rangeSizeG_none] at hsize
  unfold runIndexRangeNum
  cases hst : r.start with
  | none => exact err_ne_panic
  | some s0 =>
    refine Res.ne_panic_iff.2 ((hsize.imp id False.elim).bind fun sz hq => ?_)
    obtain ⟨rfl, hd⟩ := hq
    refine (validateIndex_spec n _).bind fun i hi => ?_
    have hlt := hi.2 (e - s) (if_pos hb)
    have H : n.usize ≤ I64_MAX ∧ inI64 (s0 + n.usize) := by
      have := hd hb rfl; have := (hw h).2; have := (h.1 s0 hst).1; have := hn.1
      have : s = s0 := hs.trans (triple_start hst)
      rw [hi.1] at hlt; arith
    rw [hi.1, castI64_id H.1, ckI64_ok H.2]
    exact Res.sat.ok trivial

example : runIndexRangeNum ⟨some 10, some (14, false)⟩ ⟨false, true, true, 3, 3⟩ = .ok 13 := by decide

theorem runSliceSeq_total (len index : Int) (hi : inI8 index) (hl : inUsize len) (sliceTo : Bool) :
    runSliceSeq len index sliceTo ≠ .panic :=
  Res.ne_panic_iff.2 <|
    ((signedIndexToUnsigned_spec index len).imp (fun h => h hl) False.elim).bind fun i _ => by
      split <;> exact Res.sat.ok trivial

theorem runTempIndexSeq_total (len index : Int) (hi : inI8 index) (hl : inUsize len) :
    runTempIndexSeq len index ≠ .panic :=
  Res.ne_panic_iff.2 <|
    ((signedIndexToUnsigned_spec index len).imp (fun h => h hl) False.elim).bind fun _ _ => Res.sat.ok trivial

theorem runTempIndexStr_total (len index : Int) (hi : inI8 index) (hl : inLen len) :
    runTempIndexStr len index ≠ .panic :=
  Res.ne_panic_iff.2 <|
    ((signedIndexToUnsigned_spec index len).imp (fun h => h (inLen_inUsize hl)) False.elim).bind fun i hi' => by
      rw [ckUsize_ok (by arith)]; exact Res.sat.ok trivial

/-- the `|index| < count` guard protects `registers[start + index]` whenever the temporary tuple's
registers exist (`start + count ≤ registers.len()`) -/
theorem runTempIndexTemp_total (regsLen start count index : Int) (hi : inI8 index)
    (hs : 0 ≤ start) (hc : 0 ≤ count) (hfit : start + count ≤ regsLen) (hr : regsLen ≤ I64_MAX) :
    runTempIndexTemp regsLen start count index ≠ .panic := by
  unfold runTempIndexTemp
  by_cases hg : (if index < 0 then -index else index) < count
  · rw [if_pos hg]
    refine Res.ne_panic_iff.2 <|
      ((signedIndexToUnsigned_spec index count).imp (fun h => h (by arith)) False.elim).bind fun i hi' => ?_
    have H : inUsize (start + i) ∧ 0 ≤ start + i ∧ start + i < regsLen := by arith
    rw [ckUsize_ok H.1, bind_ok, sat_bind, sat_sliceIndex, if_pos H.2]
    exact Res.sat.ok trivial
  · rw [if_neg hg]; exact ok_ne_panic _

/-- nested pattern on `..=i64::MAX` / on a range starting at `i64::MAX` / ending at `i64::MIN` -/
theorem runTempIndexRange_panic_witness :
    runTempIndexRange ⟨some 0, some (9223372036854775807, true)⟩ (-1) = .panic ∧
    runTempIndexRange ⟨some 9223372036854775807, some (9223372036854775807, false)⟩ 1 = .panic ∧
    runTempIndexRange ⟨some 0, some (-9223372036854775808, false)⟩ (-1) = .panic := by decide

/-- the bounds keep 128, the reach of an `i8` index, away from the `i64` limits -/
theorem runTempIndexRange_partial (r : KRange) (h : KRange.wf r) (hg : ¬ r.endsAtMax) (index : Int) (hi : inI8 index)
    (hs : ∀ s, r.start = some s → s ≤ I64_MAX - 128)
    (he : ∀ e i, r.stop = some (e, i) → I64_MIN + 128 ≤ e ∧ e ≤ I64_MAX - 1) :
    runTempIndexRange r index ≠ .panic := by
  have hc : ∀ v, (rangeContains r v).bind (fun c => Res.ok (if c then some v else none)) ≠ .panic :=
    containsThen_ne_panic Fx.none r (not_endOverflows_of_guard _ h hg)
  unfold runTempIndexRange
  split
  · cases hsp : r.stop with
    | none => simp
    | some p =>
      obtain ⟨e, incl⟩ := p
      have hb := he e incl hsp
      have hw := h.2 e incl hsp
      have H : inI64 (e + index) ∧ inI64 (e + 1) ∧ inI64 (e + 1 + index) := by arith
      cases incl
      · simp only [Bool.false_eq_true, ite_false, bind_ok, ckI64_ok H.1]
        exact hc _
      · simp only [ite_true, bind_ok, ckI64_ok H.2.1, ckI64_ok H.2.2]
        exact hc _
  · cases hst : r.start with
    | none => simp
    | some s =>
      have hb := hs s hst
      have hw := h.1 s hst
      simp only [ckI64_ok (show inI64 (s + index) by arith), bind_ok]
      exact hc _

/-! ## run_index_assign -/

theorem indexAssignListNum_total (len : Int) (n : NumView) (hn : n.wf) : indexAssignListNum len n ≠ .panic := by
  unfold indexAssignListNum sliceIndex
  split
  · rename_i hg; have := hn.1; simp [this, hg.2]
  · simp

theorem indexAssignListRange_total (len : Int) (hl : inLen len) (r : KRange) (h : KRange.wf r) (hg : ¬ r.endsAtMax) :
    indexAssignListRange len r ≠ .panic :=
  ((indexAssignListRangeG_spec Fx.none len hl r).imp (not_endOverflows_of_guard _ h hg) id).ne_panic

/-- a NaN or negative index never reaches the indexing (runtime error) -/
theorem indexAssignListNum_guard (len : Int) (n : NumView) (h : n.geZeroF = false) :
    indexAssignListNum len n = .err := by
  unfold indexAssignListNum; simp [h]

/-! ### map arm -/

/-- **before commit 6a9dccd** (finding F-C06-4): `m = {a: 1, b: 2, c: 3}; m[0] = ('c', 9)` -/
theorem indexAssignMapUnguarded_panic_witness :
    indexAssignMapUnguarded [0, 1, 2] true 0 true 2 = .panic := by decide

/-- after `swap_remove_index(u)` and the insertion of a key that is new, the map has its old length
again, so `swap_indices(u, len - 1)` is in range -/
theorem swapIndices_reinserted (ks : List Nat) (u key : Nat) (hu : u < ks.length)
    (hnew : key ∉ swapRemoveIndex ks u) :
    swapIndices (insertKey (swapRemoveIndex ks u) key) u (ks.length - 1) ≠ .panic := by
  have hlen : (insertKey (swapRemoveIndex ks u) key).length = ks.length := by
    rw [length_insertKey, length_swapRemoveIndex ks u hu, if_neg hnew]
    exact Nat.sub_add_cancel (Nat.zero_lt_of_lt hu)
  exact swapIndices_total _ _ _ (hlen ▸ hu)
    (by rw [hlen]; exact Nat.sub_lt (Nat.zero_lt_of_lt hu) Nat.one_pos)

theorem indexAssignMapUnguarded_partial (ks : List Nat) (ge : Bool) (u : Nat) (isPair : Bool) (key : Nat)
    (hnew : key ∉ swapRemoveIndex ks u) : indexAssignMapUnguarded ks ge u isPair key ≠ .panic := by
  unfold indexAssignMapUnguarded
  split
  · rename_i hg
    split
    · exact swapIndices_reinserted ks u key hg.2 hnew
    · simp
  · simp

/-- **current code**: with the key-collision guard the map arm never panics. The remaining case `key`
already at position `u` is safe because positions are distinct (`Nodup`): removing entry `u` removes the
only occurrence. -/
theorem indexAssignMap_total (ks : List Nat) (hnd : ks.Nodup) (ge : Bool) (u : Nat) (isPair : Bool) (key : Nat) :
    indexAssignMap ks ge u isPair key ≠ .panic := by
  unfold indexAssignMap
  split
  · rename_i hg
    -- a key that stands nowhere or only at `u` is gone after the removal: a survivor stood at some
    -- `i ≠ u`, and by `Nodup` that is where `indexOfKey` finds it
    have hnew : (∀ j, indexOfKey ks key = some j → j = u) → key ∉ swapRemoveIndex ks u := by
      intro hj hm
      obtain ⟨i, hiu, hi⟩ := mem_swapRemoveIndex ks u key hg.2 hm
      obtain ⟨hil, rfl⟩ := List.getElem?_eq_some_iff.1 hi
      refine hiu (hj i ?_)
      rw [indexOfKey_eq, List.idxOf?_eq_some_iff]
      exact ⟨hil, rfl, fun j hji he => Nat.ne_of_lt hji ((List.getElem_inj hnd).1 he)⟩
    split
    · split
      · rename_i j hk
        split
        · exact err_ne_panic
        · rename_i hju
          exact swapIndices_reinserted ks u key hg.2
            (hnew fun j' hj' => by rw [hk] at hj'; cases hj'; exact Decidable.not_not.mp hju)
      · rename_i hk
        exact swapIndices_reinserted ks u key hg.2 (hnew fun j hj => by rw [hk] at hj; cases hj)
    · exact err_ne_panic
  · exact err_ne_panic

example : indexAssignMap [0, 1, 2] true 0 true 7 = .ok [7, 1, 2] := by decide
example : indexAssignMap [0, 1, 2] true 0 true 2 = .err := by decide
example : indexAssignMap [0, 1, 2] true 1 true 1 = .ok [0, 1, 2] := by decide

/-! ## remainder, power, shifts, abs, step_to, range.expanded -/

/-- `run_remainder` special-cases a zero integer divisor: total for all integers -/
theorem runRemainder_total (a b : Int) : runRemainder a b ≠ .panic := by
  unfold runRemainder
  split
  · exact ok_ne_panic _
  · rename_i hb; rw [wrappingRem_eq_tmod a b hb]; exact ok_ne_panic _

/-- `z = 10; z %= 0` (finding F-C06-1): `run_remainder_assign` lacks that special case -/
theorem runRemainderAssign_panic_witness : runRemainderAssign 10 0 = .panic := by decide

theorem runRemainderAssign_partial (a b : Int) (hb : b ≠ 0) : runRemainderAssign a b ≠ .panic := by
  rw [runRemainderAssign, wrappingRem_eq_tmod a b hb]; exact ok_ne_panic _

theorem runRemainderAssign_panic_iff (a b : Int) : runRemainderAssign a b = .panic ↔ b = 0 := by
  constructor
  · intro h; apply Classical.byContradiction; intro hb; exact runRemainderAssign_partial a b hb h
  · intro h; subst h; unfold runRemainderAssign wrappingRem; simp

/-- `KNumber::pow` on integers multiplies with `wrapping_mul` only: nothing in it can panic -/
theorem powInt_total (a b : Int) : powInt a b ≠ .panic := by unfold powInt; simp

/-- `1.shift_left 64` (finding F-C06-6): the guard is only `b >= 0` -/
theorem shiftLeft_panic_witness : shiftLeft 1 ⟨false, true, true, 64, 64⟩ = .panic := by decide
theorem shiftRight_panic_witness : shiftRight 1 ⟨false, true, true, 64, 64⟩ = .panic := by decide

theorem shiftLeft_partial (a : Int) (b : NumView) (hb : b.i64 < 64) : shiftLeft a b ≠ .panic :=
  ((shiftLeft_spec a b).imp (fun h => Int.not_le.mpr hb h.2) id).ne_panic
theorem shiftRight_partial (a : Int) (b : NumView) (hb : b.i64 < 64) : shiftRight a b ≠ .panic :=
  ((shiftRight_spec a b).imp (fun h => Int.not_le.mpr hb h.2) id).ne_panic

theorem shiftLeft_panic_iff (a : Int) (b : NumView) :
    shiftLeft a b = .panic ↔ (b.geZeroI = true ∧ 64 ≤ b.i64) :=
  Res.sat.panic_iff (((shiftLeft_spec a b).imp id fun h hc => h hc.1).mono
    fun _ h hc => Int.not_le.mpr h.2.2 hc.2)

/-- `(-9223372036854775807 - 1).abs()` (finding F-C06-9) -/
theorem absInt_panic_witness : absInt (-9223372036854775808) = .panic := by decide
theorem absInt_partial (a : Int) (h : inI64 a) (hmin : a ≠ I64_MIN) : absInt a ≠ .panic :=
  ((absInt_spec a).imp (fun hp => hp (by unfold iabs; split <;> arith)) id).ne_panic

/-! ### StepToI64Iterator (number.step_to on integers; finding F-C06-8, fixed by d8d5b00) -/

/-- before d8d5b00: `1.step_to 5, 0`; `0.step_to i64::MIN`; `i64::MIN.step_to 1` -/
theorem stepToNewUnchecked_panic_witness :
    stepToNewUnchecked 1 5 0 = .panic ∧ stepToNewUnchecked 0 (-9223372036854775808) 1 = .panic ∧
    stepToNewUnchecked (-9223372036854775808) 1 1 = .panic := by decide

/-- **`new` never panics** (step zero, negative, `i64::MIN` …) and establishes the invariant with all
`count + 1` values remaining -/
theorem stepToNew_total (start target step : Int) (hs : inI64 start) (ht : inI64 target) (hst : inI64 step) :
    ∃ s, stepToNew start target step = .ok s ∧ StepInv start target step s ∧
      s.steps = stepCount start target step := by
  obtain ⟨ha0, ha1, _, _⟩ := iabs_facts start target hs ht
  unfold stepToNew
  have hsg : (if target < start then wrap64 (-step) else step) = stepSigned start target step := rfl
  by_cases hp : 0 < step
  · obtain ⟨hceq, hn0, _, _⟩ := stepCount_facts start target step hp
    obtain ⟨hk1, hk2, hin, _⟩ :=
      step_ck start target step (stepCount start target step) hs ht hst hp hn0 (Int.le_refl _)
    simp only [gt_iff_lt, hp, ite_true, ckI128_of_u64 (sub_bound_of_inI64 hs ht),
      ckI128_of_u64 ⟨Int.le_trans (by decide) ha0, ha1⟩, bind_ok, ← hceq,
      ckI128_of_u64 ⟨Int.le_trans (by decide) hn0, stepCount_le start target step hs ht⟩,
      Int.max_eq_left hn0, hsg, hk1, hk2]
    exact ⟨_, rfl, ⟨rfl, Int.le_trans (by decide) hn0, Int.le_refl _, fun _ =>
      ⟨0, Int.le_refl _, by rw [Int.zero_add]; exact Int.le_refl _,
        by rw [Int.zero_add]; exact wrap64_id hin⟩⟩, rfl⟩
  · have hc := stepCount_nonpos start target step hp
    simp only [gt_iff_lt, hp, ite_false, bind_ok, hsg, show max (-1 : Int) 0 = 0 from rfl,
      Int.mul_zero, Int.add_zero, ckI128_ok (show (-36893488147419103232 : Int) ≤ 0 ∧
        (0 : Int) ≤ 36893488147419103232 by decide), ckI128_of_inI64 hs]
    refine ⟨_, rfl, ⟨rfl, Int.le_refl _, by rw [hc]; exact Int.le_refl _, fun h => ?_⟩, hc.symm⟩
    exact absurd h (show ¬ (0 : Int) ≤ -1 by decide)

theorem stepInv_pos (start target step : Int) (s : StepTo)
    (hle : s.steps ≤ stepCount start target step) (h0 : 0 ≤ s.steps) : 0 < step :=
  Classical.byContradiction fun hp => by
    rw [stepCount_nonpos start target step hp] at hle; omega

/-- **neither `next` nor `next_back` panics** (the `wrapping_sub` of `next_back` past the first value
happens only when nothing remains), and a pull from either end keeps the invariant -/
theorem stepToPull_spec (start target step : Int) (hs : inI64 start) (ht : inI64 target) (hst : inI64 step)
    (b : Bool) (s : StepTo) (h : StepInv start target step s) :
    Res.sat False False
      (fun r => StepInv start target step r.2 ∧
        (0 ≤ s.steps → (∃ x, r.1 = some x ∧ between start target x) ∧ r.2.steps = s.steps - 1) ∧
        (s.steps < 0 → r.1 = none ∧ r.2 = s))
      (if b then stepToNextBack s else stepToNext s) := by
  obtain ⟨hstep, hm1, hle, hex⟩ := h
  by_cases h0 : 0 ≤ s.steps
  · have hp : 0 < step := stepInv_pos start target step s hle h0
    obtain ⟨lo, hlo0, hlole, htgt⟩ := hex h0
    have hcnt := stepCount_le start target step hs ht
    cases b
    · -- `next` yields the `lo`-th value and moves `lo` up
      have K : lo ≤ stepCount start target step ∧
          (-36893488147419103232 ≤ s.steps - 1 ∧ s.steps - 1 ≤ 36893488147419103232) ∧
          -1 ≤ s.steps - 1 ∧ s.steps - 1 ≤ stepCount start target step ∧
          0 ≤ lo + 1 ∧ lo + 1 + (s.steps - 1) = lo + s.steps := by omega
      obtain ⟨hk1, _, _, _⟩ := step_ck start target step s.steps hs ht hst hp h0 hle
      obtain ⟨_, hk2, hin, hb2⟩ := step_ck start target step lo hs ht hst hp hlo0 K.1
      have hval : s.target - stepSigned start target step * s.steps
          = start + stepSigned start target step * lo := by
        rw [htgt, Int.mul_add, ← Int.add_assoc, Int.add_sub_cancel]
      simp only [Bool.false_eq_true, if_false, stepToNext, ge_iff_le, h0, ite_true, hstep, hk1,
        bind_ok, hval, hk2, ckI128_ok K.2.1]
      refine Res.sat.ok ⟨⟨rfl, K.2.2.1, K.2.2.2.1, fun _ => ?_⟩, fun _ => ?_, fun hneg => ?_⟩
      · exact ⟨lo + 1, K.2.2.2.2.1, by rw [K.2.2.2.2.2]; exact hlole, by rw [K.2.2.2.2.2]; exact htgt⟩
      · exact ⟨⟨_, rfl, by rw [wrap64_id hin]; exact hb2⟩, rfl⟩
      · exact absurd h0 (Int.not_le.mpr hneg)
    · -- `next_back` yields `target`, the `(lo + steps)`-th value, and steps `target` back
      have K : (-36893488147419103232 ≤ s.steps - 1 ∧ s.steps - 1 ≤ 36893488147419103232) ∧
          -1 ≤ s.steps - 1 ∧ s.steps - 1 ≤ stepCount start target step ∧ 0 ≤ lo + s.steps ∧
          (0 ≤ s.steps - 1 → 0 ≤ lo + (s.steps - 1) ∧
            lo + (s.steps - 1) ≤ stepCount start target step) ∧
          lo + s.steps = lo + (s.steps - 1) + 1 := by omega
      obtain ⟨_, _, _, hb3⟩ := step_ck start target step (lo + s.steps) hs ht hst hp K.2.2.2.1 hlole
      simp only [if_true, stepToNextBack, ge_iff_le, h0, ckI128_ok K.1, bind_ok]
      refine Res.sat.ok ⟨⟨hstep, K.2.1, K.2.2.1, fun h1 => ?_⟩, fun _ => ?_, fun hneg => ?_⟩
      · obtain ⟨_, _, hin, _⟩ := step_ck start target step (lo + (s.steps - 1)) hs ht hst hp
          (K.2.2.2.2.1 h1).1 (K.2.2.2.2.1 h1).2
        refine ⟨lo, hlo0, (K.2.2.2.2.1 h1).2, ?_⟩
        have hsub : s.target - s.step
            = start + stepSigned start target step * (lo + (s.steps - 1)) := by
          rw [htgt, hstep, K.2.2.2.2.2, Int.mul_add, Int.mul_one, ← Int.add_assoc, Int.add_sub_cancel]
        show wrap64 (s.target - s.step) = _
        rw [hsub, wrap64_id hin]
      · exact ⟨⟨_, rfl, by rw [htgt]; exact hb3⟩, rfl⟩
      · exact absurd h0 (Int.not_le.mpr hneg)
  · have hnone : (if b then stepToNextBack s else stepToNext s) = .ok (none, s) := by
      cases b <;> simp only [Bool.false_eq_true, if_false, if_true, stepToNext, stepToNextBack, ge_iff_le, h0]
    rw [hnone]
    exact Res.sat.ok ⟨⟨hstep, hm1, hle, hex⟩, fun h1 => absurd h1 h0, fun _ => ⟨rfl, rfl⟩⟩

theorem stepToSizeHint_total (start target step : Int) (hs : inI64 start) (ht : inI64 target)
    (s : StepTo) (h : StepInv start target step s) :
    stepToSizeHint s = .ok (min (s.steps + 1) USIZE_MAX) := by
  obtain ⟨_, hm1, hle, _⟩ := h
  have hn := stepCount_le start target step hs ht
  unfold stepToSizeHint
  have h0 : 0 ≤ s.steps + 1 := by omega
  rw [ckI128_ok ⟨Int.le_trans (by decide) h0, by omega⟩, bind_ok]
  congr 1
  by_cases hU : s.steps + 1 ≤ USIZE_MAX
  · rw [if_pos ⟨h0, hU⟩, Int.min_eq_left hU]
  · rw [if_neg fun h => hU h.2, Int.min_eq_right (Int.le_of_lt (Int.not_le.mp hU))]

/-- **any sequence of pulls** from either end -/
theorem stepToRun_spec (start target step : Int) (hs : inI64 start) (ht : inI64 target) (hst : inI64 step)
    (ops : List Bool) (s : StepTo) (h : StepInv start target step s) :
    ∃ vs, stepToRun s ops = .ok vs ∧ (vs.length : Int) = min (ops.length : Int) (s.steps + 1) ∧
      ∀ x ∈ vs, between start target x := by
  induction ops generalizing s with
  | nil => exact ⟨[], rfl, by have := h.2.1; simp; omega, by simp⟩
  | cons b ops ih =>
    have hm1 := h.2.1
    obtain ⟨⟨v, s'⟩, hok, hinv', hyield, hnone⟩ :=
      (stepToPull_spec start target step hs ht hst b s h).exists_ok
    dsimp only at hinv' hyield hnone
    obtain ⟨vs, hvs, hlen, hall⟩ := ih s' hinv'
    unfold stepToRun
    rw [hok]; simp only [bind_ok]
    rw [hvs]; simp only [bind_ok]
    by_cases h0 : 0 ≤ s.steps
    · obtain ⟨⟨x, hx, hbx⟩, hst'⟩ := hyield h0
      subst hx
      refine ⟨x :: vs, rfl, ?_, List.forall_mem_cons.2 ⟨hbx, hall⟩⟩
      simp only [List.length_cons]; push_cast; omega
    · obtain ⟨hv, hs'⟩ := hnone (Int.not_le.mp h0)
      subst hv; subst hs'
      refine ⟨vs, rfl, ?_, hall⟩
      simp only [List.length_cons]; push_cast; omega

theorem stepTo_count (start target step : Int) (hs : inI64 start) (ht : inI64 target) (hst : inI64 step)
    (ops : List Bool) (hlen : stepCount start target step + 1 ≤ ops.length) :
    ∃ s vs, stepToNew start target step = .ok s ∧ stepToRun s ops = .ok vs ∧
      (vs.length : Int) = stepCount start target step + 1 ∧ ∀ x ∈ vs, between start target x := by
  obtain ⟨s, hnew, hinv, hsteps⟩ := stepToNew_total start target step hs ht hst
  obtain ⟨vs, hrun, hl, hall⟩ := stepToRun_spec start target step hs ht hst ops s hinv
  exact ⟨s, vs, hnew, hrun, by rw [hl, hsteps]; exact Int.min_eq_right hlen, hall⟩

example : (stepToNew 1 9 2).bind (fun s => stepToRun s [false, true, false, false, false, false]) = .ok [1, 9, 3, 5, 7] := by
  decide
example : (stepToNew (-9223372036854775808) 9223372036854775807 1).bind stepToSizeHint = .ok 18446744073709551615 := by
  decide
example : (stepToNew 1 5 0).bind (fun s => stepToRun s [false, true]) = .ok [] := by decide

/-! ### list.retain with a predicate (finding F-C06-18, fixed by cf950fc) -/

/-- before cf950fc: `l = [1, 2, 3, 4]; l.retain |x| (l.pop(); true)` reads past the new end -/
theorem listRetain_unchecked_panic_witness : listRetain false 4 [(true, 3), (true, 2), (true, 1)] = .panic := by
  decide

/-- **current code**: whatever the predicate answers and however it resizes the list between calls,
the loop and the final `truncate` cannot panic -/
theorem listRetain_total (len0 : Int) (ms : List RetainMove) : listRetain true len0 ms ≠ .panic :=
  Res.ne_panic_iff.2 <|
    (Res.ne_panic_iff.1 (retainLoop_checked_total len0 ms 0 0 len0)).bind fun _ _ => Res.sat.ok trivial

example : listRetain true 4 [(true, 3), (true, 2), (true, 1)] = .ok 2 := by decide

/-- `(0..10).expanded 9223372036854775807` (finding F-C06-10) -/
theorem rangeExpanded_panic_witness : rangeExpanded 0 10 9223372036854775807 = .panic := by decide
theorem rangeExpanded_partial (s e n : Int) (h1 : inI64 (s - n)) (h2 : inI64 (e + n)) :
    rangeExpanded s e n ≠ .panic := by
  unfold rangeExpanded; rw [ckI64_ok h1, ckI64_ok h2]; simp

/-! ## list.insert / remove / get / resize -/

/-- the guard `n < 0.0 || index > len` protects `Vec::insert` for every number -/
theorem listInsert_total (len : Int) (n : NumView) : listInsert len n ≠ .panic := by
  unfold listInsert
  split
  · simp
  · rename_i h; have : n.usize ≤ len := Int.not_lt.mp fun hh => h (Or.inr hh)
    simp [this]

/-- a negative number is rejected (DESIGN §11: removing this guard turns `l.insert -1, x` from an
error into an insertion at 0 — visible to the correspondence as `err` vs `ok`) -/
theorem listInsert_negative_is_error (len : Int) (n : NumView) (h : n.ltZeroF = true) :
    listInsert len n = .err := by unfold listInsert; simp [h]

theorem listRemove_total (len : Int) (n : NumView) : listRemove len n ≠ .panic := by
  unfold listRemove
  split
  · simp
  · rename_i h; have : n.usize < len := Int.not_le.mp fun hh => h (Or.inr hh)
    simp [this]

theorem listGet_total (len : Int) (n : NumView) : listGet len n ≠ .panic := by
  unfold listGet; split <;> simp

theorem listResize_total (n : NumView) : listResize n ≠ .panic := by
  unfold listResize; split <;> simp

example : listInsert 4 ⟨false, true, true, 4, 4⟩ = .ok 4 := by decide
example : listRemove 4 ⟨false, true, true, 4, 4⟩ = .err := by decide

/-! ## string iterators: `size_hint` after any number of `next` calls -/

theorem sizeHint_panic_iff (c : Cursor) (hl : inLen c.len) (hp : 0 ≤ c.pos ∧ c.pos ≤ I64_MAX + 4) :
    sizeHint c = .panic ↔ c.len < c.pos :=
  Res.sat.panic_iff ((sat_ckUsize _).2 (by split <;> arith))

theorem sizeHint_inside (c : Cursor) (hl : inLen c.len) (h0 : 0 ≤ c.pos) (hle : c.pos ≤ c.len) :
    sizeHint c ≠ .panic := by
  unfold sizeHint
  rw [ckUsize_ok (inUsize_of_le_len (Int.sub_nonneg_of_le hle) (Int.sub_le_self _ h0) hl)]
  exact ok_ne_panic _

theorem bytesNext_some {c c' : Cursor} (hn : bytesNext c = some c') :
    c.pos < c.len ∧ c' = { c with pos := c.pos + 1 } := by
  unfold bytesNext at hn
  split at hn
  · cases hn; exact ⟨‹_›, rfl⟩
  · cases hn

/-- `index ≤ len` is an invariant of `Bytes::next`, hence `Bytes::size_hint` never underflows, after any
number of `next` calls -/
theorem bytes_sizeHint_total (len : Int) (hl : inLen len) (n k : Nat) :
    (bytesRun n ⟨len, 0⟩ k).2 ≠ .panic := by
  suffices ∀ n (c : Cursor) k, inLen c.len → 0 ≤ c.pos → c.pos ≤ c.len → (bytesRun n c k).2 ≠ .panic from
    this n ⟨len, 0⟩ k hl (Int.le_refl _) hl.1
  intro n
  induction n with
  | zero => exact fun c k hl h0 hle => sizeHint_inside c hl h0 hle
  | succ n ih =>
    intro c k hl h0 hle
    unfold bytesRun
    cases hn : bytesNext c with
    | none => exact sizeHint_inside c hl h0 hle
    | some c' =>
      obtain ⟨hlt, rfl⟩ := bytesNext_some hn
      exact ih _ (k + 1) hl (Int.le_add_one h0) (Int.add_one_le_of_lt hlt)

/-- `CharIndices`: a grapheme never extends past the end, so `index ≤ len` is preserved -/
theorem charIndicesNext_inv (c c' : Cursor) (g : Int) (hg : 1 ≤ g ∧ g ≤ c.len - c.pos)
    (hn : charIndicesNext c g = some c') : c'.pos ≤ c'.len ∧ c'.len = c.len := by
  unfold charIndicesNext at hn
  split at hn
  · cases hn; simp; omega
  · cases hn

/-- `i = 'a,b'.split(','); i.next(); i.next(); i.to_list()` (finding F-C06-2): after the last piece
`start = len + pattern_len` -/
theorem split_sizeHint_panic_witness : (splitRun [97, 44, 98] [44] 2 ⟨3, 0⟩ []).2 = .panic := by decide

/-- `Split::next` moves the cursor past the end as soon as the pattern is not found any more -/
theorem splitNext_exhausts (c c' : Cursor) (patLen : Int)
    (hn : splitNext c patLen none = some c') : c'.len < c'.pos := by
  unfold splitNext at hn
  split at hn
  · cases hn; exact Int.lt_add_one_iff.mpr (Int.le_refl _)
  · cases hn

/-- **an empty pattern terminates** (e1818ae): after the first part every `next` either advances the
cursor by at least one byte or exhausts the iterator -/
theorem splitNext_empty_progress (c c' : Cursor) (rest : List Nat)
    (hn : splitNext c 0 ((splitFind [] rest true).map Int.ofNat) = some c') :
    c.pos < c'.pos := by
  unfold splitNext at hn
  split at hn
  · unfold splitFind at hn
    simp only [List.isEmpty_nil, ite_true] at hn
    cases hr : rest.head? with
    | none => rw [hr] at hn; simp at hn; cases hn; simp; omega
    | some b =>
      rw [hr] at hn; simp at hn; cases hn; simp
      unfold utf8Len; split <;> (try split) <;> (try split) <;> omega
  · cases hn

example : (splitRunH sizeHint [97, 195, 169] [] false 6 ⟨3, 0⟩ []).1 = [(0, 0), (0, 1), (1, 3), (3, 3)] := by decide

/-- `size_hint` of `Split` is safe as long as the last piece has not been yielded -/
theorem split_sizeHint_partial (c : Cursor) (hl : inLen c.len) (h0 : 0 ≤ c.pos) (hle : c.pos ≤ c.len) :
    sizeHint c ≠ .panic :=
  sizeHint_inside c hl h0 hle

/-- `i = 'abc'.lines(); i.next(); i.to_list()`: `Lines` sets `start = len + 1` after a last line
without line break -/
theorem lines_sizeHint_panic_witness : (linesRun [97, 98, 99] 1 ⟨3, 0⟩ []).2 = .panic := by decide

theorem linesNext_exhausts (c c' : Cursor) (hn : linesNext c none = some c') : c'.len < c'.pos := by
  unfold linesNext at hn
  split at hn
  · cases hn; exact Int.lt_add_one_iff.mpr (Int.le_refl _)
  · cases hn

example : (splitRun [97, 44, 98] [44] 1 ⟨3, 0⟩ []).2 = .ok 1 := by decide
example : (bytesRun 5 ⟨3, 0⟩ 0) = (3, .ok 0) := by decide

/-! ## TupleSlice::with_bounds, StringSlice::{with_bounds, split}, KotoLexer::peek -/

/-- offsets of real containers cannot overflow `usize` when added -/
theorem withBounds_total (dataLen selfStart bStart bEnd : Int) (ok : Bool)
    (hs : inLen selfStart) (ha : inLen bStart) (hb : inLen bEnd) :
    withBounds dataLen selfStart bStart bEnd ok ≠ .panic :=
  ((withBounds_spec dataLen selfStart bStart bEnd ok).imp
    (fun h => h ⟨inUsize_add_len ha hs, inUsize_add_len hb hs⟩) id).ne_panic

/-- outside that guard the addition overflows (`usize::MAX`); both callers test the request against the
slice's own length first (`stringWithBounds`, `tupleWithBounds`) -/
theorem withBounds_panic_witness : withBounds 6 1 0 18446744073709551615 true = .panic := by decide

/-- **current code** (a83c277): for ANY `usize` bounds of the slice and of the request (no assumption
that they are real lengths) -/
theorem tupleWithBounds_total (dataLen selfStart selfEnd bStart bEnd : Int)
    (hs : inUsize selfStart) (he : inUsize selfEnd) (ha : inUsize bStart) (hb : inUsize bEnd) :
    tupleWithBounds dataLen selfStart selfEnd bStart bEnd ≠ .panic :=
  (tupleWithBounds_spec dataLen selfStart selfEnd bStart bEnd hs he ha hb).ne_panic

theorem tupleWithBounds_in_slice (dataLen selfStart selfEnd bStart bEnd : Int) (a b : Int)
    (hs : inUsize selfStart) (he : inUsize selfEnd) (hse : selfStart ≤ selfEnd) (ha : inUsize bStart) (hb : inUsize bEnd)
    (h : tupleWithBounds dataLen selfStart selfEnd bStart bEnd = .ok (some (a, b))) :
    selfStart ≤ a ∧ a ≤ b ∧ b ≤ selfEnd ∧ b ≤ dataLen := by
  obtain ⟨rfl, rfl, hab, hbd, hg⟩ :=
    (tupleWithBounds_spec dataLen selfStart selfEnd bStart bEnd hs he ha hb).of_ok h a b rfl
  exact ⟨by have := ha.1; omega, hab, by omega, hbd⟩

example : tupleWithBounds 6 1 5 0 18446744073709551615 = .ok none := by decide
example : tupleWithBounds 6 1 5 0 5 = .ok none := by decide
example : tupleWithBounds 6 1 5 1 4 = .ok (some (2, 5)) := by decide

/-- `StringSlice::with_bounds` (42b084b), for real lengths -/
theorem stringWithBounds_total (dataLen selfStart selfEnd bStart bEnd : Int) (ok : Bool)
    (hs : inLen selfStart) (he : inLen selfEnd) (hse : selfStart ≤ selfEnd) (ha : inLen bStart) (hb : inLen bEnd) :
    stringWithBounds dataLen selfStart selfEnd bStart bEnd ok ≠ .panic :=
  ((stringWithBounds_spec dataLen selfStart selfEnd bStart bEnd ok).imp
    (fun h => h ⟨inUsize_of_le_len (Int.sub_nonneg_of_le hse) (Int.sub_le_self _ hs.1) he,
      inUsize_add_len ha hs, inUsize_add_len hb hs⟩) id).ne_panic

/-- inside the slice it was taken from, not merely inside the shared data -/
theorem stringWithBounds_in_slice (dataLen selfStart selfEnd bStart bEnd : Int) (ok : Bool) (a b : Int)
    (hs : inLen selfStart) (hse : selfStart ≤ selfEnd) (he : inLen selfEnd) (hb0 : 0 ≤ bEnd)
    (h : stringWithBounds dataLen selfStart selfEnd bStart bEnd ok = .ok (some (a, b))) :
    a ≤ b ∧ b ≤ selfEnd := by
  obtain ⟨rfl, rfl, hab, _, hg⟩ :=
    (stringWithBounds_spec dataLen selfStart selfEnd bStart bEnd ok).of_ok h a b rfl
  exact ⟨hab, by omega⟩

/-- a reversed range with a huge start still overflows the addition (direct host call) -/
theorem stringWithBounds_panic_witness : stringWithBounds 12 1 12 18446744073709551615 0 true = .panic := by decide

theorem stringSliceSplit_total (dataLen selfStart offset : Int) (ok : Bool)
    (hs : inLen selfStart) (ho : inLen offset) : stringSliceSplit dataLen selfStart offset ok ≠ .panic := by
  unfold stringSliceSplit; rw [ckUsize_ok (inUsize_add_len hs ho)]; simp

/-- before b5b4493 `KotoLexer::peek(n)` with `n ≥ queue_len + 2` underflowed -/
theorem lexerPeekOld_panic_witness : lexerPeekOld 0 2 = .panic := by decide

/-- current code: afterwards the queue holds the `n + 1` tokens that `token_queue.get(n)` needs -/
theorem lexerPeek_total (q n : Int) (hq : inLen q) (hn : 0 ≤ n ∧ n < USIZE_MAX) :
    ∃ add, lexerPeek q n = .ok add ∧ 0 ≤ add ∧ n + 1 ≤ q + add := by
  obtain ⟨k, h, _, rfl⟩ := ((lexerPeek_spec q n).imp (fun h => h (by arith)) id).exists_ok
  exact ⟨_, h, by omega⟩

theorem lexerPeek_panic_iff (q n : Int) (hn : inUsize n) : lexerPeek q n = .panic ↔ n = USIZE_MAX :=
  Res.sat.panic_iff (((lexerPeek_spec q n).imp (fun h => by arith) False.elim).mono
    fun _ h => by have := h.1; arith)

/-! ## format_source_excerpt -/

/-- safe for every span the parser and compiler produce: ordered positions, the start line exists
in the source when the span is on one line, nothing at the `u32` limit -/
theorem sourceExcerpt_total (nLines sl sc el ec : Int)
    (h1 : 0 ≤ sl ∧ sl ≤ el ∧ el < U32_MAX) (h2 : 0 ≤ sc ∧ sc < U32_MAX) (h3 : 0 ≤ ec ∧ ec ≤ U32_MAX)
    (h4 : sl = el → sl < nLines ∧ sc ≤ ec) : sourceExcerpt nLines sl sc el ec ≠ .panic := by
  rw [Res.ne_panic_iff]
  unfold sourceExcerpt
  -- what is left is that every checked sum and difference is in range, and the `unwrap` succeeds
  simp only [sat_bind, sat_ckU32, sat_ckUsize, sat_ite, sat_ok, sat_panic, if_false_right, and_true]
  arith

/-- what the guard excludes: a one-line span on a line that `lines()` does not have (e.g. the line
after a trailing line break), reversed lines, reversed columns on one line -/
theorem sourceExcerpt_panic_witness :
    sourceExcerpt 1 1 0 1 0 = .panic ∧ sourceExcerpt 3 2 0 1 0 = .panic ∧ sourceExcerpt 3 1 5 1 2 = .panic := by decide

example : sourceExcerpt 3 1 2 1 5 = .ok () := by decide

/-! ## ExecutionTimeout -/

theorem timeoutDeadline_total (now limit : Int) (hn : 0 ≤ now ∧ now ≤ 4611686018427387903) (hl : 0 ≤ limit) :
    timeoutDeadline now limit ≠ .panic := by
  unfold timeoutDeadline
  split
  · simp
  · rw [ckI64_ok (by arith)]; simp

/-- before commit 2bba370 a host setting of `Duration::MAX` (not a script input) overflowed -/
theorem timeoutDeadlineUnchecked_panic_witness :
    timeoutDeadlineUnchecked 100000 18446744073709551615 = .panic := by decide

example : timeoutDeadline 100000 18446744073709551615 = .ok 4295067295 := by decide

/-- the instruction counter is only incremented below the interval -/
theorem timeoutTick_total (since interval : Int) (hs : 0 ≤ since) (hi : inUsize interval) :
    timeoutTick since interval ≠ .panic := by
  rw [Res.ne_panic_iff]
  unfold timeoutTick
  simp only [sat_ite, sat_map', sat_ckUsize, sat_ok, if_false_right, and_true, implies_true]
  arith

/-! ## next_register and host-started operations (findings F-C06-20 / F-C06-21, fixed by b752efa) -/

/-- before b752efa: a unary operation started with 255 registers in use, a binary one with 254 -/
theorem hostOp_unguarded_panic_witness : hostOp false 255 1 = .panic ∧ hostOp false 254 2 = .panic := by decide

/-- **current code**: with the headroom guard no host-started operation that needs up to 7 operand
registers can overflow the `u8` id, whatever the frame's fill level -/
theorem hostOp_total (next extra : Int) (hn : 0 ≤ next) (he : 0 ≤ extra ∧ extra ≤ 7) :
    hostOp true next extra ≠ .panic :=
  (hostOp_spec next extra hn he).ne_panic

theorem hostOp_err_iff (next extra : Int) (hn : 0 ≤ next) (he : 0 ≤ extra ∧ extra ≤ 7) :
    hostOp true next extra = .err ↔ next + 8 > 255 :=
  Res.sat.err_iff (((hostOp_spec next extra hn he).imp False.elim id).mono fun _ h => h.1)

example : hostOp true 247 2 = .ok 247 := by decide
example : hostOp true 248 1 = .err := by decide

/-! ## padding to a minimum width (run_string_push) -/

/-- **current code**: the guard and the subtraction use the same (grapheme) length, so the fill count
cannot underflow -/
theorem padFill_total (graphemes bytes minWidth : Int) (a : Align)
    (hg : 0 ≤ graphemes) (hw : 0 ≤ minWidth ∧ minWidth ≤ U32_MAX) :
    ∃ l r, padFill false graphemes bytes minWidth a = .ok (l, r) ∧ 0 ≤ l ∧ 0 ≤ r ∧
      graphemes + l + r = max graphemes minWidth := by
  obtain ⟨⟨l, r⟩, h, _, h1, h2, h3⟩ :=
    ((padFill_spec false graphemes bytes minWidth a graphemes rfl).imp
      (fun h => h.2 (by have := h.1; arith)) id).exists_ok
  exact ⟨l, r, h, h1, h2, by split at h3 <;> omega⟩

/-- the seeded variant (fill count from the byte length) underflows exactly in the window
`graphemes < width < bytes`: `'{"ééé":4}'` -/
theorem padFill_byteLen_panic_witness : padFill true 3 6 4 .left = .panic := by decide

theorem padFill_byteLen_panic_iff (graphemes bytes minWidth : Int) (a : Align)
    (hb : graphemes ≤ bytes) (hw : minWidth ≤ U32_MAX) (hg : 0 ≤ graphemes) :
    padFill true graphemes bytes minWidth a = .panic ↔ (graphemes < minWidth ∧ minWidth < bytes) :=
  Res.sat.panic_iff (((padFill_spec true graphemes bytes minWidth a bytes rfl).imp
    (fun h => ⟨h.1, by have := h.2; arith⟩) False.elim).mono
    fun _ h hc => by have := h.1 hc.1; arith)

example : padFill false 3 6 7 .center = .ok (2, 2) := by decide

/-! ## unpack_packed_arguments -/

theorem unpackOne_total (argCount len : Int) (hc : 1 ≤ argCount ∧ argCount ≤ 254) (hl : 0 ≤ len) :
    unpackOne none argCount len ≠ .panic ∧
      ∀ c, unpackOne none argCount len = .ok c → 0 ≤ c ∧ c ≤ 253 ∧ c = argCount - 1 + len :=
  ⟨(unpackOne_spec argCount len hc hl).ne_panic, fun _ h => (unpackOne_spec argCount len hc hl).of_ok h⟩

/-- **current code**: any number of packed arguments of any lengths (empty ones included) — no
panic. The count starts `≤ 254` (the packed-argument index registers follow the arguments) and
counts every packed argument itself, so it is at least the number of arguments still to unpack. -/
theorem unpackArgsFrom_total (lens : List Int) (hl : ∀ l ∈ lens, 0 ≤ l) (argCount : Int)
    (hc : lens.length ≤ argCount ∧ argCount ≤ 254) : unpackArgsFrom none argCount lens ≠ .panic := by
  induction lens generalizing argCount with
  | nil => exact ok_ne_panic _
  | cons len rest ih =>
    have hlen := hl len (by simp)
    have hcl : ((len :: rest).length : Int) = rest.length + 1 := by simp
    refine Res.ne_panic_iff.2 <|
      (unpackOne_spec argCount len ⟨by omega, hc.2⟩ hlen).bind fun c hb => ?_
    exact Res.ne_panic_iff.1 (ih (fun l hl' => hl l (by simp [hl'])) c (by omega))

theorem unpackArgs_total (lens : List Int) (hl : ∀ l ∈ lens, 0 ≤ l) (argCount : Int)
    (hc : lens.length ≤ argCount ∧ argCount ≤ 254) : unpackArgs false argCount lens ≠ .panic := by
  unfold unpackArgs
  simpa using unpackArgsFrom_total lens hl argCount hc

example : unpackArgs false 2 [0, 0] = .ok 0 := by decide

/-- the seeded variant (limit computed once): two arguments that fit one by one overflow together —
`f (0..200)..., (0..200)...` -/
theorem unpackArgs_stale_panic_witness : unpackArgs true 2 [200, 200] = .panic := by decide
example : unpackArgs false 2 [200, 200] = .err := by decide
example : unpackArgs false 2 [100, 100] = .ok 200 := by decide

/-! ## compiler Frame -/

/-- 248 locals + 12 captures (finding F-C05-3 / F-C06-15) -/
theorem frameNew_panic_witness : frameNew 248 12 0 = .panic := by decide

theorem frameNew_total (l c p : Int) (hl : 0 ≤ l) (hc : 0 ≤ c) (hp : 0 ≤ p) (hsum : 1 + l + c + p ≤ 255) :
    frameNew l c p = .ok (1 + l + c + p) := by
  unfold frameNew
  have H : inU8 c ∧ inU8 p ∧ inU8 (1 + l) ∧ inU8 (1 + l + c) ∧ inU8 (1 + l + c + p) := by arith
  rw [castU8_id H.1, castU8_id H.2.1, ckU8_ok H.2.2.1, bind_ok, ckU8_ok H.2.2.2.1, bind_ok,
    ckU8_ok H.2.2.2.2]

def FrameInv (f : Frame) : Prop :=
  0 ≤ f.base ∧ 0 ≤ f.count ∧ f.count ≤ f.used ∧ f.base + f.used ≤ 255

theorem pushRegister_spec (f : Frame) (h : FrameInv f) :
    Res.sat False False (fun rf => FrameInv rf.2) (pushRegister f) := by
  unfold FrameInv at h ⊢
  unfold pushRegister
  simp only [sat_bind, sat_ckU8, sat_ite, sat_ok, if_false_right]
  arith

theorem popRegister_spec (f : Frame) (h : FrameInv f) :
    Res.sat False False (fun rf => FrameInv rf.2) (popRegister f) := by
  unfold FrameInv at h ⊢
  unfold popRegister
  split
  · exact Res.sat.ok h
  · simp only [sat_ite, sat_bind, sat_ckU8, sat_ok, if_false_right]
    arith

/-- **no `u8` overflow in the register allocator**: from any frame satisfying the invariant (in
particular a fresh one with `base ≤ 255`), no sequence of `push_register` / `pop_register` panics … -/
theorem frameRun_total (ops : List FrameOp) (f : Frame) (h : FrameInv f) :
    ∃ f', frameRun f ops = .ok f' ∧ FrameInv f' := by
  refine Res.sat.exists_ok ?_
  induction ops generalizing f with
  | nil => exact Res.sat.ok h
  | cons op ops ih =>
    refine Res.sat.bind (R := FrameInv) ?_ ih
    cases op
    · exact (sat_map' _).2 (pushRegister_spec f h)
    · exact (sat_map' _).2 (popRegister_spec f h)

/-- … and `next_temporary_register`, `available_registers_count`, `registers_used` stay computable -/
theorem frame_queries_total (f : Frame) (h : FrameInv f) :
    frameNextTemp f ≠ .panic ∧ frameAvailable f ≠ .panic ∧ frameRegistersUsed f ≠ .panic := by
  obtain ⟨h0, h1, h2, h3⟩ := h
  unfold frameAvailable frameNextTemp frameRegistersUsed
  simp only [Res.ne_panic_iff, sat_bind, sat_ckU8, if_false_right, and_true]
  arith

example : FrameInv ⟨250, 0, 0, []⟩ := by unfold FrameInv; simp

/-- `peek_register(n)` with `n ≥ len` underflows (`len - n - 1`) … -/
theorem peekRegister_panic_witness : peekRegister 0 0 = .panic ∧ peekRegister 2 5 = .panic := by decide

/-- … and is safe for the compiler's only caller (`peek_register(elements.len() - 1)` directly after
pushing `elements.len() ≥ 1` registers): `n < len` -/
theorem peekRegister_total (len n : Int) (hl : inLen len) (hn : 0 ≤ n) (hg : n < len) :
    peekRegister len n = .ok (some (len - n - 1)) := by
  unfold peekRegister
  have H : inUsize (len - n) ∧ inUsize (len - n - 1) ∧ len - n - 1 < len := by arith
  simp [ckUsize_ok H.1, ckUsize_ok H.2.1, H.2.2]

/-! ## the kernels after the proposed repairs (`Fx`, requests/C06-fix-*.diff): with the repair they are total -/

/-- fix-5: the saturating `+ 1` -/
theorem asBoundedRange_fixed_total (fx : Fx) (hf : fx.range = true) (r : KRange) :
    ∃ s e, asBoundedRangeG fx r = .ok (s, e) ∧ s ≤ e := by
  obtain ⟨⟨s, e⟩, hok, _, _, hle, _⟩ :=
    ((asBoundedRangeG_spec fx r).imp (not_endOverflows_of_fixed hf r) id).exists_ok
  exact ⟨s, e, hok, hle⟩

/-- fix-5: the saturating `+ 1` and the wrapping subtraction of `size` -/
theorem rangeSize_fixed_total (fx : Fx) (hf : fx.range = true) (hs : fx.size = true) (r : KRange) :
    rangeSizeG fx r ≠ .panic := by
  obtain ⟨s, e, hok, hle⟩ := asBoundedRange_fixed_total fx hf r
  exact ((rangeSizeG_spec fx r hok hle).imp (fun h => Bool.noConfusion (hs.symm.trans h.2.1)) id).ne_panic

theorem rangeContains_fixed_total (fx : Fx) (hf : fx.range = true) (r : KRange) (n : Int) :
    rangeContainsG fx r n ≠ .panic :=
  ((rangeContainsG_spec fx r n).imp (not_endOverflows_of_fixed hf r) id).ne_panic

theorem runTempIndexRange_fixed_total (fx : Fx) (hf : fx.range = true) (r : KRange) (index : Int) :
    runTempIndexRangeG fx r index ≠ .panic := by
  have hc := containsThen_ne_panic fx r (not_endOverflows_of_fixed hf r)
  unfold runTempIndexRangeG
  simp only [hf, ite_true]
  split
  · cases r.stop with
    | none => simp
    | some p =>
      obtain ⟨e, incl⟩ := p
      cases incl <;> simp only [Bool.false_eq_true, ite_false, ite_true, bind_ok] <;> exact hc _
  · cases r.start with
    | none => simp
    | some s => simp only [bind_ok]; exact hc _

theorem rangeIntersection_fixed_total (fx : Fx) (hf : fx.range = true) (a b : KRange) :
    rangeIntersectionG fx a b ≠ .panic :=
  ((rangeIntersectionG_spec fx a b).imp (fun h =>
    h.elim (not_endOverflows_of_fixed hf a) (not_endOverflows_of_fixed hf b)) id).ne_panic

theorem rangeIndices_fixed_total (fx : Fx) (hf : fx.range = true) (r : KRange) (m : Int) (hm : inLen m) :
    ∃ a b, rangeIndicesG fx r m = .ok (a, b) ∧ 0 ≤ a ∧ a ≤ b ∧ b ≤ m := by
  obtain ⟨⟨a, b⟩, hok, hab⟩ :=
    ((rangeIndicesG_spec fx r m hm).imp (not_endOverflows_of_fixed hf r) id).exists_ok
  exact ⟨a, b, hok, hab⟩

theorem runIndexSeqRange_fixed_total (fx : Fx) (hf : fx.range = true) (len : Int) (hl : inLen len) (r : KRange) :
    runIndexSeqRangeG fx len r ≠ .panic :=
  ((runIndexSeqRangeG_spec fx len hl r).imp (not_endOverflows_of_fixed hf r) id).ne_panic

theorem indexAssignListRange_fixed_total (fx : Fx) (hf : fx.range = true) (len : Int) (hl : inLen len) (r : KRange) :
    indexAssignListRangeG fx len r ≠ .panic :=
  ((indexAssignListRangeG_spec fx len hl r).imp (not_endOverflows_of_fixed hf r) id).ne_panic

/-- fix-5 + fix-11: indexing any range with any number -/
theorem runIndexRangeNum_fixed_total (fx : Fx) (hf : fx.range = true) (hs : fx.size = true) (ho : fx.openIndex = true)
    (r : KRange) (n : NumView) : runIndexRangeNumG fx r n ≠ .panic := by
  unfold runIndexRangeNumG
  cases r.start with
  | none => exact err_ne_panic
  | some s =>
    exact Res.ne_panic_iff.2 <|
      (Res.ne_panic_iff.1 (rangeSize_fixed_total fx hf hs r)).bind fun sz _ =>
        (validateIndex_spec n sz).bind fun i _ => by rw [if_pos ho]; exact Res.sat.ok trivial

/-- the range arm of `run_slice` (commit 0ead920) subtracts and adds unchecked; without fix-5 the
pattern's size test panics first (F-C06-7), with it this arithmetic must wrap as well -/
theorem runSliceRange_panic_witness :
    runSliceRangeG Fx.none ⟨some (-9223372036854775808), some (9223372036854775807, false)⟩ 1 false = .panic := by
  decide

theorem runSliceRange_fixed_total (fx : Fx) (hf : fx.range = true) (r : KRange) (h : KRange.wf r)
    (index : Int) (hi : inI8 index) (sliceTo : Bool) : runSliceRangeG fx r index sliceTo ≠ .panic := by
  obtain ⟨⟨s, e⟩, hok, _, _, hle, hw⟩ :=
    ((asBoundedRangeG_spec fx r).imp (not_endOverflows_of_fixed hf r) id).exists_ok
  unfold runSliceRangeG; rw [hok]; simp only [hf, ite_true, bind_ok]
  -- the bounds of a well-formed range are i64 values, so the size fits a usize
  exact Res.ne_panic_iff.2 <|
    ((signedIndexToUnsigned_spec index (e - s)).imp (fun hp => hp (by have := hw h; arith)) False.elim).bind
      fun _ _ => Res.sat.ok trivial

example : runSliceRangeG Fx.none ⟨some 1, some (5, false)⟩ 1 false = .ok (2, 5) := by decide

/-- fix-1: `%=` never panics -/
theorem runRemainderAssign_fixed_total (fx : Fx) (hf : fx.rem = true) (a b : Int) :
    runRemainderAssignG fx a b ≠ .panic := by
  unfold runRemainderAssignG
  split
  · exact ok_ne_panic _
  · rename_i h; rw [wrappingRem_eq_tmod a b fun hb => h ⟨hf, hb⟩]; exact ok_ne_panic _

/-- fix-2: the saturating size hint -/
theorem sizeHint_fixed_total (fx : Fx) (hf : fx.hint = true) (c : Cursor) : sizeHintG fx c ≠ .panic := by
  unfold sizeHintG; simp [hf]

/-- fix-6: shifts never panic (amounts `>= 64` are errors) -/
theorem shiftLeft_fixed_total (fx : Fx) (hf : fx.shift = true) (a : Int) (b : NumView) :
    shiftLeftG fx a b ≠ .panic :=
  ((shiftShape_spec fx b _).imp (fun h => Bool.noConfusion (hf.symm.trans h.2.2)) id).ne_panic
theorem shiftRight_fixed_total (fx : Fx) (hf : fx.shift = true) (a : Int) (b : NumView) :
    shiftRightG fx a b ≠ .panic :=
  ((shiftShape_spec fx b _).imp (fun h => Bool.noConfusion (hf.symm.trans h.2.2)) id).ne_panic

/-- fix-9, fix-10 -/
theorem absInt_fixed_total (fx : Fx) (hf : fx.abs = true) (a : Int) : absIntG fx a ≠ .panic := by
  unfold absIntG; simp [hf]
theorem rangeExpanded_fixed_total (fx : Fx) (hf : fx.expanded = true) (s e n : Int) :
    rangeExpandedG fx s e n ≠ .panic := by
  unfold rangeExpandedG; simp [hf]

example : asBoundedRangeG Fx.all ⟨some 0, some (9223372036854775807, true)⟩ = .ok (0, 9223372036854775807) := by decide
example : runRemainderAssignG Fx.all 10 0 = .ok none := by decide

end KotoVerif.C06
