import KotoVerif.Lemmas.C06Spec
/-!
C06, second extension module: value-level facts about kernels of `Model/Guards.lean` for which
`Props/C06` and `Props/C06Ext` only prove panic-freedom (`padFill`, `lexerPeek`, `popFront`, `findSub`,
`signedIndexToUnsigned`).
-/
namespace KotoVerif.C06Ext2
open KotoVerif.Guards

/-- `run_string_push`: the two fill counts add up to exactly the missing width, counted in graphemes. -/
theorem padFill_sum (g b w : Int) (a : Align) (l r : Int)
    (h : padFill false g b w a = .ok (l, r)) :
    0 ≤ l ∧ 0 ≤ r ∧ l + r = max 0 (w - g) := by
  obtain ⟨_, h1, h2, h3⟩ := (C06.padFill_spec false g b w a g rfl).of_ok h
  exact ⟨h1, h2, by split at h3 <;> omega⟩

example : padFill false 2 2 7 .center = .ok (2, 3) := by decide

/-- `KotoLexer::peek(n)` lexes `k` tokens: afterwards the queue holds at least `n + 1`, and nothing is
lexed when it is already long enough. -/
theorem lexerPeek_value (q n k : Int) (h : lexerPeek q n = .ok k) :
    0 ≤ k ∧ n + 1 ≤ q + k ∧ (n + 1 ≤ q → k = 0) := by
  obtain ⟨_, rfl⟩ := (C06.lexerPeek_spec q n).of_ok h
  omega

example : lexerPeek 2 5 = .ok 4 := by decide

theorem popFront_value (large : Bool) (s e : Int) (incl : Bool) (v s' e' : Int) (incl' : Bool)
    (h : popFront large s e incl = .ok (some v, s', e', incl')) :
    v = s ∧ e' = e ∧ s ≤ e ∧ (s' = s ∨ s' = s + 1) := by
  have := (C06.popFront_spec large s e incl).of_ok h
  split at this
  · cases this; omega
  · split at this
    · cases this; omega
    · cases this

example : popFront false 3 5 true = .ok (some 3, 4, 5, true) := by decide

/-- `KRange::pop_front` yields nothing exactly on an empty range and then leaves it unchanged. -/
theorem popFront_none_iff (large : Bool) (s e : Int) (incl : Bool) (hs : s + 1 ≤ I32_MAX) (hs' : I32_MIN ≤ s + 1) :
    (popFront large s e incl = .ok (none, s, e, incl)) ↔ (e < s ∨ (s = e ∧ incl = false)) := by
  obtain ⟨o, ho, rfl⟩ := ((C06.popFront_spec large s e incl).imp (fun h => h.2 (by
    cases large <;> simp only [Bool.false_eq_true, if_false, if_true] <;> arith)) id).exists_ok
  rw [ho]
  by_cases hlt : s < e
  · simp [hlt]; omega
  · by_cases he : s = e
    · cases incl <;> simp [he]
    · simp [hlt, he]; omega

example : popFront false 4 4 false = .ok (none, 4, 4, false) := by decide

theorem signedIndexToUnsigned_neg (index size i : Int) (hi : index < 0) (hs : 0 ≤ size)
    (h : signedIndexToUnsigned index size = .ok i) :
    i = max 0 (size + index) ∧ 0 ≤ i ∧ i ≤ size := by
  have := ((C06.signedIndexToUnsigned_spec index size).of_ok h).1 hi
  omega

example : signedIndexToUnsigned (-2) 5 = .ok 3 := by decide

theorem findSub_sound (pat : List Nat) (hay : List Nat) (k : Nat) (h : findSub pat hay = some k) :
    k ≤ hay.length ∧ isPrefix pat (hay.drop k) = true := by
  induction hay generalizing k with
  | nil =>
    unfold findSub at h
    cases pat <;> simp_all [isPrefix]
  | cons x xs ih =>
    unfold findSub at h
    split at h
    · simp at h; subst h; simp_all
    · cases hf : findSub pat xs with
      | none => simp [hf] at h
      | some j =>
        simp [hf] at h
        subst h
        have := ih j hf
        simp [this]

example : findSub [2, 3] [1, 2, 3] = some 1 := by decide

end KotoVerif.C06Ext2
