/-
C02 — second extension module: end-to-end statements connecting the call forms, packed arguments,
generators and the binding algorithm of Model/Bind.lean.
-/
import KotoVerif.Props.C02

namespace KotoVerif.C02Ext2
open KotoVerif KotoVerif.Bind KotoVerif.C02

/-- **bind_ignores_temporaries.** The outcome of `call_koto_function` (result registers or error)
does not depend on what lies on the register stack after the call's arguments. Unconditional. -/
theorem bind_ignores_temporaries (f : FnVal) (self : Val) (args junk junk' : List Val) :
    callKoto (self :: (args ++ junk)) args.length f
      = callKoto (self :: (args ++ junk')) args.length f := by
  simp only [callKoto, take_args_junk]

/-- the same for `call_generator` -/
theorem generator_ignores_temporaries (f : FnVal) (self : Val) (args junk junk' : List Val) :
    callGenerator (self :: (args ++ junk)) args.length f
      = callGenerator (self :: (args ++ junk')) args.length f := by
  rw [callGenerator_eq, callGenerator_eq]
  exact bind_ignores_temporaries f self args junk junk'

/-- **packed_call_eq_spread.** For every function, every call form (plain, instance, piped) and every
argument list with any number of packed arguments `xs...` at any positions: the call behaves exactly
like the call in which each packed argument is replaced by its elements written out as ordinary
arguments (same callee registers or same error). `hlim'` is `hlim` for the written-out call. -/
theorem packed_call_eq_spread (iter : Val → Option (List Val)) (f : FnVal) (m a : Val)
    (cargs : List CallArg) (hit : allIterable iter cargs)
    (hlim : 1 + cargs.length + (specArgs iter cargs).length ≤ 254)
    (hlim' : 1 + 2 * (specArgs iter cargs).length ≤ 254) :
    callPlain iter f cargs = callPlain iter f ((specArgs iter cargs).map (fun v => (v, false)))
    ∧ callInstance iter f m cargs
        = callInstance iter f m ((specArgs iter cargs).map (fun v => (v, false)))
    ∧ callPiped iter f a cargs
        = callPiped iter f a ((specArgs iter cargs).map (fun v => (v, false))) := by
  have h1 := call_spec iter f m a cargs false hit hlim
  have h2 := call_spec iter f m a ((specArgs iter cargs).map (fun v => (v, false))) false
    (allIterable_plain iter _) (by simp [specArgs_plain]; omega)
  simp only [specArgs_plain] at h2
  exact ⟨h1.1.trans h2.1.symm, h1.2.1.trans h2.2.1.symm, h1.2.2.trans h2.2.2.symm⟩

/-- instance with the driver's `elems`: `f 1, (2, 3)..., "x"` = `f 1, 2, 3, "x"` -/
example : callPlain elems { argCount := 4, optCount := 0, variadic := false, captures := [] }
      [(.int 1, false), (.tuple [.int 2, .int 3], true), (.str [120], false)]
    = callPlain elems { argCount := 4, optCount := 0, variadic := false, captures := [] }
      [(.int 1, false), (.int 2, false), (.int 3, false), (.str [120], false)] := by rfl

/-- **packed_tuple_call.** `f xs...` with `xs` a tuple (or list) of values is `f(x1, …, xn)`, for the
iteration function the driver uses. -/
theorem packed_tuple_call (f : FnVal) (vs : List Val) (hlim : 2 + 2 * vs.length ≤ 254) :
    callPlain elems f [(.tuple vs, true)] = callPlain elems f (vs.map (fun v => (v, false)))
    ∧ callPlain elems f [(.list vs, true)] = callPlain elems f (vs.map (fun v => (v, false))) := by
  constructor
  · have h := (packed_call_eq_spread elems f .null .null [(.tuple vs, true)]
      (by simp [allIterable, elems]) (by simp [specArgs, elems]; omega)
      (by simp [specArgs, elems]; omega)).1
    simpa [specArgs, elems] using h
  · have h := (packed_call_eq_spread elems f .null .null [(.list vs, true)]
      (by simp [allIterable, elems]) (by simp [specArgs, elems]; omega)
      (by simp [specArgs, elems]; omega)).1
    simpa [specArgs, elems] using h

/-- **bind_frame_size.** Whenever binding succeeds, the callee starts with exactly
`1 + arg_count + (number of captured variables)` registers: nothing is lost or duplicated whatever
mix of supplied, defaulted and variadic arguments was used. -/
theorem bind_frame_size (f : FnVal) (self : Val) (args junk : List Val) (rs : Regs)
    (hopt : f.optCount ≤ f.expected) (hcap : f.optCount ≤ f.captures.length)
    (hvar : f.variadic = true → f.argCount ≥ 1)
    (h : callKoto (self :: (args ++ junk)) args.length f = .ok rs) :
    rs.length = 1 + f.argCount + (f.captures.length - f.optCount) := by
  obtain ⟨⟨h1, h2⟩, rfl⟩ := (callKoto_ok_iff f self args junk rs hopt hcap).1 h
  exact layout_length f self args hopt hcap hvar h1

example : (callKoto [.null, .int 1, .int 7, .int 8] 1
    { argCount := 3, optCount := 1, variadic := true, captures := [.int 10, .int 77] }).toOption.map
      List.length = some (1 + 3 + (2 - 1)) := by rfl

/-- **bind_no_default_when_supplied.** When at least `expected` arguments are passed, no default
value is used at all: the callee sees self, the arguments, the variadic tuple, then the captured
variables — independently of what the default values are. -/
theorem bind_no_default_when_supplied (f : FnVal) (self : Val) (args junk : List Val)
    (hopt : f.optCount ≤ f.expected) (hcap : f.optCount ≤ f.captures.length)
    (hall : f.expected ≤ args.length) (h2 : f.variadic = true ∨ args.length ≤ f.expected) :
    callKoto (self :: (args ++ junk)) args.length f =
      .ok (self :: args.take f.expected
            ++ (if f.variadic then [Val.tuple (args.drop f.expected)] else [])
            ++ f.captures.drop f.optCount) := by
  have hreq : f.required = f.expected - f.optCount := rfl
  rw [bind_layout f self args junk hopt hcap (by omega) h2]
  have hd : (f.captures.take f.optCount).drop (min args.length f.expected - f.required) = [] :=
    List.eq_nil_of_length_eq_zero (by rw [defaults_length f _ hopt hcap (by omega)]; omega)
  rw [hd]
  simp

example : callKoto [.null, .int 1, .int 2] 2
    { argCount := 2, optCount := 1, variadic := false, captures := [.int 10, .int 77] }
    = .ok [.null, .int 1, .int 2, .int 77] := by rfl

/-- **bind_all_defaults.** When exactly the required arguments are passed, every optional parameter
holds its own default, in declaration order. -/
theorem bind_all_defaults (f : FnVal) (self : Val) (args junk : List Val)
    (hopt : f.optCount ≤ f.expected) (hcap : f.optCount ≤ f.captures.length)
    (hlen : args.length = f.required) :
    callKoto (self :: (args ++ junk)) args.length f =
      .ok (self :: args ++ f.captures.take f.optCount
            ++ (if f.variadic then [Val.tuple []] else [])
            ++ f.captures.drop f.optCount) := by
  have hreq : f.required = f.expected - f.optCount := rfl
  rw [bind_layout f self args junk hopt hcap (by omega) (by right; omega)]
  have hm : min args.length f.expected - f.required = 0 := by omega
  have ht : args.take f.expected = args := List.take_of_length_le (by omega)
  have hdr : args.drop f.expected = [] := List.drop_eq_nil_of_le (by omega)
  rw [hm, ht]
  simp [hdr]

/-- **generator_call_forms.** Calling a generator function binds its arguments exactly like calling
an ordinary function, through every call form (plain, instance, piped) and with any packed
arguments: same initial registers of the generator's frame, same error. -/
theorem generator_call_forms (iter : Val → Option (List Val)) (f : FnVal) (m a : Val)
    (cargs : List CallArg) (hit : allIterable iter cargs)
    (hlim : 1 + cargs.length + (specArgs iter cargs).length ≤ 254) :
    callPlain iter f cargs true = callPlain iter f cargs false
    ∧ callInstance iter f m cargs true = callInstance iter f m cargs false
    ∧ callPiped iter f a cargs true = callPiped iter f a cargs false := by
  have ht := call_spec iter f m a cargs true hit hlim
  have hf := call_spec iter f m a cargs false hit hlim
  exact ⟨ht.1.trans hf.1.symm, ht.2.1.trans hf.2.1.symm, ht.2.2.trans hf.2.2.symm⟩

example : callPiped elems { argCount := 3, optCount := 1, variadic := false, captures := [.int 9] }
      (.int 1) [(.tuple [.int 2], true)] true = .ok [.null, .int 1, .int 2, .int 9] := by rfl

end KotoVerif.C02Ext2
