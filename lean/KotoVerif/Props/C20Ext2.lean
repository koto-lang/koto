/-
C20 — consequences of `de_ser` / `second_trip_id` for whole round trips (`Model/Serde.lean`): any number
of trips, what the serialized form determines, sizes of sequences and maps, and the readers' nesting
limits. All statements are for all inputs.
-/
import KotoVerif.Model.Serde
import KotoVerif.Lemmas.C20
import KotoVerif.Props.C20

namespace KotoVerif.C20Ext2
open KotoVerif KotoVerif.Serde KotoVerif.C20

/-- Two value trees that `serialize.rs` maps to the same serde data have the same normal form: the
round trip loses nothing beyond what `norm` describes. -/
theorem ser_eq_norm_eq (X : Ext) (v w : Val) (s : SVal) (hv : ser X v = some s) (hw : ser X w = some s) :
    norm X v = norm X w := by
  have h1 := de_of_ser X v s hv
  have h2 := de_of_ser X w s hw
  rw [h1] at h2
  exact Option.some.inj h2

example : ser X0 (.list [.num (.i 1)]) = some (.seq [.i64 1]) ∧ ser X0 (.tuple [.num (.i 1)]) = some (.seq [.i64 1]) := by
  simp [ser, serL]

/-- one round trip through the writer and the reader (`none` = an error of either) -/
def trip (X : Ext) (v : Val) : Option Val := (serW X v).bind de

def trips (X : Ext) : Nat → Val → Option Val
  | 0, v => some v
  | n + 1, v => (trip X v).bind (trips X n)

/-- **every further round trip is the identity**: after the first round trip, any number of
additional ones is defined and returns the same normal form. -/
theorem trips_stable (X : Ext) (v : Val) (h : serializable v = true) (hd : depth v ≤ writerDepthLimit) :
    ∀ n : Nat, trips X (n + 1) v = some (norm X v) := by
  have key : ∀ n : Nat, trips X n (norm X v) = some (norm X v) := by
    intro n
    induction n with
    | zero => rfl
    | succ n ih =>
      simp only [trips, trip]
      rw [second_trip_id X v h hd]
      simpa using ih
  intro n
  simp only [trips, trip]
  rw [de_ser X v h hd]
  simpa using key n

example : trips X0 5 (.list [.map [(.num (.i 7), .list [])]]) = some (norm X0 (.list [.map [(.num (.i 7), .list [])]])) := by
  decide

theorem trips_error (X : Ext) (v : Val) (h : serializable v = false ∨ writerDepthLimit < depth v) :
    ∀ n : Nat, trips X (n + 1) v = none := by
  intro n
  have : serW X v = none := by
    rcases h with h | h
    · unfold serW
      split
      · exact ser_error X v h
      · rfl
    · exact serW_too_deep_is_error X v h
  simp [trips, trip, this]

example : serializable (.list [.range none none]) = false := by decide

theorem roundtrip_seq_length (X : Ext) (xs : List Val) (w : Val)
    (h : (serW X (.list xs)).bind de = some w) : ∃ ys, w = .tuple ys ∧ ys.length = xs.length := by
  have hsome : (serW X (.list xs)).isSome = true := by
    cases hs : serW X (.list xs) with
    | none => simp [hs] at h
    | some s => rfl
  rw [serW_isSome] at hsome
  simp only [Bool.and_eq_true, decide_eq_true_eq] at hsome
  have := de_ser X (.list xs) (by simpa using hsome.1) (by simpa using hsome.2)
  rw [this] at h
  refine ⟨normL X xs, ?_, normL_length X xs⟩
  have := Option.some.inj h
  simpa [norm] using this.symm

/-- a round trip never adds entries to a map (entries whose keys print alike are merged), and a
non-empty map stays non-empty -/
theorem roundtrip_map_size (X : Ext) (es : List (Val × Val)) :
    ∃ kvs, norm X (.map es) = .map kvs ∧ kvs.length ≤ es.length ∧ (es ≠ [] → kvs ≠ []) := by
  refine ⟨buildMap (normE X es), by simp [norm], ?_, ?_⟩
  · have := (buildFrom_length (normE X es) []).2
    simpa [buildMap, normE_length] using this
  · intro hne
    cases es with
    | nil => exact absurd rfl hne
    | cons e r =>
      obtain ⟨k, v⟩ := e
      intro hnil
      -- the first entry is inserted into the empty map, and `buildFrom` never shrinks its accumulator
      have h1 := (buildFrom_length (normE X r) [(.str (keyStr X k), norm X v)]).1
      rw [show buildFrom [(.str (keyStr X k), norm X v)] (normE X r) = buildMap (normE X ((k, v) :: r))
        from rfl, hnil] at h1
      exact Nat.not_succ_le_zero _ h1

/-- whatever `serialize.rs` accepts (depth ≤ 127) is, after the round trip, within the nesting limit
of the JSON and the YAML reader, and again within the writer's limit -/
theorem writer_output_within_reader_limits (X : Ext) (v : Val) (s : SVal) (h : serW X v = some s) :
    depth (norm X v) ≤ jsonDepthLimit ∧ depth (norm X v) ≤ yamlDepthLimit ∧
      depth (norm X v) ≤ writerDepthLimit := by
  have hd := (serW_eq_some X v s h).1
  have := depth_norm_le X v
  simp only [jsonDepthLimit, yamlDepthLimit, writerDepthLimit] at *
  omega

example : serW X0 (.list [.null]) = some (.seq [.unit]) := by
  simp [serW, depth, depthL, writerDepthLimit, ser, serL]

end KotoVerif.C20Ext2
