/-
C16 — additional theorems about the executable model of type hints (`Model/Types.lean`,
`Model/HintEval.lean`): algebraic laws of `check` (= `compare_value_type`), inheritance of `@type`
and of passing hints along `@base`, frame properties of pattern matching and catch selection,
the general (any position) form of "first accepting catch block", fuel independence of the cyclic
graph walks.
-/
import KotoVerif.Props.C16

namespace KotoVerif.C16Ext
open KotoVerif.Types KotoVerif.HintEval KotoVerif.Gen.TypeNames KotoVerif.C16

/-- `?` only ever widens a hint: whatever `T` accepts, `T?` accepts. -/
theorem check_opt_monotone (h : TyName) (v : V) (hc : check h false v = true) : check h true v = true := by
  unfold check at *
  cases hn : v.isNull <;> simp_all

example : check (kindName .number) false (.int 3) = true := by decide

/-- Reflexivity: a value passes the hint that spells its own type name — unless that name is one of
the four special names (a host object may call itself `Callable` without being callable). -/
theorem check_own_name (n : Bool) (v : V) (hs : specialLookup (typeName v) specialTable = none) :
    check (typeName v) n v = true := by
  unfold check
  simp [hs]

example : specialLookup (typeName (.obj (.str [70]) {} [] none)) specialTable = none := by decide

/-- the side condition of `check_own_name` cannot be dropped -/
theorem check_own_name_needs_ordinary :
    ∃ v, check (typeName v) false v = false :=
  ⟨.host name_callable false false false, by decide⟩

theorem baseChain_step (h : TyName) (ty : MetaTy) (fl : Flags) (es : List (Nat × V)) (b : V) :
    baseChain h (.obj ty fl es (some b)) = (typeName b == h || baseChain h b) := by
  rw [baseChain]

/-- **Hints are inherited along `@base`.** For an ordinary (non-special) name, every hint the base
passes is passed by any map whose `@base` is that value — whatever the derived map's own `@type`,
flags and entries, and with or without `?`. -/
theorem check_inherited (h : TyName) (n : Bool) (ty : MetaTy) (fl : Flags) (es : List (Nat × V)) (b : V)
    (hs : specialLookup h specialTable = none) (hb : check h false b = true) :
    check h n (.obj ty fl es (some b)) = true := by
  unfold check at *
  simp only [hs, Bool.false_and, Bool.false_eq_true, if_false] at hb
  simp only [hs, V.isNull, Bool.and_false, Bool.false_eq_true, if_false, baseChain_step]
  simp only [Bool.or_eq_true] at hb ⊢
  exact Or.inr hb

example : specialLookup [70] specialTable = none ∧ check [70] false (.obj (.str [70]) {} [] none) = true := by
  decide

/-- … to every depth: prepending any number of derived maps keeps an ordinary hint passing. -/
theorem check_inherited_deep (h : TyName) (hs : specialLookup h specialTable = none) (w : V)
    (hw : check h false w = true) :
    ∀ (k : Nat) (v : V), V.baseIter k v = some w → check h false v = true := by
  intro k
  induction k with
  | zero => intro v hv; simp [V.baseIter] at hv; subst hv; exact hw
  | succ k ih =>
    intro v hv
    cases v with
    | obj ty fl es b =>
      cases b with
      | none => simp [V.baseIter, V.base] at hv
      | some b =>
        simp only [V.baseIter, V.base] at hv
        exact check_inherited h false ty fl es b hs (ih b hv)
    | _ => simp [V.baseIter, V.base] at hv

/-- **`@type` is inherited along `@base`, an own `@type` wins.** -/
theorem typeName_inheritance (fl fl' : Flags) (es es' : List (Nat × V)) (ty' : MetaTy) (b b' : Option V) (s : TyName) :
    typeName (.obj .absent fl es (some (.obj ty' fl' es' b'))) = typeName (.obj ty' fl' es' b') ∧
    typeName (.obj (.str s) fl es b) = s ∧
    typeName (.obj .nonString fl es b) = badMetaTypeName ∧
    typeName (.obj .absent fl es none) = objectName := by
  exact ⟨rfl, rfl, rfl, rfl⟩

/-- A `@base` that is *not* a map with a metamap (a number, a plain map, a host object …) contributes
no type name: the derived map is an `Object`, although the loop of `compare_value_type` still
accepts the base's type name as a hint. -/
theorem non_meta_base_names_nothing (fl : Flags) (es : List (Nat × V)) (b : V)
    (hb : ∀ ty f e bb, b ≠ .obj ty f e bb) (hs : specialLookup (typeName b) specialTable = none) :
    typeName (.obj .absent fl es (some b)) = objectName ∧
    check (typeName b) false (.obj .absent fl es (some b)) = true := by
  constructor
  · cases b <;> first | rfl | exact absurd rfl (hb _ _ _ _)
  · exact check_inherited _ false _ _ _ b hs (check_own_name false b hs)

example : (∀ ty f e bb, V.int 1 ≠ .obj ty f e bb) ∧ specialLookup (typeName (.int 1)) specialTable = none := by
  constructor
  · intro _ _ _ _ h; cases h
  · decide

/-- **Capability hints look at the value's own metamap only**: for a map with a metamap, `Callable`,
`Indexable` and `Iterable` do not depend on `@type`, on the entries or on the `@base` chain. -/
theorem capability_hints_ignore_base (n : Bool) (ty ty' : MetaTy) (fl : Flags) (es es' : List (Nat × V))
    (b b' : Option V) :
    check name_callable n (.obj ty fl es b) = check name_callable n (.obj ty' fl es' b') ∧
    check name_indexable n (.obj ty fl es b) = check name_indexable n (.obj ty' fl es' b') ∧
    check name_iterable n (.obj ty fl es b) = check name_iterable n (.obj ty' fl es' b') := by
  have h1 : specialLookup name_callable specialTable = some .callable := by decide
  have h2 : specialLookup name_indexable specialTable = some .indexable := by decide
  have h3 : specialLookup name_iterable specialTable = some .iterable := by decide
  refine ⟨?_, ?_, ?_⟩
  · simp [check, h1, V.isNull, holds, callableHint, callable, isGeneratorFn]
  · simp [check, h2, V.isNull, holds, indexable]
  · simp [check, h3, V.isNull, holds, iterableHint, iterable, isMapValue]

/-- a failed assertion that is caught arrives as a `String`: `catch e: String` (and `catch e: Any`)
always takes it, for every hint and every found type -/
theorem caught_type_error_is_string (h : Hint) (found : TyName) (o : Bool) :
    check (kindName .str) o (catchVal (.type h found)) = true ∧
    check name_always o (catchVal (.type h found)) = true := by
  constructor
  · have hs : specialLookup (kindName .str) specialTable = none := by decide
    simp [check, catchVal, V.isNull, hs, typeName]
  · have hs : specialLookup name_always specialTable = some .always := by decide
    simp [check, catchVal, V.isNull, hs, holds]

/-- **First accepting block, in general position**: typed catch blocks that reject the caught value
are skipped — however many — and the first one that accepts runs, with the value bound. -/
theorem selectCatch_first_accepting (cv : V) (pre post : List CatchArm) (y : Option Var) (h : Hint) (body : Expr)
    (x : Option Var) (final : Expr) (s : St)
    (hpre : ∀ y' h' b', CatchArm.mk y' h' b' ∈ pre → check h'.name h'.opt cv = false)
    (hc : check h.name h.opt cv = true) :
    selectCatch cv (pre ++ .mk y h body :: post) x final s = (body, s.setOpt y cv) := by
  induction pre with
  | nil => simp [selectCatch, hc]
  | cons a pre ih =>
    cases a with
    | mk y' h' b' =>
      have h1 := hpre y' h' b' (List.mem_cons_self ..)
      simp only [List.cons_append, selectCatch, h1, Bool.false_eq_true, if_false]
      exact ih (fun y2 h2 b2 hm => hpre y2 h2 b2 (List.mem_cons_of_mem _ hm))

example : (∀ y' h' b', CatchArm.mk y' h' b' ∈ [CatchArm.mk none ⟨kindName .str, false⟩ (.lit .null)] →
      check h'.name h'.opt (.int 1) = false) ∧
    check (kindName .number) false (.int 1) = true := by
  constructor
  · intro y' h' b' hm
    simp only [List.mem_singleton, CatchArm.mk.injEq] at hm
    obtain ⟨_, rfl, _⟩ := hm
    decide
  · decide

/-- … and when every typed block rejects, the final untyped `catch` takes the value. -/
theorem selectCatch_all_reject (cv : V) (typed : List CatchArm) (x : Option Var) (final : Expr) (s : St)
    (hall : ∀ y' h' b', CatchArm.mk y' h' b' ∈ typed → check h'.name h'.opt cv = false) :
    selectCatch cv typed x final s = (final, s.setOpt x cv) := by
  induction typed with
  | nil => rfl
  | cons a typed ih =>
    cases a with
    | mk y' h' b' =>
      have h1 := hall y' h' b' (List.mem_cons_self ..)
      simp only [selectCatch, h1, Bool.false_eq_true, if_false]
      exact ih (fun y2 h2 b2 hm => hall y2 h2 b2 (List.mem_cons_of_mem _ hm))

/-- catch selection writes at most one variable and nothing else: output trace and output hint are
untouched (the failure counter: `selectCatch_fails`) -/
theorem selectCatch_frame (cv : V) (typed : List CatchArm) (x : Option Var) (final : Expr) :
    ∀ s, (selectCatch cv typed x final s).2.trace = s.trace ∧ (selectCatch cv typed x final s).2.out = s.out :=
  fun s => ⟨(selectCatch_onlyEnv cv typed x final s).1, (selectCatch_onlyEnv cv typed x final s).2.1⟩

/-! ## Pattern matching: frame and fuel independence -/

/-- A `match` arm — patterns typed or not, nested to any depth, with its `or` alternatives — never emits
output and never touches the frame's output hint: all it can do is bind variables. -/
theorem armM_frame (k : Nat) (alts : List (List P)) (vs : List V) :
    ∀ s, (armM k alts vs s).2.trace = s.trace ∧ (armM k alts vs s).2.out = s.out :=
  fun s => ⟨(armM_onlyEnv k alts vs s).1, (armM_onlyEnv k alts vs s).2.1⟩

/-- **Fuel independence of pattern matching**: once the nesting bound suffices (the answer is not
`stuck`), any larger bound gives the same answer and the same bindings. -/
theorem pat_fuel_mono : ∀ k,
    (∀ p v s, (patM k p v s).1 ≠ .stuck → patM (k + 1) p v s = patM k p v s) ∧
    (∀ ps vs s, (patsM k ps vs s).1 ≠ .stuck → patsM (k + 1) ps vs s = patsM k ps vs s) := by
  intro k
  induction k with
  | zero => exact ⟨fun p v s h => by simp [patM] at h, fun ps vs s h => by simp [patsM] at h⟩
  | succ k ih =>
    constructor
    · intro p v s hns
      cases p with
      | b x h => simp [patM]
      | lit n => simp [patM]
      | tup ps =>
        simp only [patM] at hns ⊢
        cases hx : sized v with
        | elems xs =>
          simp only [hx] at hns ⊢
          by_cases hl : xs.length = ps.length
          · simp only [hl, if_true] at hns ⊢; exact ih.2 _ _ _ hns
          · simp [hl]
        | nosize => simp
        | other => simp [hx] at hns
    · intro ps vs s hns
      cases ps with
      | nil => simp [patsM]
      | cons p ps =>
        rw [patsM] at hns
        rw [patsM, patsM]
        cases hp : patM k p (vs.headD .null) s with
        | mk r s1 =>
          rw [hp] at hns
          have h1 : patM (k + 1) p (vs.headD .null) s = (r, s1) := by
            rw [← hp]; apply ih.1
            rw [hp]
            intro (h : r = .stuck)
            subst h
            exact hns rfl
          rw [h1]
          cases r with
          | yes => simp only at hns ⊢; exact ih.2 _ _ _ hns
          | no => rfl
          | stuck => simp at hns

example : (patM 3 (.tup [.b (some 0) none]) (.tuple [.int 1]) {}).1 ≠ .stuck := by decide

/-! ## Binding: with checks disabled it never raises; with checks enabled, exactly on a rejected target -/

/-- With type checks disabled, binding any list of (hinted) targets to any values cannot raise:
the result is `ok`, the failure counter does not move. -/
theorem bindMany_off_never_raises (bs : List Binder) :
    ∀ (vs : List V) (s : St), (bindMany false bs vs s).1 = .ok .null ∧ (bindMany false bs vs s).2.fails = s.fails := by
  induction bs with
  | nil => intro vs s; exact ⟨rfl, rfl⟩
  | cons b bs ih =>
    intro vs s
    simp only [bindMany, bindOne, assertHint_off, andThen]
    have h := ih vs.tail (s.setOpt b.1 (vs.headD .null))
    rw [setOpt_fails] at h
    exact h

/-- **A multi-assignment / several `for` arguments raise exactly when some target's hint rejects the
value at its position** (missing values are null). -/
theorem bindMany_ok_iff (bs : List Binder) : ∀ (vs : List V) (s : St),
    (bindMany true bs vs s).1 = .ok .null ↔
      ∀ i (hi : i < bs.length) (h : Hint), bs[i].2 = some h → check h.name h.opt (vs.getD i .null) = true := by
  induction bs with
  | nil => intro vs s; simp [bindMany]
  | cons b bs ih =>
    intro vs s
    have hv : ∀ i, vs.getD (i + 1) .null = vs.tail.getD i .null := by cases vs <;> simp
    have h0 : vs.getD 0 .null = vs.headD .null := by cases vs <;> simp
    -- the condition on `b :: bs` is the condition on the first target and the one on the rest
    simp only [List.length_cons, Nat.forall_lt_succ_left', List.getElem_cons_zero, List.getElem_cons_succ, hv, h0]
    rw [← ih vs.tail (s.setOpt b.1 (vs.headD .null))]
    obtain ⟨x, oh⟩ := b
    cases oh with
    | none => simp [bindMany, bindOne, assertHint, andThen]
    | some hh =>
      cases hc : check hh.name hh.opt (vs.headD .null) <;>
        simp [bindMany, bindOne, assertHint, andThen, hc, -List.headD_eq_head?_getD]

example : ∀ i (hi : i < [((some 0 : Option Var), some (⟨kindName .number, false⟩ : Hint))].length) (h : Hint),
    ([((some 0 : Option Var), some (⟨kindName .number, false⟩ : Hint))][i]).2 = some h →
      check h.name h.opt ([V.int 1].getD i .null) = true := by
  intro i hi h hb
  have : i = 0 := by simpa using hi
  subst this
  simp at hb; subst hb; decide

/-- With type checks disabled, binding function arguments (nested to any depth) never produces an
error (a size mismatch is `stuck`: outside the model). -/
theorem bindArg_off_never_raises : ∀ k,
    (∀ p v s e, (bindArg false k p v s).1 ≠ .err e) ∧ (∀ ps vs s e, (bindArgs false k ps vs s).1 ≠ .err e) := by
  intro k
  induction k with
  | zero => exact ⟨fun p v s e => by simp [bindArg], fun ps vs s e => by simp [bindArgs]⟩
  | succ k ih =>
    constructor
    · intro p v s e
      cases p with
      | b x h => simp [bindArg, bindOne, assertHint_off]
      | lit n => simp [bindArg]
      | tup ps =>
        simp only [bindArg]
        split
        · split
          · exact ih.2 _ _ _ e
          · simp
        · simp
    · intro ps vs s e
      cases ps with
      | nil => simp [bindArgs]
      | cons p ps =>
        simp only [bindArgs, andThen]
        have h1 := ih.1 p (vs.headD .null) s
        split
        · exact ih.2 _ _ _ e
        · next r hr =>
          intro heq
          simp only at heq
          exact h1 e heq

/-! ## Graph model (possibly cyclic `@base` chains) -/

/-- more fuel never changes an answer of `KMap::meta_type`'s walk -/
theorem metaTypeG_fuel_mono (g : Graph) :
    ∀ fuel vis n r, metaTypeG g fuel vis n = some r → metaTypeG g (fuel + 1) vis n = some r := by
  intro fuel
  induction fuel with
  | zero => intro vis n r h; simp [metaTypeG] at h
  | succ fuel ih =>
    intro vis n r h
    rw [metaTypeG] at h ⊢
    cases hg : g[n]? with
    | none => simp only [hg] at h ⊢; exact h
    | some nd =>
      simp only [hg] at h ⊢
      cases hty : nd.ty with
      | str s => simp only [hty] at h ⊢; exact h
      | nonString => simp only [hty] at h ⊢; exact h
      | absent =>
        simp only [hty] at h ⊢
        cases hb : nd.base with
        | none => simp only [hb] at h ⊢; exact h
        | some b =>
          simp only [hb] at h ⊢
          by_cases hc : (n :: vis).contains b = true
          · rw [if_pos hc] at h ⊢; exact h
          · rw [if_neg hc] at h ⊢; exact ih _ _ _ h

/-- a node with its own `@type` string has that type name, whatever the rest of the graph (cycles
included) looks like -/
theorem typeNameG_own (g : Graph) (n : Nat) (s : TyName) (b : Option Nat) (hn : g[n]? = some ⟨.str s, b⟩) :
    typeNameG g n = s := by
  simp [typeNameG, metaTypeG, hn]

/-- reflexivity on graphs: every node passes the ordinary hint spelling its own type name -/
theorem checkG_own_name (g : Graph) (o : Bool) (n : Nat)
    (hs : specialLookup (typeNameG g n) specialTable = none) : checkG g (typeNameG g n) o n = true := by
  simp [checkG, hs]

example : specialLookup (typeNameG [⟨.absent, some 0⟩] 0) specialTable = none := by decide

/-- the fuel `g.length + 1` used by `checkG` is canonical: any larger fuel gives the same answer -/
theorem walkG_canonical_fuel (g : Graph) (h : TyName) (n : Nat) :
    ∀ k, walkG g h (g.length + 1 + k) [] n = walkG g h (g.length + 1) [] n := by
  intro k
  induction k with
  | zero => rfl
  | succ k ih =>
    obtain ⟨r, hr⟩ := base_walk_total g h n
    rw [hr] at ih ⊢
    exact walkG_fuel_mono g h _ _ _ _ ih

/-- graphs: a map without `@type` takes the name of its `@base` map's own `@type` -/
theorem typeNameG_inherits_one (g : Graph) (n b : Nat) (s : TyName) (bb : Option Nat) (hnb : b ≠ n)
    (hn : g[n]? = some ⟨.absent, some b⟩) (hb : g[b]? = some ⟨.str s, bb⟩) : typeNameG g n = s := by
  have hl := lt_of_getElem?_some g n _ hn
  obtain ⟨m, hm⟩ : ∃ m, g.length = m + 1 := ⟨g.length - 1, by omega⟩
  simp [typeNameG, hm, metaTypeG, hn, hb, hnb]

example : ([⟨.absent, some 1⟩, ⟨.str [70], some 0⟩] : Graph)[0]? = some ⟨.absent, some 1⟩ ∧
    ([⟨.absent, some 1⟩, ⟨.str [70], some 0⟩] : Graph)[1]? = some ⟨.str [70], some 0⟩ := ⟨rfl, rfl⟩

/-- graphs: a map without `@type` whose `@base` is itself is an `Object` (the visited list cuts the
cycle: F-C16-1) — in every graph -/
theorem typeNameG_self_cycle (g : Graph) (n : Nat) (hn : g[n]? = some ⟨.absent, some n⟩) :
    typeNameG g n = objectName := by
  simp [typeNameG, metaTypeG, hn]

/-- graphs: an ordinary hint naming the type of the direct `@base` map passes, cyclic or not -/
theorem checkG_inherits_one (g : Graph) (h : TyName) (o : Bool) (n b : Nat)
    (hs : specialLookup h specialTable = none) (hb : gBase g n = some b) (ht : typeNameG g b = h) :
    checkG g h o n = true := by
  simp [checkG, hs, walkG, hb, ht]

example : gBase [⟨.absent, some 0⟩] 0 = some 0 ∧
    specialLookup (typeNameG [⟨.absent, some 0⟩] 0) specialTable = none := by decide

end KotoVerif.C16Ext
