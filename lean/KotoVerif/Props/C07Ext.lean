/-
# Props/C07Ext.lean — additional theorems about the C07 models: the REPL's continuation state; single
events and whole runs of `Unwind.step` (mode discipline, idle VM, import bracket, exports, `try`,
depth of pending callers, module cache, timeouts, balanced builders); generator resumption sequences

Everything here is about definitions that the driver `Drivers/C07.lean` executes
(`Repl.onLine`, `Repl.atMainPrompt`, `Unwind.step`/`run`, `Unwind.genResume`/`genInit`/`genFinished`).
-/
import KotoVerif.Model.Unwind
import KotoVerif.Lemmas.C07Effect
import KotoVerif.Lemmas.C07Repl

namespace KotoVerif.C07Ext
open KotoVerif.Unwind

/-! ## REPL: `Repl.onLine` / `Repl.session` -/

open KotoVerif.Repl in
theorem repl_session_append (a b : List Line) (s : State) :
    session (a ++ b) s = session b (session a s) :=
  List.foldl_append ..

open KotoVerif.Repl in
/-- **every compile error other than "continue the entry" resets the REPL**: an evaluated line
whose verdict is not an indentation error on an empty buffer leaves the initial continuation state
— this covers `otherErr` (compile error / help) and an indentation error at the end of a
multi-line entry, the cases `C07.repl_entry_resets` does not speak about. -/
theorem repl_evaluated_resets (s : State) (l : Line) (heval : (s.lines.isEmpty || l.blank) = true)
    (hv : l.verdict ≠ .indentErr ∨ s.lines ≠ []) :
    (onLine s l).lines = [] ∧ (onLine s l).indent = 0 := by
  rw [onLine_reset s l heval hv]
  exact ⟨rfl, rfl⟩

open KotoVerif.Repl in
example : (onLine { lines := [0, 2], indent := 2 } ⟨true, 2, .indentErr, false⟩).lines = [] ∧
    (onLine {} ⟨false, 0, .otherErr, false⟩).lines = [] := by decide

open KotoVerif.Repl in
/-- the only way to leave the main prompt is an indentation error on an empty buffer; the entry
then holds exactly that line and the next line is indented by `INDENT_SIZE` -/
theorem repl_leaves_main_prompt_iff (s : State) (l : Line) (h : s.lines = []) :
    (atMainPrompt (onLine s l) = false ↔ l.verdict = .indentErr) ∧
    (l.verdict = .indentErr →
      (onLine s l).lines = [l.indent] ∧ (onLine s l).indent = l.indent + INDENT_SIZE ∧
      (onLine s l).runs = s.runs) := by
  cases hver : l.verdict <;>
    simp [onLine, nextLines, indentOf, atMainPrompt, runsInput, h, hver]

open KotoVerif.Repl in
/-- a non-blank line typed at the continuation prompt is only buffered: nothing is handed to the
runtime, the buffer grows by exactly that line, whatever its verdict field says -/
theorem repl_continuation_only_buffers (s : State) (l : Line) (hne : s.lines ≠ [])
    (hb : l.blank = false) :
    (onLine s l).lines = s.lines ++ [l.indent] ∧ (onLine s l).runs = s.runs ∧
    (onLine s l).indent = (if l.pushIndents then l.indent + INDENT_SIZE else l.indent) ∧
    atMainPrompt (onLine s l) = false := by
  rw [onLine_push s l hne hb]
  exact ⟨rfl, rfl, rfl, by simp [atMainPrompt]⟩

open KotoVerif.Repl in
example : (onLine { lines := [0], indent := 2 } ⟨false, 2, .runErr, true⟩) =
    { lines := [0, 2], indent := 4, runs := 0 } := by decide

open KotoVerif.Repl in
/-- invariant of every state `onLine` produces: the main prompt is shown with indent 0, and
otherwise the indent is the last buffered line's indent or that plus `INDENT_SIZE` -/
theorem repl_indent_invariant (s : State) (l : Line) :
    ((onLine s l).lines = [] → (onLine s l).indent = 0) ∧
    (∀ cur, (onLine s l).lines.getLast? = some cur →
      (onLine s l).indent = cur ∨ (onLine s l).indent = cur + INDENT_SIZE) := by
  constructor
  · intro h
    simp only [onLine] at h ⊢
    simp [indentOf, h]
  · intro cur h
    simp only [onLine] at h ⊢
    simp only [indentOf, h]
    split <;> simp

open KotoVerif.Repl in
theorem repl_session_bounds (ls : List Line) : ∀ s : State,
    s.runs ≤ (session ls s).runs ∧ (session ls s).runs ≤ s.runs + ls.length ∧
    (session ls s).lines.length ≤ s.lines.length + ls.length := by
  induction ls with
  | nil => intro s; simp [session]
  | cons x xs ih =>
    intro s
    have h := ih (onLine s x)
    have hr : s.runs ≤ (onLine s x).runs ∧ (onLine s x).runs ≤ s.runs + 1 := by
      simp only [onLine]; split <;> omega
    have hlen : (onLine s x).lines.length ≤ s.lines.length + 1 := by
      simp only [onLine, nextLines]
      split
      · cases x.verdict <;> simp
        split <;> simp
      · simp
    rw [session_cons, List.length_cons]
    omega

open KotoVerif.Repl in
/-- **a state at the main prompt is a fresh REPL up to the run counter**: from any state with an
empty buffer (in particular after any failed entry, `repl_evaluated_resets`), every later session
shows the same buffers and indents as a fresh REPL and performs the same number of runs. Stronger
than `C07.repl_history_independent`: it includes the run counter and needs no verdict hypothesis. -/
theorem repl_main_prompt_is_fresh (rest : List Line) (s : State) (hl : s.lines = [])
    (hi : s.indent = 0) :
    (session rest s).lines = (session rest {}).lines ∧
    (session rest s).indent = (session rest {}).indent ∧
    (session rest s).runs = s.runs + (session rest {}).runs := by
  obtain ⟨k1, k2, k3⟩ := session_congr rest s {} hl
  exact ⟨k1, k2 (.inl hi), by simpa [Nat.add_comm] using k3⟩

open KotoVerif.Repl in
/-- non-vacuity: the state after a failed multi-line entry satisfies the hypotheses -/
example : let s := session [⟨false, 0, .indentErr, false⟩, ⟨false, 2, .runOk, false⟩,
      ⟨true, 2, .runErr, false⟩] {}
    s.lines = [] ∧ s.indent = 0 ∧ s.runs = 1 := by decide

/-! ## The VM model: `Unwind.step` / `Unwind.run` -/

theorem run_append (a b : List Ev) (st : St) : run (a ++ b) st = run b (run a st) :=
  Unwind.run_append a b st

/-- events that start something in every mode (host entries, nested loops) -/
def isEntry : Ev → Bool
  | .enter .. | .enterOp .. | .enterDirect .. | .nested .. => true
  | _ => false

/-- events that only an interpreter loop reacts to -/
def isLoopEv : Ev → Bool
  | .nativeRet _ | .importEnd _ => false
  | e => !isEntry e

/-- **mode discipline**: an instruction event is a no-op unless an interpreter loop is the pending
Rust caller, and a "native returns" / "import closure ends" event is a no-op while a loop is -/
theorem step_wrong_mode_noop (ev : Ev) (st : St) :
    (inLoop st = false → isLoopEv ev = true → step ev st = st) ∧
    (inLoop st = true → isEntry ev = false → isLoopEv ev = false → step ev st = st) := by
  constructor
  · intro h1 h2
    rw [step_host ev st h1]
    cases ev <;> first | rfl | (cases h2 <;> done)
  · intro h1 h2 h3
    cases ev <;> first | (cases h2 <;> done) | (cases h3 <;> done) | simp only [step, h1, if_true]

/-- **an idle runtime ignores everything but host entries**: between top-level runs (no pending
Rust caller) no sequence of instruction / return events changes any bookkeeping — only `run`,
`call_function`, `run_*_op` do. For every event list, every idle state. -/
theorem idle_run_noop (evs : List Ev) (st : St) (hidle : st.conts = [])
    (hno : ∀ e ∈ evs, isEntry e = false) : run evs st = st := by
  obtain ⟨vm, conts⟩ := st
  cases hidle
  refine List.foldlRecOn evs _ (motive := (· = (⟨vm, []⟩ : St))) rfl fun _ hs e he => ?_
  have he := hno e he
  subst hs
  cases e <;> first | rfl | (cases he <;> done)

example : run [.newFrame 9, .seqStart, .raise true, .ret, .nativeRet false, .importEnd false,
    .exportVal 3, .importBegin 1] ({} : St) = {} := by decide

/-- **a successful import is a cache insertion, a failed one is exactly a failing instruction**:
`importBegin m` immediately followed by the end of the module's closure leaves — on success — the
state before the import with `m` added to the cached modules (placeholder gone, the importer's
exports back), and — on failure — exactly the state of `raise true` at the `Import` instruction:
no placeholder, no cache entry, the importer's exports restored. -/
theorem import_bracket (m : Nat) (st : St) (hin : inLoop st = true)
    (hp : m ∉ st.vm.placeholders) (hc : m ∉ st.vm.cached) :
    step (.importEnd true) (step (.importBegin m) st)
      = ⟨{ st.vm with cached := m :: st.vm.cached }, st.conts⟩ ∧
    step (.importEnd false) (step (.importBegin m) st) = raise true st := by
  obtain ⟨vm, x, cs, rfl⟩ := exists_loop_of_inLoop hin
  simp_all [step, inLoop, raise]

example : inLoop (step runChunk {}) = true ∧ 5 ∉ (step runChunk {}).vm.placeholders ∧
    5 ∉ (step runChunk {}).vm.cached := by decide

/-- importing a cached module changes nothing; importing a module that is being imported fails
like any instruction (the "recursive import" error) without touching the placeholders first -/
theorem import_cached_or_recursive (m : Nat) (st : St) (hin : inLoop st = true) :
    (m ∉ st.vm.placeholders → m ∈ st.vm.cached → step (.importBegin m) st = st) ∧
    (m ∈ st.vm.placeholders → step (.importBegin m) st = raise true st) := by
  constructor
  · intro h1 h2; simp [step, hin, h1, h2]
  · intro h1; simp [step, hin, h1]

theorem exportVal_laws (k : Nat) (st : St) (hin : inLoop st = true) :
    step (.exportVal k) (step (.exportVal k) st) = step (.exportVal k) st ∧
    k ∈ (step (.exportVal k) st).vm.exports ∧
    st.vm.exports <+: (step (.exportVal k) st).vm.exports ∧
    (st.vm.exports.Nodup → (step (.exportVal k) st).vm.exports.Nodup) := by
  obtain ⟨vm, x, cs, rfl⟩ := exists_loop_of_inLoop hin
  by_cases hk : k ∈ vm.exports
  · simp [step, inLoop, hk]
  · refine ⟨?_, ?_, ?_, ?_⟩
    · simp [step, inLoop, hk]
    · simp [step, inLoop, hk]
    · simp [step, inLoop, hk]
    · intro hnd
      simp only [step, inLoop, hk, if_true, if_false]
      exact List.nodup_append.2 ⟨hnd, by simp, by intro a ha b hb; simp at hb; subst hb; intro hab; exact hk (hab ▸ ha)⟩

example : (run [runChunk, .exportVal 4, .exportVal 7, .exportVal 4] {}).vm.exports = [4, 7] := by
  decide

/-! ## Generator VMs over a whole sequence of resumptions (driver request `gen`) -/

/-- the driver's fold: one `genResume` per group of events -/
def genSession (groups : List (List Ev)) (vm : VM) : VM :=
  groups.foldl (fun vm evs => (genResume evs vm).vm) vm

/-- **a finished generator stays finished over every later sequence of resumptions**, and nothing
of its VM changes — lifted from one resumption (`C07.generator_finished_stays`) to all histories -/
theorem genSession_finished_stays (groups : List (List Ev)) (vm : VM)
    (h : genFinished vm = true) : genSession groups vm = vm :=
  List.foldlRecOn groups _ (motive := (· = vm)) rfl fun _ hv _ _ => by subst hv; simp [genResume, h]

theorem genSession_prefix_finished (a b : List (List Ev)) (vm : VM)
    (h : genFinished (genSession a vm) = true) :
    genSession (a ++ b) vm = genSession a vm := by
  have : genSession (a ++ b) vm = genSession b (genSession a vm) := List.foldl_append ..
  rw [this]
  exact genSession_finished_stays b _ h

example : genFinished (genSession [[.newFrame 3], [.raise true]] (genInit 0)) = true ∧
    genFinished (genSession [[.newFrame 3]] (genInit 0)) = false := by decide

/-! ## A completed `try` leaves no catch entry -/

theorem tryStart_tryEnd (r ip : Nat) (st : St) (hin : inLoop st = true) :
    step .tryEnd (step (.tryStart r ip) st) = st := by
  obtain ⟨vm, x, cs, rfl⟩ := exists_loop_of_inLoop hin
  -- the two `frame_mut()` updates rebuild the top frame field by field: take `vm` apart first
  obtain ⟨regs, base, minRegs, stack, seq, str, ex, ph, ca⟩ := vm
  cases stack <;> simp [step, inLoop, modTop]

example : inLoop (run [runChunk, .newFrame 4] {}) = true := by decide

/-! ## The stack of pending Rust callers (`St.conts`)

Errors only ever *pop* pending callers (the result of `raiseGo` is a suffix of what was pending),
one event pushes at most one, so the depth of Rust re-entrancy after any execution is bounded by
the number of events — for every event list from every state. -/

theorem raiseGo_conts_suffix (conts : List Cont) (c : Bool) (vm : VM) :
    (raiseGo conts c vm).conts <:+ conts :=
  let ⟨Z, hZ, _⟩ := raiseGo_pops conts c vm
  ⟨Z, hZ.symm⟩

theorem step_conts_length (ev : Ev) (st : St) :
    (step ev st).conts.length ≤ st.conts.length + 1 := by
  have h := step_effect ev st
  generalize step ev st = st' at h ⊢
  cases h with
  | pop hcs _ _ => simp only [hcs, List.length_append]; omega
  | push _ _ => exact Nat.le_refl _
  | «export» _ => exact Nat.le_succ _
  | importBegin _ => exact Nat.le_refl _
  | importEnd _ hcs _ _ => simp only [hcs, List.length_cons, List.length_append]; omega

theorem run_conts_length (evs : List Ev) : ∀ st : St,
    (run evs st).conts.length ≤ st.conts.length + evs.length := by
  induction evs with
  | nil => intro st; exact Nat.le_refl _
  | cons e es ih =>
    intro st
    have h1 := step_conts_length e st
    have h2 := ih (step e st)
    rw [run_cons, List.length_cons]
    omega

example : (run [runChunk, .callNative 1, callFunction 0 (.koto 0)] {}).conts.length = 3 := by decide

/-! ## Frame condition for the module cache

Only `importBegin` / `importEnd` change `module_cache` (placeholders and cached modules): no error
path, no frame pop, no host entry, no native return does — for every state, every event, and lifted
to every event list without import events. So a failing run that imports nothing cannot leave a
placeholder behind, whatever it does. -/

/-- the module-cache part of the state: in-progress placeholders and cached modules -/
def mc (vm : VM) : List Nat × List Nat := (vm.placeholders, vm.cached)

def isImportEv : Ev → Bool
  | .importBegin _ | .importEnd _ => true
  | _ => false

theorem step_mc (ev : Ev) (st : St) (hev : isImportEv ev = false) :
    mc (step ev st).vm = mc st.vm := by
  have h := step_effect ev st
  generalize step ev st = st' at h ⊢
  cases h with
  | pop _ _ hm => exact congrArg Prod.snd hm
  | push _ hm => exact congrArg Prod.snd hm
  | «export» _ => rfl
  | importBegin he => rw [he] at hev; cases hev
  | importEnd he _ _ _ => rw [he] at hev; cases hev

theorem run_mc (evs : List Ev) : ∀ st : St, (∀ e ∈ evs, isImportEv e = false) →
    mc (run evs st).vm = mc st.vm := by
  intro st h
  exact List.foldlRecOn evs _ (motive := fun s => mc s.vm = mc st.vm) rfl
    fun s hs e he => (step_mc e s (h e he)).trans hs

example : mc (run [runChunk, .newFrame 4, .call 2 1, .seqStart, .raise true, .raise false] {}).vm
    = mc ({} : St).vm := by decide

/-! ## Uncatchable errors (execution limit / timeout) -/

/-- **a timeout cannot be swallowed**: an uncatchable error always terminates the loop it is
detected in — afterwards the pending callers are a suffix of those *below* that loop, whatever
`try` blocks are open in whatever frames -/
theorem raise_uncatchable_pops (st : St) (hin : inLoop st = true) :
    (raise false st).conts <:+ st.conts.tail := by
  obtain ⟨vm, x, cs, rfl⟩ := exists_loop_of_inLoop hin
  show (raiseGo (.loop x :: cs) false vm).conts <:+ cs
  rw [raiseGo_loop]
  have hu : (unwind false vm).2 = none := unwindGo_uncatchable _ _
  rcases h : unwind false vm with ⟨vm1, _ | cr⟩
  · exact raiseGo_conts_suffix _ _ _
  · rw [h] at hu; cases hu

example : (run [runChunk, .newFrame 4, .tryStart 1 9, .raise false] {}).conts = [] ∧
    (run [runChunk, .newFrame 4, .tryStart 1 9, .raise true] {}).conts ≠ [] := by decide

/-! ## Balanced builder brackets -/

/-- **balanced builder brackets are invisible**: opening `n` sequence (string) builders and
finishing all of them restores the state exactly, at any nesting depth, in any running loop -/
theorem builders_roundtrip (n : Nat) (st : St) (hin : inLoop st = true) :
    run (List.replicate n .seqStart ++ List.replicate n .seqEnd) st = st ∧
    run (List.replicate n .strStart ++ List.replicate n .strEnd) st = st := by
  constructor
  · refine run_nested _ _ (inLoop · = true) (fun st h => ?_) (fun st h => ?_) n st hin
    · rw [step_seqStart st h]; exact h
    · rw [step_seqStart st h]
      have h' : inLoop { st with vm := { st.vm with seq := st.vm.seq + 1 } } = true := h
      simp [step, h']
  · refine run_nested _ _ (inLoop · = true) (fun st h => ?_) (fun st h => ?_) n st hin
    · rw [step_strStart st h]; exact h
    · rw [step_strStart st h]
      have h' : inLoop { st with vm := { st.vm with str := st.vm.str + 1 } } = true := h
      simp [step, h']

example : inLoop (run [runChunk, .newFrame 2, .seqStart] {}) = true := by decide

end KotoVerif.C07Ext
