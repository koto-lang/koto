/-
C01 (layer 5) — the compiler's result-register protocol is correct: property theorems about
`Model/Compile.lean` (tied to `koto_bytecode::Compiler` by the instruction-for-instruction
correspondence K2, `harness/src/bin/c01k2.rs`).

"The outcome of an expression does not depend on the code that surrounds it (top level or function
body, how many other locals or temporaries are live)": `compile_correct_any_context` quantifies
over *every* frame state (any committed / reserved locals, any number of live temporaries up to the
register limit), every result mode (`None`, `Any`, `Fixed r`) and every operator semantics.
-/
import KotoVerif.Lemmas.C01SemCtl
import KotoVerif.Lemmas.C01Flatten

namespace KotoVerif.C01
open KotoVerif.Compile

variable {S : Sem}

/-- **compile_correct, in any context.** Let `e` be compiled in an arbitrary well-formed frame `F`
with result mode `m`, and let the static side conditions `safe` hold (no late read of a bare local
operand, no read of the assignment target after a partial result has been written to its register —
the two conditions that F-C01-1 / F-C01-2 violate). If the register file agrees with the
environment on all locals outside `E` and the reference semantics evaluates `e` to `v`, then the
emitted code runs without fault, leaves `v` in the output register, keeps every other live
temporary, and the register file agrees with the new environment. -/
theorem compile_correct_any_context (e : Expr) (m : Mode) (F : Frame) (code : Code) (out : Out) (F' : Frame)
    (E : List Nat) (fx : Option Nat)
    (hc : compile e m F = some (code, out, F')) (hw : WF F) (hm : ModeFx m fx F) (hs : safe E fx e = true)
    (σ : Regs S) (ρ ρ' : Env S) (v : S.V) (hrel : RelEx E F σ ρ) (hev : eval S e ρ = some (v, ρ')) :
    ∃ σ', exec S code σ = some σ' ∧ RelEx (addOpt fx E) F' σ' ρ' ∧
      (∀ r, out.reg = some r → σ' r = v) ∧ TempsKept m F σ σ' :=
  compile_sem e m F code out F' E fx hc hw hm hs σ ρ ρ' v hrel hev

/-- flat execution = structured execution: `flatten_correct` with nothing after the code -/
theorem flatten_exec (c : Code) (σ : Regs S) : execFlat S (flatten c) σ = exec S c σ := by
  have := flatten_correct S c [] σ
  simp only [List.append_nil] at this
  rw [this]
  cases exec S c σ with
  | none => rfl
  | some σ1 => simp [execFlat]

/-- **compile_correct, whole program, on the flat instruction stream.** A main block compiled with
`Any`: running the *flattened* instruction stream (relative forward jumps, as the real compiler
emits them) from any register file yields the value of the reference semantics in the returned
register, and every assigned local's register holds its final value. -/
theorem compile_correct_main (e : Expr) (lc : Nat) (code : Code) (out : Out) (F' : Frame)
    (hc : compile e .any (mainFrame lc) = some (code, out, F')) (hs : safe [] none e = true)
    (σ : Regs S) (ρ' : Env S) (v : S.V) (hev : eval S e (fun _ => none) = some (v, ρ')) :
    ∃ σ' r, execFlat S (flatten code) σ = some σ' ∧ out.reg = some r ∧ σ' r = v ∧
      (∀ x w, ρ' x = some w → ∃ q, Has F' q x ∧ σ' q = w) := by
  obtain ⟨σ', h1, h2, h3, _⟩ := compile_sem e .any (mainFrame lc) code out F' [] none hc (mainFrame_wf lc)
    trivial hs σ (fun _ => none) ρ' v (RelEx.empty _ _ _) hev
  obtain ⟨r, hr⟩ := (compile_frame _ _ _ _ _ _ hc (mainFrame_wf lc)).shape.any_reg
  exact ⟨σ', r, by rw [flatten_exec]; exact h1, hr, h3 r hr, fun x w hx => h2 x w hx List.not_mem_nil⟩

/-- **frame discipline** (`frame_inv` for the compiler core): temporaries are handed out and
returned LIFO (`F'.tc = F.tc` + 1 iff the output is a temporary, which is then the next free
register), the output has the shape the mode prescribes, committed locals keep their registers and
the frame stays well-formed — for every expression, mode and frame. -/
theorem compile_frame_discipline (e : Expr) (m : Mode) (F : Frame) (code : Code) (out : Out) (F' : Frame)
    (hc : compile e m F = some (code, out, F')) (hw : WF F) : FF m e F out F' :=
  compile_frame e m F code out F' hc hw

/-! ## the side conditions are necessary: F-C01-1 and F-C01-2 in the model -/

/-- a concrete operator semantics: integers, `null` = -1, false = 0, only 0 and -1 falsy -/
def intSem : Sem where
  V := Int
  null := -1
  ofBool b := if b then 1 else 0
  ofInt n := n
  truthy v := v != 0 && v != -1
  unop op v := match op with | .neg => some (-v) | .not => some (if v != 0 && v != -1 then 0 else 1)
  binop op a b := match op with
    | .add => some (a + b) | .sub => some (a - b) | .mul => some (a * b)
    | .lt => some (if a < b then 1 else 0) | .eq => some (if a = b then 1 else 0)
    | _ => none
  compoundop op a b := match op with
    | .add => some (a + b) | .sub => some (a - b) | .mul => some (a * b)
    | _ => none

/-- `x = 5; y = 1; x = y and x` (x = local 0, y = local 1) -/
def progF25 : Expr :=
  .seq (.assign 0 (.int 5)) (.seq (.assign 1 (.int 1)) (.assign 0 (.and (.var 1) (.var 0))))

/-- `y = 1; y + (y = 7)` -/
def progLateRead : Expr :=
  .seq (.assign 0 (.int 1)) (.bin .add (.var 0) (.assign 0 (.int 7)))

def runMain (e : Expr) (lc : Nat) : Option (Int × Int) :=
  match compile e .any (mainFrame lc), eval intSem e (fun _ => none) with
  | some (code, out, _), some (v, _) =>
    match exec intSem code (fun _ => (-1 : Int)), out.reg with
    | some σ', some r => some (σ' r, v)
    | _, _ => none
  | _, _ => none

/-- **F-C01-1 in the model** (`fixed_unsafe_witness`): the program is not `safe`, and the compiled
code returns 1 where the reference semantics gives 5 — the same wrong answer the real runtime gives. -/
theorem fixed_unsafe_witness : safe [] none progF25 = false ∧ runMain progF25 2 = some (1, 5) := by
  constructor
  · decide
  · rfl

/-- **F-C01-2 in the model** (`late_read_witness`): not `safe`, compiled code gives 14, the
reference semantics 8. -/
theorem late_read_witness : safe [] none progLateRead = false ∧ runMain progLateRead 1 = some (14, 8) := by
  constructor
  · decide
  · rfl

/-- `x = 3; y = if x < 4 then x + 1 else 0; x = x + y; y and (x = x * 2)` — safe, compiles, runs -/
def progOk : Expr :=
  .seq (.assign 0 (.int 3))
    (.seq (.assign 1 (.ite (.cmp .lt (.var 0) (.int 4)) (.bin .add (.var 0) (.int 1)) (.int 0)))
      (.seq (.assign 0 (.bin .add (.var 0) (.var 1))) (.and (.var 1) (.assign 0 (.bin .mul (.var 0) (.int 2))))))

example : safe [] none progOk = true ∧ runMain progOk 2 = some (14, 14) := by
  constructor
  · decide
  · rfl

end KotoVerif.C01
