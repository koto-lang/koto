/-
C05 extension: theorems about allocator queries the driver exposes (`captures`, `assigned`, `aor`,
`next`, `avail`, `size`, `trunc`, `export`) that the base theorem files do not talk about.
-/
import KotoVerif.Lemmas.C05Frame

namespace KotoVerif.C05Ext
open KotoVerif.Frame

/-! ### capture list: order and content (determinism clause of the property) -/

/-- The capture list is a sub-sequence of the accessed ids: order is inherited, nothing is added. -/
theorem capturesFor_sublist (s : Frame.Frame) (acc : List Nat) :
    (s.capturesFor acc).Sublist acc := by
  unfold Frame.capturesFor
  exact List.filter_sublist

theorem capturesFor_append (s : Frame.Frame) (a b : List Nat) :
    s.capturesFor (a ++ b) = s.capturesFor a ++ s.capturesFor b := by
  simp [Frame.capturesFor]

theorem capturesFor_idem (s : Frame.Frame) (acc : List Nat) :
    s.capturesFor (s.capturesFor acc) = s.capturesFor acc := by
  simp [Frame.capturesFor, List.filter_filter]

/-- Content of the capture list: exactly the accessed ids that `get_local_assigned_or_reserved_register`
resolves in this frame, or that were exported. -/
theorem capturesFor_mem_iff (s : Frame.Frame) (acc : List Nat) (id : Nat) :
    id ∈ s.capturesFor acc ↔
      id ∈ acc ∧ (s.getAssignedOrReserved id ≠ .unassigned ∨ id ∈ s.exported) := by
  have h := lookupLocal_unassigned_iff id s.locals 0
  unfold Frame.capturesFor Frame.getAssignedOrReserved
  simp only [List.mem_filter, Bool.or_eq_true, ne_eq, h, Bool.not_eq_false, List.contains_iff_mem]
  exact Iff.rfl

example : (Frame.capturesFor { locals := [.allocated, .assigned 7, .reserved 9 []], exported := [4] }
    [9, 5, 4, 7]) = [9, 4, 7] := by decide

theorem capturesFor_ignores_temporaries (s : Frame.Frame) (st : List Nat) (tb tc used : Nat)
    (acc : List Nat) :
    ({ s with stack := st, tb := tb, tc := tc, used := used } : Frame.Frame).capturesFor acc
      = s.capturesFor acc := rfl

/-- `peek` is not listed: it returns the state it was given. -/
theorem capturesFor_stable_temps (s : Frame.Frame) (h : Inv s) (acc : List Nat) :
    (∀ s' r, s.pushRegister = .ok s' r → s'.capturesFor acc = s.capturesFor acc)
    ∧ (∀ s' r, s.popRegister = .ok s' r → s'.capturesFor acc = s.capturesFor acc)
    ∧ (∀ c s', s.truncate c = .ok s' () → s'.capturesFor acc = s.capturesFor acc) := by
  exact ⟨fun s' r hp => capturesFor_congr (pushRegister_names hp) acc,
    fun s' r hp => capturesFor_congr (popRegister_names hp) acc,
    fun c s' ht => capturesFor_congr (truncateFuel_names c _ ht) acc⟩

/-! ### exported ids -/

/-- `add_to_exported_ids` is idempotent and makes the id exported. -/
theorem addExported_idem (s : Frame.Frame) (id : Nat) :
    (s.addExported id).addExported id = s.addExported id ∧ id ∈ (s.addExported id).exported := by
  by_cases h : s.exported.contains id = true
  · have hm : id ∈ s.exported := by simpa using h
    simp [Frame.addExported, hm]
  · have hm : id ∉ s.exported := by simpa using h
    simp [Frame.addExported, hm]

/-- The exported set never holds duplicates (it models a `HashSet`). -/
theorem addExported_nodup (s : Frame.Frame) (id : Nat) (h : s.exported.Nodup) :
    (s.addExported id).exported.Nodup := by
  by_cases hc : s.exported.contains id = true
  · have hm : id ∈ s.exported := by simpa using hc
    simpa [Frame.addExported, hm] using h
  · have hm : id ∉ s.exported := by simpa using hc
    simp [Frame.addExported, hm, h]

/-- Exporting commutes up to membership: the set of exported ids after two exports does not depend on
the order. -/
theorem addExported_comm_mem (s : Frame.Frame) (a b x : Nat) :
    x ∈ ((s.addExported a).addExported b).exported ↔ x ∈ ((s.addExported b).addExported a).exported := by
  simp only [mem_addExported]
  exact or_left_comm

theorem capturesFor_mono_export (s : Frame.Frame) (id : Nat) (acc : List Nat) :
    (s.capturesFor acc).Sublist ((s.addExported id).capturesFor acc) := by
  unfold Frame.capturesFor
  rw [addExported_locals]
  refine filter_sublist_filter _ _ _ fun y hy => ?_
  rcases Bool.or_eq_true_iff.1 hy with h | h
  · exact Bool.or_eq_true_iff.2 (.inl h)
  · exact Bool.or_eq_true_iff.2 (.inr (by simpa [mem_addExported] using Or.inr (by simpa using h)))

/-! ### local lookups agree -/

theorem getAssigned_of_aor (s : Frame.Frame) (id r : Nat)
    (h : s.getAssignedOrReserved id = .assigned r) : s.getAssigned id = some r :=
  lookup_assigned_agrees id s.locals 0 r h

example : (Frame.getAssignedOrReserved { locals := [.allocated, .reserved 3 [], .assigned 5] } 5)
    = .assigned 2 := by decide

/-! ### temporaries: queries and exact truncate -/

/-- Under the invariant the queries never overflow, and `push_register` succeeds exactly when
`available_registers_count` is non-zero. -/
theorem available_spec (s : Frame.Frame) (h : Inv s) :
    s.nextTemporary = some (s.tb + s.tc)
    ∧ s.availableRegisters = some (255 - (s.tb + s.tc))
    ∧ s.stackSize = s.tc
    ∧ ((∃ s' r, s.pushRegister = .ok s' r) ↔ s.availableRegisters ≠ some 0) := by
  have hb := h.bound
  have hn : s.nextTemporary = some (s.tb + s.tc) := by
    simp [Frame.nextTemporary, u8Max, Nat.add_comm, hb]
  have ha : s.availableRegisters = some (255 - (s.tb + s.tc)) := by
    simp [Frame.availableRegisters, hn, u8Max]
  refine ⟨hn, ha, by simp [Frame.stackSize, h.stack, tempsDesc_length], ?_⟩
  rw [ha]
  rcases push_spec s h with ⟨he, hp⟩ | ⟨hlt, s1, hp, _⟩
  · constructor
    · rintro ⟨s', r, hq⟩; rw [hp] at hq; cases hq
    · intro hne; exfalso; apply hne; congr 1; omega
  · constructor
    · intro _ hc; have := Option.some.inj hc; omega
    · intro _; exact ⟨s1, _, hp⟩

example : Inv { tb := 3, tc := 0, used := 0, locals := [.allocated] } :=
  ⟨by decide, by decide, by decide, by decide, by decide⟩

/-- `truncate_register_stack(count)` leaves exactly `min size count` temporaries. -/
theorem truncate_exact (s : Frame.Frame) (h : Inv s) (count : Nat) :
    ∃ s', s.truncate count = .ok s' () ∧ Inv s' ∧ s'.stackSize = min s.stackSize count
      ∧ s'.nextTemporary = some (s.tb + min s.tc count) := by
  obtain ⟨s', he, hi, hw, -, htc⟩ := truncate_run s h count
  refine ⟨s', he, hi, ?_, ?_⟩
  · rw [(available_spec s' hi).2.2.1, (available_spec s h).2.2.1, htc]
  · rw [(available_spec s' hi).1, hw.tb, htc]

/-- Truncating twice to the same size is the same as once (idempotence on the observable sizes). -/
theorem truncate_idem (s : Frame.Frame) (h : Inv s) (count : Nat) :
    ∃ s1 s2, s.truncate count = .ok s1 () ∧ s1.truncate count = .ok s2 ()
      ∧ s2.stackSize = s1.stackSize ∧ s2.nextTemporary = s1.nextTemporary := by
  obtain ⟨s1, h1, i1, -, -, t1⟩ := truncate_run s h count
  obtain ⟨s2, h2, i2, w2, -, t2⟩ := truncate_run s1 i1 count
  have e : s2.tc = s1.tc := by omega
  refine ⟨s1, s2, h1, h2, ?_, ?_⟩
  · rw [(available_spec s2 i2).2.2.1, (available_spec s1 i1).2.2.1, e]
  · rw [(available_spec s2 i2).1, (available_spec s1 i1).1, w2.tb, e]

/-! ### histories compose -/

/-- A failure-free prefix can be run first and the rest from the state it reaches (so a compile is a
function of the op sequence alone). -/
theorem run_append (s : Frame.Frame) (a b : List FOp)
    (h : ∀ o ∈ (s.run a).2, o.isFailure = false) :
    s.run (a ++ b) = (((s.run a).1.run b).1, (s.run a).2 ++ ((s.run a).1.run b).2) := by
  induction a generalizing s with
  | nil => simp [Frame.run]
  | cons op ops ih =>
    rcases hs : s.step op with ⟨fs, o⟩
    cases fs with
    | none =>
      have := step_none_panic s op o hs; subst this
      simp [Frame.run, hs, Obs.isFailure] at h
    | some s1 =>
      cases o with
      | error e => simp [Frame.run, hs, Obs.isFailure] at h
      | _ =>
        simp only [List.cons_append, Frame.run, hs] at h ⊢
        have := ih s1 (fun o ho => h o (by simp [ho]))
        simp [this]

example : ∀ o ∈ (Frame.run { tb := 3 } [.push, .push, .pop]).2, o.isFailure = false := by decide

end KotoVerif.C05Ext
