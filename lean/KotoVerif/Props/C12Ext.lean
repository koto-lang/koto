/-
C12 extension: further theorems about the executable model of C12 (source map, debug prefix,
trace collection across native re-entries, excerpt arithmetic).
-/
import KotoVerif.Model.SrcMap
import KotoVerif.Model.Excerpt
import KotoVerif.Model.Trace
import KotoVerif.Lemmas.C12
import KotoVerif.Props.C12

namespace KotoVerif.C12Ext
open KotoVerif.SrcMap KotoVerif.Excerpt KotoVerif.Trace
open KotoVerif.C12L (spA spB spR exPushes exTree exCalls)

/-! ## 1. source map: lookups only ever return recorded spans; compression is idempotent -/

/-- Whatever the order of the entries, `get_source_span` invents no span and takes none from an
entry after the query. -/
theorem lookup_mem (m : List Entry) (q : Nat) (sp : Span) (h : lookup m q = some sp) :
    ∃ i, (i, sp) ∈ m ∧ i ≤ q := by
  induction m with
  | nil => cases h
  | cons x rest ih =>
    obtain ⟨i, s⟩ := x
    rcases Nat.lt_or_ge q i with hq | hq
    · rw [C12L.lookup_cons_gt _ _ hq] at h
      cases h
    · rw [C12L.lookup_cons_le _ _ hq] at h
      rcases Option.or_eq_some_iff.mp h with hl | ⟨_, hs⟩
      · obtain ⟨j, hj, hle⟩ := ih hl
        exact ⟨j, List.mem_cons_of_mem _ hj, hle⟩
      · cases hs
        exact ⟨i, List.mem_cons_self, hq⟩

example : lookup exPushes 6 = some spB := by decide

theorem lookup_isSome_from_first (i : Nat) (s : Span) (rest : List Entry) (q : Nat) (h : i ≤ q) :
    (lookup ((i, s) :: rest) q).isSome = true := by
  rw [C12L.lookup_cons_le _ _ h]
  cases lookup rest q <;> rfl

example : (lookup ((3, spA) :: [(5, spB)]) 4).isSome = true := by decide

theorem pushAll_sublist (es : List Entry) : (pushAll es).Sublist es := by
  rw [C12L.pushAll_eq_compress]
  exact C12L.compressFrom_sublist none es

/-- The precondition of the lookup theorems is preserved by `DebugInfo::push`. -/
theorem pushAll_sorted (es : List Entry) (h : C12.Sorted es) : C12.Sorted (pushAll es) :=
  List.Pairwise.sublist (pushAll_sublist es) h

theorem pushAll_strictSorted (es : List Entry) (h : C12.StrictSorted es) :
    C12.StrictSorted (pushAll es) :=
  List.Pairwise.sublist (pushAll_sublist es) h

example : C12.Sorted exPushes ∧ C12.Sorted (pushAll exPushes) := by unfold C12.Sorted; decide

/-- no entry carries the span of the entry before it (`last` = span before the list) -/
def NoAdj : Option Span → List Entry → Prop
  | _, [] => True
  | last, (_, s) :: rest => last ≠ some s ∧ NoAdj (some s) rest

theorem compressFrom_noAdj (last : Option Span) (es : List Entry) :
    NoAdj last (compressFrom last es) := by
  induction es generalizing last with
  | nil => simp [compressFrom, NoAdj]
  | cons x rest ih =>
    obtain ⟨i, s⟩ := x
    simp only [compressFrom]
    split
    · exact ih _
    · exact ⟨by assumption, ih _⟩

theorem pushAll_noAdj (es : List Entry) : NoAdj none (pushAll es) := by
  rw [C12L.pushAll_eq_compress]
  exact compressFrom_noAdj none es

theorem compressFrom_fix (last : Option Span) (m : List Entry) (h : NoAdj last m) :
    compressFrom last m = m := by
  induction m generalizing last with
  | nil => rfl
  | cons x rest ih =>
    obtain ⟨i, s⟩ := x
    obtain ⟨h1, h2⟩ := h
    simp only [compressFrom, h1, if_false]
    rw [ih _ h2]

theorem compressFrom_idem (last : Option Span) (es : List Entry) :
    compressFrom last (compressFrom last es) = compressFrom last es :=
  compressFrom_fix last _ (compressFrom_noAdj last es)

theorem pushAll_fix_iff (m : List Entry) : pushAll m = m ↔ NoAdj none m := by
  constructor
  · intro h; rw [← h]; exact pushAll_noAdj m
  · intro h; rw [C12L.pushAll_eq_compress]; exact compressFrom_fix none m h

/-- Replaying the finished source map through `DebugInfo::push` changes nothing. -/
theorem pushAll_idem (es : List Entry) : pushAll (pushAll es) = pushAll es :=
  (pushAll_fix_iff _).mpr (pushAll_noAdj es)

example : NoAdj none [(0, spA), (5, spB), (9, spA)] := by
  simp only [NoAdj]; decide

theorem lookup_isSome_mono (m : List Entry) (q q' : Nat) (hq : q ≤ q')
    (h : (lookup m q).isSome = true) : (lookup m q').isSome = true := by
  cases m with
  | nil => simp [lookup, lookupGo] at h
  | cons e rest =>
    obtain ⟨i, s⟩ := e
    by_cases hi : i ≤ q
    · exact lookup_isSome_from_first i s rest q' (Nat.le_trans hi hq)
    · rw [C12L.lookup_cons_gt _ _ (Nat.not_le.mp hi)] at h
      cases h

example : (lookup exPushes 5).isSome = true := by decide

/-! ## 2. the `debug` prefix -/

/-- The prefix line of a `debug` instruction is one-based and is the start line of a recorded
entry at or before the instruction. -/
theorem debugPrefixLine_sound (m : List Entry) (ip n : Nat) (h : debugPrefixLine m ip = some n) :
    ∃ i sp, (i, sp) ∈ m ∧ i ≤ ip ∧ n = sp.start.line + 1 := by
  unfold debugPrefixLine at h
  cases hl : lookup m ip with
  | none => simp [hl] at h
  | some sp =>
    simp [hl] at h
    obtain ⟨i, hi, hle⟩ := lookup_mem m ip sp hl
    exact ⟨i, sp, hi, hle, h.symm⟩

example : debugPrefixLine exPushes 6 = some 2 := by decide

theorem debugPrefixLine_pushAll (es : List Entry) (h : C12.Sorted es) (ip : Nat) :
    debugPrefixLine (pushAll es) ip = debugPrefixLine es ip := by
  unfold debugPrefixLine
  rw [C12.srcmap_lossless es h ip]

example : C12.Sorted exPushes ∧ debugPrefixLine (pushAll exPushes) 6 = some 2 := by
  unfold C12.Sorted; decide

/-- A `debug` instruction emitted with `push_op` inside any tree of nodes is prefixed with the
(one-based) start line of its innermost enclosing node — clause "debug output is prefixed with the
line on which the debug expression starts", for the span-stack mechanism. -/
theorem debugPrefixLine_instr (root : Span) (t : Steps) (h : t.sizesPos = true) :
    ∀ e ∈ (annot t root 0).1,
      debugPrefixLine (debugInfoOf root t) e.1 = some (e.2.start.line + 1) := by
  intro e he
  unfold debugPrefixLine
  rw [C12.instr_span root t h e he]
  rfl

example : exTree.sizesPos = true ∧ (5, spB) ∈ (annot exTree spR 0).1 ∧
    debugPrefixLine (debugInfoOf spR exTree) 5 = some 2 := by decide

/-! ## 3. the trace -/

/-- With catching disallowed (`allow_catch = false`) the unwinding never swallows the error. -/
theorem unwindGo_noCatch (st : List Frame) (tr : List IFrame) :
    ∃ t, unwindGo false st tr = .uncaught (tr ++ t) := by
  rw [C12L.unwindGo_eq, if_neg (by simp)]
  exact ⟨_, rfl⟩

theorem callSites_length (cur : Nat) (calls : List Call) :
    (callSites cur calls).length = calls.length := by
  induction calls generalizing cur with
  | nil => rfl
  | cons c rest ih => simp [callSites, ih]

theorem predict_trace_length (calls : List Call) (fault : Nat) (ft : Bool) (tr : List IFrame)
    (h : predict calls fault ft = .uncaught tr) : tr.length = calls.length + 1 := by
  rw [C12L.predict_complete] at h
  split at h
  · cases h
  · injection h with h
    subst h
    simp [callSites_length]

example : predict exCalls 11 false = .uncaught [⟨3, 11⟩, ⟨2, 4⟩, ⟨1, 7⟩, ⟨0, 3⟩] := by decide

/-- Entries compose: the trace of a sequence of interpreter entries is obtained by running the
inner group and handing its trace to the outer group. -/
theorem predictSegs_append (a b : List Seg) (tr : List IFrame) :
    predictSegs (a ++ b) tr =
      match predictSegs a tr with
      | .caught => .caught
      | .uncaught t => predictSegs b t := by
  induction a generalizing tr with
  | nil => simp [predictSegs]
  | cons s rest ih =>
    rw [List.cons_append, C12L.predictSegs_cons, C12L.predictSegs_cons]
    split
    · rfl
    · exact ih _

/-- Complete, unconditional description of the trace across native re-entries. -/
theorem predictSegs_complete (segs : List Seg) (tr : List IFrame) :
    predictSegs segs tr =
      if ∃ s ∈ segs, s.failInTry = true ∨ ∃ c ∈ s.calls, c.inTry = true then .caught
      else .uncaught (tr ++ (segs.map segFrames).flatten) :=
  C12L.predictSegs_complete segs tr

/-- Across any number of native re-entries: the error is caught exactly when some entry has a
`try` around its failing instruction / native call or around one of its script calls. -/
theorem predictSegs_caught_iff (segs : List Seg) (tr : List IFrame) :
    predictSegs segs tr = .caught ↔
      ∃ s ∈ segs, s.failInTry = true ∨ ∃ c ∈ s.calls, c.inTry = true := by
  rw [predictSegs_complete]
  split <;> simp [*]

example : predictSegs [{ calls := exCalls, failIp := 11 },
    { calls := [⟨3, 1, true⟩], failIp := 2 }] [] = .caught := by decide

/-! ## 4. the span-stack compile: instructions, debug-info pushes, lookups at any ip -/

/-- the `(ip, span)` pairs of the instructions emitted under a span -/
def spanned (ins : List (Nat × Option Span)) : List Entry :=
  ins.filterMap (fun p => p.2.map (fun sp => (p.1, sp)))

/-- Invariant of `compile`: the debug-info pushes are exactly the instructions emitted under a span,
in order (no push without an instruction, no spanned instruction without a push). -/
theorem compile_instrs_entries (t : Steps) (s : CState) (h : spanned s.instrs = s.entries) :
    spanned (compile t s).instrs = (compile t s).entries := by
  induction t generalizing s with
  | done => exact h
  | op n rest ih =>
    simp only [compile]
    apply ih
    cases hs : s.span <;> simp [spanned, List.filterMap_append] <;> exact h
  | opNoSpan n rest ih =>
    simp only [compile]
    apply ih
    simp [spanned, List.filterMap_append]
    exact h
  | node sp body rest ihb ihr =>
    simp only [compile]
    apply ihr
    exact ihb _ h

example : spanned (compile exTree { stack := [spR] }).instrs
    = (compile exTree { stack := [spR] }).entries := by decide

/-- The precondition of `lookup_hit` / `lookup_spec` holds of the finished debug info of every
tree. -/
theorem debugInfoOf_strictSorted (root : Span) (t : Steps) (h : t.sizesPos = true) :
    C12.StrictSorted (debugInfoOf root t) := by
  unfold debugInfoOf
  rw [C12L.compile_entries_root]
  exact pushAll_strictSorted _ (C12L.annot_strict t h root 0)

/-- Lookup at ANY ip of the chunk (a spanned instruction, an instruction emitted with
`push_op_without_span`, an operand byte): the answer is the innermost-node span of the nearest
spanned instruction at or before that ip — the merge of equal neighbours and the span stack are
both invisible. -/
theorem lookup_debugInfoOf_spec (root : Span) (t : Steps) (h : t.sizesPos = true) (q : Nat) :
    lookup (debugInfoOf root t) q
      = (((annot t root 0).1.filter (fun e => decide (e.1 ≤ q))).getLast?).map (·.2) := by
  rw [C12L.lookup_debugInfoOf root t h,
    C12.lookup_spec _ ((C12L.annot_strict t h root 0).imp Nat.le_of_lt)]

/-- Without any assumption on instruction sizes: a span found in the debug info of a tree is the
innermost-node span of a spanned instruction at or before the queried ip. -/
theorem lookup_debugInfoOf_scoped (root : Span) (t : Steps) (q : Nat) (sp : Span)
    (h : lookup (debugInfoOf root t) q = some sp) :
    ∃ i, (i, sp) ∈ (annot t root 0).1 ∧ i ≤ q := by
  obtain ⟨i, hi, hle⟩ := lookup_mem _ q sp h
  refine ⟨i, ?_, hle⟩
  have := (pushAll_sublist _).subset hi
  rwa [C12L.compile_entries_root] at this

/-- ip 6 is an instruction without a span: it reports the child's span `spB` -/
example : exTree.sizesPos = true ∧ lookup (debugInfoOf spR exTree) 6 = some spB ∧
    (5, spB) ∈ (annot exTree spR 0).1 := by decide

/-! ## 5. the excerpt -/

/-- Whenever `format_source_excerpt` returns (guard or not): every quoted line exists in the text,
lies between the span's first and last line, and is printed with its one-based number. -/
theorem excerpt_quoted_inside (n : Nat) (sp : Span) (o : Out) (h : excerpt n sp = .ok o) :
    ∀ p ∈ o.quoted, p.2 < n ∧ sp.start.line ≤ p.2 ∧ p.2 ≤ sp.stop.line ∧ p.1 = p.2 + 1 := by
  intro p hp
  rcases C12L.excerpt_ok_cases h with ⟨hl, hn, _, rfl⟩ | ⟨_, rfl⟩
  · cases List.mem_singleton.mp hp
    exact ⟨hn, Nat.le_refl _, Nat.le_of_eq hl, rfl⟩
  · obtain ⟨k, hk, rfl⟩ := List.mem_map.mp hp
    obtain ⟨h1, h2⟩ := Nat.lt_min.mp (List.mem_range.mp hk)
    exact ⟨Nat.add_lt_of_lt_sub' h2, Nat.le_add_right _ _, by omega, rfl⟩

example : excerpt 2 ⟨⟨1, 4⟩, ⟨2, 0⟩⟩ = .ok ⟨(2, 5), 1, [(2, 1)], none⟩ := by decide

/-! ### the width of the line-number column -/

theorem digitsFuel_eq (f : Nat) : ∀ n, n ≤ f → digitsFuel f n = (Nat.toDigits 10 n).length := by
  induction f with
  | zero =>
    intro n hn
    cases Nat.le_zero.mp hn
    rfl
  | succ f ih =>
    intro n hn
    rw [digitsFuel, Nat.toDigits_eq_if (by decide)]
    split
    · rfl
    · rw [ih _ (by omega), List.length_append, Nat.add_comm]
      rfl

/-- `digits n` is the length of the decimal numeral (`n.to_string().len()`), so its laws are core's. -/
theorem digits_eq (n : Nat) : digits n = n.repr.length := by
  rw [digits, digitsFuel_eq n n (Nat.le_refl n), ← Nat.toList_repr, String.length_toList]

theorem digits_upper (n : Nat) : n < 10 ^ digits n := by
  rw [digits_eq]
  exact (Nat.length_repr_le_iff Nat.length_repr_pos).mp (Nat.le_refl _)

theorem digits_mono (a b : Nat) (h : a ≤ b) : digits a ≤ digits b := by
  rw [digits_eq, digits_eq]
  exact (Nat.length_repr_le_iff Nat.length_repr_pos).mpr
    (Nat.lt_of_le_of_lt h (digits_eq b ▸ digits_upper b))

theorem excerpt_width (n : Nat) (sp : Span) (o : Out) (h : excerpt n sp = .ok o) :
    o.numberWidth = digits (sp.stop.line + 1) := by
  rcases C12L.excerpt_ok_cases h with ⟨_, _, _, rfl⟩ | ⟨_, rfl⟩ <;> rfl

/-- The line-number column is wide enough for every printed line number (so `rjust` never has to
truncate and the `|` separators line up), whenever the function returns. -/
theorem excerpt_width_fits (n : Nat) (sp : Span) (o : Out) (h : excerpt n sp = .ok o) :
    ∀ p ∈ o.quoted, digits p.1 ≤ o.numberWidth ∧ p.1 < 10 ^ o.numberWidth := by
  intro p hp
  obtain ⟨_, _, h3, h4⟩ := excerpt_quoted_inside n sp o h p hp
  rw [excerpt_width n sp o h]
  have hle : p.1 ≤ sp.stop.line + 1 := by omega
  exact ⟨digits_mono _ _ hle, Nat.lt_of_le_of_lt hle (digits_upper _)⟩

example : excerpt 12 ⟨⟨8, 2⟩, ⟨10, 0⟩⟩ = .ok ⟨(9, 3), 2, [(9, 8), (10, 9), (11, 10)], none⟩ := by
  decide

end KotoVerif.C12Ext
