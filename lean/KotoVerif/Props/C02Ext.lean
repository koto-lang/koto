/-
C02 — extension: the generator environment, generator consumers (`consumeFor` with `break`,
`consumeAll` with `take`, `consumeNexts`) and their independence of the fuel, and histories of the
heap machine for captured containers (`srun`).
All definitions talked about here are run by the driver (`gen` and `share` requests).
-/
import KotoVerif.Lemmas.C02Gen
import KotoVerif.Model.Capture

namespace KotoVerif.C02Ext
open KotoVerif.Gen KotoVerif.C02

/-! ## environment laws -/

theorem lookup_update (x y : Name) (v : Int64) (env : Env) :
    lookup y (update x v env) = if y = x then v else lookup y env := by
  induction env with
  | nil => simp [update, lookup]
  | cons p r ih =>
    obtain ⟨z, w⟩ := p
    by_cases hz : x = z
    · subst hz
      by_cases hx : y = x <;> simp [update, lookup, hx]
    · by_cases hx : y = x
      · subst hx; simp [update, lookup, hz, ih]
      · simp [update, lookup, hz, hx, ih]

theorem lookup_update_same (x : Name) (v : Int64) (env : Env) : lookup x (update x v env) = v := by
  rw [lookup_update, if_pos rfl]

theorem lookup_update_other (x y : Name) (v : Int64) (env : Env) (hne : y ≠ x) :
    lookup y (update x v env) = lookup y env := by
  rw [lookup_update, if_neg hne]

example : lookup 2 (update 1 5 [(2, 7)]) = lookup 2 [(2, 7)] := by decide

/-! ## `next` on two small bodies -/

example : next 3 (mkGen [.emit (.lit 4), .yield (.lit 1)] []) = .yielded [4] 1 ⟨[.seq []], []⟩ 1 := by
  rfl

example : next 4 (mkGen [.emit (.lit 4), .ret, .yield (.lit 1)] []) = .finished [4] ⟨[], []⟩ := by
  rfl

/-! ## `for … break` / `take k`: laziness -/

/-- **consumer independence.** A `for` loop (with or without `break` after `limit` values) and
`to_tuple` / `take(limit).to_tuple()` drive the generator identically: the same values arrive, and
the generator's own output is the same. -/
theorem consumeFor_consumeAll (n : Nat) (limit : Option Nat) (c : Cfg) :
    cvals (consumeFor n limit c) = (consumeAll n limit c).2
      ∧ gpart (consumeFor n limit c) = (consumeAll n limit c).1 := by
  rw [consumeAll_eq]
  exact ⟨rfl, rfl⟩

/-- **laziness of `break`.** Leaving the loop after `k` values gives a prefix of the trace of the
full loop: nothing of the generator's body beyond the k-th `yield` has run. -/
theorem consumeFor_limit_prefix (n k : Nat) (c : Cfg) :
    consumeFor n (some k) c <+: consumeFor n none c := by
  induction n generalizing k c with
  | zero => simp [consumeFor]
  | succ n ih =>
    cases k with
    | zero => simp [consumeFor]
    | succ k =>
      simp only [consumeFor, Option.map_some, Option.map_none, Nat.add_sub_cancel]
      cases hn : next (n + 1) c with
      | yielded es v c' m =>
        simp only []
        exact (List.prefix_append_right_inj _).mpr (ih k c')
      | finished es c' => exact List.prefix_refl _
      | outOfFuel es c' => exact List.prefix_refl _

/-- `take k` never hands out more than `k` values -/
theorem consumeAll_limit_length (n k : Nat) (c : Cfg) : (consumeAll n (some k) c).2.length ≤ k := by
  induction n generalizing k c with
  | zero => simp [consumeAll]
  | succ n ih =>
    cases k with
    | zero => simp [consumeAll]
    | succ k =>
      simp only [consumeAll, Option.map_some, Nat.add_sub_cancel]
      cases hn : next (n + 1) c with
      | yielded es v c' m =>
        have := ih k c'
        simp only [List.length_cons]
        omega
      | finished es c' => simp
      | outOfFuel es c' => simp

/-- `take k` hands out a prefix of what `to_tuple` collects -/
theorem consumeAll_limit_prefix (n k : Nat) (c : Cfg) :
    (consumeAll n (some k) c).2 <+: (consumeAll n none c).2 := by
  obtain ⟨t, ht⟩ := consumeFor_limit_prefix n k c
  rw [consumeAll_eq, consumeAll_eq, ← ht, cvals_append]
  exact List.prefix_append _ _

/-- `collect` is the value part of `to_tuple` -/
theorem collect_eq_consumeAll (n : Nat) (c : Cfg) : collect n c = (consumeAll n none c).2 := by
  induction n generalizing c with
  | zero => simp [collect, consumeAll]
  | succ n ih =>
    simp only [collect, consumeAll, Option.map_none]
    cases hn : next (n + 1) c with
    | yielded es v c' m => simp [ih]
    | finished es c' => simp
    | outOfFuel es c' => simp

/-- **fuel independence of the `for` consumer.** Once the fuel suffices (no fuel marker in the
trace), any larger fuel gives the same trace: the model's answer is not an artefact of the bound. -/
theorem consumeFor_fuel_mono (n j : Nat) (limit : Option Nat) (c : Cfg)
    (h : T.fuel ∉ consumeFor n limit c) : consumeFor (n + j) limit c = consumeFor n limit c := by
  induction n generalizing limit c with
  | zero => simp [consumeFor] at h
  | succ n ih =>
    rw [show n + 1 + j = (n + j) + 1 by omega]
    by_cases hl : limit = some 0
    · subst hl
      rfl
    · have hj := next_add_fuel (n + 1) j c
      rw [show n + 1 + j = (n + j) + 1 by omega] at hj
      rw [consumeFor_succ n limit c hl] at h
      rw [consumeFor_succ (n + j) limit c hl, consumeFor_succ n limit c hl]
      cases hn : next (n + 1) c with
      | yielded es v c' m =>
        simp only [hn] at h hj
        simp only [hj]
        rw [ih _ c' (by intro hm; apply h; simp [hm])]
      | finished es c' =>
        simp only [hn] at hj
        simp only [hj]
      | outOfFuel es c' => simp [hn] at h

example : T.fuel ∉ consumeFor 50 (some 2)
    (mkGen [.forRange 1 (.lit 0) (.lit 1000) [.yield (.var 1), .emit (.var 1)]] []) := by decide

/-- same for `to_tuple` / `take k` -/
theorem consumeAll_fuel_mono (n j : Nat) (limit : Option Nat) (c : Cfg)
    (h : T.fuel ∉ (consumeAll n limit c).1) : consumeAll (n + j) limit c = consumeAll n limit c := by
  rw [consumeAll_eq, fuel_mem_gpart] at h
  rw [consumeAll_eq, consumeAll_eq, consumeFor_fuel_mono n j limit c h]

example : T.fuel ∉ (consumeAll 50 (some 2)
    (mkGen [.forRange 1 (.lit 0) (.lit 1000) [.yield (.var 1), .emit (.var 1)]] [])).1 := by decide

/-! ## explicit `.next()` calls -/

/-- results of `.next()` calls: a value or the end marker -/
def results : List T → Nat
  | [] => 0
  | .c _ :: r => results r + 1
  | .fin :: r => results r + 1
  | _ :: r => results r

theorem results_append (a b : List T) : results (a ++ b) = results a + results b := by
  induction a with
  | nil => simp [results]
  | cons t r ih => cases t <;> simp [results, ih] <;> omega

theorem results_g (es : List Int64) : results (es.map T.g) = 0 := by
  induction es with
  | nil => rfl
  | cons e r ih => simp [results, ih]

/-- every one of the `k` calls of `.next()` produces exactly one result (value or end) -/
theorem consumeNexts_results (fuel k : Nat) (c : Cfg) (h : T.fuel ∉ consumeNexts fuel k c) :
    results (consumeNexts fuel k c) = k := by
  induction k generalizing fuel c with
  | zero => simp [consumeNexts, results]
  | succ k ih =>
    simp only [consumeNexts] at h ⊢
    cases hn : next fuel c with
    | yielded es v c' m =>
      simp only [hn] at h ⊢
      have := ih m c' (by intro hm; apply h; simp [hm])
      simp [results_append, results_g, results, this]
    | finished es c' =>
      simp only [hn] at h ⊢
      have := ih fuel c' (by intro hm; apply h; simp [hm])
      simp [results_append, results_g, results, this]
    | outOfFuel es c' => simp [hn] at h

/-- **after the end, the end again.** On a generator whose body has returned, every further
`.next()` reports the end and nothing else happens. -/
theorem consumeNexts_halted (fuel k : Nat) (c : Cfg) (h : Halted c) :
    consumeNexts (fuel + 1) k c = List.replicate k T.fin := by
  induction k with
  | zero => simp [consumeNexts]
  | succ k ih =>
    simp only [consumeNexts, next_after_end fuel c h, List.map_nil, List.nil_append, ih]
    simp [List.replicate_succ]

example : Halted (run 5 (mkGen [.yield (.lit 1)] [])).2 := by
  show step _ = none
  rfl

def dropFin : List T → List T
  | [] => []
  | .fin :: r => dropFin r
  | t :: r => t :: dropFin r

theorem dropFin_append (a b : List T) : dropFin (a ++ b) = dropFin a ++ dropFin b := by
  induction a with
  | nil => rfl
  | cons t r ih => cases t <;> simp [dropFin, ih]

theorem dropFin_g (es : List Int64) : dropFin (es.map T.g) = es.map T.g := by
  induction es with
  | nil => rfl
  | cons e r ih => simp [dropFin, ih]

/-- **explicit `.next()` calls resume exactly where the generator paused.** Apart from the end
markers, the trace of `k` calls is the interleaving of a straight run of the body (some number of
machine steps), whatever fuel was left over between the calls. -/
theorem consumeNexts_interleave (fuel k : Nat) (c : Cfg) (h : T.fuel ∉ consumeNexts fuel k c) :
    ∃ j, dropFin (consumeNexts fuel k c) = interleave (run j c).1 := by
  induction k generalizing fuel c with
  | zero => exact ⟨0, by simp [consumeNexts, dropFin, run, interleave]⟩
  | succ k ih =>
    simp only [consumeNexts] at h ⊢
    cases hn : next fuel c with
    | yielded es v c' m =>
      simp only [hn] at h ⊢
      obtain ⟨j2, hj2⟩ := ih m c' (by intro hm; apply h; simp [hm])
      obtain ⟨j1, hj1⟩ := next_yielded _ _ _ _ _ _ hn
      refine ⟨j1 + j2, ?_⟩
      rw [run_add, hj1]
      simp [dropFin_append, dropFin_g, dropFin, interleave_append, interleave_emits, interleave, hj2]
    | finished es c' =>
      simp only [hn] at h ⊢
      obtain ⟨j2, hj2⟩ := ih fuel c' (by intro hm; apply h; simp [hm])
      obtain ⟨j1, hj1, hh⟩ := next_finished _ _ _ _ hn
      refine ⟨j1 + j2, ?_⟩
      rw [run_add, hj1]
      simp [dropFin_append, dropFin_g, dropFin, interleave_append, interleave_emits, hj2]
    | outOfFuel es c' => simp [hn] at h

example : T.fuel ∉ consumeNexts 100 4 (mkGen [.emit (.lit 5), .yield (.lit 1), .yield (.lit 2)] []) := by
  decide

/-! ## sharing histories (`share` requests: `srun`) -/

section Share
open KotoVerif.Capture

theorem heapPush_length (h : Heap) (a : Nat) (n : Int) : (heapPush h a n).length = h.length := by
  unfold heapPush
  split <;> simp

theorem runBody_heap_length (b : List BOp) (env : SEnv) (h : Heap) (out : List Ev) :
    (runBody b env h out).1.length = h.length := by
  fun_induction runBody b env h out <;> simp_all [heapPush_length]

theorem runBody_out_prefix (b : List BOp) (env : SEnv) (h : Heap) (out : List Ev) :
    out <+: (runBody b env h out).2.1 := by
  fun_induction runBody b env h out
  all_goals first
    | exact List.prefix_refl _
    | exact List.prefix_append _ _
    | exact List.IsPrefix.trans (List.prefix_append _ _) (by assumption)
    | assumption

/-- a failed script stays where it is: nothing after the first runtime error is executed -/
theorem srun_failed (ops : List SOp) (s : SState) (h : s.failed = true) : srun ops s = s := by
  induction ops with
  | nil => rfl
  | cons op r ih =>
    have : sstep s op = s := by simp [sstep, h]
    simpa [srun, List.foldl_cons, this] using ih

theorem srun_append (a b : List SOp) (s : SState) : srun (a ++ b) s = srun b (srun a s) := by
  simp [srun, List.foldl_append]

theorem sstep_frame (s : SState) (op : SOp) :
    s.heap.length ≤ (sstep s op).heap.length ∧ s.out <+: (sstep s op).out
      ∧ (∀ f arg, op = .call f arg → (sstep s op).env = s.env ∧ (sstep s op).fns = s.fns) := by
  unfold sstep
  split
  · exact ⟨Nat.le_refl _, List.prefix_refl _, fun _ _ _ => ⟨rfl, rfl⟩⟩
  · cases op with
    | setInt x n => exact ⟨Nat.le_refl _, List.prefix_refl _, nofun⟩
    | newList x xs => exact ⟨by simp, List.prefix_refl _, nofun⟩
    | alias x y =>
      simp only []
      split
      · exact ⟨Nat.le_refl _, List.prefix_refl _, nofun⟩
      · exact ⟨Nat.le_refl _, List.prefix_append _ _, nofun⟩
    | push x n =>
      simp only []
      split
      · exact ⟨Nat.le_of_eq (heapPush_length _ _ _).symm, List.prefix_refl _, nofun⟩
      · exact ⟨Nat.le_refl _, List.prefix_append _ _, nofun⟩
      · exact ⟨Nat.le_refl _, List.prefix_append _ _, nofun⟩
    | emit x =>
      simp only []
      split
      · exact ⟨Nat.le_refl _, List.prefix_append _ _, nofun⟩
      · exact ⟨Nat.le_refl _, List.prefix_append _ _, nofun⟩
    | mkFn f param body =>
      refine ⟨?_, ?_, nofun⟩
      · simp only []
        split
        · exact Nat.le_refl _
        · -- the default value was evaluated: it may have allocated one fresh list
          rename_i v h evs heq
          split at heq
          · cases heq; exact Nat.le_refl _
          · simp only [Option.some.injEq, Option.map_eq_some_iff] at heq
            obtain ⟨w, _, hw⟩ := heq
            cases hw
            exact Nat.le_refl _
          · cases heq; simp
          · cases heq
        · exact Nat.le_refl _
      · simp only []
        split
        · exact List.prefix_append _ _
        · exact List.prefix_append _ _
        · exact List.prefix_refl _
    | call f arg =>
      simp only []
      split
      · exact ⟨Nat.le_refl _, List.prefix_append _ _, fun _ _ _ => ⟨rfl, rfl⟩⟩
      · split
        · exact ⟨Nat.le_refl _, List.prefix_append _ _, fun _ _ _ => ⟨rfl, rfl⟩⟩
        · split
          · exact ⟨Nat.le_refl _, List.prefix_append _ _, fun _ _ _ => ⟨rfl, rfl⟩⟩
          · exact ⟨Nat.le_of_eq (runBody_heap_length _ _ _ _).symm, runBody_out_prefix _ _ _ _,
              fun _ _ _ => ⟨rfl, rfl⟩⟩

theorem srun_grows (ops : List SOp) (s : SState) :
    s.heap.length ≤ (srun ops s).heap.length ∧ s.out <+: (srun ops s).out := by
  induction ops generalizing s with
  | nil => exact ⟨Nat.le_refl _, List.prefix_refl _⟩
  | cons op r ih =>
    obtain ⟨h1, h2, _⟩ := sstep_frame s op
    obtain ⟨i1, i2⟩ := ih (sstep s op)
    exact ⟨Nat.le_trans h1 i1, h2.trans i2⟩

/-- **heap monotone over every history**: no operation, a call of a closure included, removes a list
from the heap, so every reference held by a variable or a capture stays valid. -/
theorem srun_heap_length (ops : List SOp) (s : SState) : s.heap.length ≤ (srun ops s).heap.length :=
  (srun_grows ops s).1

/-- **output append-only over every history**: what a script has printed is never retracted,
whatever closures are created and called afterwards. -/
theorem srun_out_prefix (ops : List SOp) (s : SState) : s.out <+: (srun ops s).out :=
  (srun_grows ops s).2

/-- **calls do not leak into the caller's scope.** Whatever the body of the called closure assigns
(`x = n`, `x = x + n` on its captured copies or its parameter), the caller's variables and the
table of functions are unchanged by a call; only the heap and the output can change. -/
theorem call_keeps_scope (s : SState) (f : Capture.Name) (arg : Option Capture.Name) :
    (sstep s (.call f arg)).env = s.env ∧ (sstep s (.call f arg)).fns = s.fns :=
  (sstep_frame s (.call f arg)).2.2 f arg rfl

example : (srun [.setInt 1 1, .emit 9] {}).failed = true := by decide

end Share

end KotoVerif.C02Ext
