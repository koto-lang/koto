/-
C04 — Errors unwind to the right handler; finally always runs.

Part A: theorems about the guide-level evaluator `Try.run` (all programs of the mini language, all
fuel). Part B: the mechanism model `Mech` (the implementation's try/catch/finally code layout on a
frame / catch-stack machine): the partial theorem that holds and the negations, with concrete
witnesses, where the code deviates from the guide. Part C: the builder-stack model `Builders`.
-/
import KotoVerif.Lemmas.C04
import KotoVerif.Lemmas.C04Unwind
import KotoVerif.Lemmas.C04Refine
import KotoVerif.Model.TryMech
import KotoVerif.Model.TryBuilders

namespace KotoVerif.C04

open KotoVerif.Try

variable (cfg : Cfg) (P : Prog)

/-! ## A. guide level -/

/-- An error that comes out of the try block — raised at any depth below it, see
`handler_innermost_deep` — is handed to this try's catch chain (the dynamically innermost enclosing
one: the body's outcome is `err` only if no try inside it accepted the error), together with the
state at the raise point. -/
theorem handler_innermost (n : Nat) (b : E) (cs : List Catch) (σ σ1 : St) (v : Val)
    (h : run cfg P n (.ev b) σ = (.err v, σ1)) :
    run cfg P (n + 1) (.ev (.try_ b cs none)) σ = run cfg P n (.catches cs v) σ1 := by
  rw [run_try_none, h, catchWith]

example : run guide {} 5 (.ev (.try_ (.throw (.lit (.int 7))) [(none, 0, .var 0)] none)) {} =
    (.ok (.int 7), { locals := [.int 7] }) := by decide +kernel

/-- The same with a `finally` block: the catch chain first, then the `finally` block once. -/
theorem handler_innermost_fin (n : Nat) (b f : E) (cs : List Catch) (σ σ1 : St) (v : Val)
    (h : run cfg P n (.ev b) σ = (.err v, σ1)) :
    run cfg P (n + 1) (.ev (.try_ b cs (some f))) σ =
      thenFinally (run cfg P n (.catches cs v) σ1) (fun σ2 => run cfg P n (.ev f) σ2) := by
  rw [run_try_some, handler_innermost cfg P n b cs σ σ1 v h]

/-- **Across any number of calls and native boundaries.** `Path k (t, σ) (t', σ')`: evaluating `t`
in `σ` reaches the sub-evaluation of `t'` in `σ'` through `k` links, none of which is a try block
(sequence positions, argument lists, function bodies, native-adaptor callbacks `each/keep/fold/sort`,
loop bodies, generator segments, overloaded-operator bodies, catch blocks of a try without finally;
see `Lemmas/C04Unwind.lean`). If the inner evaluation raises `v`, the outer one raises the same `v`
with the heap and the trace of the raise point. -/
theorem handler_innermost_deep (k n : Nat) (t t' : Task) (σ σ' σ1 : St) (v : Val)
    (hp : Path guide P k n (t, σ) (t', σ')) (h : run guide P n t' σ' = (.err v, σ1)) :
    ∃ σ2, run guide P (n + k) t σ = (.err v, σ2) ∧ σ2.heap = σ1.heap ∧ σ2.out = σ1.out :=
  path_err_transparent guide P k n t t' σ σ' σ1 v hp h

/-- …and therefore the innermost enclosing try receives it, with the raise-point heap and trace. -/
theorem handler_innermost_through (k n : Nat) (b : E) (cs : List Catch) (t' : Task) (σ σ' σ1 : St)
    (v : Val) (hp : Path guide P k n (.ev b, σ) (t', σ')) (h : run guide P n t' σ' = (.err v, σ1)) :
    ∃ σ2, run guide P (n + k + 1) (.ev (.try_ b cs none)) σ = run guide P (n + k) (.catches cs v) σ2 ∧
      σ2.heap = σ1.heap ∧ σ2.out = σ1.out := by
  obtain ⟨σ2, h2, hh, ho⟩ := path_err_transparent guide P k n _ t' σ σ' σ1 v hp h
  exact ⟨σ2, handler_innermost guide P (n + k) b cs σ σ2 v h2, hh, ho⟩

/-- Catch blocks are tried in source order: the first whose argument accepts the value — no hint,
a type hint, or a map pattern all of whose keys the thrown map has — runs, with the value (or the
pattern's entries) bound. -/
theorem typed_catch_order (pre : List Catch) (ty : Option Ty) (x : Nat) (body : E) (rest : List Catch)
    (v : Val) (hpre : ∀ c ∈ pre, accepts c.1 v = false) (hacc : accepts ty v = true) (n : Nat) (σ : St) :
    run cfg P (n + pre.length + 1) (.catches (pre ++ (ty, x, body) :: rest) v) σ =
      run cfg P n (.ev body) (bindCatch σ ty x v) := by
  rw [Nat.add_right_comm, run_catches_skip cfg P _ σ pre _ v hpre, run_catches_cons, hacc, if_pos rfl]

example : run guide {} 6 (.catches [(some .number, 0, .lit (.int 1)), (some .string, 0, .lit (.int 2)),
    (none, 0, .lit (.int 3))] (.str (.lit 0))) {} = (.ok (.int 2), { locals := [.str (.lit 0)] }) := by
  decide +kernel

/-- No catch block accepts — in particular a map pattern in the *last* catch block that does not
match (finding F-C04-9, where the code swallowed the error) —: the error continues outwards
unchanged, state untouched. -/
theorem no_accepting_catch (cs : List Catch) (v : Val) (h : ∀ c ∈ cs, accepts c.1 v = false)
    (n : Nat) (σ : St) :
    run cfg P (n + cs.length + 1) (.catches cs v) σ = (.err v, σ) := by
  have := run_catches_skip cfg P (n + 1) σ cs [] v h
  rwa [List.append_nil, Nat.add_right_comm] at this

theorem fin_block_once (m : Nat) (hP : ProgNoEmit m P) (f : E) (hf : NoEmit m f) (k : Nat) (σ1 : St)
    (hs : (run cfg P k (.ev (.seq [.emit m none, f])) σ1).1 ≠ .oof) :
    countTag m (run cfg P k (.ev (.seq [.emit m none, f])) σ1).2.out = countTag m σ1.out + 1 := by
  match k with
  | 0 | 1 | 2 => exact absurd rfl hs
  | k + 3 =>
    have step : run cfg P (k + 3) (.ev (.seq [.emit m none, f])) σ1 =
        run cfg P (k + 1) (.seq [f] .null) (emitEv σ1 ⟨m, none⟩) := rfl
    rw [step, noEmit_run cfg P m hP _ (.seq [f] .null) _ (List.forall_mem_singleton.2 hf)]
    simp [countTag]

/-- **finally_once**: if the try block, the catch blocks and the rest of the `finally` block cannot
emit the marker `m` (nor can any definition of the program), the `finally` block's entry marker `m`
occurs exactly once more in the trace after `try b cs finally (emit m; f)` than before it — for
every exit path (`s` is any of ok / err / ret / brk / cont), any state, any fuel that suffices. -/
theorem finally_once (m : Nat) (hP : ProgNoEmit m P) (b f : E) (cs : List Catch) (hb : NoEmit m b)
    (hcs : ∀ c ∈ cs, NoEmit m c.2.2) (hf : NoEmit m f) (n : Nat) (σ σ' : St) (s : Sig)
    (h : run cfg P (n + 1) (.ev (.try_ b cs (some (.seq [.emit m none, f])))) σ = (s, σ'))
    (hs : s ≠ .oof) :
    countTag m σ'.out = countTag m σ.out + 1 := by
  rw [run_try_some] at h
  obtain rfl := congrArg Prod.fst h
  obtain rfl := congrArg Prod.snd h
  have h1 := thenFinally_not_oof hs
  rw [thenFinally_eq _ h1] at hs ⊢
  rw [finish_snd, fin_block_once cfg P m hP f hf n _ (finish_not_oof hs),
    noEmit_run cfg P m hP _ _ σ (NoEmit.try_ b cs none hb hcs nofun)]

/-- all six exit paths are inhabited (non-vacuity): normal, caught, error escaping the catch block,
return, break, continue — the marker `9` appears exactly once each time -/
example : (List.map (fun b : E =>
      let r := run guide {} 12 (.ev (.try_ b [(none, 0, .ite (.var 0) (.throw (.lit (.int 2))) (.lit .null))]
        (some (.seq [.emit 9 none, .lit .null])))) {}
      (r.1, countTag 9 r.2.out))
    [.lit (.int 1), .throw (.lit .null), .throw (.lit (.int 1)), .ret (.lit (.int 5)), .brk, .cont]) =
    [(.ok .null, 1), (.ok .null, 1), (.err (.int 2), 1), (.ret (.int 5), 1), (.brk, 1), (.cont, 1)] := by
  decide +kernel

/-- **finally_value**: when the outcome so far is normal, the value of the expression is the value
of the `finally` block. -/
theorem finally_value (n : Nat) (b f : E) (cs : List Catch) (σ σ1 σ2 : St) (v1 v2 : Val)
    (h1 : run cfg P (n + 1) (.ev (.try_ b cs none)) σ = (.ok v1, σ1))
    (h2 : run cfg P n (.ev f) σ1 = (.ok v2, σ2)) :
    run cfg P (n + 1) (.ev (.try_ b cs (some f))) σ = (.ok v2, σ2) := by
  rw [run_try_some, h1]
  simp [h2, finish, thenFinally]

/-- without a `finally` block the value is the try block's … -/
theorem try_value_normal (n : Nat) (b : E) (cs : List Catch) (σ σ1 : St) (v : Val)
    (h : run cfg P n (.ev b) σ = (.ok v, σ1)) :
    run cfg P (n + 1) (.ev (.try_ b cs none)) σ = (.ok v, σ1) := by
  rw [run_try_none, h]
  rfl

/-- … or the value of the catch block that ran. -/
theorem try_value_caught (n : Nat) (b : E) (cs : List Catch) (σ σ1 σ2 : St) (v w : Val)
    (h : run cfg P n (.ev b) σ = (.err v, σ1)) (hc : run cfg P n (.catches cs v) σ1 = (.ok w, σ2)) :
    run cfg P (n + 1) (.ev (.try_ b cs none)) σ = (.ok w, σ2) :=
  (handler_innermost cfg P n b cs σ σ1 v h).trans hc

/-- a pending abrupt outcome (error escaping the catch block, return, break, continue) continues
after a `finally` block that completes normally -/
theorem finally_then_continue (n : Nat) (b f : E) (cs : List Catch) (σ σ1 σ2 : St) (s1 : Sig) (v2 : Val)
    (h1 : run cfg P (n + 1) (.ev (.try_ b cs none)) σ = (s1, σ1))
    (hs : s1 = .brk ∨ s1 = .cont ∨ (∃ v, s1 = .ret v) ∨ (∃ v, s1 = .err v))
    (h2 : run cfg P n (.ev f) σ1 = (.ok v2, σ2)) :
    run cfg P (n + 1) (.ev (.try_ b cs (some f))) σ = (s1, σ2) := by
  rw [run_try_some, h1]
  rcases hs with rfl | rfl | ⟨v, rfl⟩ | ⟨v, rfl⟩ <;> simp [h2, finish, thenFinally]

/-- **state_after_catch**: the catch block that accepts the error starts in the state of the raise
point — same heap, same trace, the frame's locals — plus the binding of the caught value. -/
theorem state_after_catch (n : Nat) (b : E) (pre : List Catch) (ty : Option Ty) (x : Nat) (body : E)
    (rest : List Catch) (σ σ1 : St) (v : Val)
    (h : run cfg P (n + pre.length + 1) (.ev b) σ = (.err v, σ1))
    (hpre : ∀ c ∈ pre, accepts c.1 v = false) (hacc : accepts ty v = true) :
    run cfg P (n + pre.length + 2) (.ev (.try_ b (pre ++ (ty, x, body) :: rest) none)) σ =
      run cfg P n (.ev body) (bindCatch σ1 ty x v) ∧
    (bindCatch σ1 ty x v).heap = σ1.heap ∧ (bindCatch σ1 ty x v).out = σ1.out ∧
    ((∀ ks, ty ≠ some (.keys ks)) → ∀ y, y ≠ x → getLocal (bindCatch σ1 ty x v) y = getLocal σ1 y) := by
  refine ⟨?_, bindCatch_heap _ _ _ _, bindCatch_out _ _ _ _, ?_⟩
  · rw [show n + pre.length + 2 = (n + pre.length + 1) + 1 by omega,
      handler_innermost cfg P (n + pre.length + 1) b _ σ σ1 v h]
    exact typed_catch_order cfg P pre ty x body rest v hpre hacc n σ1
  · intro hty y hy
    rw [bindCatch_plain σ1 ty x v hty, getLocal_setLocal, if_neg hy]

/-- a map pattern: matching, missing key (next block), not a map (next block), and — in last
position — no match at all: the error leaves the try unchanged -/
example : (List.map (fun v : Val =>
      (run guide {} 9 (.ev (.try_ (.throw (.lit v))
        [(some (.keys [0, 2]), 0, .bin .add (.var 0) (.var 1)), (some (.keys [1]), 0, .lit (.int 7))] none)) {}).1)
    [.mp [(0, 1), (2, 5)], .mp [(1, 3)], .mp [(0, 1)], .str (.lit 4)]) =
    [.ok (.int 6), .ok (.int 7), .err (.mp [(0, 1)]), .err (.str (.lit 4))] := by decide +kernel

/-- the raise point itself: `throw` and every failing primitive raise in the current state -/
theorem raise_state_throw (n : Nat) (e : E) (σ σ1 : St) (v : Val)
    (h : run cfg P n (.ev e) σ = (.ok v, σ1)) :
    run cfg P (n + 1) (.ev (.throw e)) σ = (.err v, σ1) := by
  rw [run_succ]
  dsimp only [runStep]
  rw [h, bindOk_ok]

theorem raise_state_fault (n : Nat) (k : FaultKind) (σ : St) :
    run cfg P (n + 1) (.ev (.fault k)) σ = (.err (errK k.ek), σ) := by
  rfl

/-- a failing call leaves the caller's locals as they were when the call was made (this is what
finding F-C04-2 breaks in the implementation) -/
theorem state_after_failed_call (n : Nat) (f : Nat) (args : List Val) (d : Def) (σ σ1 : St) (v : Val)
    (hd : P.defs[f]? = some d) (hg : d.isGen = false) (ha : args.length = d.nparams)
    (h : run cfg P n (.ev d.body)
        { σ with locals := args ++ List.replicate (d.nlocals - args.length) Val.null } = (.err v, σ1)) :
    run cfg P (n + 1) (.callF f args) σ = (.err v, { σ1 with locals := σ.locals }) := by
  rw [run_succ, runStep_callF_body _ σ hd hg ha, h, callResult_err]

/-- a function pushes to a global list and throws; the assignment target keeps its value, the
catch block sees the pushed element -/
def exFailedCall : Prog :=
  { nglobals := 1
    defs := [{ nparams := 1, nlocals := 1,
               body := E.seq [E.push (E.gvar 0) (E.var 0), E.throw (E.lit (Val.str (Str.lit 3)))] }]
    mainLocals := 2
    main := E.seq [E.assign 0 (E.lit (Val.int 1)),
      E.try_ (E.assign 0 (E.call 0 [E.lit (Val.int 5)])) [(none, 1, E.emit 2 (some (E.gvar 0)))] none,
      E.var 0] }

example : runProg guide exFailedCall 20 =
    (.ok (.int 1), { locals := [], heap := [[.int 5]], out := [⟨2, some (.toks (.list 0) [.str .lb, .int 5, .str .rb])⟩] }) := by decide +kernel

/-- **F-C04-12 on the guide level**: an error raised by a `@display` function — here of an object
two containers deep in the value being printed — is the error of the printing expression,
unchanged (the finding: the code replaced it by the string `failed to get display value`); the marker
line is not printed, the `@display` calls made before it are visible. -/
def exDisplay : Prog :=
  { classes := [{ dispFn := some 0 }]
    defs := [{ nparams := 1, nlocals := 1, body := .seq [.emit 9 none, .throw (.lit (.int 42))] }]
    mainLocals := 2
    main := .seq [.assign 0 (.mkList [.lit (.int 7), .mkList [.mkObj 0]]),
      .try_ (.emit 1 (some (.var 0))) [(some .number, 1, .emit 2 (some (.var 1)))] none] }

example : (runProg guide exDisplay 40).2.out =
    [⟨9, none⟩, ⟨2, some (.toks (.int 42) [.int 42])⟩] := by decide +kernel

/-- **uncaught_result**: an error that reaches the top of the program ends the run with an error
result carrying the thrown value (the driver prints its message). -/
theorem uncaught_result (n : Nat) (σ1 : St) (v : Val)
    (h : run cfg P n (.ev P.main) (initSt P) = (.err v, σ1)) :
    runProg cfg P n = (.err v, { σ1 with locals := [] }) := by
  simp [runProg, h, callResult]

/-- with no try on the path from the program's top to the raise point, the run result is the error -/
theorem uncaught_result_deep (k n : Nat) (t' : Task) (σ' σ1 : St) (v : Val)
    (hp : Path guide P k n (.ev P.main, initSt P) (t', σ')) (h : run guide P n t' σ' = (.err v, σ1)) :
    ∃ σ2, runProg guide P (n + k) = (.err v, σ2) ∧ σ2.heap = σ1.heap ∧ σ2.out = σ1.out := by
  obtain ⟨σ2, h2, hh, ho⟩ := path_err_transparent guide P k n _ t' _ σ' σ1 v hp h
  exact ⟨_, uncaught_result guide P (n + k) σ2 v h2, hh, ho⟩

example : runProg guide { main := .seq [.emit 1 none, .throw (.lit (.str (.lit 4))), .emit 2 none] } 9 =
    (.err (.str (.lit 4)), { out := [⟨1, none⟩] }) := by decide +kernel


open KotoVerif.Mech

/-! ## B. mechanism -/

def guideTags (P : Prog) (fuel : Nat) : List Nat := (runProg guide P fuel).2.out.map (·.tag)

def mechTags (P : Prog) (fuel : Nat) : Option (List Nat) := (compileProg P).map (fun c => (exec c fuel).out)

/-- frames without a catch entry are discarded by the unwinder, barrier or not -/
theorem unwind_skip (v : Val) (above fs : List Frame) (habove : ∀ g ∈ above, g.catchStack = []) :
    unwind v (above ++ fs) = unwind v fs := by
  induction above with
  | nil => rfl
  | cons g above ih =>
    have hg : g.catchStack = [] := habove g List.mem_cons_self
    simp only [List.cons_append, unwind, hg, ite_self]
    exact ih fun g h => habove g (List.mem_cons_of_mem _ h)

/-- `unwind` resumes at the catch entry of the first frame from the top that has one — the
dynamically innermost open try — whatever frames (Koto calls, native-callback frames with a
barrier) lie above it; those frames are discarded. -/
theorem mech_handler_innermost (v : Val) (above : List Frame) (f : Frame) (below : List Frame)
    (reg ip d : Nat) (cs : List (Nat × Nat × Nat))
    (habove : ∀ g ∈ above, g.catchStack = []) (hf : f.catchStack = (reg, ip, d) :: cs) :
    unwind v (above ++ f :: below) =
      some ({ f with ip := ip, regs := (reg, v) :: f.regs,
                     loops := f.loops.drop (f.loops.length - d) } :: below) := by
  rw [unwind_skip v above _ habove]
  simp only [unwind, hf]

/-- no frame has a catch entry: the error leaves the run (uncaught), with the thrown value -/
theorem mech_uncaught (v : Val) (fs : List Frame) (h : ∀ g ∈ fs, g.catchStack = []) (s : VM)
    (hs : s.frames = fs) : (raise v s).result = .uncaught v := by
  have := unwind_skip v fs [] h
  rw [List.append_nil] at this
  simp only [raise, hs, this]
  rfl

/-- **finally_once_mech_partial, normal exit.** For *any* code block `b` placed after a `TryStart`:
if `b` runs to the `TryEnd` that follows it (top frame `f1`, catch entry still on top, frames below
untouched), the next two instructions (`TryEnd`, `Jump`) take the machine to the `finally` entry
with the catch entry removed and the trace as `b` left it — the `finally` code that follows is
entered, once, by this fall-through. -/
theorem finally_once_mech_partial_normal (code : Code) (f f1 : Frame) (rest : List Frame)
    (out out1 : List Nat) (reg off off2 k : Nat)
    (h0 : fetchAt code f.fn f.ip = some (.tryStart reg off))
    (hB : steps code k
        { frames := { f with ip := f.ip + 1,
                             catchStack := (reg, f.ip + 1 + off, f.loops.length) :: f.catchStack } :: rest,
          out := out } = { frames := f1 :: rest, out := out1 })
    (hcs : f1.catchStack = (reg, f.ip + 1 + off, f.loops.length) :: f.catchStack)
    (h1 : fetchAt code f1.fn f1.ip = some .tryEnd)
    (h2 : fetchAt code f1.fn (f1.ip + 1) = some (.jumpFwd off2)) :
    steps code (1 + k + 2) { frames := f :: rest, out := out } =
      { frames := { f1 with ip := f1.ip + 1 + 1 + off2, catchStack := f.catchStack } :: rest, out := out1 } := by
  rw [steps_add, steps_add]
  have e1 : steps code 1 { frames := f :: rest, out := out } =
      { frames := { f with ip := f.ip + 1,
                           catchStack := (reg, f.ip + 1 + off, f.loops.length) :: f.catchStack } :: rest,
        out := out } := by
    simp [steps, step, h0, setTop]
  rw [e1, hB]
  simp [steps, step, h1, h2, setTop, hcs]

/-- **finally_once_mech_partial, caught exit.** An error raised while this try's entry is the
innermost one (in the frame itself or in any frames above it that have no entry of their own)
resumes at the catch address; the `TryEnd` there de-registers the entry, so the catch blocks run
with the handler removed (an error inside them goes to the next outer handler), the frames above
are gone, the trace is untouched. The catch code is laid out directly before the `finally` code, so
a catch block that falls through (or takes its end jump) enters `finally` — once. -/
theorem finally_once_mech_partial_caught (code : Code) (v : Val) (above : List Frame) (f : Frame)
    (below : List Frame) (out : List Nat) (reg cip d : Nat) (cs : List (Nat × Nat × Nat))
    (habove : ∀ g ∈ above, g.catchStack = []) (hf : f.catchStack = (reg, cip, d) :: cs)
    (h1 : fetchAt code f.fn cip = some .tryEnd) :
    step code (raise v { frames := above ++ f :: below, out := out }) =
      { frames := { f with ip := cip + 1, catchStack := cs, regs := (reg, v) :: f.regs,
                           loops := f.loops.drop (f.loops.length - d) } :: below, out := out } := by
  simp [raise, mech_handler_innermost v above f below reg cip d cs habove hf, step, h1, setTop, hf]


def s0 : E := .lit (.str (.lit 0))
def s1 : E := .lit (.str (.lit 1))
def two : E := .mkList [.lit (.int 0), .lit (.int 1)]

/-- `f0 = || try (emit 1; return 1) catch e (emit 2) finally (emit 3)`; main: `f0(); emit 4` -/
def wReturn : Prog :=
  { defs := [{ nlocals := 1, body := .seq [.try_ (.seq [.emit 1 none, .ret (.lit (.int 1))])
      [(none, 0, .emit 2 none)] (some (.emit 3 none)), .lit (.int 2)] }]
    main := .seq [.call 0 [], .emit 4 none] }

/-- `for x in [0, 1]: try (emit 1; break) catch e (emit 2) finally (emit 3)`; `emit 4` -/
def wBreak : Prog :=
  { mainLocals := 2
    main := .seq [.forList 0 two (.try_ (.seq [.emit 1 none, .brk]) [(none, 1, .emit 2 none)] (some (.emit 3 none))),
      .emit 4 none] }

def wContinue : Prog :=
  { mainLocals := 2
    main := .seq [.forList 0 two (.try_ (.seq [.emit 1 none, .cont]) [(none, 1, .emit 2 none)] (some (.emit 3 none))),
      .emit 4 none] }

/-- second throw from the catch block: the inner `finally` (marker 2) must still run -/
def wRethrow : Prog :=
  { mainLocals := 2
    main := .try_ (.try_ (.throw s0) [(none, 0, .seq [.emit 1 none, .throw s1])] (some (.emit 2 none)))
      [(none, 1, .emit 3 none)] (some (.emit 4 none)) }

/-- `break` out of a try block, then an error after the loop with no enclosing try (the witness of
finding F-C04-5) -/
def wStale : Prog :=
  { mainLocals := 2
    main := .seq [.forList 0 two (.try_ (.seq [.emit 1 none, .brk]) [(none, 1, .emit 2 none)] none),
      .emit 3 none, .throw s0, .emit 4 none] }

/-- normal and caught exits, typed catch chain, error raised two calls deep inside a native callback -/
def wGood : Prog :=
  { defs := [{ body := .seq [.emit 7 none, .throw (.lit (.int 5))] }, { nparams := 1, nlocals := 1, body := .call 0 [] }]
    mainLocals := 2
    main := .seq [
      .try_ (.emit 1 none) [(none, 0, .emit 2 none)] (some (.emit 3 none)),
      .try_ (.seq [.emit 4 none, .native .each 1 two, .emit 9 none])
        [(some .string, 0, .emit 5 none), (some .number, 0, .emit 6 none), (none, 1, .emit 8 none)]
        (some (.emit 10 none))] }

/-- **F-C04-1 on the mechanism model** (negation of `finally_once` for the code's layout): on each
of the four abrupt exit paths the guide-level trace contains the `finally` marker `3` (resp. `2`)
and the mechanism's trace of the same program does not. -/
theorem finally_skipped_on_return :
    guideTags wReturn 40 = [1, 3, 4] ∧ mechTags wReturn 60 = some [1, 4] := by decide +kernel

theorem finally_skipped_on_break :
    guideTags wBreak 40 = [1, 3, 4] ∧ mechTags wBreak 60 = some [1, 4] := by decide +kernel

theorem finally_skipped_on_continue :
    guideTags wContinue 40 = [1, 3, 1, 3, 4] ∧ mechTags wContinue 60 = some [1, 1, 4] := by decide +kernel

theorem finally_skipped_on_rethrow :
    guideTags wRethrow 40 = [1, 2, 3, 4] ∧ mechTags wRethrow 60 = some [1, 3, 4] := by decide +kernel

/-- so `finally_once` is false of the mechanism: there is a program and an exit path on which the
`finally` marker does not occur in the mechanism's trace -/
theorem finally_once_mech_fails :
    ∃ P m, (guideTags P 40).count m = 1 ∧ ∃ t, mechTags P 60 = some t ∧ t.count m = 0 :=
  ⟨wReturn, 3, by decide +kernel, [1, 4], by decide +kernel, by decide +kernel⟩

def mechResult (P : Prog) (fuel : Nat) : Option Result := (compileProg P).map (fun c => (exec c fuel).result)

/-- **F-C04-5 is repaired in the layout** (/repo 0e9e81b, mirrored by `Mech.compile`): `break`
inside a try block first clears the block's catch entry, so the later error — which no try
encloses — ends the run uncaught, exactly as the guide says. -/
theorem no_stale_handler_after_break :
    guideTags wStale 40 = [1, 3] ∧ (runProg guide wStale 40).1 = .err (.str (.lit 0)) ∧
    mechTags wStale 60 = some [1, 3] ∧ mechResult wStale 60 = some (.uncaught (.str (.lit 0))) := by
  decide +kernel

/-- `break <value>` inside a try block in a loop, the value expression raises (a call two frames
deep): the error is still caught by that try — the `TryEnd`s that `break` emits come *after* the
value's code. Guide and mechanism agree; the catch marker `2` is in both traces. -/
def wBreakValue : Prog :=
  { defs := [{ nparams := 1, nlocals := 1, body := .seq [.emit 7 none, .throw s0] }]
    mainLocals := 2
    main := .seq [.forList 0 two (.try_ (.seq [.emit 1 none, .brkV (.call 0 [.lit (.int 0)]), .emit 8 none])
        [(none, 1, .emit 2 none)] none),
      .emit 3 none] }

theorem break_value_error_is_caught :
    guideTags wBreakValue 40 = [1, 7, 2, 1, 7, 2, 3] ∧ mechTags wBreakValue 80 = some [1, 7, 2, 1, 7, 2, 3] := by
  decide +kernel

theorem steps_tryEnds (code : Code) (tail : List Ins) (rest : List Frame) (o : List Nat) (k : Nat) :
    ∀ f : Frame, CodeAt code f.fn f.ip (List.replicate k Ins.tryEnd ++ tail) →
      steps code k (mk f rest o) = mk { f with ip := f.ip + k, catchStack := f.catchStack.drop k } rest o := by
  induction k with
  | zero => intro f _; rfl
  | succ k ih =>
    intro f hcode
    rw [List.replicate_succ, List.cons_append] at hcode
    show steps code k (step code (mk f rest o)) = _
    rw [step_tryEnd (codeAt_head hcode), ih _ (codeAt_tail hcode)]
    simp only [List.drop_drop, Nat.add_assoc, Nat.add_comm 1 k]

/-- The code emitted for `break` inside `k` open try blocks of the loop body — `k` × `TryEnd`, then
the jump — leaves the loop with the frame's catch stack exactly as it was when the loop body's
first try block was entered: the `k` entries pushed since are gone, nothing else is touched. -/
theorem break_clears_catch_entries (code : Code) (k : Nat) : ∀ (f : Frame) (rest : List Frame)
    (o : List Nat) (entries K : List (Nat × Nat × Nat)) (l : LoopRec) (ls : List LoopRec),
    entries.length = k → f.catchStack = entries ++ K → f.loops = l :: ls →
    CodeAt code f.fn f.ip (List.replicate k Ins.tryEnd ++ [Ins.brk]) →
    steps code (k + 1) (mk f rest o) =
      mk { fn := f.fn, ip := l.exit, catchStack := K, barrier := f.barrier, loops := ls, regs := f.regs } rest o := by
  intro f rest o entries K l ls hlen hcs hloops hcode
  have hb : fetchAt code f.fn (f.ip + k) = some .brk := by
    simpa using codeAt_head (codeAt_append_right hcode)
  rw [steps_add, steps_tryEnds code _ rest o k f hcode, steps_one, hcs, List.drop_left' hlen]
  simp [step, mk, hb, hloops, setTop]

/-- the same for `continue`: the jump goes to the loop's next-iteration point, the loop record stays -/
theorem continue_clears_catch_entries (code : Code) (k : Nat) : ∀ (f : Frame) (rest : List Frame)
    (o : List Nat) (entries K : List (Nat × Nat × Nat)) (l : LoopRec) (ls : List LoopRec),
    entries.length = k → f.catchStack = entries ++ K → f.loops = l :: ls →
    CodeAt code f.fn f.ip (List.replicate k Ins.tryEnd ++ [Ins.cont]) →
    steps code (k + 1) (mk f rest o) =
      mk { fn := f.fn, ip := l.next, catchStack := K, barrier := f.barrier, loops := l :: ls, regs := f.regs } rest o := by
  intro f rest o entries K l ls hlen hcs hloops hcode
  have hb : fetchAt code f.fn (f.ip + k) = some .cont := by
    simpa using codeAt_head (codeAt_append_right hcode)
  rw [steps_add, steps_tryEnds code _ rest o k f hcode, steps_one, hcs, List.drop_left' hlen]
  simp [step, mk, hb, hloops, setTop]

/-- non-vacuity of the partial theorem: on normal and caught exits (typed chain, error raised two
frames deep inside a native callback, `finally` present) mechanism and guide agree -/
theorem mech_agrees_on_normal_and_caught :
    guideTags wGood 40 = [1, 3, 4, 7, 6, 10] ∧ mechTags wGood 60 = some [1, 3, 4, 7, 6, 10] := by
  decide +kernel


/-- **The layout refines the guide on the fragment without abrupt exits from try** (`Mech.Frag`). For
every such program and every fuel on which the guide-level evaluator finishes, the mechanism — the
compiled `TryStart/TryEnd/Jump/CheckType` layout on the catch-stack machine — produces exactly the
guide's marker trace and ends the same way (normally, or with the same uncaught value), for every
sufficient step budget. Together with the negation witnesses above this delimits F-C04-1 exactly:
the layout deviates from the guide only where an abrupt exit skips the `finally` code. -/
theorem mech_trace_eq_guide_trace (P : Prog) (hdefs : P.defs = []) (hm : Frag P.main) (code : Code)
    (hc : compileProg P = some code) (n : Nat) (hn : (runProg guide P n).1 ≠ .oof) :
    ∃ k, ∀ fuel ≥ k, (exec code fuel).out = guideTags P n ∧
      ((∃ v, (runProg guide P n).1 = .ok v ∧ (exec code fuel).result = .done) ∨
       (∃ v, (runProg guide P n).1 = .err v ∧ (exec code fuel).result = .uncaught v)) := by
  obtain ⟨c, hcm, rfl⟩ : ∃ c, compile 64 0 0 P.main = some c ∧ code = [c] := by
    simp only [compileProg, hdefs, List.map_nil, compileProg.go, Option.bind_eq_bind,
      Option.bind_eq_some_iff, Option.pure_def, Option.some.injEq] at hc
    obtain ⟨c, h1, r, h2, h3⟩ := hc
    subst h2
    exact ⟨c, h1, h3.symm⟩
  cases h : run guide P n (.ev P.main) (initSt P) with
  | mk sig σ' =>
    have hr := mech_refines_guide P hm 64 c hcm n sig σ' h
    have htags : guideTags P n = tags σ'.out := by
      simp [guideTags, runProg, h, callResult_out, tags]
    cases sig with
    | ok v =>
      obtain ⟨k, hk⟩ := hr
      refine ⟨k, fun fuel hf => ?_⟩
      rw [hk fuel hf, htags]
      exact ⟨rfl, .inl ⟨v, by simp [runProg, h, callResult], rfl⟩⟩
    | err v =>
      obtain ⟨k, hk⟩ := hr
      refine ⟨k, fun fuel hf => ?_⟩
      rw [hk fuel hf, htags]
      exact ⟨rfl, .inr ⟨v, by simp [runProg, h, callResult], rfl⟩⟩
    | oof => exact absurd (by simp [runProg, h, callResult]) hn
    | _ => exact hr.elim

/-- non-vacuity: a program of the fragment with a typed chain, a nested try whose catch block
raises again (no finally there), an error raised inside `finally`, all under an outer try with
`finally` — and it is evaluated by both sides -/
def wFrag : Prog :=
  { mainLocals := 2
    main := .try_
      (.seq [.emit 1 none,
        .try_ (.throw (.lit (.int 5))) [(some .string, 0, .emit 2 none), (none, 0, .seq [.emit 3 none, .throw s0])] none,
        .emit 4 none])
      [(some .number, 1, .emit 5 none), (none, 1, .emit 6 none)]
      (some (.seq [.emit 7 none, .throw s1])) }

theorem wFrag_in_fragment : Frag wFrag.main := by
  refine .tryFin _ _ _ (.seq _ ?_) ?_ ?_ (.seq _ ?_)
  · intro e he
    simp at he
    rcases he with rfl | rfl | rfl
    · exact .emit 1
    · refine .tryNoFin _ _ (.throw _) ?_ (by simp [LastUntyped])
      intro c hc
      simp at hc
      rcases hc with rfl | rfl
      · exact .emit 2
      · refine .seq _ ?_
        intro e he
        simp at he
        rcases he with rfl | rfl
        · exact .emit 3
        · exact .throw _
    · exact .emit 4
  · intro c hc
    simp at hc
    rcases hc with rfl | rfl
    · exact .emit 5
    · exact .emit 6
  · simp [LastUntyped]
  · intro e he
    simp at he
    rcases he with rfl | rfl
    · exact .emit 7
    · exact .throw _

example : guideTags wFrag 40 = [1, 3, 6, 7] ∧ (runProg guide wFrag 40).1 = .err (.str (.lit 1)) ∧
    mechTags wFrag 60 = some [1, 3, 6, 7] := by decide +kernel

/-- **Unwinding leaves every other register alone.** Under the hypotheses of
`mech_handler_innermost`, in the frame that resumes only the catch entry's own register changes
(it receives the error value); every other register of that frame, and every frame below it with
all its registers, is exactly as it was at the raise point. (The value-stack *length* side of this —
what finding F-C04-3 broke — is C07's `Unwind` model.) -/
theorem unwind_registers_untouched (v : Val) (above : List Frame) (f : Frame) (below : List Frame)
    (reg ip d : Nat) (cs : List (Nat × Nat × Nat))
    (habove : ∀ g ∈ above, g.catchStack = []) (hf : f.catchStack = (reg, ip, d) :: cs) :
    ∃ f', unwind v (above ++ f :: below) = some (f' :: below) ∧
      regGet f'.regs reg = v ∧ (∀ r, r ≠ reg → regGet f'.regs r = regGet f.regs r) ∧
      f'.catchStack = f.catchStack ∧ f'.fn = f.fn := by
  refine ⟨_, mech_handler_innermost v above f below reg ip d cs habove hf, ?_, ?_, rfl, rfl⟩
  · simp [regGet]
  · intro r hr
    have : (reg == r) = false := by simp [Ne.symm hr]
    simp [regGet, List.find?, this]


/-! ## C. builder stacks (the mechanism of /repo 97373d1, the repair of finding F-C04-4) -/

namespace Bld

/-- **A caught error restores the builder stacks to their depth at `TryStart`.** The handler is in
frame `f` (catch entry recorded `d`), the frames `above` it have no entry. If nothing recorded
since is shallower than `d` — depths only grow while the try block is open: every frame entered
later and the current stacks are at least `d` deep — then after unwinding both stacks are exactly
`d` deep: the builders abandoned by the error, in this frame and in all frames above, are gone. -/
theorem catch_restores_builders (above : List Builders.Frame) (f : Builders.Frame) (below : List Builders.Frame) (vm : Builders.VM)
    (d : Nat × Nat) (cs : List (Nat × Nat))
    (habove : ∀ g ∈ above, g.catches = [] ∧ d.1 ≤ g.entry.1 ∧ d.2 ≤ g.entry.2)
    (hf : f.catches = d :: cs) (hseq : d.1 ≤ vm.seq) (hstr : d.2 ≤ vm.str) :
    (Builders.unwind (above ++ f :: below) vm).seq = d.1 ∧ (Builders.unwind (above ++ f :: below) vm).str = d.2 ∧
    (Builders.unwind (above ++ f :: below) vm).frames = f :: below ∧
    (Builders.unwind (above ++ f :: below) vm).uncaught = vm.uncaught := by
  induction above generalizing vm with
  | nil =>
    simp only [List.nil_append, Builders.unwind, hf, Builders.truncTo]
    exact ⟨Nat.min_eq_right hseq, Nat.min_eq_right hstr, trivial, trivial⟩
  | cons g above ih =>
    obtain ⟨hg, h1, h2⟩ := habove g (by simp)
    simp only [List.cons_append, Builders.unwind, hg]
    have := ih (Builders.truncTo g.entry vm) (fun g hg => habove g (by simp [hg]))
      (by simp only [Builders.truncTo]; exact Nat.le_min.mpr ⟨hseq, h1⟩)
      (by simp only [Builders.truncTo]; exact Nat.le_min.mpr ⟨hstr, h2⟩)
    simpa [Builders.truncTo] using this

/-- **Leaving a frame restores the builder stacks to their depth at frame entry** (normal return or
popped by the unwinder), provided they are at least that deep (they only grow inside the frame). -/
theorem frame_exit_restores_builders (f : Builders.Frame) (rest : List Builders.Frame) (vm : Builders.VM)
    (hframes : vm.frames = f :: rest) (hseq : f.entry.1 ≤ vm.seq) (hstr : f.entry.2 ≤ vm.str) :
    (Builders.step vm .ret).seq = f.entry.1 ∧ (Builders.step vm .ret).str = f.entry.2 ∧ (Builders.step vm .ret).frames = rest := by
  simp only [Builders.step, hframes, Builders.truncTo]
  exact ⟨Nat.min_eq_right hseq, Nat.min_eq_right hstr, trivial⟩

theorem tryStart_records_depths (f : Builders.Frame) (rest : List Builders.Frame) (vm : Builders.VM) (h : vm.frames = f :: rest) :
    (Builders.step vm .tryStart).frames = { f with catches := (vm.seq, vm.str) :: f.catches } :: rest := by
  simp [Builders.step, h]

/-- the scenario of finding F-C04-4: the caller's interpolation is open (depth 1), the callee opens its
own inside a try and the hole raises two frames up; after the catch the callee sees depth 1 again,
after its return the caller finishes its own string: depth 0. Without the truncation the caller
would have appended to the callee's abandoned builder. -/
example :
    let evs := [Builders.Ev.strStart, .call, .tryStart, .strStart, .seqStart, .call, .raise]
    ((Builders.run evs {}).str, (Builders.run evs {}).seq, (Builders.run evs {}).frames.length,
     (Builders.run (evs ++ [.tryEnd, .ret, .strEnd]) {}).str) = (1, 0, 2, 0) := by decide +kernel

end Bld

end KotoVerif.C04
