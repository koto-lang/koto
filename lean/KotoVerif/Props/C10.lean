/-
C10 — layout never changes a program's meaning: the part that is *proved*.

`Model/Cursor.lean` is the only interface through which `parser.rs` observes tokens. Token lists related by
trivia edits (`TriviaEdit`, `Sim ρ`) give corresponding results for every primitive of that interface, for ALL
token lists (not only lexer outputs), all expression contexts and all cursor positions: with the cursors on
corresponding significant tokens (`cursor_invariant_ctx`, `cursor_invariant_raw`) or, after `consume_until_*`,
on the last skipped trivia token (`cursor_invariant_pre_partial`). Where the invariance stops is stated with a
witness (`current_indent_pre_not_invariant`: F-C10-1, `line_edit_at_file_start_not_invariant`: F-C10-2).

Inspection (trusted, not proved; checked against parser.rs at 5f1b75a; the `self.lexer` /
`current_token` / `current_indent()` parts are re-scanned by the harness on every run): line numbers obtained from
`current_line()` / `LexedToken::line()` / `span.start.line` are used only in `<`/`>`/`==`
comparisons with each other (parser.rs lines 534, 641, 702, 1534, 2008, 2036, 4103, 4150) or to
build spans (418, 2478), so relating them by an order-preserving `ρ` is all a client can observe;
every `self.lexer` use is inside the modelled primitives.
-/
import KotoVerif.Lemmas.C10

namespace KotoVerif.C10
open KotoVerif.Lexer KotoVerif.Cursor

/-! ### the edit relation -/

/-- One trivia insertion at the token level. `ρ` relates the line numbers before and after, `Moved` is the
lexer's bookkeeping of the later tokens. Deletion is the converse (`trivia_delete_sim`), sequences of edits
compose (`trivia_edits_compose`). -/
inductive TriviaEdit (ρ : Nat → Nat → Prop) : List Lexed → List Lexed → Prop
  /-- trailing whitespace and/or an end-of-line comment: `is_whitespace()` tokens `ins` inserted
  directly before the `NewLine` token `n` -/
  | eol (pre ins post post' : List Lexed) (n n' : Lexed) :
      n.tok = .newLine → AllWs ins → Fixed ρ pre → Moved ρ (n :: post) (n' :: post') →
      TriviaEdit ρ (pre ++ n :: post) (pre ++ (ins ++ n' :: post'))
  /-- whole trivia lines (blank, whitespace-only, comment-only, multi-line comments) `ins` inserted
  directly after the `NewLine` token `n` -/
  | line (pre ins post post' : List Lexed) (n : Lexed) :
      n.tok = .newLine → AllTrivia ins → Fixed ρ pre → Moved ρ post post' →
      TriviaEdit ρ (pre ++ n :: post) (pre ++ n :: (ins ++ post'))

theorem trivia_edit_sim {ρ ts ts'} (e : TriviaEdit ρ ts ts') : Sim ρ ts ts' := by
  cases e with
  | eol pre ins post post' n n' hn hi hf hm =>
    cases hm with
    | cons he _ m =>
      have hn' : n'.tok = .newLine := by rw [he]; exact hn
      have := Sim.regap (ρ := ρ) [] ins hn hn' AllTrivia.nil hi.trivia m.sim
      exact Sim.prefix hf (by simpa using this)
  | line pre ins post post' n hn hi hf hm =>
    exact Sim.prefix hf (Sim.after_nl ins hn hi hm.sim)

/-! ### what "equal results" means -/

/-- results of `peek_token_with_context` correspond: both reject, or both accept tokens that agree
in everything the parser can observe (the peek counts differ by the inserted trivia) -/
inductive PeekRel (ρ : Nat → Nat → Prop) : Option PeekInfo → Option PeekInfo → Prop
  | none : PeekRel ρ none none
  | some {i i' : PeekInfo} : i'.tok = i.tok → TokRel ρ i.info i'.info → PeekRel ρ (some i) (some i')

/-- cursors directly in front of corresponding significant tokens (or both at the end) -/
def PreRel (ρ : Nat → Nat → Prop) (l l' : List Lexed) : Prop :=
  (l = [] ∧ l' = []) ∨
  ∃ t t' r r', l = t :: r ∧ l' = t' :: r' ∧ isTrivia t.tok = false ∧ TokRel ρ t t' ∧ Sim ρ r r'

/-- Everything `cursor_invariant_ctx` asserts about one pair of corresponding cursors. -/
structure CtxInvariant (ρ : Nat → Nat → Prop) (ctx : Ctx) (c c' : Cur) : Prop where
  indent : currentIndent c' = currentIndent c
  line : ρ (currentLine c) (currentLine c')
  peek : PeekRel ρ (peekTokenWithContext ctx c) (peekTokenWithContext ctx c')
  /-- same token kind, same new context (`Equal(indent)` + `allow_map_block`, or unchanged) -/
  consume : (consumeTokenWithContext ctx c').1 = (consumeTokenWithContext ctx c).1
  consume_cur : (consumeTokenWithContext ctx c).1.isSome = true →
    CurRel ρ (consumeTokenWithContext ctx c).2.cur (consumeTokenWithContext ctx c').2.cur
  consume_rest : Sim ρ (consumeTokenWithContext ctx c).2.rest (consumeTokenWithContext ctx c').2.rest
  untilCtx : (consumeUntilTokenWithContext ctx c').1 = (consumeUntilTokenWithContext ctx c).1
  untilCtx_rest : PreRel ρ (consumeUntilTokenWithContext ctx c).2.rest (consumeUntilTokenWithContext ctx c').2.rest
  sameLine : peekNextTokenOnSameLine c' = peekNextTokenOnSameLine c
  sameLineSpan : (peekNextTokenOnSameLineWithSpan c').map (·.1) = (peekNextTokenOnSameLineWithSpan c).map (·.1)
  consumeSameLine : (consumeNextTokenOnSameLine c').1 = (consumeNextTokenOnSameLine c).1
  /-- unless the token consumed is the `NewLine` itself (the parser does that on error paths only) -/
  consumeSameLine_post : (consumeNextTokenOnSameLine c).1.isSome = true →
    (consumeNextTokenOnSameLine c).1 ≠ some .newLine →
    CurRel ρ (consumeNextTokenOnSameLine c).2.cur (consumeNextTokenOnSameLine c').2.cur ∧
    Sim ρ (consumeNextTokenOnSameLine c).2.rest (consumeNextTokenOnSameLine c').2.rest
  untilSameLine : peekToken (consumeUntilNextTokenOnSameLine c') = peekToken (consumeUntilNextTokenOnSameLine c)
  untilSameLine_rest : peekToken (consumeUntilNextTokenOnSameLine c) ≠ some .newLine →
    PreRel ρ (consumeUntilNextTokenOnSameLine c).rest (consumeUntilNextTokenOnSameLine c').rest

theorem peekDecide_rel {ρ} (ctx : Ctx) (si : Nat) {t t' : Lexed} (n n' : Nat) (sl : Bool) (tr : TokRel ρ t t') :
    PeekRel ρ (peekDecide ctx si t n sl) (peekDecide ctx si t' n' sl) := by
  rw [peekDecide_eq, peekDecide_eq, tr.indent]
  split
  · exact PeekRel.some tr.tok tr
  · exact PeekRel.none

theorem Sim.split {ρ l l'} (s : Sim ρ l l') :
    GapRel (l.takeWhile tv) (l'.takeWhile tv) ∧ PreRel ρ (l.dropWhile tv) (l'.dropWhile tv) := by
  cases s with
  | done hl hl' r =>
    rw [(takeWhile_allTrivia hl).1, (takeWhile_allTrivia hl).2, (takeWhile_allTrivia hl').1,
      (takeWhile_allTrivia hl').2]
    exact ⟨r, Or.inl ⟨rfl, rfl⟩⟩
  | @tok _ _ g g' t t' r r' e e' hg hg' gr ht tr s =>
    subst e; subst e'
    rw [(takeWhile_gap hg ht).1, (takeWhile_gap hg ht).2, (takeWhile_gap hg' (tr.sig ht)).1,
      (takeWhile_gap hg' (tr.sig ht)).2]
    exact ⟨gr, Or.inr ⟨t, t', r, r', rfl, rfl, ht, tr, s⟩⟩

theorem Sim.sameLine {ρ l l'} (s : Sim ρ l l') :
    (l'.dropWhile ws).head?.map (·.tok) = (l.dropWhile ws).head?.map (·.tok) ∧
    ((l.dropWhile ws).head?.map (·.tok) ≠ some .newLine → PreRel ρ (l.dropWhile ws) (l'.dropWhile ws)) := by
  obtain ⟨gr, pr⟩ := s.split
  cases hn : hasNL (l.takeWhile tv) with
  | true =>
    obtain ⟨x, r, e, hx⟩ := (dropWhile_ws l).2 hn
    obtain ⟨x', r', e', hx'⟩ := (dropWhile_ws l').2 (by rw [gr.nl]; exact hn)
    rw [e, e']
    exact ⟨by simp [hx, hx'], fun h => by simp [hx] at h⟩
  | false =>
    rw [((dropWhile_ws l).1 hn).2, ((dropWhile_ws l').1 (by rw [gr.nl]; exact hn)).2]
    refine ⟨?_, fun _ => pr⟩
    rcases pr with ⟨e, e'⟩ | ⟨t, t', r, r', e, e', _, tr, _⟩
    · rw [e, e']
    · rw [e, e']; simp [tr.tok]

/-- **Main theorem.** For all token lists related by trivia edits (`Sim ρ`, see `trivia_edit_sim`),
all contexts, and all corresponding cursors on significant tokens (`CurRel`: same indent, end lines
related), every trivia-skipping primitive of the cursor layer gives corresponding results. -/
theorem cursor_invariant_ctx {ρ : Nat → Nat → Prop} (hρ : LineRel ρ) (ctx : Ctx) (c c' : Cur)
    (hc : CurRel ρ c.cur c'.cur) (hs : Sim ρ c.rest c'.rest) : CtxInvariant ρ ctx c c' := by
  obtain ⟨gr, pr⟩ := hs.split
  have hi : currentIndent c' = currentIndent c := hc.indent
  obtain ⟨same, post⟩ := hs.sameLine
  constructor
  case indent => exact hi
  case line => exact hc.stopLine
  case peek =>
    rw [peekCtx_eq, peekCtx_eq, gr.nl, hc.indent]
    rcases pr with ⟨e, e'⟩ | ⟨t, t', r, r', e, e', _, tr, _⟩
    · rw [e, e']; exact PeekRel.none
    · rw [e, e']; exact peekDecide_rel ctx _ _ _ _ tr
  case consume =>
    rw [consumeCtx_eq, consumeCtx_eq, hi]
    rcases pr with ⟨e, e'⟩ | ⟨t, t', r, r', e, e', _, tr, _⟩
    · rw [e, e']; rfl
    · have lt : (t'.span.stop.line > currentLine c') ↔ (t.span.stop.line > currentLine c) :=
        (hρ _ _ _ _ hc.stopLine tr.stopLine).symm
      rw [e, e']
      show some (t'.tok, _) = some (t.tok, _)
      rw [tr.tok, tr.indent, decide_eq_decide.mpr lt]
  case consume_cur =>
    rw [consumeCtx_eq, consumeCtx_eq]
    rcases pr with ⟨e, e'⟩ | ⟨t, t', r, r', e, e', _, tr, _⟩
    · rw [e]; intro h; cases h
    · intro _; simp only [skip, e, e', consumeToken]; exact tr.cur
  case consume_rest =>
    rw [consumeCtx_eq, consumeCtx_eq]
    rcases pr with ⟨e, e'⟩ | ⟨t, t', r, r', e, e', _, _, s⟩
    · simp only [skip, e, e', consumeToken]; exact Sim.nil
    · simp only [skip, e, e', consumeToken]; exact s
  case untilCtx =>
    rw [consumeUntilCtx_eq, consumeUntilCtx_eq, hi]
    rcases pr with ⟨e, e'⟩ | ⟨t, t', r, r', e, e', _, tr, _⟩
    · rw [e, e']; rfl
    · have lt : (t'.span.start.line > currentLine c') ↔ (t.span.start.line > currentLine c) :=
        (hρ _ _ _ _ hc.stopLine tr.startLine).symm
      rw [e, e']
      show some (newContext ctx _ t'.indent _) = some (newContext ctx _ t.indent _)
      rw [tr.indent, decide_eq_decide.mpr lt]
  case untilCtx_rest =>
    rw [consumeUntilCtx_eq, consumeUntilCtx_eq]; exact pr
  case sameLine =>
    rw [peekSameLine_eq, peekSameLine_eq]; exact same
  case sameLineSpan =>
    rw [peekSameLineSpan_eq, peekSameLineSpan_eq]
    simpa only [Option.map_map, Function.comp_def] using same
  case consumeSameLine =>
    rw [consumeSameLine_eq, consumeSameLine_eq, consumeToken_fst, consumeToken_fst]; exact same
  case consumeSameLine_post =>
    rw [consumeSameLine_eq, consumeSameLine_eq, consumeToken_fst]
    intro hsome hne
    rcases post hne with ⟨e, e'⟩ | ⟨t, t', r, r', e, e', _, tr, s⟩
    · simp only [skip, e] at hsome; cases hsome
    · simp only [skip, e, e', consumeToken]; exact ⟨tr.cur, s⟩
  case untilSameLine =>
    rw [consumeUntilSameLine_eq, consumeUntilSameLine_eq, peekToken_eq_head, peekToken_eq_head]; exact same
  case untilSameLine_rest =>
    rw [consumeUntilSameLine_eq, consumeUntilSameLine_eq, peekToken_eq_head]; exact post

/-! ### cursors on the last skipped trivia token (after `consume_until_*`) -/

/-- **Partial** (excluded: `current_indent()` itself, see `current_indent_pre_not_invariant`).
After `consume_until_token_with_context` / `consume_until_next_token_on_same_line` the current
token is whatever trivia token was skipped last — unrelated on the two sides. Directly in front of
corresponding significant tokens the peeks are invariant unconditionally, the consumed token and the
cursors afterwards correspond, and the returned context is the same provided the token does not end
on a later line than the cursor (lexer output: the cursor ends where the single-line token starts;
`SpanChain`, `C09.column_reset_newline_partial`). -/
theorem cursor_invariant_pre_partial {ρ : Nat → Nat → Prop} (ctx : Ctx) (cur cur' t t' : Lexed) (r r' : List Lexed)
    (ht : isTrivia t.tok = false) (tr : TokRel ρ t t') (s : Sim ρ r r') :
    PeekRel ρ (peekTokenWithContext ctx ⟨cur, t :: r⟩) (peekTokenWithContext ctx ⟨cur', t' :: r'⟩) ∧
    peekNextTokenOnSameLine ⟨cur', t' :: r'⟩ = peekNextTokenOnSameLine ⟨cur, t :: r⟩ ∧
    ((consumeTokenWithContext ctx ⟨cur', t' :: r'⟩).1.map (·.1) = (consumeTokenWithContext ctx ⟨cur, t :: r⟩).1.map (·.1)) ∧
    CurRel ρ (consumeTokenWithContext ctx ⟨cur, t :: r⟩).2.cur (consumeTokenWithContext ctx ⟨cur', t' :: r'⟩).2.cur ∧
    Sim ρ (consumeTokenWithContext ctx ⟨cur, t :: r⟩).2.rest (consumeTokenWithContext ctx ⟨cur', t' :: r'⟩).2.rest ∧
    (t.span.stop.line ≤ cur.span.stop.line → t'.span.stop.line ≤ cur'.span.stop.line →
      (consumeTokenWithContext ctx ⟨cur', t' :: r'⟩).1 = (consumeTokenWithContext ctx ⟨cur, t :: r⟩).1) := by
  have ht' := tr.sig ht
  have d := takeWhile_sig (p := tv) r ht
  have d' := takeWhile_sig (p := tv) r' ht'
  have w := takeWhile_sig (p := ws) r (not_ws_of_sig ht)
  have w' := takeWhile_sig (p := ws) r' (not_ws_of_sig ht')
  simp only [peekCtx_eq, peekSameLine_eq, consumeCtx_eq, skip, d, d', w, w', List.head?_cons, Option.map_some,
    Option.bind_some, consumeToken, hasNL, peekDecide, Bool.not_false, if_true]
  refine ⟨PeekRel.some tr.tok tr, by rw [tr.tok], by rw [tr.tok], tr.cur, s, fun h h' => ?_⟩
  have e : ¬ (t.span.stop.line > currentLine ⟨cur, t :: r⟩) := Nat.not_lt.mpr h
  have e' : ¬ (t'.span.stop.line > currentLine ⟨cur', t' :: r'⟩) := Nat.not_lt.mpr h'
  simp [newContext, e, e', tr.tok]

/-! ### witnesses -/

/-- a token for the witnesses: kind, start line, end line, indent -/
def wtok (k : Token) (l l2 ind : Nat) : Lexed :=
  { tok := k, startByte := 0, endByte := 0, span := ⟨⟨l, 0⟩, ⟨l2, 0⟩⟩, indent := ind }

def shift (L k : Nat) : Nat → Nat → Prop := fun a a' => a' = if a ≥ L then a + k else a

theorem shift_lineRel (L k : Nat) : LineRel (shift L k) := by
  intro a a' b b' ha hb
  unfold shift at ha hb
  subst ha; subst hb
  split <;> split <;> omega

/-- `s⏎x`  -/
def witA : List Lexed :=
  [wtok .id 0 0 0, wtok .newLine 0 1 0, wtok .id 1 1 0]
/-- `s⏎␠#⏎x` — the same program with an indented comment-only line inserted -/
def witB : List Lexed :=
  [wtok .id 0 0 0, wtok .newLine 0 1 0, wtok .whitespace 1 1 1, wtok .commentSingle 1 1 1, wtok .newLine 1 2 1,
   wtok .id 2 2 0]

theorem witAB_edit : TriviaEdit (shift 1 1) witA witB := by
  refine TriviaEdit.line [wtok .id 0 0 0] [wtok .whitespace 1 1 1, wtok .commentSingle 1 1 1, wtok .newLine 1 2 1]
    [wtok .id 1 1 0] [wtok .id 2 2 0] (wtok .newLine 0 1 0) rfl ?_ ?_ ?_
  · unfold AllTrivia; decide
  · intro t ht _
    cases List.mem_singleton.mp ht
    exact ⟨rfl, rfl⟩
  · exact Moved.cons rfl (fun _ => ⟨rfl, rfl, rfl, rfl⟩) Moved.nil

/-- **Negation (defect F-C10-1, fixed in /repo 5f1b75a).** `current_indent()` read directly after
`consume_until_token_with_context` is not invariant under inserting a comment-only line: the
current token is then the `NewLine` that ends the inserted line and carries *its* indent.
This remains a fact about the primitive. `consume_switch_expression` / `consume_match_expression`
were the parser's only callers that read it exactly there; since 5f1b75a they read the indentation
of the first arm through `peek_token_with_context` instead, which on that position is invariant
without any side condition (`cursor_invariant_pre_partial`, first conjunct). The harness re-scans
parser.rs on every run (`indent_read_scan`) and reports any `current_indent()` between a
`consume_until_*` call and the next consuming call (`K:C10:current_indent-after-consume_until`); the
functions that read it before consuming anything are a reviewed, pinned set. The one remaining read
on a skipped-trivia position, `parse_term`'s `start_indent`, is only compared as
`peeked.info.indent > start_indent` for a `@` key, where the peeked token is on the cursor's line:
its indent is 0 (cursor on a `NewLine`) or the cursor's own (cursor on whitespace / a comment), so
the comparison is false on both sides of any trivia edit. -/
theorem current_indent_pre_not_invariant :
    ∃ (ρ : Nat → Nat → Prop) (ts ts' : List Lexed) (ctx : Ctx), LineRel ρ ∧ TriviaEdit ρ ts ts' ∧
      currentIndent (consumeUntilTokenWithContext ctx (consumeToken (Cur.init ts)).2).2 ≠
      currentIndent (consumeUntilTokenWithContext ctx (consumeToken (Cur.init ts')).2).2 :=
  ⟨shift 1 1, witA, witB, Ctx.permissive, shift_lineRel 1 1, witAB_edit, by decide⟩

/-- … while everything `cursor_invariant_ctx` promises does hold for the same witness
(non-vacuity of its hypotheses on a non-trivial edit). -/
example : CtxInvariant (shift 1 1) Ctx.permissive (consumeToken (Cur.init witA)).2 (consumeToken (Cur.init witB)).2 :=
  cursor_invariant_ctx (shift_lineRel 1 1) _ _ _
    ⟨rfl, by simp [shift, consumeToken, Cur.init, witA, witB, wtok]⟩
    (by
      have m : Moved (shift 1 1) [wtok .id 1 1 0] [wtok .id 2 2 0] :=
        Moved.cons rfl (fun _ => ⟨rfl, rfl, rfl, rfl⟩) Moved.nil
      have ht : AllTrivia [wtok .whitespace 1 1 1, wtok .commentSingle 1 1 1, wtok .newLine 1 2 1] := by
        unfold AllTrivia; decide
      exact Sim.after_nl (n := wtok .newLine 0 1 0) _ rfl ht m.sim)

/-- ` ␠x` and `⏎␠x` (a blank line inserted *before the first token of the file*) -/
def witC : List Lexed := [wtok .whitespace 0 0 2, wtok .id 0 0 2]
def witD : List Lexed := [wtok .newLine 0 1 0, wtok .whitespace 1 1 2, wtok .id 1 1 2]

/-- **Negation (defect F-C10-2).** Inserting a trivia line before the first token of the file is not
invariant: `same_line` is true for the first token only while no `NewLine` token precedes it, and
the `Equal(0)` rule of the main block is skipped when `same_line`. This is why `TriviaEdit.line`
demands a preceding `NewLine` token. -/
theorem line_edit_at_file_start_not_invariant :
    (peekTokenWithContext { Ctx.permissive with expected := .equal 0 } (Cur.init witC)).isSome = true ∧
    peekTokenWithContext { Ctx.permissive with expected := .equal 0 } (Cur.init witD) = none := by
  decide

/-- `peek_token_with_context` clears `same_line` only on a `NewLine` *token*: a multi-line comment
that contains a line break leaves the next token "on the same line" although its line is later —
even where line breaks are not allowed. (Not an edit of the class above: there the comment is
followed by a `NewLine` token.) -/
theorem multiline_comment_keeps_same_line :
    (peekTokenWithContext Ctx.inline
      ⟨wtok .id 0 0 0, [wtok .whitespace 0 0 0, wtok .commentMulti 0 1 0, wtok .whitespace 1 1 0, wtok .id 1 1 0]⟩).isSome = true ∧
    (peekTokenWithContext Ctx.inline
      ⟨wtok .id 0 0 0, [wtok .newLine 0 1 0, wtok .whitespace 1 1 2, wtok .id 1 1 2]⟩) = none := by
  decide

/-! ### the indentation rule, peeking, raw access, the token queue -/

/-- Which continuation lines `peek_token_with_context` accepts, per `Indentation` variant. -/
theorem indent_rule_table (i s e : Nat) :
    indentAccepts .flexible i s = true ∧
    (indentAccepts (.equal e) i s = true ↔ i = e) ∧
    (indentAccepts .greater i s = true ↔ i > s) ∧
    (indentAccepts (.greaterThan e) i s = true ↔ i > e) ∧
    (indentAccepts (.greaterOrEqual e) i s = true ↔ i ≥ e) := by
  simp [indentAccepts]

/-- `else` / `catch` / `finally` at the indentation of their `if` / `try` (rule `GreaterOrEqual` /
`Equal`) are accepted; the same token under `Greater` is not — the decision the DESIGN §11 mutant
"GreaterOrEqual treated as Greater" flips. -/
theorem indent_rule_else_at_equal_indent :
    indentAccepts (.greaterOrEqual 2) 2 2 = true ∧ indentAccepts (.equal 2) 2 2 = true ∧
    indentAccepts .greater 2 2 = false ∧ indentAccepts (.greaterThan 2) 2 2 = false := by
  decide

/-- The token returned by `peek_token_with_context` is the first non-trivia token after the cursor:
only trivia is skipped, and the peek count is the number of skipped tokens. -/
theorem peek_skips_only_trivia (ctx : Ctx) (c : Cur) (i : PeekInfo)
    (h : peekTokenWithContext ctx c = some i) :
    ∃ g r, c.rest = g ++ i.info :: r ∧ AllTrivia g ∧ isTrivia i.info.tok = false ∧
      i.peekCount = g.length ∧ i.tok = i.info.tok :=
  found_some (peek_some_iff.mp h).1

/-- and conversely nothing significant is ever skipped: when it answers `none` although a
significant token follows, that token is on a later line and the context rejects it -/
theorem peek_none_iff (ctx : Ctx) (cur : Lexed) (g : List Lexed) (t : Lexed) (r : List Lexed)
    (hg : AllTrivia g) (ht : isTrivia t.tok = false) :
    peekTokenWithContext ctx ⟨cur, g ++ t :: r⟩ = none ↔
      hasNL g = true ∧ (ctx.allowLinebreaks = false ∨ indentAccepts ctx.expected t.indent cur.indent = false) := by
  simp only [peekCtx_eq, takeWhile_gap hg ht, List.head?_cons, Option.bind_some, peekDecide_eq]
  cases hasNL g <;> cases ctx.allowLinebreaks <;> cases indentAccepts ctx.expected t.indent cur.indent <;> simp

theorem getElem?_prefix_cons {α : Type} (p : List α) (x : α) (u v : List α) {n : Nat} (h : n ≤ p.length) :
    (p ++ x :: u)[n]? = (p ++ x :: v)[n]? := by
  have h' : n < (p ++ [x]).length := by rw [List.length_append]; exact Nat.lt_succ_of_le h
  rw [List.append_cons, List.append_cons p x v, List.getElem?_append_left h', List.getElem?_append_left h']

/-- Raw access (`peek_token_n`, `consume_token`) at corresponding cursors: the next raw token is
trivia on both sides or the same significant kind; and when the next significant token is on the
cursor's line (no `NewLine` in the gap) the raw tokens up to and including it are identical in kind.
(The one place that tells `Whitespace` from other trivia, `parse_call_args`, does so only then.) -/
theorem cursor_invariant_raw {ρ : Nat → Nat → Prop} (c c' : Cur) (hs : Sim ρ c.rest c'.rest) :
    ((∃ k, peekToken c = some k ∧ peekToken c' = some k ∧ isTrivia k = false) ∨
     (∃ k k', peekToken c = some k ∧ peekToken c' = some k' ∧ isTrivia k = true ∧ isTrivia k' = true) ∨
     (peekToken c = none ∧ peekToken c' = none)) ∧
    (∀ g t r, c.rest = g ++ t :: r → AllTrivia g → isTrivia t.tok = false → hasNL g = false →
      ∀ n, n ≤ g.length → peekTokenN n c' = peekTokenN n c) := by
  obtain ⟨gr, pr⟩ := hs.split
  have hl' := List.takeWhile_append_dropWhile (p := tv) (l := c'.rest)
  constructor
  · have hG := allTrivia_takeWhile c.rest
    have hG' := allTrivia_takeWhile c'.rest
    have hl := List.takeWhile_append_dropWhile (p := tv) (l := c.rest)
    -- the first raw token is the head of the gap if there is one, else the token after it
    generalize c.rest.takeWhile tv = G at gr hG hl
    generalize c'.rest.takeWhile tv = G' at gr hG' hl'
    generalize c.rest.dropWhile tv = A at pr hl
    generalize c'.rest.dropWhile tv = A' at pr hl'
    rw [peekToken_eq_head, peekToken_eq_head, ← hl, ← hl']
    cases G with
    | nil =>
      cases gr.eq_nil
      rcases pr with ⟨e, e'⟩ | ⟨t, t', r, r', e, e', ht, tr, _⟩
      · rw [e, e']; exact Or.inr (Or.inr ⟨rfl, rfl⟩)
      · rw [e, e']; exact Or.inl ⟨t.tok, rfl, by simp [tr.tok], ht⟩
    | cons x xs =>
      cases G' with
      | nil => cases gr.symm.eq_nil
      | cons y ys => exact Or.inr (Or.inl ⟨x.tok, y.tok, rfl, rfl, hG.head, hG'.head⟩)
  · intro g t r e hg ht hn n hle
    rw [e] at gr pr
    rw [(takeWhile_gap hg ht).1] at gr
    rw [(takeWhile_gap hg ht).2] at pr
    rcases pr with ⟨h, _⟩ | ⟨_, t', _, r', h, e', _, tr, _⟩
    · cases h
    · cases h
      rw [e'] at hl'
      generalize c'.rest.takeWhile tv = g' at gr hl'
      simp only [peekTokenN, e, ← hl', ← List.getElem?_map, List.map_append, List.map_cons, gr.same hn, tr.tok]
      exact getElem?_prefix_cons _ _ _ _ (by rw [List.length_map]; exact hle)

/-- the way `parser.rs` calls it (`n ≤ token_queue.len()`: sequential peeks, `peek_count + 1` after
a peek): the `n`-th unconsumed token, and at most one token is lexed -/
theorem queue_transparent (rest : List Lexed) (queued n : Nat) (h : n ≤ queued) :
    queuePeek rest queued n = (rest[n]?, min (max queued (n + 1)) rest.length) ∧
    (queuePeek rest queued n).2 ≤ queued + 1 := by
  rw [queuePeek_eq]
  exact ⟨rfl, by show min _ _ ≤ _; omega⟩

theorem queue_next_after_peek (rest : List Lexed) (queued : Nat) :
    (queueNext rest (queuePeek rest queued 0).2).1 = (queuePeek rest queued 0).1 := by
  rw [queuePeek_eq]
  cases rest <;> rfl

/-! ### deletions and sequences of edits -/

theorem trivia_delete_sim {ρ ts ts'} (e : TriviaEdit ρ ts ts') : Sim (conv ρ) ts' ts ∧ (LineRel ρ → LineRel (conv ρ)) :=
  ⟨(trivia_edit_sim e).symm, LineRel.conv⟩

/-- any sequence of insertions and deletions: similarity composes, and so does the order-preserving
line relabelling — `cursor_invariant_ctx` therefore applies to the end points -/
theorem trivia_edits_compose {ρ σ a b c} (s : Sim ρ a b) (s' : Sim σ b c) :
    Sim (comp ρ σ) a c ∧ (LineRel ρ → LineRel σ → LineRel (comp ρ σ)) :=
  ⟨s.trans s', LineRel.comp⟩

/-- `current_line()` values are only ever compared: order and equality are preserved -/
theorem current_line_comparisons {ρ} (hρ : LineRel ρ) {a a' b b' : Nat} (ha : ρ a a') (hb : ρ b b') :
    (a < b ↔ a' < b') ∧ (a = b ↔ a' = b') ∧ (a > b ↔ a' > b') :=
  ⟨hρ a a' b b' ha hb, hρ.eq_iff ha hb, hρ b b' a a' hb ha⟩

/-! ### further non-vacuity examples -/

/-- `a⏎b` → `a␠#c⏎b`: an end-of-line comment preceded by whitespace is a `TriviaEdit.eol`
(lines unchanged: `shift 0 0` is the identity) -/
example : TriviaEdit (shift 0 0)
    [wtok .id 0 0 0, wtok .newLine 0 1 0, wtok .id 1 1 0]
    [wtok .id 0 0 0, wtok .whitespace 0 0 0, wtok .commentSingle 0 0 0, wtok .newLine 0 1 0, wtok .id 1 1 0] := by
  refine TriviaEdit.eol [wtok .id 0 0 0] [wtok .whitespace 0 0 0, wtok .commentSingle 0 0 0] [wtok .id 1 1 0]
    [wtok .id 1 1 0] (wtok .newLine 0 1 0) (wtok .newLine 0 1 0) rfl ?_ ?_ ?_
  · unfold AllWs; decide
  · intro t ht _
    cases List.mem_singleton.mp ht
    exact ⟨rfl, rfl⟩
  · exact Moved.cons rfl (fun h => absurd h (by decide))
      (Moved.cons rfl (fun _ => ⟨rfl, rfl, rfl, rfl⟩) Moved.nil)

/-- `peek_skips_only_trivia` on a concrete accepted continuation line (indented `.` after a line
break and a comment line, `Greater` rule) -/
example : ∃ i, peekTokenWithContext Ctx.permissive
      ⟨wtok .id 0 0 0, [wtok .newLine 0 1 0, wtok .commentSingle 1 1 0, wtok .newLine 1 2 0,
        wtok .whitespace 2 2 2, wtok (.sym .Dot) 2 2 2]⟩ = some i ∧ i.peekCount = 4 ∧ i.tok = .sym .Dot :=
  ⟨_, rfl, rfl, rfl⟩

/-- the same token is rejected when the context does not allow line breaks, or under `Equal(0)` -/
example : peekTokenWithContext Ctx.inline
      ⟨wtok .id 0 0 0, [wtok .newLine 0 1 0, wtok .whitespace 1 1 2, wtok (.sym .Dot) 1 1 2]⟩ = none ∧
    peekTokenWithContext { Ctx.permissive with expected := .equal 0 }
      ⟨wtok .id 0 0 0, [wtok .newLine 0 1 0, wtok .whitespace 1 1 2, wtok (.sym .Dot) 1 1 2]⟩ = none := by
  decide

/-- `consume_token_with_context` on an indented continuation returns `Equal(indent)` +
`allow_map_block` (the DESIGN §11 mutant "allow_map_block not set" changes this value) -/
example : (consumeTokenWithContext Ctx.permissive
      ⟨wtok (.sym .Assign) 0 0 0, [wtok .newLine 0 1 0, wtok .whitespace 1 1 2, wtok .id 1 1 2]⟩).1 =
    some (.id, { Ctx.permissive with expected := .equal 2, allowMapBlock := true }) := by
  decide

/-- peeking two past an empty queue reads three tokens (a `usize` underflow before /repo b5b4493, see
`Model/Cursor.lean`) -/
example : queuePeek [wtok .id 0 0 0, wtok .number 0 0 0, wtok .id 0 0 0] 0 2 = (some (wtok .id 0 0 0), 3) := by
  decide

example : queuePeek [wtok .id 0 0 0, wtok .number 0 0 0] 1 1 = (some (wtok .number 0 0 0), 2) :=
  (queue_transparent _ 1 1 (by decide)).1

end KotoVerif.C10
