/-
C05, second extension module: end-to-end laws of the instruction codec (Model/Encode, Model/Decode),
all tied to InstructionReader by the decoder correspondence of Drivers/C05.

* the code of an instruction is a prefix code: unique parse of one instruction and of whole streams
* a stream of valid instructions decodes instruction by instruction, at the right offsets
* jump-offset encoders are injective (two distinct distances never share an encoding)
-/
import KotoVerif.Lemmas.C05Codec

namespace KotoVerif.C05Ext2
open KotoVerif.Gen KotoVerif.Bytecode

/-- the byte stream of an instruction sequence (what the compiler appends to a chunk) -/
def encodeAll : List Instr → List Nat
  | [] => []
  | i :: is => encode i ++ encodeAll is

def decodeN : Nat → List Nat → Option (List Instr × List Nat)
  | 0, bs => some ([], bs)
  | n + 1, bs =>
    match decode bs with
    | .ok i _ rest => (decodeN n rest).map fun (is, r) => (i :: is, r)
    | _ => none

theorem encode_prefix_free (i j : Instr) (r s : List Nat) (hi : i.valid = true) (hj : j.valid = true)
    (h : encode i ++ r = encode j ++ s) : i = j ∧ r = s := by
  have h1 := decode_encode i r hi
  have h2 := decode_encode j s hj
  rw [h] at h1
  rw [h1] at h2
  injection h2 with a b c
  exact ⟨a, c⟩

theorem encode_injective (i j : Instr) (hi : i.valid = true) (hj : j.valid = true)
    (h : encode i = encode j) : i = j :=
  (encode_prefix_free i j [] [] hi hj (by simp [h])).1

example : (Instr.mk .Jump [300]).valid = true ∧ (Instr.mk .Jump [301]).valid = true := by decide

theorem decode_stream_head (i : Instr) (is : List Instr) (r : List Nat) (hi : i.valid = true) :
    decode (encodeAll (i :: is) ++ r) = .ok i (encode i).length (encodeAll is ++ r) := by
  simp only [encodeAll, List.append_assoc]
  exact decode_encode i _ hi

theorem decodeN_encodeAll (is : List Instr) (r : List Nat) (hv : ∀ i ∈ is, i.valid = true) :
    decodeN is.length (encodeAll is ++ r) = some (is, r) := by
  induction is with
  | nil => simp [decodeN, encodeAll]
  | cons i is ih =>
    have hi : i.valid = true := hv i (by simp)
    have ht : ∀ j ∈ is, j.valid = true := fun j hj => hv j (by simp [hj])
    simp only [List.length_cons, decodeN, decode_stream_head i is r hi, ih ht, Option.map_some]

example : decodeN 2 (encodeAll [⟨.Jump, [300]⟩, ⟨.JumpBack, [5]⟩] ++ [9]) =
    some ([⟨.Jump, [300]⟩, ⟨.JumpBack, [5]⟩], [9]) := by decide

/-- unique parse of streams: compiling to the same bytes means compiling to the same instructions -/
theorem encodeAll_injective (is js : List Instr) (hi : ∀ i ∈ is, i.valid = true)
    (hj : ∀ j ∈ js, j.valid = true) (h : encodeAll is = encodeAll js) : is = js := by
  induction is generalizing js with
  | nil =>
    cases js with
    | nil => rfl
    | cons j js =>
      have : encodeAll (j :: js) ≠ [] := by simp [encodeAll, encode]
      exact absurd h.symm this
  | cons i is ih =>
    cases js with
    | nil =>
      have : encodeAll (i :: is) ≠ [] := by simp [encodeAll, encode]
      exact absurd h this
    | cons j js =>
      simp only [encodeAll] at h
      obtain ⟨e1, e2⟩ := encode_prefix_free i j _ _ (hi i (by simp)) (hj j (by simp)) h
      subst e1
      rw [ih js (fun x hx => hi x (by simp [hx])) (fun x hx => hj x (by simp [hx])) e2]

theorem encodeAll_append (a b : List Instr) : encodeAll (a ++ b) = encodeAll a ++ encodeAll b := by
  induction a with
  | nil => rfl
  | cons i a ih => simp [encodeAll, ih]

/-- every instruction boundary of an emitted stream is a decodable position -/
theorem decode_at_boundary (a : List Instr) (i : Instr) (b : List Instr) (r : List Nat)
    (hi : i.valid = true) :
    decode ((encodeAll (a ++ i :: b) ++ r).drop (encodeAll a).length) =
      .ok i (encode i).length (encodeAll b ++ r) := by
  rw [encodeAll_append, List.append_assoc, List.drop_left]
  exact decode_stream_head i b r hi

theorem updateOffset_injective (a b : Nat) (bs : List Nat)
    (ha : updateOffset a = some bs) (hb : updateOffset b = some bs) : a = b := by
  unfold updateOffset at ha hb
  split at ha
  · split at hb
    · have e : encodeU16 a = encodeU16 b := by
        rw [Option.some.inj ha, Option.some.inj hb]
      simp only [encodeU16, List.cons.injEq, and_true] at e
      omega
    · cases hb
  · cases ha

theorem jumpBackOffset_injective (a b : Nat) (bs : List Nat)
    (ha : jumpBackOffset a = some bs) (hb : jumpBackOffset b = some bs) : a = b :=
  updateOffset_injective a b bs ha hb

example : updateOffset 513 = some [1, 2] ∧ jumpBackOffset 513 = some [1, 2] := by decide

/-- limit clause, end to end: a forward distance accepted by the offset check gives a valid `Jump`
whose encoding decodes back to that very distance; a rejected one is a compile error (`none`) -/
theorem jump_offset_end_to_end (off : Nat) (r : List Nat) :
    (∃ bs, updateOffset off = some bs ∧
        decode (encode ⟨.Jump, [off]⟩ ++ r) = .ok ⟨.Jump, [off]⟩ 3 r) ∨
      (updateOffset off = none ∧ 65535 < off) := by
  by_cases h : off ≤ 65535
  · left
    refine ⟨encodeU16 off, by simp [updateOffset, h], ?_⟩
    have hv : (Instr.mk .Jump [off]).valid = true := by
      show (decide (off < 65536) && true) = true
      simp; omega
    exact decode_encode ⟨.Jump, [off]⟩ r hv
  · right
    exact ⟨by simp [updateOffset, h], by omega⟩

end KotoVerif.C05Ext2
