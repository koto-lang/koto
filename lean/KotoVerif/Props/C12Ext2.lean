/-
C12 — second extension module: end-to-end statements that connect the models of C12
(`Model/SrcMap.lean` compile → pushAll → lookup, `Model/Trace.lean` predict, `Model/Excerpt.lean`
excerpt / render) and state clauses of the property text directly.
-/
import KotoVerif.Model.SrcMap
import KotoVerif.Model.Excerpt
import KotoVerif.Model.Trace
import KotoVerif.Lemmas.C12
import KotoVerif.Props.C12
import KotoVerif.Props.C12Ext

namespace KotoVerif.C12Ext2
open KotoVerif.SrcMap KotoVerif.Excerpt KotoVerif.Trace
open KotoVerif.C12L (spA spB spR exPushes exTree exCalls)

/-! ## 1. the excerpt returns with a quoted line exactly under the guard; `render` (the text the driver
compares) -/

/-- The first quoted row is the line the header names: the position reported is on a quoted line. -/
theorem excerpt_first_quoted (n : Nat) (sp : Span) (o : Out) (h : excerpt n sp = .ok o)
    (hg : sp.start.line < n) :
    o.quoted.head? = some (sp.start.line + 1, sp.start.line) ∧
      o.header = (sp.start.line + 1, sp.start.col + 1) := by
  rcases C12L.excerpt_ok_cases h with ⟨_, _, _, rfl⟩ | ⟨hl, rfl⟩
  · exact ⟨rfl, rfl⟩
  · refine ⟨?_, rfl⟩
    obtain ⟨k, hk⟩ : ∃ k, min (sp.stop.line - sp.start.line + 1) (n - sp.start.line) = k + 1 :=
      ⟨_, (Nat.succ_pred_eq_of_pos (Nat.lt_min.mpr ⟨Nat.succ_pos _, Nat.sub_pos_of_lt hg⟩)).symm⟩
    rw [C12L.multiOut, hk, List.range_succ_eq_map]
    rfl

example : excerpt 12 ⟨⟨8, 2⟩, ⟨10, 0⟩⟩ = .ok ⟨(9, 3), 2, [(9, 8), (10, 9), (11, 10)], none⟩ ∧
    8 < 12 := by decide

/-- The guard is exactly "returns and quotes at least one line" (a multi-line span that starts past
the last line returns with nothing quoted: outside the guard, but no panic). -/
theorem excerpt_ok_nonempty_iff_guard (n : Nat) (sp : Span) :
    (∃ o, excerpt n sp = .ok o ∧ o.quoted ≠ []) ↔ Guard n sp := by
  constructor
  · rintro ⟨o, ho, hq⟩
    have hp : ¬ ∃ p, excerpt n sp = .panic p := by
      rintro ⟨p, hp⟩
      rw [ho] at hp
      cases hp
    rw [C12.excerpt_panic_iff] at hp
    obtain ⟨p, hpm⟩ := List.exists_mem_of_ne_nil _ hq
    obtain ⟨h1, h2, _, _⟩ := C12Ext.excerpt_quoted_inside n sp o ho p hpm
    unfold Guard
    omega
  · intro hg
    obtain ⟨o, ho⟩ := C12.excerpt_total n sp hg
    refine ⟨o, ho, ?_⟩
    have := (excerpt_first_quoted n sp o ho hg.1).1
    intro hnil
    rw [hnil] at this
    cases this

example : Guard 3 ⟨⟨1, 2⟩, ⟨1, 5⟩⟩ ∧ ¬ Guard 1 ⟨⟨1, 0⟩, ⟨2, 0⟩⟩ ∧
    excerpt 1 ⟨⟨1, 0⟩, ⟨2, 0⟩⟩ = .ok ⟨(2, 1), 1, [], none⟩ := by decide

/-- The rendered text (what the driver compares with the real output) is missing exactly in the
panic region. -/
theorem render_none_iff (lines : List String) (sp : Span) :
    render lines sp = none ↔
      (sp.stop.line < sp.start.line ∨
        (sp.start.line = sp.stop.line ∧
          (lines.length ≤ sp.start.line ∨ sp.stop.col < sp.start.col))) := by
  rw [← C12.excerpt_panic_iff]
  unfold render
  cases h : excerpt lines.length sp with
  | panic p => simp
  | ok o => simp

/-- Text after the span's last line is irrelevant. -/
theorem excerpt_indep_later_lines (n n' : Nat) (sp : Span) (he : sp.stop.line < n) (hn : n ≤ n') :
    excerpt n' sp = excerpt n sp := by
  rcases Nat.lt_trichotomy sp.start.line sp.stop.line with hl | hl | hl
  · rw [C12L.excerpt_multi hl, C12L.excerpt_multi hl, C12L.multiOut, C12L.multiOut,
      C12L.avail_of_lt hl he, C12L.avail_of_lt hl (Nat.lt_of_lt_of_le he hn)]
  · have h1 : sp.start.line < n := hl ▸ he
    have h2 : sp.start.line < n' := Nat.lt_of_lt_of_le h1 hn
    rcases Nat.lt_or_ge sp.stop.col sp.start.col with hc | hc
    · rw [C12L.excerpt_colUnderflow hl h2 hc, C12L.excerpt_colUnderflow hl h1 hc]
    · rw [C12L.excerpt_single hl h2 hc, C12L.excerpt_single hl h1 hc]
  · rw [C12L.excerpt_lineUnderflow hl, C12L.excerpt_lineUnderflow hl]

example : excerpt 40 ⟨⟨8, 2⟩, ⟨10, 0⟩⟩ = excerpt 11 ⟨⟨8, 2⟩, ⟨10, 0⟩⟩ := by decide

/-! ## 2. compile → source map → lookup → excerpt -/

/-- End to end for one chunk: an instruction emitted with `push_op` inside a node whose span
satisfies the guard is rendered without panic, the header and the first quoted line are the start
line of that innermost node, and the `debug` prefix names the same line. -/
theorem instr_excerpt_end_to_end (root : Span) (t : Steps) (h : t.sizesPos = true) (n : Nat)
    (e : Entry) (he : e ∈ (annot t root 0).1) (hg : Guard n e.2) :
    ∃ o, (lookup (debugInfoOf root t) e.1).map (excerpt n) = some (.ok o) ∧
      o.header = (e.2.start.line + 1, e.2.start.col + 1) ∧
      o.quoted.head? = some (e.2.start.line + 1, e.2.start.line) ∧
      debugPrefixLine (debugInfoOf root t) e.1 = some o.header.1 := by
  obtain ⟨o, ho⟩ := C12.excerpt_total n e.2 hg
  obtain ⟨h1, h2⟩ := excerpt_first_quoted n e.2 o ho hg.1
  refine ⟨o, ?_, h2, h1, ?_⟩
  · rw [C12.instr_span root t h e he]
    simp [ho]
  · rw [C12Ext.debugPrefixLine_instr root t h e he, h2]

example : exTree.sizesPos = true ∧ (5, spB) ∈ (annot exTree spR 0).1 ∧ Guard 7 spB := by decide

/-- If every node span of a chunk satisfies the guard, then the span found for ANY ip (instruction
starts, operand bytes, instructions without span) renders without panic. -/
theorem lookup_render_never_panics (root : Span) (t : Steps) (n : Nat)
    (hall : ∀ e ∈ (annot t root 0).1, Guard n e.2) (q : Nat) (sp : Span)
    (h : lookup (debugInfoOf root t) q = some sp) : ∃ o, excerpt n sp = .ok o := by
  obtain ⟨i, hi, _⟩ := C12Ext.lookup_debugInfoOf_scoped root t q sp h
  exact C12.excerpt_total n sp (hall (i, sp) hi)

example : (∀ e ∈ (annot exTree spR 0).1, Guard 7 e.2) ∧
    lookup (debugInfoOf spR exTree) 6 = some spB := by decide

/-! ## 3. trace → spans: the clause "first the line of the expression that failed and then the line
of each enclosing call site, innermost first" -/

/-- Chunks `c` compiled from trees `T c` (root span `root c`); the fault and every call instruction
are spanned instructions of their chunks. Then the uncaught error's trace, mapped through each
chunk's finished debug info, is the fault's innermost-node span followed by the innermost-node span
of each call site, innermost call first. -/
theorem trace_spans_end_to_end (root : Nat → Span) (T : Nat → Steps)
    (hT : ∀ c, (T c).sizesPos = true) (calls : List Call) (fault : Nat)
    (hno : ∀ c ∈ calls, c.inTry = false) (spF : Span)
    (hF : (fault, spF) ∈ (annot (T (lastChunk 0 calls)) (root (lastChunk 0 calls)) 0).1)
    (site : IFrame → Span)
    (hS : ∀ f ∈ callSites 0 calls, (f.ip, site f) ∈ (annot (T f.chunk) (root f.chunk) 0).1) :
    ∃ tr, predict calls fault false = .uncaught tr ∧
      tr.map (fun f => lookup (debugInfoOf (root f.chunk) (T f.chunk)) f.ip)
        = some spF :: (callSites 0 calls).reverse.map (fun f => some (site f)) := by
  refine ⟨_, C12.trace_order calls fault hno, ?_⟩
  rw [List.map_cons]
  congr 1
  · exact C12.instr_span _ _ (hT _) (fault, spF) hF
  · apply List.map_congr_left
    intro f hf
    exact C12.instr_span _ _ (hT _) (f.ip, site f) (hS f (List.mem_reverse.mp hf))

/-- a script (chunk 0 = `exTree`) calling itself recursively from ip 5 (`spB`), failing at ip 9 -/
example :
    let calls : List Call := [⟨5, 0, false⟩, ⟨5, 0, false⟩]
    (∀ c ∈ calls, c.inTry = false) ∧
    (9, spA) ∈ (annot exTree spR 0).1 ∧
    (∀ f ∈ callSites 0 calls, (f.ip, spB) ∈ (annot exTree spR 0).1) ∧
    predict calls 9 false = .uncaught [⟨0, 9⟩, ⟨0, 5⟩, ⟨0, 5⟩] := by decide

/-- Every frame of an uncaught trace renders: if all node spans of all chunks satisfy the guard of
the text, no frame whose span is found can make the message rendering panic. -/
theorem trace_render_never_panics (root : Nat → Span) (T : Nat → Steps) (n : Nat)
    (hall : ∀ c, ∀ e ∈ (annot (T c) (root c) 0).1, Guard n e.2)
    (tr : List IFrame) :
    ∀ f ∈ tr, ∀ sp, lookup (debugInfoOf (root f.chunk) (T f.chunk)) f.ip = some sp →
      ∃ o, excerpt n sp = .ok o := by
  intro f _ sp h
  exact lookup_render_never_panics _ _ n (hall f.chunk) f.ip sp h

example : ∀ e ∈ (annot exTree spR 0).1, Guard 7 e.2 := by decide

end KotoVerif.C12Ext2
