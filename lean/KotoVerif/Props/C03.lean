/-
C03 — pattern matching and unpacking select and bind exactly as documented.

`Model/Match.lean` (the algorithmic matcher that mirrors the compiled code) against the declarative
definition `Decl` / `DeclSeq` / `DeclEnts` (the language guide), and `Model/Unpack.lean`: for every
pattern, value, register file and float implementation `F`, without a size bound.

Where the code (hence the model) deviates from the guide, the deviation is proved as a negation
witness (`…_witness`, by `decide`) together with its universally quantified shape (`…_raises`), and
the positive theorem carries the hypothesis that excludes exactly that shape and the suffix
`_partial`: it holds for every `Cfg`, the code before the repairs included.  Its counterpart without
the suffix assumes the repairs (`Cfg.nestedLast`, `Safe`, …) and has no side condition.
-/
import KotoVerif.Model.Match
import KotoVerif.Model.Unpack
import KotoVerif.Lemmas.C03
import KotoVerif.Lemmas.C03Alt

namespace KotoVerif.C03
open KotoVerif KotoVerif.Match KotoVerif.Unpack

/-! ## patterns: algorithmic ≡ declarative (last alternative, subject in a temporary) -/

/-- algorithmic ≡ declarative for every well-formed pattern (any nesting) and every `plain` value (no
range, no string with a multi-byte character) -/
theorem pat_spec (F : FloatOps) (C : Cfg) (p : Pat) (v : Val) (ρ ρ' : Env) (il : Bool)
    (hw : wf p = true) (hv : plain v = true) :
    mPat F C true p il (.direct (.tmp v)) ρ = .ok ρ' ↔ ∃ β, Decl F p v β ∧ ρ' = ρ.apply β :=
  (mPat_sound F p true il hw rfl (.direct (.tmp v)) ρ v (.inl rfl) hv).hit_iff ρ'

theorem seq_pat_spec_view (F : FloatOps) (C : Cfg) (pre post : List Pat) (rest : Option (Option Name)) (v : Val)
    (xs : List Val) (sl : Nat → Nat → Val) (ρ ρ' : Env) (hw : wf (.seq pre rest post) = true) (hv : plain v = true)
    (hview : view v = some (xs, sl)) :
    mPat F C true (.seq pre rest post) true (.direct (.tmp v)) ρ = .ok ρ' ↔
      ∃ β, DeclSeq F pre rest post xs sl β ∧ ρ' = ρ.apply β := by
  simp only [pat_spec F C _ _ ρ ρ' true hw hv, decl_seq_view hview]

/-- index arithmetic ≡ list splitting, for tuples (`rest` is bound to the tuple of the middle) -/
theorem seq_pat_spec (F : FloatOps) (C : Cfg) (pre post : List Pat) (rest : Option (Option Name)) (xs : List Val)
    (ρ ρ' : Env) (hw : wf (.seq pre rest post) = true) (hv : plainL xs = true) :
    mPat F C true (.seq pre rest post) true (.direct (.tmp (.tuple xs))) ρ = .ok ρ' ↔
      ∃ β, DeclSeq F pre rest post xs (fun i j => .tuple ((xs.drop i).take (j - i))) β ∧ ρ' = ρ.apply β :=
  seq_pat_spec_view F C pre post rest _ xs _ ρ ρ' hw (by simpa [plain] using hv) rfl

/-- the same for lists (`rest` is bound to a new list) -/
theorem seq_pat_spec_list (F : FloatOps) (C : Cfg) (pre post : List Pat) (rest : Option (Option Name)) (xs : List Val)
    (ρ ρ' : Env) (hw : wf (.seq pre rest post) = true) (hv : plainL xs = true) :
    mPat F C true (.seq pre rest post) true (.direct (.tmp (.list xs))) ρ = .ok ρ' ↔
      ∃ β, DeclSeq F pre rest post xs (fun i j => .list ((xs.drop i).take (j - i))) β ∧ ρ' = ρ.apply β :=
  seq_pat_spec_view F C pre post rest _ xs _ ρ ρ' hw (by simpa [plain] using hv) rfl

/-- the split is determined by the patterns: the fixed parts have the patterns' lengths -/
theorem seq_split_lengths (F : FloatOps) (C : Cfg) (pre post : List Pat) (rest : Option (Option Name))
    (xs : List Val) (sl : Nat → Nat → Val) (β : Writes) (h : DeclSeq F pre rest post xs sl β) :
    pre.length + post.length ≤ xs.length ∧ (rest = none → xs.length = pre.length + post.length) :=
  ⟨(declSeq_iff.1 h).1, (declSeq_iff.1 h).2.1⟩

/-- map patterns: every listed key is present, the hints hold, named entries are bound -/
theorem map_pat_spec (F : FloatOps) (C : Cfg) (es : List Ent) (ty : Option Ty) (v : Val) (ρ ρ' : Env)
    (hv : plain v = true) :
    mPat F C true (.map es ty) true (.direct (.tmp v)) ρ = .ok ρ' ↔
      tyFail ty v = false ∧ ∃ β, DeclEnts es v β ∧ ρ' = ρ.apply β := by
  rw [pat_spec F C _ _ ρ ρ' true rfl hv]
  simp only [Decl]
  constructor
  · rintro ⟨β, ⟨h1, h2⟩, rfl⟩; exact ⟨h1, β, h2, rfl⟩
  · rintro ⟨h1, β, h2, rfl⟩; exact ⟨β, ⟨h1, h2⟩, rfl⟩

/-- `key as x` binds `x` (not `key`) to the value stored under `key` -/
theorem map_as_renames (k : List Nat) (x : Name) (m : List (Val × Val)) (β : Writes) :
    DeclEnts [⟨k, some x, none⟩] (.map m) β ↔ ∃ w, lookupKey k m = some w ∧ β = [(x, w)] := by
  simp only [DeclEnts]
  constructor
  · rintro ⟨m', w, β', hm, hl, _, rfl, rfl⟩
    cases hm; exact ⟨w, hl, by simp⟩
  · rintro ⟨w, hl, rfl⟩; exact ⟨m, w, [], rfl, hl, rfl, rfl, by simp⟩

/-- a map pattern only matches when every key is present -/
theorem map_keys_present : ∀ (es : List Ent) (m : List (Val × Val)) (β : Writes),
    DeclEnts es (.map m) β → ∀ e ∈ es, (lookupKey e.key m).isSome = true
  | [], _, _, _ => by simp
  | e :: es, m, β, h => by
    simp only [DeclEnts] at h
    obtain ⟨m', x, β', hm, hl, _, hd, _⟩ := h
    cases hm
    intro e' he'
    rcases List.mem_cons.mp he' with rfl | h'
    · simp [hl]
    · exact map_keys_present es m β' hd e' h'

/-- literal patterns select by equality and bind nothing -/
theorem lit_pat_spec (F : FloatOps) (C : Cfg) (l : Lit) (v : Val) (ρ : Env) (il : Bool) :
    mPat F C true (.lit l) il (.direct (.tmp v)) ρ = (if litEq F l v then .ok ρ else .fail ρ) := by
  show (if litEq F l v = true then _ else _) = _
  cases litEq F l v <;> rfl

theorem id_always (F : FloatOps) (C : Cfg) (x : Name) (v : Val) (ρ : Env) (il : Bool) :
    mPat F C true (.id x none) il (.direct (.tmp v)) ρ = .ok (ρ.set x v) :=
  rfl

theorem wildcard_always (F : FloatOps) (C : Cfg) (a : Acc) (ρ : Env) (il : Bool) :
    mPat F C true (.wild none) il a ρ = .ok ρ :=
  rfl

/-- type-hinted patterns are checks that fall through (never an error).  On the tree the
findings were recorded on the variable is written *before* the check (F-C03-8: `x = 1; match 's'`
/ `x: Number then …` / `else x` yields `'s'`); with `requests/C03-fix-8.diff` (`typedFirst`) a
failed check leaves the registers untouched -/
theorem typed_id_checks (F : FloatOps) (C : Cfg) (x : Name) (t : Ty) (v : Val) (ρ : Env) (il : Bool) :
    mPat F C true (.id x (some t)) il (.direct (.tmp v)) ρ =
      (if tyOk t v then .ok (ρ.set x v) else .fail (if C.typedFirst then ρ else ρ.set x v)) := by
  show (if (!tyOk t v) = true then _ else _) = _
  cases tyOk t v <;> rfl

theorem typed_fail_untouched_repaired (F : FloatOps) (C : Cfg) (la il : Bool) (x : Name) (t : Ty) (v : Val)
    (ρ : Env) (hC : C.typedFirst = true) (ht : tyOk t v = false) :
    mPat F C la (.id x (some t)) il (.direct (.tmp v)) ρ = .fail ρ := by
  show (if (!tyOk t v) = true then R.fail (if C.typedFirst = true then ρ else _) else _) = _
  rw [ht, hC]; rfl

/-- on success the registers are `ρ` with the pattern's variables written, in pattern order,
and nothing else -/
theorem binds_exactly (F : FloatOps) (C : Cfg) (p : Pat) (v : Val) (ρ ρ' : Env) (il : Bool)
    (hw : wf p = true) (hv : plain v = true)
    (h : mPat F C true p il (.direct (.tmp v)) ρ = .ok ρ') :
    (∃ β, ρ' = ρ.apply β ∧ β.map Prod.fst = patVars p) ∧ ∀ y, y ∉ patVars p → ρ' y = ρ y := by
  obtain ⟨β, hd, rfl⟩ := (pat_spec F C p v ρ ρ' il hw hv).1 h
  have hn := decl_names F p v β hd
  exact ⟨⟨β, rfl, hn⟩, fun y hy => apply_frame ρ β y (by rwa [hn])⟩

/-! ## arm selection -/

/-- arm is passed over: no alternative matches, or one does and the guard is false -/
def Skips (F : FloatOps) (C : Cfg) (arm : Arm) (s : Src) (ρ ρ' : Env) : Prop :=
  arm.alts ≠ [] ∧
    (mAlts F C arm.alts s ρ = .unmatched ρ' ∨
      (mAlts F C arm.alts s ρ = .matched ρ' ∧ ∃ g, arm.guard = some g ∧ g ρ' = false))

/-- arm is taken: `else`, or some alternative matches and the guard (if any) is true -/
def Selects (F : FloatOps) (C : Cfg) (arm : Arm) (s : Src) (ρ ρ' : Env) : Prop :=
  (arm.alts = [] ∧ ρ' = ρ) ∨
    (arm.alts ≠ [] ∧ mAlts F C arm.alts s ρ = .matched ρ' ∧ ∀ g, arm.guard = some g → g ρ' = true)

def SkipsAll (F : FloatOps) (C : Cfg) : List Arm → Src → Env → Env → Prop
  | [], _, ρ, ρ' => ρ' = ρ
  | a :: as, s, ρ, ρ' => ∃ ρ₁, Skips F C a s ρ ρ₁ ∧ SkipsAll F C as s ρ₁ ρ'

theorem evalArms_skip (F : FloatOps) (C : Cfg) (arm : Arm) (arms : List Arm) (i : Nat) (s : Src) (ρ ρ₁ : Env)
    (h : Skips F C arm s ρ ρ₁) :
    (evalArms F C (arm :: arms) i s ρ).out = (evalArms F C arms (i + 1) s ρ₁).out := by
  obtain ⟨hne, h | ⟨h, g, hg, hf⟩⟩ := h
  · have := List.isEmpty_eq_false_iff.2 hne
    simp [evalArms, this, h]
  · have := List.isEmpty_eq_false_iff.2 hne
    simp [evalArms, this, h, hg, hf]

theorem evalArms_select (F : FloatOps) (C : Cfg) (arm : Arm) (arms : List Arm) (i : Nat) (s : Src) (ρ ρ' : Env)
    (h : Selects F C arm s ρ ρ') : (evalArms F C (arm :: arms) i s ρ).out = .arm i ρ' := by
  rcases h with ⟨he, rfl⟩ | ⟨hne, h, hg⟩
  · simp [evalArms, he]
  · have := List.isEmpty_eq_false_iff.2 hne
    cases hgd : arm.guard with
    | none => simp [evalArms, this, h, hgd]
    | some g => simp [evalArms, this, h, hgd, hg g hgd]

theorem evalArms_cons_out (F : FloatOps) (C : Cfg) (arm : Arm) (arms : List Arm) (i : Nat) (s : Src) (ρ : Env) :
    (∃ ρ', Selects F C arm s ρ ρ' ∧ (evalArms F C (arm :: arms) i s ρ).out = .arm i ρ') ∨
    (∃ ρ₁, Skips F C arm s ρ ρ₁ ∧
      (evalArms F C (arm :: arms) i s ρ).out = (evalArms F C arms (i + 1) s ρ₁).out) ∨
    (∃ e, (evalArms F C (arm :: arms) i s ρ).out = .err e) := by
  have sel : ∀ ρ', Selects F C arm s ρ ρ' → ∃ ρ', Selects F C arm s ρ ρ' ∧
      (evalArms F C (arm :: arms) i s ρ).out = .arm i ρ' :=
    fun ρ' h => ⟨ρ', h, evalArms_select F C arm arms i s ρ ρ' h⟩
  have skip : ∀ ρ₁, Skips F C arm s ρ ρ₁ → ∃ ρ₁, Skips F C arm s ρ ρ₁ ∧
      (evalArms F C (arm :: arms) i s ρ).out = (evalArms F C arms (i + 1) s ρ₁).out :=
    fun ρ₁ h => ⟨ρ₁, h, evalArms_skip F C arm arms i s ρ ρ₁ h⟩
  by_cases he : arm.alts = []
  · exact .inl (sel ρ (.inl ⟨he, rfl⟩))
  · cases hm : mAlts F C arm.alts s ρ with
    | err e => exact .inr (.inr ⟨e, by simp [evalArms, he, hm]⟩)
    | unmatched ρ₁ => exact .inr (.inl (skip ρ₁ ⟨he, .inl hm⟩))
    | matched ρ₁ =>
      cases hg : arm.guard with
      | none => exact .inl (sel ρ₁ (.inr ⟨he, hm, by simp [hg]⟩))
      | some g =>
        cases hgt : g ρ₁ with
        | true => exact .inl (sel ρ₁ (.inr ⟨he, hm, fun g' hg' => by cases hg.symm.trans hg'; exact hgt⟩))
        | false => exact .inr (.inl (skip ρ₁ ⟨he, .inr ⟨hm, g, hg, hgt⟩⟩))

/-- the arm that runs is the first one that has a matching alternative and a true guard, with the
bindings of that alternative -/
theorem first_match (F : FloatOps) (C : Cfg) (before : List Arm) (arm : Arm) (after : List Arm) (i : Nat)
    (s : Src) (ρ ρk ρ' : Env) (hs : SkipsAll F C before s ρ ρk) (hsel : Selects F C arm s ρk ρ') :
    (evalArms F C (before ++ arm :: after) i s ρ).out = .arm (i + before.length) ρ' := by
  induction before generalizing i ρ with
  | nil =>
    simp only [SkipsAll] at hs; subst hs
    simpa using evalArms_select F C arm after i s _ ρ' hsel
  | cons a as ih =>
    obtain ⟨ρ₁, h1, h2⟩ := hs
    rw [List.cons_append, evalArms_skip F C a _ i s ρ ρ₁ h1, ih (i + 1) ρ₁ h2]
    simp; omega

/-- conversely: whatever arm runs, every arm before it was passed over and it was selected —
so the index is the least one with (some alternative matches) ∧ (guard true) -/
theorem first_match_conv (F : FloatOps) (C : Cfg) : ∀ (arms : List Arm) (i j : Nat) (s : Src) (ρ ρ' : Env),
    (evalArms F C arms i s ρ).out = .arm j ρ' →
    ∃ before arm after ρk, arms = before ++ arm :: after ∧ j = i + before.length ∧
      SkipsAll F C before s ρ ρk ∧ Selects F C arm s ρk ρ'
  | [], i, j, s, ρ, ρ', h => by simp [evalArms] at h
  | arm :: arms, i, j, s, ρ, ρ', h => by
    rcases evalArms_cons_out F C arm arms i s ρ with ⟨ρ₁, hsel, e⟩ | ⟨ρ₁, hsk, e⟩ | ⟨er, e⟩ <;> rw [e] at h
    · cases h
      exact ⟨[], arm, arms, ρ, rfl, rfl, rfl, hsel⟩
    · obtain ⟨before, arm', after, ρk, rfl, rfl, hs, hsel⟩ := first_match_conv F C arms (i + 1) j s ρ₁ ρ' h
      exact ⟨arm :: before, arm', after, ρk, rfl, by simp; omega, ⟨ρ₁, hsk, hs⟩, hsel⟩
    · cases h

/-- no arm matches ⇒ the match yields Null (`Out.none`), and only then -/
theorem no_match_null (F : FloatOps) (C : Cfg) : ∀ (arms : List Arm) (i : Nat) (s : Src) (ρ ρ' : Env),
    (evalArms F C arms i s ρ).out = .none ρ' ↔ SkipsAll F C arms s ρ ρ'
  | [], i, s, ρ, ρ' => by simp [evalArms, SkipsAll, eq_comm]
  | arm :: arms, i, s, ρ, ρ' => by
    constructor
    · intro h
      rcases evalArms_cons_out F C arm arms i s ρ with ⟨ρ₁, _, e⟩ | ⟨ρ₁, hsk, e⟩ | ⟨er, e⟩ <;> rw [e] at h
      · cases h
      · exact ⟨ρ₁, hsk, (no_match_null F C arms (i + 1) s ρ₁ ρ').1 h⟩
      · cases h
    · rintro ⟨ρ₁, hsk, hs⟩
      rw [evalArms_skip F C arm arms i s ρ ρ₁ hsk]
      exact (no_match_null F C arms (i + 1) s ρ₁ ρ').2 hs

theorem skipsAll_append (F : FloatOps) (C : Cfg) : ∀ (as bs : List Arm) (s : Src) (ρ ρ₁ ρ₂ : Env),
    SkipsAll F C as s ρ ρ₁ → SkipsAll F C bs s ρ₁ ρ₂ → SkipsAll F C (as ++ bs) s ρ ρ₂
  | [], bs, s, ρ, ρ₁, ρ₂, h1, h2 => by simp only [SkipsAll] at h1; subst h1; simpa using h2
  | a :: as, bs, s, ρ, ρ₁, ρ₂, ⟨ρ', ha, has⟩, h2 =>
    ⟨ρ', ha, skipsAll_append F C as bs s ρ' ρ₁ ρ₂ has h2⟩

/-- a guarded wildcard is not an `else`: when every earlier arm is passed over and the last arm is
`_ if g` (or `x if g`, which binds first) with a false guard, *no* arm runs and the match yields
Null — whatever the result register held before (`x = 10; x = match x` / `1 then …` /
`_ if x > 100 then …` is null, not 10) -/
theorem guarded_wildcard_is_not_else (F : FloatOps) (C : Cfg) (before : List Arm) (g : Env → Bool) (i : Nat)
    (s : Src) (ρ ρk : Env) (hs : SkipsAll F C before s ρ ρk) (hg : g ρk = false) :
    (evalArms F C (before ++ [⟨[.one (.wild none)], some g⟩]) i s ρ).out = .none ρk := by
  rw [no_match_null]
  exact skipsAll_append F C before _ s ρ ρk ρk hs ⟨ρk, ⟨by simp, Or.inr ⟨rfl, g, rfl, hg⟩⟩, rfl⟩

theorem guarded_id_is_not_else (F : FloatOps) (C : Cfg) (before : List Arm) (x : Name) (g : Env → Bool) (i : Nat)
    (v : Val) (ρ ρk : Env) (hs : SkipsAll F C before (.tmp v) ρ ρk) (hg : g (ρk.set x v) = false) :
    (evalArms F C (before ++ [⟨[.one (.id x none)], some g⟩]) i (.tmp v) ρ).out = .none (ρk.set x v) := by
  rw [no_match_null]
  exact skipsAll_append F C before _ (.tmp v) ρ ρk _ hs ⟨ρk.set x v, ⟨by simp, Or.inr ⟨rfl, g, rfl, hg⟩⟩, rfl⟩

theorem evalArms_no_subj (F : FloatOps) (C : Cfg) : ∀ (arms : List Arm) (i : Nat) (s : Src) (ρ : Env),
    Ev.subj ∉ (evalArms F C arms i s ρ).trace
  | [], _, _, _ => by simp [evalArms]
  | arm :: arms, i, s, ρ => by
    simp only [evalArms]
    split
    · simp
    · split
      · simp
      · exact evalArms_no_subj F C arms (i + 1) s _
      · split
        · simp
        · split
          · simp
          · simp only [List.mem_cons, reduceCtorEq, false_or]
            exact evalArms_no_subj F C arms (i + 1) s _

/-- the subject expression is evaluated exactly once, before any guard or body -/
theorem subject_once (F : FloatOps) (C : Cfg) (v : Val) (arms : List Arm) (ρ : Env) :
    (evalMatch F C (.expr v) arms ρ).trace.count .subj = 1 ∧
      (evalMatch F C (.expr v) arms ρ).trace.head? = some .subj := by
  have h := evalArms_no_subj F C arms 0 (.tmp v) ρ
  simp [evalMatch, List.count_eq_zero.mpr h]

/-! ## a bare local as subject (`match x`) -/

/-- `compile_match` matches a private copy of a local (`subjectCopied`, /repo 65de4a1): matching
the local `x` is matching its value held in a temporary, so every theorem of this file
(`pat_spec`, `nonlast_alt_spec_partial`, `first_match`, `binds_exactly`, …) applies to `match x`
verbatim — also when patterns bind `x` itself, at any position -/
theorem match_local_is_match_value (F : FloatOps) (C : Cfg) (x : Name) (arms : List Arm) (ρ : Env)
    (hC : C.subjectCopied = true) :
    evalMatch F C (.var x) arms ρ = evalArms F C arms 0 (.tmp (ρ x)) ρ := by
  simp [evalMatch, hC]

/-- in particular: an arm whose pattern may bind the subject's own name runs exactly when the
pattern matches the value the local held *before* the match, with exactly the declared bindings -/
theorem match_local_same_id_spec (F : FloatOps) (C : Cfg) (x : Name) (p : Pat) (ρ : Env) (β : Writes)
    (hC : C.subjectCopied = true) (hw : wf p = true) (hv : plain (ρ x) = true)
    (hd : Decl F p (ρ x) β) :
    (evalMatch F C (.var x) [⟨[.one p], none⟩] ρ).out = .arm 0 (ρ.apply β) := by
  rw [match_local_is_match_value F C x _ ρ hC]
  have := (pat_spec F C p (ρ x) ρ (ρ.apply β) true hw hv).2 ⟨β, hd, rfl⟩
  simp [evalArms, mAlts, mAlt, this]

/-! ## deviations from the guide: shapes (for all inputs) and witnesses -/

/-- F-C03-1 (the recorded tree, `sizeNullJumps = false`): *every* parenthesised pattern with an
ellipsis (any fixed parts, anonymous or named, last or non-last alternative) raises on *every*
value without a size -/
theorem ellipsis_on_unsized_raises (F : FloatOps) (C : Cfg) (la il : Bool) (pre post : List Pat) (r : Option Name)
    (v : Val) (ρ : Env) (hC : C.sizeNullJumps = false) (hshape : pre = [] ∨ post = []) (hv : vmSize v = none) :
    mPat F C la (.seq pre (some r) post) il (.direct (.tmp v)) ρ = .err .geNull := by
  rcases hshape with rfl | rfl <;> simp [mPat, container, Src.rd, sizeCheck, hv, restCount, hC]

/-- …and with the repair `requests/C03-fix-1.diff` (`sizeNullJumps = true`) the same patterns fall
through on the same values, writing nothing -/
theorem ellipsis_on_unsized_falls_through_repaired (F : FloatOps) (C : Cfg) (la il : Bool) (pre post : List Pat)
    (r : Option Name) (v : Val) (ρ : Env) (hC : C.sizeNullJumps = true) (hshape : pre = [] ∨ post = [])
    (hv : vmSize v = none) :
    mPat F C la (.seq pre (some r) post) il (.direct (.tmp v)) ρ = .fail ρ := by
  rcases hshape with rfl | rfl <;> simp [mPat, container, Src.rd, sizeCheck, hv, restCount, hC]

/-- …whereas without an ellipsis the same value falls through, as documented -/
theorem exact_on_unsized_falls_through (F : FloatOps) (C : Cfg) (la il : Bool) (pre : List Pat) (v : Val) (ρ : Env)
    (hpre : pre ≠ []) (hv : vmSize v = none) :
    mPat F C la (.seq pre none []) il (.direct (.tmp v)) ρ = .fail ρ := by
  rw [mPat_exact F la il pre _ ρ (.tmp v) hpre rfl]
  simp [Src.rd, sizeCheck, hv, sized]

/-- F-C03-4 (recorded tree): a map pattern with at least one key raises on null and on booleans -/
theorem map_on_null_raises (F : FloatOps) (C : Cfg) (la il : Bool) (e : Ent) (es : List Ent) (ρ : Env)
    (hC : C.accessFalls = false) :
    mPat F C la (.map (e :: es) none) il (.direct (.tmp .null)) ρ = .err .access ∧
    ∀ b, mPat F C la (.map (e :: es) none) il (.direct (.tmp (.bool b))) ρ = .err .access := by
  cases hA : C.mapAtomic <;> simp [mPat, container, Src.rd, tyFail, mEnts, mEntsSeq, collectEnts, tryAccess, hC, hA]

/-- with `requests/C03-fix-4.diff` it falls through -/
theorem map_on_null_falls_through_repaired (F : FloatOps) (C : Cfg) (la il : Bool) (e : Ent) (es : List Ent)
    (ρ : Env) (hC : C.accessFalls = true) :
    mPat F C la (.map (e :: es) none) il (.direct (.tmp .null)) ρ = .fail ρ ∧
    ∀ b, mPat F C la (.map (e :: es) none) il (.direct (.tmp (.bool b))) ρ = .fail ρ := by
  cases hA : C.mapAtomic <;> simp [mPat, container, Src.rd, tyFail, mEnts, mEntsSeq, collectEnts, tryAccess, hC, hA]

/-- F-C03-5 (recorded tree): `(rest...)` on any bounded range raises (Size and TempIndex accept
ranges, SliceFrom does not) while `(...)` matches it -/
theorem named_rest_on_range_raises (F : FloatOps) (C : Cfg) (il : Bool) (a e : Int64) (incl : Bool) (x : Name)
    (ρ : Env) (hC : C.rangeSlices = false) :
    mPat F C true (.seq [] (some (some x)) []) il (.direct (.tmp (.range (some a) (some (e, incl))))) ρ = .err .slice ∧
    mPat F C true (.seq [] (some none) []) il (.direct (.tmp (.range (some a) (some (e, incl))))) ρ = .ok ρ := by
  constructor <;> simp [mPat, container, Src.rd, sizeCheck, vmSize, restCount, mPats, sliceFrom, hC]

/-- with `requests/C03-fix-5.diff` it never raises: `(rest...)` binds a range -/
theorem named_rest_on_range_binds_repaired (F : FloatOps) (C : Cfg) (il : Bool) (a e : Int64) (incl : Bool)
    (x : Name) (ρ : Env) (hC : C.rangeSlices = true) :
    mPat F C true (.seq [] (some (some x)) []) il (.direct (.tmp (.range (some a) (some (e, incl))))) ρ
      = .ok (ρ.set x (mkRange (rangeBounds a e incl).1 (rangeBounds a e incl).2)) := by
  simp [mPat, container, Src.rd, sizeCheck, vmSize, restCount, mPats, sliceFrom, hC, sidx]

/-- "no match ⇒ next arm", given that the run raised no error (on `plain` values the errors are those
of F-C03-1 and F-C03-4: `pattern_never_raises`) -/
theorem no_match_falls_through_partial (F : FloatOps) (C : Cfg) (p : Pat) (v : Val) (ρ : Env) (il : Bool)
    (hw : wf p = true) (hv : plain v = true)
    (hnoerr : ∀ e, mPat F C true p il (.direct (.tmp v)) ρ ≠ .err e) :
    (∃ ρ', mPat F C true p il (.direct (.tmp v)) ρ = .fail ρ') ↔ ¬ ∃ β, Decl F p v β := by
  have sp := mPat_sound (C := C) F p true il hw rfl (.direct (.tmp v)) ρ v (.inl rfl) hv
  constructor
  · rintro ⟨ρ', h⟩ ⟨β, hd⟩
    rw [sp.hits β hd] at h; cases h
  · intro hno
    have hm := sp.misses hno
    cases hr : mPat F C true p il (.direct (.tmp v)) ρ with
    | fail ρ1 => exact ⟨ρ1, rfl⟩
    | err e => exact absurd hr (hnoerr e)
    | _ => rw [hr] at hm; cases hm

/-- Alternatives other than the last one signal success by the jump to `match_end` (`R.done`).
On every well-formed pattern that is `earlyFree` — no non-empty parenthesised pattern stands in a
non-last position of another one — this is again exactly the declarative definition, for any
nesting.  The hypothesis excludes precisely the shape of F-C03-3 (witness below), hence `_partial`. -/
theorem nonlast_alt_spec_partial (F : FloatOps) (C : Cfg) (p : Pat) (v : Val) (ρ ρ' : Env)
    (hw : wf p = true) (he : earlyFree p = true) (hv : plain v = true) :
    mPat F C false p true (.direct (.tmp v)) ρ = .done ρ' ↔ ∃ β, Decl F p v β ∧ ρ' = ρ.apply β :=
  (mPat_sound (C := C) F p false true hw (by simp [okAt, he]) (.direct (.tmp v)) ρ v (.inl rfl) hv).hit_iff ρ'

/-- the same without any side condition for patterns that are not parenthesised -/
theorem nonlast_alt_flat_spec (F : FloatOps) (C : Cfg) (p : Pat) (v : Val) (ρ ρ' : Env)
    (hflat : notSeq p = true) (hv : plain v = true) :
    mPat F C false p true (.direct (.tmp v)) ρ = .done ρ' ↔ ∃ β, Decl F p v β ∧ ρ' = ρ.apply β := by
  cases p with
  | seq pre rest post => simp [notSeq] at hflat
  | _ => exact nonlast_alt_spec_partial F C _ v ρ ρ' rfl rfl hv

/-- an alternative that matches wins over the alternatives after it, with exactly its bindings -/
theorem first_alt_wins_partial (F : FloatOps) (C : Cfg) (p : Pat) (alts : List Alt) (v : Val) (ρ : Env) (β : Writes)
    (hw : wf p = true) (he : earlyFree p = true) (hv : plain v = true) (hd : Decl F p v β) :
    mAlts F C (.one p :: alts) (.tmp v) ρ = .matched (ρ.apply β) := by
  have h := mPat_sound (C := C) F p alts.isEmpty true hw (by simp [okAt, he]) (.direct (.tmp v)) ρ v (.inl rfl) hv
  rw [mAlts_step, mAlt, h.hits β hd]
  cases alts <;> rfl

/-! ## map patterns bind all-or-nothing (/repo 3d805f4) -/

/-- a map pattern that does not match — whatever the reason: the map's type hint, a missing key
(first, middle or last entry), an entry's failed type check — leaves *every* register untouched;
in any alternative, at any position, with the subject in a register or a temporary -/
theorem map_pattern_atomic (F : FloatOps) (C : Cfg) (la il : Bool) (es : List Ent) (ty : Option Ty) (a : Acc)
    (ρ ρ' : Env) (hC : C.mapAtomic = true) (h : mPat F C la (.map es ty) il a ρ = .fail ρ') : ρ' = ρ := by
  simp only [mPat] at h
  cases hc : container ρ a with
  | error e => rw [hc] at h; cases h
  | ok s =>
    rw [hc] at h
    simp only at h
    split at h
    · cases h; rfl
    · simp only [mEnts, hC, if_true] at h
      cases hcol : collectEnts C es (s.rd ρ) with
      | error er => rw [hcol] at h; cases h
      | ok o =>
        cases o with
        | none => rw [hcol] at h; cases h; rfl
        | some β => rw [hcol] at h; simp only at h; unfold fin at h; split at h <;> cases h

/-- … and one that matches writes exactly the named entries, in entry order, in one go -/
theorem map_pattern_commits (F : FloatOps) (C : Cfg) (es : List Ent) (v : Val) (ρ : Env) (β : Writes)
    (hd : DeclEnts es v β) : mEnts C es (.tmp v) ρ = .ok (ρ.apply β) :=
  (mEnts_sound (C := C) es v ρ).hits β hd

/-! ## frame: what a pattern — matching or failing — can write -/

/-- Whatever the outcome (match, jump to the guard, *failure*), in any alternative, at any access
path, with the subject in a register or a temporary: the registers afterwards differ from the
registers before only on the pattern's own variables.  (A failed alternative may leave *some* of
them written — `failed_alt_writes_witness` — but never anything else.) -/
theorem pattern_frame (F : FloatOps) (C : Cfg) (p : Pat) (la il : Bool) (a : Acc) (ρ ρ' : Env)
    (h : mPat F C la p il a ρ = .ok ρ' ∨ mPat F C la p il a ρ = .done ρ' ∨ mPat F C la p il a ρ = .fail ρ') :
    ∀ y, y ∉ patVars p → ρ' y = ρ y := by
  have hf := frame_pat (C := C) F p la il a ρ
  rcases h with h | h | h <;> (rw [h] at hf; exact hf)

theorem failed_pattern_frame (F : FloatOps) (C : Cfg) (p : Pat) (la il : Bool) (a : Acc) (ρ ρ' : Env)
    (h : mPat F C la p il a ρ = .fail ρ') : ∀ y, y ∉ patVars p → ρ' y = ρ y :=
  pattern_frame F C p la il a ρ ρ' (Or.inr (Or.inr h))

def altsVars : List Alt → List Name
  | [] => []
  | a :: as => altVars a ++ altsVars as

theorem frame_alts (F : FloatOps) (C : Cfg) (s : Src) : ∀ (alts : List Alt) (ρ : Env),
    WithinA (altsVars alts) ρ (mAlts F C alts s ρ)
  | [], ρ => Agree.refl _ ρ
  | a :: rest, ρ => by
    have hf := (frame_alt F C rest.isEmpty a s ρ).mono (ys := altsVars (a :: rest)) (by intro x hx; simp [altsVars, hx])
    have next : ∀ ρ1, Agree (altsVars (a :: rest)) ρ ρ1 → WithinA (altsVars (a :: rest)) ρ (mAlts F C rest s ρ1) :=
      fun ρ1 h1 => .trans h1 ((frame_alts F C s rest ρ1).mono (by intro x hx; simp [altsVars, hx]))
    rw [mAlts_step]
    cases hr : mAlt F C rest.isEmpty a s ρ <;> rw [hr] at hf <;> dsimp only
    · split
      · exact hf
      · exact next _ hf
    · exact hf
    · exact next _ hf
    · trivial

/-- the alternatives of an arm, matched or not, write only variables of that arm's patterns -/
theorem arm_frame (F : FloatOps) (C : Cfg) : ∀ (alts : List Alt) (s : Src) (ρ ρ' : Env),
    (mAlts F C alts s ρ = .matched ρ' ∨ mAlts F C alts s ρ = .unmatched ρ') →
    ∀ y, y ∉ altsVars alts → ρ' y = ρ y := by
  intro alts s ρ ρ' h
  have hf := frame_alts F C s alts ρ
  rcases h with h | h <;> (rw [h] at hf; exact hf)

/-! ## every alternative of an arm, at full strength (the repaired code)

`nestedLast` = /repo 075f64d (F-C03-3), `Safe` = `sizeNullJumps` (7886e40, F-C03-1) ∧ `accessFalls`
(1750a1b, F-C03-4). -/

/-- `nonlast_alt_spec_partial` without `earlyFree`: **any** alternative other than the last one, **any**
well-formed pattern (parenthesised patterns at every position, any nesting) -/
theorem nonlast_alt_spec (F : FloatOps) (C : Cfg) (p : Pat) (v : Val) (ρ ρ' : Env)
    (hC : C.nestedLast = true) (hw : wf p = true) (hv : plain v = true) :
    mPat F C false p true (.direct (.tmp v)) ρ = .done ρ' ↔ ∃ β, Decl F p v β ∧ ρ' = ρ.apply β :=
  (mPat_sound (C := C) F p false true hw (by simp [okAt, hC]) (.direct (.tmp v)) ρ v (.inl rfl) hv).hit_iff ρ'

/-- pattern code never raises on plain data: "no match" always means "try the next arm" -/
theorem pattern_never_raises (F : FloatOps) (C : Cfg) (p : Pat) (v : Val) (ρ : Env) (la il : Bool) (e : Err)
    (hS : Safe C) (hw : wf p = true) (hv : plain v = true) :
    mPat F C la p il (.direct (.tmp v)) ρ ≠ .err e :=
  (noErr_pat F hS p hw la il (.direct (.tmp v)) ρ v (.inl rfl) hv).ne e

/-- `no_match_falls_through_partial` without its hypothesis -/
theorem no_match_falls_through (F : FloatOps) (C : Cfg) (p : Pat) (v : Val) (ρ : Env) (il : Bool)
    (hS : Safe C) (hw : wf p = true) (hv : plain v = true) :
    (∃ ρ', mPat F C true p il (.direct (.tmp v)) ρ = .fail ρ') ↔ ¬ ∃ β, Decl F p v β :=
  no_match_falls_through_partial F C p v ρ il hw hv
    (fun e => pattern_never_raises F C p v ρ true il e hS hw hv)

/-- One step through the alternatives of an arm, in any position: an alternative that matches
declaratively ends them with exactly its bindings; any other hands over to the alternatives after it (the
end of the arm, when there is none), having touched at most its own variables. -/
theorem mAlts_cons (F : FloatOps) (C : Cfg) (hC : C.nestedLast = true) (hS : Safe C) (a : Alt) (rest : List Alt)
    (v : Val) (ρ : Env) (hw : WfAlt a v) (hv : plain v = true) :
    (∀ β, DeclAlt F a v β → mAlts F C (a :: rest) (.tmp v) ρ = .matched (ρ.apply β)) ∧
    ((¬ ∃ β, DeclAlt F a v β) → ∃ ρ₁, Agree (altVars a) ρ ρ₁ ∧
      mAlts F C (a :: rest) (.tmp v) ρ = mAlts F C rest (.tmp v) ρ₁) := by
  have h := mAlt_sound (C := C) F rest.isEmpty a v ρ (by simp [hC]) hw hv
  rw [mAlts_step]
  constructor
  · intro β hβ
    rw [h.hits β hβ]
    cases rest <;> rfl
  · intro hd
    have hm := h.misses hd
    have hf := frame_alt F C rest.isEmpty a (.tmp v) ρ
    have hne := mAlt_noerr F hS rest.isEmpty a v ρ hw hv
    cases hr : mAlt F C rest.isEmpty a (.tmp v) ρ <;> rw [hr] at hm hf hne
    · exact ⟨_, hf, by simp only [Miss, Bool.not_eq_true'] at hm; simp [hm]⟩
    · cases hm
    · exact ⟨_, hf, rfl⟩
    · cases hne

theorem agree_step {b : Alt} {bs : List Alt} {ρ ρ₁ ρk : Env} (h1 : Agree (altVars b) ρ ρ₁)
    (h2 : Agree (altsVars bs) ρ₁ ρk) : Agree (altsVars (b :: bs)) ρ ρk :=
  Agree.trans (h1.mono (by intro x hx; simp [altsVars, hx])) (h2.mono (by intro x hx; simp [altsVars, hx]))

/-- **the first alternative that matches wins, wherever it stands**; its bindings are written on top of
registers `ρk` that differ from the initial ones at most on variables of the earlier, failed
alternatives (F-C03-11) -/
theorem first_alt_wins (F : FloatOps) (C : Cfg) (hC : C.nestedLast = true) (hS : Safe C) :
    ∀ (before : List Alt) (a : Alt) (after : List Alt) (v : Val) (ρ : Env) (β : Writes),
    (∀ x, x ∈ before ++ a :: after → WfAlt x v) → plain v = true →
    (∀ b, b ∈ before → ¬ ∃ β, DeclAlt F b v β) → DeclAlt F a v β →
    ∃ ρk, Agree (altsVars before) ρ ρk ∧
      mAlts F C (before ++ a :: after) (.tmp v) ρ = .matched (ρk.apply β)
  | [], a, after, v, ρ, β, hw, hv, _, hd =>
    ⟨ρ, Agree.refl _ _, (mAlts_cons F C hC hS a after v ρ (hw a (by simp)) hv).1 β hd⟩
  | b :: bs, a, after, v, ρ, β, hw, hv, hno, hd => by
    obtain ⟨ρ₁, hag, e⟩ := (mAlts_cons F C hC hS b (bs ++ a :: after) v ρ (hw b (by simp)) hv).2 (hno b (by simp))
    obtain ⟨ρk, hagk, hm⟩ := first_alt_wins F C hC hS bs a after v ρ₁ β
      (fun x hx => hw x (by simp at hx ⊢; right; exact hx)) hv (fun x hx => hno x (by simp [hx])) hd
    exact ⟨ρk, agree_step hag hagk, by rw [List.cons_append, e, hm]⟩

/-- conversely: when the arm's patterns succeed, the bindings are those of the **first**
alternative that matches declaratively -/
theorem matched_is_first_alt (F : FloatOps) (C : Cfg) (hC : C.nestedLast = true) (hS : Safe C) :
    ∀ (alts : List Alt) (v : Val) (ρ ρ' : Env), (∀ x, x ∈ alts → WfAlt x v) → plain v = true →
    mAlts F C alts (.tmp v) ρ = .matched ρ' →
    ∃ before a after β ρk, alts = before ++ a :: after ∧ (∀ b, b ∈ before → ¬ ∃ β, DeclAlt F b v β) ∧
      DeclAlt F a v β ∧ Agree (altsVars before) ρ ρk ∧ ρ' = ρk.apply β
  | [], v, ρ, ρ', _, _, h => by simp [mAlts] at h
  | a :: rest, v, ρ, ρ', hw, hv, h => by
    have step := mAlts_cons F C hC hS a rest v ρ (hw a (by simp)) hv
    by_cases hd : ∃ β, DeclAlt F a v β
    · obtain ⟨β, hβ⟩ := hd
      rw [step.1 β hβ] at h
      cases h
      exact ⟨[], a, rest, β, ρ, rfl, by simp, hβ, Agree.refl _ _, rfl⟩
    · obtain ⟨ρ₁, hag, e⟩ := step.2 hd
      obtain ⟨before, a', after, β, ρk, heq, hnb, hd', hagk, hρ⟩ :=
        matched_is_first_alt F C hC hS rest v ρ₁ ρ' (fun x hx => hw x (List.mem_cons_of_mem _ hx)) hv (e ▸ h)
      exact ⟨a :: before, a', after, β, ρk, by simp [heq], List.forall_mem_cons.2 ⟨hd, hnb⟩, hd',
        agree_step hag hagk, hρ⟩

/-- the arm's patterns fail as a whole exactly when no alternative matches -/
theorem unmatched_iff_no_alt (F : FloatOps) (C : Cfg) (hC : C.nestedLast = true) (hS : Safe C) :
    ∀ (alts : List Alt) (v : Val) (ρ : Env), (∀ x, x ∈ alts → WfAlt x v) → plain v = true →
    ((∃ ρ', mAlts F C alts (.tmp v) ρ = .unmatched ρ') ↔ ∀ a, a ∈ alts → ¬ ∃ β, DeclAlt F a v β)
  | [], v, ρ, _, _ => by simp [mAlts]
  | a :: rest, v, ρ, hw, hv => by
    have step := mAlts_cons F C hC hS a rest v ρ (hw a (by simp)) hv
    rw [List.forall_mem_cons]
    by_cases hd : ∃ β, DeclAlt F a v β
    · obtain ⟨β, hβ⟩ := hd
      simp only [step.1 β hβ, reduceCtorEq, exists_false, false_iff]
      exact fun h => h.1 ⟨β, hβ⟩
    · obtain ⟨ρ₁, _, e⟩ := step.2 hd
      rw [e, unmatched_iff_no_alt F C hC hS rest v ρ₁ (fun x hx => hw x (List.mem_cons_of_mem _ hx)) hv]
      exact ⟨fun h => ⟨hd, h⟩, fun h => h.2⟩

/-- guards: an arm (not `else`) is taken exactly on the first matching alternative's bindings
with a true guard … -/
theorem selects_decl (F : FloatOps) (C : Cfg) (hC : C.nestedLast = true) (hS : Safe C) (arm : Arm) (v : Val)
    (ρ ρ' : Env) (hne : arm.alts ≠ []) (hw : ∀ x, x ∈ arm.alts → WfAlt x v) (hv : plain v = true)
    (h : Selects F C arm (.tmp v) ρ ρ') :
    ∃ before a after β ρk, arm.alts = before ++ a :: after ∧ (∀ b, b ∈ before → ¬ ∃ β, DeclAlt F b v β) ∧
      DeclAlt F a v β ∧ Agree (altsVars before) ρ ρk ∧ ρ' = ρk.apply β ∧
      ∀ g, arm.guard = some g → g ρ' = true := by
  rcases h with ⟨he, _⟩ | ⟨_, hm, hg⟩
  · exact absurd he hne
  · obtain ⟨before, a, after, β, ρk, heq, hnb, hd, hag, hρ⟩ :=
      matched_is_first_alt F C hC hS arm.alts v ρ ρ' hw hv hm
    exact ⟨before, a, after, β, ρk, heq, hnb, hd, hag, hρ, hg⟩

/-- … and passed over exactly when no alternative matches, or the first matching alternative's
bindings make the guard false -/
theorem skips_decl (F : FloatOps) (C : Cfg) (hC : C.nestedLast = true) (hS : Safe C) (arm : Arm) (v : Val)
    (ρ ρ' : Env) (hw : ∀ x, x ∈ arm.alts → WfAlt x v) (hv : plain v = true)
    (h : Skips F C arm (.tmp v) ρ ρ') :
    (∀ a, a ∈ arm.alts → ¬ ∃ β, DeclAlt F a v β) ∨
    (∃ before a after β ρk g, arm.alts = before ++ a :: after ∧ (∀ b, b ∈ before → ¬ ∃ β, DeclAlt F b v β) ∧
      DeclAlt F a v β ∧ Agree (altsVars before) ρ ρk ∧ ρ' = ρk.apply β ∧ arm.guard = some g ∧ g ρ' = false) := by
  obtain ⟨_, hm | ⟨hm, g, hg, hf⟩⟩ := h
  · exact Or.inl ((unmatched_iff_no_alt F C hC hS arm.alts v ρ hw hv).1 ⟨ρ', hm⟩)
  · obtain ⟨before, a, after, β, ρk, heq, hnb, hd, hag, hρ⟩ :=
      matched_is_first_alt F C hC hS arm.alts v ρ ρ' hw hv hm
    exact Or.inr ⟨before, a, after, β, ρk, g, heq, hnb, hd, hag, hρ, hg, hf⟩

/-- an arm whose first matching alternative has a true guard (for the registers that alternative
produces) is taken -/
theorem arm_taken (F : FloatOps) (C : Cfg) (hC : C.nestedLast = true) (hS : Safe C) (arm : Arm)
    (before : List Alt) (a : Alt) (after : List Alt) (v : Val) (ρ : Env) (β : Writes)
    (heq : arm.alts = before ++ a :: after) (hw : ∀ x, x ∈ arm.alts → WfAlt x v) (hv : plain v = true)
    (hno : ∀ b, b ∈ before → ¬ ∃ β, DeclAlt F b v β) (hd : DeclAlt F a v β)
    (hg : ∀ ρk g, arm.guard = some g → Agree (altsVars before) ρ ρk → g (ρk.apply β) = true) :
    ∃ ρk, Agree (altsVars before) ρ ρk ∧ Selects F C arm (.tmp v) ρ (ρk.apply β) := by
  obtain ⟨ρk, hag, hm⟩ := first_alt_wins F C hC hS before a after v ρ β (by rw [← heq]; exact hw) hv hno hd
  refine ⟨ρk, hag, Or.inr ⟨by rw [heq]; simp, by rw [heq]; exact hm, fun g hgs => hg ρk g hgs hag⟩⟩

/-! non-vacuity of the full-strength statements: the repaired configuration satisfies the
hypotheses, and they cover the very pattern of F-C03-3 (which is not `earlyFree`) -/
example : Cfg.repaired.nestedLast = true ∧ Safe Cfg.repaired := ⟨rfl, rfl, rfl⟩
example : wf (.seq [.seq [.lit (.num (.i 1)), .lit (.num (.i 2))] none [], .lit (.num (.i 4))] none []) = true ∧
    earlyFree (.seq [.seq [.lit (.num (.i 1)), .lit (.num (.i 2))] none [], .lit (.num (.i 4))] none []) = false := by
  decide
example : WfAlt (.many [.id 0 none, .wild none]) (.tuple [.null, .null]) :=
  ⟨rfl, by simp, [.null, .null], rfl, rfl⟩
example : WfAlt (.one (.id 0 none)) .null := rfl

/-! ### concrete witnesses (replayed on the implementation by the harness) -/

/-- a float implementation for closed evaluation (never consulted by the witnesses below) -/
def F0 : FloatOps where
  add a _ := a
  sub a _ := a
  mul a _ := a
  div a _ := a
  rem a _ := a
  pow a _ := a
  neg a := a
  lt _ _ := false
  le _ _ := false
  eq a b := a == b
  ofInt n := n.toUInt64
  toInt b := b.toInt64
  isNaN _ := false

def U : Val := .str [85]
def ρ0 : Env := fun _ => U
def n (i : Int) : Val := Val.int i
def ln (i : Int) : Pat := .lit (.num (.i (Int64.ofInt i)))

def isErr (e : Err) : Out → Bool
  | .err e' => e == e'
  | _ => false
def isArm (i : Nat) : Out → Bool
  | .arm j _ => i == j
  | _ => false
def isNone : Out → Bool
  | .none _ => true
  | _ => false
def outEnv : Out → Env
  | .arm _ ρ => ρ
  | .none ρ => ρ
  | .err _ => ρ0
def isInt (i : Int) : Val → Bool
  | .num (.i k) => k == Int64.ofInt i
  | _ => false
def isStr (bs : List Nat) : Val → Bool
  | .str cs => cs == bs
  | _ => false
def isNullV : Val → Bool
  | .null => true
  | _ => false
def isU : Val → Bool
  | .str [85] => true
  | _ => false

/-- F-C03-1: `match 1` / `(a, rest...) then …` / `else …` raises; the guide's answer is the else arm -/
theorem ellipsis_on_number_witness :
    isErr .geNull (evalMatch F0 Cfg.recorded (.expr (n 1))
      [⟨[.one (.seq [.id 0 none] (some (some 1)) [])], none⟩, ⟨[], none⟩] ρ0).out = true ∧
    ¬ ∃ β, Decl F0 (.seq [.id 0 none] (some (some 1)) []) (n 1) β := by
  refine ⟨by decide, ?_⟩
  rintro ⟨β, h⟩
  simp [Decl, n, Val.int, view] at h

/-- F-C03-2, repaired in /repo 65de4a1 (`subjectCopied`): `x = (1, 2); match x` / `(x, y) then …`
runs the arm with `x = 1`, `y = 2` (before the repair the first write destroyed the subject and the
second element was read from the number 1) -/
theorem match_local_same_id_witness :
    let r := evalMatch F0 { Cfg.recorded with subjectCopied := true } (.var 9)
      [⟨[.one (.seq [.id 9 none, .id 1 none] none [])], none⟩] (ρ0.set 9 (.tuple [n 1, n 2]))
    isArm 0 r.out = true ∧ isInt 1 (outEnv r.out 9) = true ∧ isInt 2 (outEnv r.out 1) = true := by
  decide

/-- F-C03-3: `match ((1, 2), 3)` / `((1, 2), 4) or 5 then …` / `else …` takes arm 0 although 3 ≠ 4;
as the only (last) alternative the same pattern correctly falls to `else` -/
theorem nonlast_alt_early_exit_witness :
    isArm 0 (evalMatch F0 Cfg.recorded (.expr (.tuple [.tuple [n 1, n 2], n 3]))
      [⟨[.one (.seq [.seq [ln 1, ln 2] none [], ln 4] none []), .one (ln 5)], none⟩, ⟨[], none⟩] ρ0).out = true ∧
    isArm 1 (evalMatch F0 Cfg.recorded (.expr (.tuple [.tuple [n 1, n 2], n 3]))
      [⟨[.one (.seq [.seq [ln 1, ln 2] none [], ln 4] none [])], none⟩, ⟨[], none⟩] ρ0).out = true := by
  constructor <;> decide

/-- with `requests/C03-fix-3.diff` (`nestedLast`) the same match falls to `else`, and
`((1, 2), x) or 5` against `((1, 2), 7)` binds `x` -/
theorem nonlast_alt_repaired_witness :
    isArm 1 (evalMatch F0 Cfg.repaired (.expr (.tuple [.tuple [n 1, n 2], n 3]))
      [⟨[.one (.seq [.seq [ln 1, ln 2] none [], ln 4] none []), .one (ln 5)], none⟩, ⟨[], none⟩] ρ0).out = true ∧
    (let r := evalMatch F0 Cfg.repaired (.expr (.tuple [.tuple [n 1, n 2], n 7]))
      [⟨[.one (.seq [.seq [ln 1, ln 2] none [], .id 0 none] none []), .one (ln 5)], none⟩, ⟨[], none⟩] ρ0
     isArm 0 r.out = true ∧ isInt 7 (outEnv r.out 0) = true) := by
  constructor <;> decide

/-- the map-pattern variant of F-C03-11, repaired by 3d805f4: `x = 'orig'; match {x: 1}` /
`{x, y} then …` / `else x` — the else arm runs with `x` untouched (before: `x = 1`, first entry
written, second entry missing) -/
theorem map_pattern_atomic_witness :
    (let r := evalMatch F0 Cfg.repaired (.expr (.map [(.str [120], n 1)]))
        [⟨[.one (.map [⟨[120], some 0, none⟩, ⟨[121], some 1, none⟩] none)], none⟩, ⟨[], none⟩] (ρ0.set 0 (.str [111]))
     isArm 1 r.out = true ∧ isStr [111] (outEnv r.out 0) = true) ∧
    (let r := evalMatch F0 { Cfg.repaired with mapAtomic := false } (.expr (.map [(.str [120], n 1)]))
        [⟨[.one (.map [⟨[120], some 0, none⟩, ⟨[121], some 1, none⟩] none)], none⟩, ⟨[], none⟩] (ρ0.set 0 (.str [111]))
     isArm 1 r.out = true ∧ isInt 1 (outEnv r.out 0) = true) := by
  constructor <;> decide

/-- F-C03-11 (what remains after 3d805f4): parenthesised patterns write element by element, and
the bindings of an arm whose guard then fails stay written.
`(a, 1)` against `(5, 2)` fails after `a` has received 5; the registers keep it (observable after
the match when `a` is also a variable of the enclosing scope; the guide is silent). -/
theorem failed_alt_writes_witness :
    let r := evalMatch F0 Cfg.recorded (.expr (.tuple [n 5, n 2])) [⟨[.one (.seq [.id 0 none, ln 1] none [])], none⟩] ρ0
    isNone r.out = true ∧ isInt 5 (outEnv r.out 0) = true ∧ isU (outEnv r.out 1) = true := by
  decide

/-- F-C03-8 (recorded tree): `x = 1; match 's'` / `x: Number then …` / `else …`: the else arm runs
with `x = 's'`; with `typedFirst` it runs with `x` untouched -/
theorem typed_leak_witness :
    (let r := evalMatch F0 Cfg.recorded (.expr (.str [115]))
        [⟨[.one (.id 0 (some ⟨.number, false⟩))], none⟩, ⟨[], none⟩] (ρ0.set 0 (n 1))
     isArm 1 r.out = true ∧ isInt 1 (outEnv r.out 0) = false) ∧
    (let r := evalMatch F0 Cfg.repaired (.expr (.str [115]))
        [⟨[.one (.id 0 (some ⟨.number, false⟩))], none⟩, ⟨[], none⟩] (ρ0.set 0 (n 1))
     isArm 1 r.out = true ∧ isInt 1 (outEnv r.out 0) = true) := by
  constructor <;> decide


/-- F-C03-10: a parenthesised pattern indexes a string by *bytes* (`'hé'` has size 3) and — since
/repo 36e891c — raises when an element would cut a character (before: bound Null), whereas
unpacking the same string yields its characters: `match 'hé'` / `(a, b, rest...)` raises
"indexing with (1) would result in invalid UTF-8 data"; `a, b = 'hé'` gives `'h'`, `'é'`.
On strings without multi-byte characters (`noCont`, part of `plain`) the byte view *is* the
character view and `pat_spec` applies. -/
theorem multibyte_string_match_vs_unpack_witness :
    isErr .utf8 (evalMatch F0 Cfg.repaired (.expr (.str [104, 195, 169]))
        [⟨[.one (.seq [.id 0 none, .id 1 none] (some (some 2)) [])], none⟩, ⟨[], none⟩] ρ0).out = true ∧
    (match Unpack.elems (.str [104, 195, 169]) with
     | some [a, b] => isStr [104] a && isStr [195, 169] b
     | _ => false) = true := by
  constructor <;> decide

/-- on a string without multi-byte characters a pattern sees exactly the elements that unpacking
yields (the two notions of "element of a string" coincide) -/
theorem ascii_string_view_witness :
    (match view (.str [97, 98]), Unpack.elems (.str [97, 98]) with
     | some (xs, _), some ys => xs.length == ys.length && isStr [97] (xs.headD .null) && isStr [97] (ys.headD .null)
     | _, _ => false) = true := by
  decide

example : mPat F0 Cfg.recorded true (.seq [.id 0 none] (some (some 1)) []) true (.direct (.tmp (.tuple [n 1, n 2, n 3]))) ρ0
    = .ok ((ρ0.set 0 (n 1)).set 1 (.tuple [n 2, n 3])) := rfl

example : wf (.seq [.id 0 none, .seq [] (some none) [ln 1]] none []) = true := by decide
example : plain (.tuple [n 1, .list [.str [97]], .map [(.str [97], .null)]]) = true := by decide
example : DeclSeq F0 [.id 0 none] (some (some 1)) [] [n 1, n 2] (fun i j => .tuple (([n 1, n 2].drop i).take (j - i)))
    [(0, n 1), (1, .tuple [n 2])] :=
  ⟨[n 1], [n 2], [], [(0, n 1)], [], rfl, by simp,
    ⟨n 1, [], [(0, n 1)], [], rfl, ⟨rfl, rfl⟩, ⟨rfl, rfl⟩, rfl⟩, ⟨rfl, rfl⟩, by simp [restWrites]⟩
example : Selects F0 Cfg.recorded ⟨[], none⟩ (.tmp .null) ρ0 ρ0 := Or.inl ⟨rfl, rfl⟩
example : Skips F0 Cfg.recorded ⟨[.one (ln 1)], none⟩ (.tmp (n 2)) ρ0 ρ0 :=
  ⟨by simp, Or.inl (by
    have : litEq F0 (.num (.i 1)) (n 2) = false := by decide
    simp [mAlts, mAlt, mPat, fetch, Src.rd, ln, this])⟩

/-! ## unpacking -/

/-- missing → null, extras ignored -/
theorem unpack_spec : ∀ (k : Nat) (xs : List Val),
    unpack k xs = xs.take k ++ List.replicate (k - xs.length) .null
  | 0, xs => by simp [unpack]
  | k + 1, [] => by simp [unpack, unpack_spec k [], List.replicate_succ]
  | k + 1, x :: xs => by simp [unpack, unpack_spec k xs]

theorem unpack_length (k : Nat) (xs : List Val) : (unpack k xs).length = k := by
  rw [unpack_spec]; simp; omega

theorem unpack_get (k : Nat) (xs : List Val) (i : Nat) (h : i < k) :
    (unpack k xs)[i]'(by rw [unpack_length]; exact h) = xs[i]?.getD .null := by
  simp only [unpack_spec, List.getElem_append, List.length_take]
  split
  · next hi => simp [List.getElem_take, List.getElem?_eq_getElem (Nat.lt_of_lt_of_le hi (Nat.min_le_right ..))]
  · next hi => simp [List.getElem?_eq_none (by omega : xs.length ≤ i)]

/-- writes performed by a target list against an element stream: position `i` receives
element `i` (Null when missing), `_` consumes its element and writes nothing -/
def tgtWrites : List Tgt → List Val → Writes
  | [], _ => []
  | .id x :: ts, vs => (x, vs.head?.getD .null) :: tgtWrites ts vs.tail
  | .wild :: ts, vs => tgtWrites ts vs.tail

theorem assign_id (x : Name) (ts : List Tgt) (vs : List Val) (ρ : Env) :
    assign (.id x :: ts) vs ρ = assign ts vs.tail (ρ.set x (vs.head?.getD .null)) := by
  cases vs <;> rfl

theorem assign_wild (ts : List Tgt) (vs : List Val) (ρ : Env) : assign (.wild :: ts) vs ρ = assign ts vs.tail ρ := by
  cases vs <;> rfl

theorem assign_spec : ∀ (ts : List Tgt) (vs : List Val) (ρ : Env),
    assign ts vs ρ = ρ.apply (tgtWrites ts vs)
  | [], _, _ => rfl
  | .id x :: ts, vs, ρ => by rw [assign_id, assign_spec ts]; rfl
  | .wild :: ts, vs, ρ => by rw [assign_wild, assign_spec ts]; rfl

theorem tgtWrites_names : ∀ (ts : List Tgt) (vs : List Val), (tgtWrites ts vs).map Prod.fst = tgtNames ts
  | [], _ => rfl
  | .id x :: ts, vs => by simp [tgtWrites, tgtNames, tgtWrites_names ts]
  | .wild :: ts, vs => by simp [tgtWrites, tgtNames, tgtWrites_names ts]

theorem tgtWrites_mem : ∀ (ts : List Tgt) (vs : List Val) (y : Name) (v : Val),
    (y, v) ∈ tgtWrites ts vs → v ∈ vs ∨ v = .null
  | [], _, _, _, h => by simp [tgtWrites] at h
  | .id x :: ts, vs, y, v, h => by
    rcases List.mem_cons.1 h with e | h
    · cases vs <;> simp_all
    · exact (tgtWrites_mem ts vs.tail y v h).imp_left List.mem_of_mem_tail
  | .wild :: ts, vs, y, v, h => (tgtWrites_mem ts vs.tail y v h).imp_left List.mem_of_mem_tail

/-- the `i`-th target's value is the `i`-th unpacked element, whatever the other targets are -/
theorem tgtWrites_spec : ∀ (ts : List Tgt) (vs : List Val) (i : Nat) (x : Name),
    ts[i]? = some (.id x) → (x, vs[i]?.getD .null) ∈ tgtWrites ts vs
  | [], _, _, _, h => by simp at h
  | t :: ts, vs, 0, x, h => by
    obtain rfl : t = .id x := by simpa using h
    rw [tgtWrites, List.head?_eq_getElem?]
    exact List.mem_cons_self
  | t :: ts, vs, i + 1, x, h => by
    have := tgtWrites_spec ts vs.tail i x (by simpa using h)
    rw [List.getElem?_tail] at this
    cases t <;> rw [tgtWrites]
    · exact List.mem_cons_of_mem _ this
    · exact this

/-- the index-based form used for a temporary tuple (`a, b = x, y`) writes the same registers as
the pull-based form -/
theorem assignIdx_spec : ∀ (ts : List Tgt) (vs : List Val) (i : Nat) (ρ : Env),
    assignIdx ts vs i ρ = assign ts (vs.drop i) ρ
  | [], _, _, _ => rfl
  | .id x :: ts, vs, i, ρ => by
    rw [assignIdx, assignIdx_spec ts vs (i + 1), assign_id, List.tail_drop, List.head?_drop]
  | .wild :: ts, vs, i, ρ => by
    rw [assignIdx, assignIdx_spec ts vs (i + 1), assign_wild, List.tail_drop]

/-- unpacking from a stateful source: the registers are those of `assign`, and the source has
advanced by exactly one element per target — wildcards included, in first, middle or *last*
position (`a, _ = it` takes two elements, so the next `b, c = it` continues with the third) -/
theorem assignSt_spec : ∀ (ts : List Tgt) (vs : List Val) (ρ : Env),
    assignSt ts vs ρ = (assign ts vs ρ, vs.drop ts.length)
  | [], _, _ => by simp [assignSt, assign]
  | .id x :: ts, [], ρ => by simp [assignSt, assign, assignSt_spec ts []]
  | .id x :: ts, v :: vs, ρ => by simp [assignSt, assign, assignSt_spec ts vs]
  | .wild :: ts, [], ρ => by simp [assignSt, assign, assignSt_spec ts []]
  | .wild :: ts, _ :: vs, ρ => by simp [assignSt, assign, assignSt_spec ts vs]

/-- two unpackings in a row from the same source see consecutive, non-overlapping stretches -/
theorem assignSt_chain (ts₁ ts₂ : List Tgt) (vs : List Val) (ρ : Env) :
    (assignSt ts₂ (assignSt ts₁ vs ρ).2 (assignSt ts₁ vs ρ).1).2 = vs.drop (ts₁.length + ts₂.length) := by
  simp [assignSt_spec, List.drop_drop]

example : (assignSt [.id 0, .wild] [n 1, n 2, n 3, n 4] ρ0).2 = [n 3, n 4] := by simp [assignSt]

example : assign [.id 0, .wild, .id 1] [n 10, n 11] ρ0 = (ρ0.set 0 (n 10)).set 1 .null := by
  simp [assign]
example : unpack 3 [n 1] = [n 1, .null, .null] := by simp [unpack]

end KotoVerif.C03
