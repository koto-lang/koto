/-
C09 — second extension module: the losslessness clause of the property in its literal form
("concatenating the texts of the tokens before the first error token reproduces that prefix of the
input"), stated with the text slices `textOf` (`&src[a..b]`) of `Model/Lexer.lean`'s `dropBytes` /
`prefixAt`, over the tokens of `lexAll`; and the per-token form connecting byte range, text slice and
reported lines.
-/
import KotoVerif.Props.C09

namespace KotoVerif.C09Ext2
open KotoVerif.Lexer KotoVerif.C09

/-- **Losslessness, literal form.** For every input, any initial segment `toks` of the lexer's output
that contains no error token (in particular: all tokens before the first error token) has text
slices `ts` in the input, and concatenating them reproduces exactly the prefix of the input that
ends where the last of those tokens ends. -/
theorem tokens_texts_reproduce_prefix (src : List Ch) (ht : TableOk src) (toks rest : List Lexed)
    (h : lexAll src = toks ++ rest) (hne : ∀ l ∈ toks, l.tok ≠ .error) :
    ∃ ts : List (List Ch),
      toks.map (fun l => textOf src l.startByte l.endByte) = ts.map some ∧
      prefixAt (toks.foldl (fun _ l => l.endByte) 0) src = some ts.flatten :=
  lexFuel_texts ht _ _ _ _ (inv_init src) toks rest h hne

example : lexAll sampleOk = lexAll sampleOk ++ [] ∧ ∀ l ∈ lexAll sampleOk, l.tok ≠ .error := by
  rw [lexAll_sampleOk]; decide

/-- **Whole-input losslessness.** If lexing produces no error token and the last token ends at the end
of the input, the token texts concatenate to the entire input. -/
theorem tokens_texts_reproduce_input (src : List Ch) (ht : TableOk src)
    (hne : ∀ l ∈ lexAll src, l.tok ≠ .error)
    (hend : (lexAll src).foldl (fun _ l => l.endByte) 0 = byteLen src) :
    ∃ ts : List (List Ch),
      (lexAll src).map (fun l => textOf src l.startByte l.endByte) = ts.map some ∧
      ts.flatten = src := by
  obtain ⟨ts, f, hp⟩ := tokens_texts_reproduce_prefix src ht (lexAll src) [] (by simp) hne
  refine ⟨ts, f, ?_⟩
  rw [hend] at hp
  have := prefixAt_append src []
  rw [List.append_nil] at this
  rw [this] at hp
  exact (Option.some.inj hp).symm

example : (lexAll sampleOk).foldl (fun _ l => l.endByte) 0 = byteLen sampleOk := by
  rw [lexAll_sampleOk]; decide

/-- **Per-token exactness, end to end**: byte range, text slice `&src[start..end]` and both reported
lines of a non-error token in one statement. -/
theorem token_text_exact (src : List Ch) (ht : TableOk src) :
    ∀ l ∈ lexAll src, l.tok ≠ .error →
      ∃ pre t, prefixAt l.startByte src = some pre ∧ textOf src l.startByte l.endByte = some t ∧
        l.endByte = l.startByte + byteLen t ∧
        l.span.start.line = nlCount pre ∧ l.span.stop.line = l.span.start.line + nlCount t :=
  lexAll_forall ht fun pre t _ _ _ _ h =>
    ⟨pre, t, h.prefix_start, h.text, h.startByte ▸ h.endByte, h.startLine, h.startLine ▸ h.stopLine⟩

end KotoVerif.C09Ext2
