/-
# Props/C07Ext2.lean — second extension module for C07: whole-session statements about the REPL's
line-continuation machine (`Model/Repl.lean`, mirrored from `Repl::on_line`, compared with the real
`koto` binary line by line through the driver request `repl`).

The property's clause for the REPL: a failing evaluation leaves the REPL (and the shared runtime's
view of it) exactly where a succeeding one would. `Props/C07` states this for one line; here it is
lifted to every session, together with the end-to-end shape of entries.
-/
import KotoVerif.Props.C07
import KotoVerif.Props.C07Ext

namespace KotoVerif.C07Ext2

open KotoVerif.Repl

/-- two typed lines that differ at most in *whether the run of a compiling input failed* -/
def SameUpToOutcome (a b : Line) : Prop :=
  a.blank = b.blank ∧ a.indent = b.indent ∧ a.pushIndents = b.pushIndents ∧
  (a.verdict = b.verdict ∨
    ((a.verdict = .runOk ∨ a.verdict = .runErr) ∧ (b.verdict = .runOk ∨ b.verdict = .runErr)))

theorem onLine_outcome_blind (s : State) (a b : Line) (h : SameUpToOutcome a b) :
    onLine s a = onLine s b := by
  obtain ⟨ab, ai, av, ap⟩ := a
  obtain ⟨bb, bi, bv, bp⟩ := b
  obtain ⟨h1, h2, h3, h4⟩ := h
  simp only at h1 h2 h3 h4
  subst h1 h2 h3
  rcases h4 with h4 | ⟨h4 | h4, h5 | h5⟩ <;> subst_vars <;>
    simp [onLine, nextLines, runsInput]

/-- **a session with failing runs is indistinguishable from the same session with succeeding
runs**: for every history of typed lines and every start state, replacing any subset of the run
outcomes (error ↔ ok) changes nothing in the REPL's state — buffer, indent and the number of inputs
handed to the shared runtime. -/
theorem repl_session_outcome_blind (ls : List Line) : ∀ (ls' : List Line) (s : State),
    ls.length = ls'.length → (∀ p ∈ ls.zip ls', SameUpToOutcome p.1 p.2) →
    session ls s = session ls' s := by
  induction ls with
  | nil =>
    intro ls' s hl _
    cases ls' with
    | nil => rfl
    | cons _ _ => simp at hl
  | cons x xs ih =>
    intro ls' s hl hp
    cases ls' with
    | nil => simp at hl
    | cons y ys =>
      rw [session_cons, session_cons, onLine_outcome_blind s x y (hp (x, y) (by simp))]
      exact ih ys (onLine s y) (by simpa using hl)
        (fun p hp' => hp p (by simp [List.zip_cons_cons, hp']))

example : session [{ blank := false, verdict := .runErr }, { blank := false, indent := 0, verdict := .indentErr }]
      {} =
    session [{ blank := false, verdict := .runOk }, { blank := false, indent := 0, verdict := .indentErr }]
      {} := by decide

/-- **any series of failing (or succeeding) single-line entries never leaves the main prompt**:
from the main prompt, a session in which every input compiles stays at the main prompt with
indent 0, and every line was one execution on the shared runtime. -/
theorem repl_compiling_lines_stay_main (ls : List Line) : ∀ s : State, s.lines = [] →
    s.indent = 0 → (∀ l ∈ ls, l.verdict = .runOk ∨ l.verdict = .runErr) →
    (session ls s).lines = [] ∧ (session ls s).indent = 0 ∧
    (session ls s).runs = s.runs + ls.length := by
  induction ls with
  | nil => intro s h hi _; exact ⟨h, hi, rfl⟩
  | cons x xs ih =>
    intro s hs _ hv
    obtain ⟨h1, h0, h2⟩ := C07.repl_entry_resets s x (by simp [hs]) (hv x List.mem_cons_self)
    have h := ih (onLine s x) h1 h0 (fun l hl => hv l (List.mem_cons_of_mem _ hl))
    simp only [session_cons, List.length_cons]
    exact ⟨h.1, h.2.1, by omega⟩

example : (session [{ blank := false, verdict := .runErr }, { blank := false, verdict := .runErr }]
    {}).runs = 2 := by decide

theorem repl_continuation_lines_buffer (mid : List Line) : ∀ s : State, s.lines ≠ [] →
    (∀ l ∈ mid, l.blank = false) →
    (session mid s).lines = s.lines ++ mid.map (·.indent) ∧ (session mid s).runs = s.runs := by
  induction mid with
  | nil => intro s _ _; simp [session]
  | cons x xs ih =>
    intro s hs hb
    have hx := onLine_push s x hs (hb x List.mem_cons_self)
    have h := ih (onLine s x) (by rw [hx]; simp) (fun l hl => hb l (List.mem_cons_of_mem _ hl))
    rw [session_cons, h.1, h.2, hx]
    simp

/-- **a multi-line entry is exactly one execution, and it ends at the main prompt whatever the
outcome**: with an entry open, any number of non-blank lines followed by a blank line hands at most
one input to the runtime (exactly one iff the input compiles) and leaves buffer and indent reset —
for a failing run, a compile error and an indentation error alike. -/
theorem repl_entry_end_to_end (mid : List Line) (b : Line) (s : State) (hs : s.lines ≠ [])
    (hmid : ∀ l ∈ mid, l.blank = false) (hb : b.blank = true) :
    (session (mid ++ [b]) s).lines = [] ∧ (session (mid ++ [b]) s).indent = 0 ∧
    (session (mid ++ [b]) s).runs =
      s.runs + (if b.verdict = .runOk ∨ b.verdict = .runErr then 1 else 0) := by
  have h := repl_continuation_lines_buffer mid s hs hmid
  have hne : (session mid s).lines ≠ [] := by
    rw [h.1]; exact fun hn => hs (List.append_eq_nil_iff.mp hn).1
  rw [C07Ext.repl_session_append, session_cons, onLine_reset _ b (by simp [hb]) (.inr hne), h.2]
  exact ⟨rfl, rfl, rfl⟩

example : (session ([{ blank := false, indent := 2 }] ++ [{ blank := true, verdict := .runErr }])
    { lines := [0], indent := 2, runs := 5 }) = { lines := [], indent := 0, runs := 6 } := by decide

/-- **the continuation state after any session depends only on the buffer at its start**: two REPL
states with the same buffered lines show the same buffer after every session, and the run counters
advance by the same amount (independence of the irrelevant state `indent` / `runs`). -/
theorem repl_session_buffer_determined (ls : List Line) : ∀ a b : State, a.lines = b.lines →
    (session ls a).lines = (session ls b).lines ∧
    (session ls a).runs + b.runs = (session ls b).runs + a.runs :=
  fun a b h => let ⟨k1, _, k3⟩ := session_congr ls a b h; ⟨k1, k3⟩

example : (session [{ blank := true }] { lines := [0], indent := 7, runs := 3 }).lines =
    (session [{ blank := true }] { lines := [0], indent := 0, runs := 0 }).lines := by decide

end KotoVerif.C07Ext2
