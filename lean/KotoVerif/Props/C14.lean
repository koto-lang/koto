/-
C14 — Value model: sharing, copying, equality, ordering and map keys.
Property theorems only; every statement is for all heaps / values / operation sequences / inputs.
Float comparison enters through the hypotheses `FloatLaws F` (see Lemmas/C14Equal); the comparator of
a sort through `TotalPreorder lt`; the key matcher of a map through `KeyPER m`.
-/
import KotoVerif.Model.HeapEval
import KotoVerif.Lemmas.C14Sort
import KotoVerif.Lemmas.C14Equal
import KotoVerif.Lemmas.C14Map
import KotoVerif.Lemmas.C14Heap
import KotoVerif.Lemmas.C14EqMaps
import KotoVerif.Lemmas.C14KeyPER
import KotoVerif.Lemmas.C14Hash
import KotoVerif.Lemmas.C14NumOrder
import KotoVerif.Lemmas.C14KeyOrder
import KotoVerif.Lemmas.C14DeepCopy

namespace KotoVerif.C14
open KotoVerif KotoVerif.Heap KotoVerif.Equal KotoVerif.Equal.OMap KotoVerif.Sorting

/-! ## sharing -/

/-- `y = x` copies the handle: afterwards both names hold the same value … -/
theorem alias_let (F : FloatOps) (mech : Bool) (st : St) (x y : Nat) (hx : x < st.vars.length)
    (hy : y < st.vars.length) :
    (step F mech st (.letv y (.var x))).1.vars[y]? = (step F mech st (.letv y (.var x))).1.vars[x]? ∧
    (step F mech st (.letv y (.var x))).1.heap = st.heap := by
  constructor
  · simp only [step, eval]
    by_cases hxy : y = x
    · subst hxy; rfl
    · rw [List.getElem?_set_self (by simpa using hy), List.getElem?_set_ne hxy]
      simp [List.getElem?_eq_getElem hx]
  · simp [step, eval]

/-- … and two names holding the same value are indistinguishable: every operation (mutating or
not) applied through one name has exactly the effect and result it has through the other — there
is one object. Function arguments (`arg`) and closure captures (`cap`) are handle copies too. -/
theorem alias_shared (F : FloatOps) (mech : Bool) (st : St) (x y : Nat)
    (h : st.vars[y]? = st.vars[x]?) (name : String) (args : List Ex) (heap : Heap) :
    eval F mech st (.op name (.var y :: args)) heap = eval F mech st (.op name (.var x :: args)) heap ∧
    eval F mech st (.op name (.arg (.var y) :: args)) heap = eval F mech st (.op name (.var x :: args)) heap := by
  simp [eval, evalList, h]

theorem alias_capture (F : FloatOps) (mech : Bool) (st : St) (c x : Nat)
    (h : st.caps[c]? = st.vars[x]?) (name : String) (args : List Ex) (heap : Heap) :
    eval F mech st (.op name (.cap c :: args)) heap = eval F mech st (.op name (.var x :: args)) heap := by
  simp [eval, evalList, h]

example : (step Equal.F0 true { vars := [.lref 0, .null], caps := [], heap := [.list []] }
    (.letv 1 (.var 0))).1.vars = [.lref 0, .lref 0] := by rfl

/-! ## copy -/

/-- `b = copy a` for a list: `b` is a new object with the same element values (nested containers
are the same handles, i.e. still shared), and *no* list operation on `b` changes what `a` holds;
symmetrically no operation on `a` changes `b`. -/
theorem copy_top_independent (F : FloatOps) (heap : Heap) (a : Nat) (xs : List HVal)
    (ha : getList heap a = some xs) (op : LOp) :
    copyVal heap (.lref a) = (heap ++ [.list xs], .lref heap.length) ∧
    heap.length ≠ a ∧
    getList (copyVal heap (.lref a)).1 heap.length = some xs ∧
    getList (onList F (copyVal heap (.lref a)).1 heap.length op).1 a = some xs ∧
    getList (onList F (copyVal heap (.lref a)).1 a op).1 heap.length = some xs := by
  obtain ⟨h1, h2, h3, h4⟩ := copyVal_list heap a xs ha
  refine ⟨h1, h2, by rw [h1]; exact h3, ?_, ?_⟩
  · rw [h1]
    unfold getList at h4 ⊢
    rw [onList_frame F _ _ op a (Ne.symm h2)]
    exact h4
  · rw [h1]
    unfold getList at h3 ⊢
    rw [onList_frame F _ _ op heap.length h2]
    exact h3

theorem copy_top_independent_map (F : FloatOps) (mech : Bool) (heap : Heap) (a : Nat)
    (es : List (Val × HVal)) (ha : getMap heap a = some es) (op : MOp) :
    copyVal heap (.mref a) = (heap ++ [.map es], .mref heap.length) ∧
    heap.length ≠ a ∧
    getMap (copyVal heap (.mref a)).1 heap.length = some es ∧
    getMap (onMap F mech (copyVal heap (.mref a)).1 heap.length op).1 a = some es ∧
    getMap (onMap F mech (copyVal heap (.mref a)).1 a op).1 heap.length = some es := by
  obtain ⟨h1, h2, h3, h4⟩ := copyVal_map heap a es ha
  refine ⟨h1, h2, by rw [h1]; exact h3, ?_, ?_⟩
  · rw [h1]
    unfold getMap at h4 ⊢
    rw [onMap_frame F mech _ _ op a (Ne.symm h2)]
    exact h4
  · rw [h1]
    unfold getMap at h3 ⊢
    rw [onMap_frame F mech _ _ op heap.length h2]
    exact h3

/-- frame: any list / map operation, and `swap`, writes only the object(s) it is applied to -/
theorem op_frame (F : FloatOps) (mech : Bool) (heap : Heap) (h h2 h' : Nat) (lop : LOp) (mop : MOp)
    (hne : h' ≠ h) (hne2 : h' ≠ h2) :
    (onList F heap h lop).1[h']? = heap[h']? ∧ (onMap F mech heap h mop).1[h']? = heap[h']? ∧
    (swapLists heap h h2).1[h']? = heap[h']? :=
  ⟨onList_frame F heap h lop h' hne, onMap_frame F mech heap h mop h' hne, swapLists_frame heap h h2 h' hne hne2⟩

example : getList (onList Equal.F0 (copyVal [.list [.lref 1], .list []] (.lref 0)).1 2 (.push .null)).1 0
    = some [.lref 1] := by rfl

/-! ## deep_copy -/

/-- `deep_copy` only appends to the heap, everything reachable from the result is new (so it is
disjoint from everything that existed before), and the result denotes the same value tree -/
theorem deep_copy_disjoint (f : Nat) (heap heap' : Heap) (v v' : HVal)
    (h : deepCopy f heap v = some (heap', v')) :
    (∃ ext, heap' = heap ++ ext) ∧
    (∀ g, ∀ x ∈ reach g heap' v', heap.length ≤ x) ∧
    (∀ g, ∀ x ∈ reach g heap v, x < heap.length) ∧
    (∀ g t, snapshot g heap v = some t → snapshot g heap' v' = some t) :=
  ⟨deepCopy_extends f heap heap' v v' h, deepCopy_reach_fresh f heap heap' v v' h,
   fun g => reach_lt g heap v, deepCopy_snapshot f heap heap' v v' h⟩

example : deepCopy 5 [.list [.lref 1], .list [.num (.i 1)]] (.lref 0) =
    some ([.list [.lref 1], .list [.num (.i 1)], .list [.num (.i 1)], .list [.lref 2]], .lref 3) := by rfl

/-- the domain of `deep_copy` (fix 55b45e0): the fuel of `deepCopy` is the nesting limit — koto calls
it with 256 (`Heap.deepCopyLimit`) — and a value nested deeper than the fuel (every cyclic value)
has no deep copy: the implementation raises a runtime error there, so `deep_copy_disjoint` speaks about
exactly the calls that return -/
theorem deep_copy_needs_fuel (heap : Heap) (v : HVal) : deepCopy 0 heap v = none := rfl

example : deepCopy 1 [.list [.lref 1], .list []] (.lref 0) = none := by rfl

/-- what the model (= `KValue::deep_copy`) defines for internal aliasing: a container that occurs
twice is copied twice — the result is a *tree*, `t = [inner, inner]` becomes two independent lists.
(`deep_copy_disjoint` only promises the same value tree, disjoint from the original.) -/
example : deepCopy 5 [.list [.lref 1, .lref 1], .list [.num (.i 1)]] (.lref 0) =
    some ([.list [.lref 1, .lref 1], .list [.num (.i 1)], .list [.num (.i 1)], .list [.num (.i 1)],
           .list [.lref 2, .lref 3]], .lref 4) := by rfl
example : deepCopyLimit = 256 := rfl

/-! ## immutable values -/

/-- a value without handles (number, string, range, bool, null, tuple of such) denotes the same
tree in every heap — so no operation whatsoever can change it -/
theorem immutables_frozen (f : Nat) (heap heap' : Heap) (v : HVal) (h : immediate v = true) :
    snapshot f heap v = snapshot f heap' v :=
  snapshot_immediate f heap heap' v h

example : immediate (.tuple [.num (.i 1), .str [97], .range (some 0) none]) = true := by decide

/-! ## equality -/

/-- `==` is reflexive on data without NaN whose maps have pairwise different keys (spec-level
lookup and the hashed lookup alike) -/
theorem eq_refl {F : FloatOps} (hF : FloatLaws F) (mech : Bool) (v : Val)
    (h1 : noNaN F v = true) (h2 : keysDistinct F v = true) : veq F mech v v = true :=
  veq_refl hF mech v h1 h2

/-- `==` is symmetric on data without maps (no further hypothesis: NaN included) -/
theorem eq_symm_mapFree {F : FloatOps} (hF : FloatLaws F) (mech : Bool) (a b : Val)
    (h : mapFree a = true) : veq F mech a b = veq F mech b a :=
  veq_symm_mapFree hF mech a b h

/-- `==` is symmetric on all data (lists, tuples, maps nested arbitrarily) at the spec level of key
lookup, provided key equality is transitive on the keys involved (`KeyPER (keyEq F)`: true for IEEE
doubles as long as no integer key lies beyond ±2^53; `keyEq_per` derives it from transitivity of
number equality) and maps have pairwise different keys -/
theorem eq_symm {F : FloatOps} (hF : FloatLaws F) (hm : KeyPER (keyEq F)) (a b : Val)
    (ha : keysDistinct F a = true) (hb : keysDistinct F b = true) :
    veq F false a b = veq F false b a :=
  veq_symm hF hm a b ha hb

example : KeyPER (keyEq Equal.F0) := F0_keyPER

/-- where `==` is *not* transitive (finding F-C14-3, the model mirrors the code): an integer beyond
±2^53 and its neighbour both equal the float between them. `KeyPER (keyEq F)` — the hypothesis of
`eq_symm`, `key_identity`, `map_order_inv` — excludes exactly this; `x` is `9007199254740992.0`. -/
theorem num_eq_not_transitive_witness (F : FloatOps) (x : UInt64)
    (h1 : F.eq (F.ofInt 9007199254740993) x = true) (h2 : F.eq x (F.ofInt 9007199254740992) = true) :
    Num.eq F (.i 9007199254740993) (.f x) = true ∧ Num.eq F (.f x) (.i 9007199254740992) = true ∧
    Num.eq F (.i 9007199254740993) (.i 9007199254740992) = false := by
  refine ⟨by simpa [Num.eq, Num.toF] using h1, by simpa [Num.eq, Num.toF] using h2, ?_⟩
  simp only [Num.eq]
  decide

/-- (`veq` is total on finite trees. The implementation is partial: each nesting level of a container
comparison takes 3 of the calling frame's ≤ 255 registers, so operands nested deeper than about 80
levels — and cyclic ones — raise a runtime error since fixes 0d6eb6a / b752efa; the harness stays
inside and asserts "error or the right answer, never a panic" outside.)

`!=` is the negation of `==` (the two are implemented separately in the VM) -/
theorem ne_is_not_eq (F : FloatOps) (mech : Bool) (a b : Val) : vne F mech a b = !veq F mech a b :=
  vne_eq_not_veq F mech a b

example : veq Equal.F0 true (.list [.num (.i 1), .map [(.str [97], .null)]])
    (.list [.num (.i 1), .map [(.str [97], .null)]]) = true := by decide

/-! ## ordering -/

/-- numbers without NaN: exactly one of `a < b`, `a == b`, `b < a` -/
theorem lt_total_num {F : FloatOps} (hF : FloatLaws F) (a b : Num)
    (ha : numIsNaN F a = false) (hb : numIsNaN F b = false) :
    (vlt F (.num a) (.num b) = some true ∧ veq F true (.num a) (.num b) = false ∧ vlt F (.num b) (.num a) = some false) ∨
    (vlt F (.num a) (.num b) = some false ∧ veq F true (.num a) (.num b) = true ∧ vlt F (.num b) (.num a) = some false) ∨
    (vlt F (.num a) (.num b) = some false ∧ veq F true (.num a) (.num b) = false ∧ vlt F (.num b) (.num a) = some true) := by
  rcases num_trichotomy hF a b ha hb with ⟨h1, h2, h3⟩ | ⟨h1, h2, h3⟩ | ⟨h1, h2, h3⟩
  · exact Or.inl ⟨congrArg some h1, h2, congrArg some h3⟩
  · exact Or.inr (Or.inl ⟨congrArg some h1, h2, congrArg some h3⟩)
  · exact Or.inr (Or.inr ⟨congrArg some h1, h2, congrArg some h3⟩)

/-- strings: exactly one of `a < b`, `a == b`, `b < a` -/
theorem lt_total_str (F : FloatOps) (a b : List Nat) :
    (vlt F (.str a) (.str b) = some true ∧ a ≠ b ∧ vlt F (.str b) (.str a) = some false) ∨
    (vlt F (.str a) (.str b) = some false ∧ a = b ∧ vlt F (.str b) (.str a) = some false) ∨
    (vlt F (.str a) (.str b) = some false ∧ a ≠ b ∧ vlt F (.str b) (.str a) = some true) := by
  rcases bytes_trichotomy a b with ⟨h1, h2, h3⟩ | ⟨h1, h2, h3⟩ | ⟨h1, h2, h3⟩
  · exact Or.inl ⟨congrArg some h1, h2, congrArg some h3⟩
  · exact Or.inr (Or.inl ⟨congrArg some h1, h2, congrArg some h3⟩)
  · exact Or.inr (Or.inr ⟨congrArg some h1, h2, congrArg some h3⟩)

theorem lt_trans_str (a b c : List Nat) (h1 : bytesLt a b = true) (h2 : bytesLt b c = true) :
    bytesLt a c = true := bytesLt_trans a b c h1 h2

example : FloatLaws Equal.F0 := F0_laws

/-! ## maps: insertion order and key identity -/

/-- for every sequence of map operations (insert, remove, extend, clear, sort, index assignment):
the key list is exactly what the insertion-order specification prescribes — an overwritten key keeps
its position, remove shifts, index assignment replaces in place, extend appends the new keys in
order, sort permutes — and the keys stay pairwise non-equivalent -/
theorem map_order_inv {β : Type} {m : Val → Val → Bool} (hm : KeyPER m) (ops : List (MapOp β))
    (es : List (Val × β)) (h : Distinct m (keys es)) :
    keys (ops.foldl (fun acc op => runOp m op acc) es) = ops.foldl (fun ks op => specOp m op ks) (keys es) ∧
    Distinct m (keys (ops.foldl (fun acc op => runOp m op acc) es)) :=
  ops_invariant hm ops es h

example : keys (runOp (keyEq Equal.F0) (.insert (.str [97]) 9 : MapOp Nat) [(.str [97], 1), (.str [98], 2)])
    = [.str [97], .str [98]] := by rfl

/-- mechanism ↔ documented effect of `m[i] = (k, v)`: when `k` is not present at another index the
three IndexMap calls of `run_index_assign` replace entry `i` in place -/
theorem index_assign_replaces {β : Type} (m : Val → Val → Bool) (i : Nat) (k : Val) (v : β)
    (es : List (Val × β)) (hok : replaceOk m i k (keys es) = true) :
    indexAssign m i k v es = some (replaceAt i k v es) :=
  indexAssign_ok m i k v es hok

/-- `m[i] = (k, v)` as implemented since fix 6a9dccd (finding F-C14-2 = F-C06-4, fixed): for a valid
index on a map with pairwise different keys it either raises "key already in use at index j" (j ≠ i,
map untouched — exactly the case `replaceOk = false` of `map_order_inv`) or replaces entry `i` in
place. It never reaches the `swap_indices` panic. -/
theorem index_assign_total {β : Type} {m : Val → Val → Bool} (hm : KeyPER m) (i : Nat) (k : Val) (v : β)
    (es : List (Val × β)) (hi : i < es.length) (hd : Distinct m (keys es)) :
    (∃ j, j ≠ i ∧ indexAssignChecked m m i k v es = .keyInUse j ∧ replaceOk m i k (keys es) = false) ∨
    (indexAssignChecked m m i k v es = .replaced (replaceAt i k v es) ∧ replaceOk m i k (keys es) = true) :=
  indexAssignChecked_total hm i k v es hi hd

/-- the panic witness of F-C14-2, `m = {a: 1, b: 2, c: 3}; m[0] = ('c', 9)`, is the error case … -/
theorem index_assign_error_witness :
    indexAssignChecked (keyEq Equal.F0) (keyEq Equal.F0) 0 (.str [99]) (9 : Nat)
      [(.str [97], 1), (.str [98], 2), (.str [99], 3)] = .keyInUse 2 := by rfl

/-- … while the three unchecked calls alone panic there (why the check is needed) -/
theorem index_assign_unchecked_witness :
    indexAssign (keyEq Equal.F0) 0 (.str [99]) (9 : Nat)
      [(.str [97], 1), (.str [98], 2), (.str [99], 3)] = none := by decide

/-- two keys address the same entry of every map exactly when they are equivalent -/
theorem key_identity {m : Val → Val → Bool} (hm : KeyPER m) (k k' : Val) (hk : m k k = true) :
    (∀ es : List (Val × Unit), findIdx m k es = findIdx m k' es) ↔ m k k' = true := by
  constructor
  · intro h
    have := h [(k, ())]
    simp only [findIdx, hk, if_true] at this
    by_cases hk' : m k' k = true
    · rw [hm.symm]; exact hk'
    · simp [hk'] at this
  · intro h es
    exact findIdx_congr m m k k' es (fun e _ => per_same_verdict hm k k' e.1 h)

/-- equal keys hash equally (finding F-C14-1, fixed by 7e76332: `KNumber` hashes its `f64` value,
written as an integer when integral). `HashLaws F` are the three facts about doubles this needs. -/
theorem key_hash_consistent {F : FloatOps} (hH : HashLaws F) (a b : Val) (h : keyEq F a b = true) :
    hashEq F a b = true :=
  keyEq_hashEq hH a b h

/-- hence the hashed `IndexMap` probe is the spec lookup for *all* keys and map sizes … -/
theorem key_lookup_mechanism {β : Type} {F : FloatOps} (hH : HashLaws F) (k : Val) (es : List (Val × β))
    (n : Nat) : lookupBy (getMatch F n) k es = lookupBy (keyEq F) k es := by
  rw [getMatch_eq_keyEq hH]

/-- … and every map operation of the mechanism model (hash first) is the spec-level operation, so
`map_order_inv`, `key_identity` and `index_assign_total` speak about the mechanism as well -/
theorem mechanism_is_spec {F : FloatOps} (hH : HashLaws F) (self : HVal) (op : MOp)
    (es : List (Val × HVal)) : applyM F true self op es = applyM F false self op es := by
  have h1 : ∀ n, getM F true n = getM F false n := by
    intro n; simp [getM, getMatch_eq_keyEq hH]
  have h2 : insM F true = insM F false := by
    funext a b; simp [insM, keyEqH_eq_keyEq hH]
  unfold applyM
  simp only [h1, h2]

/-- the witness of F-C14-1: `1` and `1.0` are equal keys and are written identically to the hasher,
so maps of every size find the entry and inserting `1.0` next to `1` overwrites -/
theorem key_hash_witness_fixed (F : FloatOps) (hH : HashLaws F)
    (h1 : F.eq 0x3FF0000000000000 (F.ofInt 1) = true) (v w : Nat) :
    hashEq F (.num (.f 0x3FF0000000000000)) (.num (.i 1)) = true ∧
    lookupBy (getMatch F 2) (.num (.f 0x3FF0000000000000)) [(.num (.i 1), v), (.str [97], w)] = some v ∧
    keys (OMap.insert (keyEqH F) (.num (.f 0x3FF0000000000000)) w [(.num (.i 1), v)]).1 = [.num (.i 1)] := by
  have hk : keyEq F (.num (.f 0x3FF0000000000000)) (.num (.i 1)) = true := by
    simpa [keyEq, Num.eq, Num.toF] using h1
  refine ⟨keyEq_hashEq hH _ _ hk, ?_, ?_⟩
  · rw [getMatch_eq_keyEq hH]; simp [lookupBy, hk]
  · simp [OMap.insert, keyEqH_eq_keyEq hH, hk, keys]

example : HashLaws Equal.F0 := F0_hashLaws

/-! ## sorting -/

/-- for every comparator that is a total preorder, sorting returns an ordered, stable permutation
of its input — and that result is the only one (so the model's insertion sort returns what every
correct stable sort returns) -/
theorem sort_sorted_perm_stable {α : Type} {lt : α → α → Bool} (h : TotalPreorder lt) (xs : List α) :
    (sortBy lt xs).Perm xs ∧ Sorted lt (sortBy lt xs) ∧
    (∀ a, (sortBy lt xs).filter (equiv lt a) = xs.filter (equiv lt a)) ∧
    (∀ ys : List α, ys.Perm xs → Sorted lt ys →
      (∀ a, ys.filter (equiv lt a) = xs.filter (equiv lt a)) → ys = sortBy lt xs) :=
  ⟨sortBy_perm lt xs, sortBy_sorted h xs, fun a => sortBy_stable h a xs,
   fun ys hp hs hst => sortBy_unique h xs ys hp hs hst⟩

/-- the string comparator of koto is such a total preorder -/
theorem str_total_preorder : TotalPreorder bytesLt where
  asymm := bytesLt_asymm
  le_trans := bytesLe_trans

example : sortBy bytesLt [[98], [97, 1], [97]] = [[97], [97, 1], [98]] := by decide

/-- operations that fail part-way lose nothing: after `list.sort()`, `map.sort()` and
`map.sort(|k, v| v)` — whether they return or raise because two entries cannot be compared — the
container holds a permutation of its entries (the code sorts with `try_sort_by`, which writes back
completed merges only; every alias sees that one object, `alias_shared`) -/
theorem failed_sort_keeps_entries (F : FloatOps) (mech : Bool) (self : HVal) (xs : List HVal)
    (es : List (Val × HVal)) :
    (applyL F self .sort xs).1.Perm xs ∧ (applyM F mech self .sort es).1.Perm es ∧
    (applyM F mech self .sortVal es).1.Perm es := by
  refine ⟨?_, ?_, ?_⟩
  · simp only [applyL]
    split
    · exact sortBy_perm _ xs
    · exact trySortBy_perm _ xs
  · simp only [applyM]
    exact sortBy_perm _ es
  · simp only [applyM]
    split
    · exact sortBy_perm _ es
    · exact trySortBy_perm _ es

/-- `list.retain` with a predicate that raises: what is left is a sub-sequence of the list (the
values retained so far followed by the untested ones) -/
theorem failed_retain_sublist (p : HVal → Option Bool) (xs : List HVal) :
    (retainTry p xs).1.Sublist xs := by
  induction xs with
  | nil => exact List.Sublist.refl _
  | cons x xs ih =>
    simp only [retainTry]
    split
    · exact List.Sublist.refl _
    · exact List.Sublist.cons_cons x ih
    · exact List.Sublist.cons x ih

/-- `ValueKey::partial_cmp` (since fix abae06d, finding F-C14-5) is a total order on keys of every
kind — null, booleans, numbers, strings, ranges, tuples, arbitrarily nested — that is consistent with
key equality: antisymmetric, `Equal` exactly on equal keys, and transitive (as a total preorder for
sorting). Numbers enter through the float hypotheses `FloatLaws` / `NumOrderLaws` (no NaN, integers
that convert exactly, cf. F-C14-3). -/
theorem key_order_consistent {F : FloatOps} {S : Int64 → Prop} (hF : FloatLaws F) (hL : NumOrderLaws F S)
    (a b : GoodKey F S) :
    keyCmp F b.1 a.1 = (keyCmp F a.1 b.1).swap ∧ (keyCmp F a.1 b.1 = .eq ↔ keyEq F a.1 b.1 = true) :=
  ⟨keyCmp_swap (numCmp_laws hF hL) a.1 b.1 a.2 b.2, keyCmp_eq_iff (numCmp_laws hF hL) a.1 b.1 a.2 b.2⟩

theorem key_order_total {F : FloatOps} {S : Int64 → Prop} (hF : FloatLaws F) (hL : NumOrderLaws F S) :
    TotalPreorder (fun (a b : GoodKey F S) => keyCmp F a.1 b.1 == .lt) :=
  keyCmp_total_preorder hF hL

/-- so `map.sort()` yields an ordered, stable permutation for ALL key kinds: the model's `map.sort()`
on the plain entries is the projection of the sort on entries-with-good-keys, to which
`sort_sorted_perm_stable` applies -/
theorem map_sort_all_kinds {F : FloatOps} {S : Int64 → Prop} (hF : FloatLaws F) (hL : NumOrderLaws F S)
    (mech : Bool) (self : HVal) (es : List (GoodKey F S × HVal)) :
    (applyM F mech self .sort (es.map (fun e => (e.1.1, e.2)))).1 =
      (sortBy (fun (a b : GoodKey F S × HVal) => keyCmp F a.1.1 b.1.1 == .lt) es).map (fun e => (e.1.1, e.2)) ∧
    (sortBy (fun (a b : GoodKey F S × HVal) => keyCmp F a.1.1 b.1.1 == .lt) es).Perm es ∧
    Sorted (fun (a b : GoodKey F S × HVal) => keyCmp F a.1.1 b.1.1 == .lt)
      (sortBy (fun (a b : GoodKey F S × HVal) => keyCmp F a.1.1 b.1.1 == .lt) es) ∧
    (∀ x, (sortBy (fun (a b : GoodKey F S × HVal) => keyCmp F a.1.1 b.1.1 == .lt) es).filter
        (equiv (fun (a b : GoodKey F S × HVal) => keyCmp F a.1.1 b.1.1 == .lt) x) =
      es.filter (equiv (fun (a b : GoodKey F S × HVal) => keyCmp F a.1.1 b.1.1 == .lt) x)) := by
  have hT := (keyCmp_total_preorder hF hL).comap (Prod.fst : GoodKey F S × HVal → GoodKey F S)
  refine ⟨?_, sortBy_perm _ es, sortBy_sorted hT es, fun x => sortBy_stable hT x es⟩
  simp only [applyM, sortEntries]
  exact (map_sortBy (fun (e : GoodKey F S × HVal) => (e.1.1, e.2))
    (fun (a b : Val × HVal) => keyCmp F a.1 b.1 == .lt) es).symm

example : NumCmpLaws Equal.F0 (goodNum Equal.F0 (fun _ => True)) := numCmp_laws F0_laws F0_numOrderLaws

/-- the witness of F-C14-5 (fixed by abae06d): `{2, 'x', 'y', 1}` is sorted to `1, 2, 'x', 'y'` -/
theorem map_sort_mixed_keys_fixed :
    ((applyM Equal.F0 false .null .sort
        [(.num (.i 2), .null), (.str [120], .null), (.str [121], .null), (.num (.i 1), .null)]).1.map Prod.fst)
      = [.num (.i 1), .num (.i 2), .str [120], .str [121]] := by rfl

/-- the number comparator (`<` on `KNumber`, as `compare_values` applies it) is a total preorder on
numbers without NaN whose integers convert to `f64` strictly monotonically (`S`; for doubles
|n| ≤ 2^53) — under the explicit float hypotheses `NumOrderLaws F S`. Outside `S` it is not one
(`2^53+1 ≤ 2^53.0 ≤ 2^53` but `2^53+1 > 2^53`). -/
theorem num_total_preorder {F : FloatOps} {S : Int64 → Prop} (hL : NumOrderLaws F S) :
    TotalPreorder (fun (a b : GoodNum F S) => Num.lt F a.1 b.1) :=
  Equal.num_total_preorder hL

/-- so sorting such numbers (the model's comparator `numLt` is the promoted `<` off NaN, and sorting
commutes with forgetting the side conditions) is covered by `sort_sorted_perm_stable` -/
theorem sort_numbers {F : FloatOps} {S : Int64 → Prop} (xs : List (GoodNum F S)) :
    (∀ a b : GoodNum F S, numLt F a.1 b.1 = Num.lt F a.1 b.1) ∧
    sortBy (fun a b => Num.lt F a b) (xs.map (·.1)) =
      (sortBy (fun (a b : GoodNum F S) => Num.lt F a.1 b.1) xs).map (·.1) :=
  ⟨fun a b => numLt_eq_lt F a.1 b.1 a.2.1 b.2.1, (map_sortBy (·.1) (fun a b => Num.lt F a b) xs).symm⟩

example : NumOrderLaws Equal.F0 (fun _ => True) := F0_numOrderLaws

end KotoVerif.C14
