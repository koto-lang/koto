/-
C08 — extension: further theorems about `Model/Timeout.lean` (poller runs, the entry loop
`firstTimeout`, the trace replayer `replay`, error delivery).
-/
import KotoVerif.Model.Timeout
import KotoVerif.Lemmas.C08
import KotoVerif.Props.C08

namespace KotoVerif.C08Ext
open KotoVerif.Timeout KotoVerif.C08L

def F0 : TOps := ⟨fun _ => 0, fun _ _ => 0, fun _ _ => 0, fun _ _ => 0, fun _ _ => false,
    fun _ => false, fun _ => 0⟩

/-! ## 1. invariants of every reachable poller state -/

theorem runN_maxInterval (F : TOps) (clk : Nat → Nat) (n : Nat) :
    ∀ (s : St) (i : Nat), (runN F clk n s i).maxInterval = s.maxInterval := fun s i =>
  runN_invariant F clk (Q := fun s' => s'.maxInterval = s.maxInterval)
    (fun s' now h => (check_maxInterval F s' now).trans h) n s i rfl

/-- every interval of an entry stays below `max(first interval, MAX_INTERVAL_INSTRUCTIONS)` -/
theorem interval_bounded_from_new (F : TOps) (rate cap : UInt64) (maxI limit t0 : Nat)
    (clk : Nat → Nat) (n : Nat) :
    (runN F clk n (new F rate cap maxI limit t0) 0).intervalInstr
      ≤ max (new F rate cap maxI limit t0).intervalInstr maxI :=
  interval_bounded_run F clk _ n _ 0 (Nat.le_max_left _ _) (by simp [new]; omega)

theorem check_lastCheck_lt (F : TOps) (s : St) (now : Nat) (h : s.lastCheck < s.deadline) :
    (check F s now).1.lastCheck < (check F s now).1.deadline := by
  rcases check_cases F s now with ⟨_, h2⟩ | ⟨_, _, h2⟩ | ⟨_, hd, h2⟩ <;> rw [h2]
  · exact h
  · exact h
  · show now < s.deadline; omega

theorem lastCheck_lt_deadline_run (F : TOps) (clk : Nat → Nat) (n : Nat) (s : St) (i : Nat) :
    s.lastCheck < s.deadline → (runN F clk n s i).lastCheck < (runN F clk n s i).deadline :=
  runN_invariant F clk (check_lastCheck_lt F) n s i

/-- every state reachable from `new` has `last_check < deadline`, so `remaining` and the measured rate
are taken at a point before the deadline -/
theorem lastCheck_lt_deadline_from_new (F : TOps) (rate cap : UInt64) (maxI limit t0 : Nat)
    (clk : Nat → Nat) (n : Nat) (hl : 0 < limit) :
    (runN F clk n (new F rate cap maxI limit t0) 0).lastCheck < t0 + limit := by
  have := lastCheck_lt_deadline_run F clk n (new F rate cap maxI limit t0) 0 (by simp [new]; omega)
  rw [runN_deadline] at this
  simpa [new] using this

example : (0 : Nat) < 20 := by decide +kernel

/-! ## 2. the run depends on the clock only through the values it is shown -/

theorem runN_clock_congr (F : TOps) (clk clk' : Nat → Nat) (n : Nat) :
    ∀ (s : St) (i : Nat), (∀ j, j < n → clk (i + j) = clk' (i + j)) →
      runN F clk n s i = runN F clk' n s i := by
  intro s i h
  simp only [runN_eq_foldl, List.range'_eq_map_range, List.foldl_map]
  exact List.foldl_rel (r := Eq) rfl fun k hk c c' e => by rw [e, h k (List.mem_range.1 hk)]

example : ∀ j, j < 3 → (fun k => if k < 3 then k else 7) (0 + j) = (fun k => k) (0 + j) := by
  intro j hj; simp; omega

/-! ## 3. a reported timeout is final -/

theorem timeout_fixed_point (F : TOps) (s : St) (now : Nat) (h : (check F s now).2 = .timeout) :
    (check F s now).1 = s := by
  obtain ⟨h1, hd⟩ := (check_timeout_iff F s now).1 h
  rw [check_timeout F s now h1 hd]

theorem timeout_persists (F : TOps) (s : St) (a b : Nat) (h : (check F s a).2 = .timeout)
    (hab : a ≤ b) : check F s b = (s, .timeout) := by
  obtain ⟨h1, hd⟩ := (check_timeout_iff F s a).1 h
  exact check_timeout F s b h1 (by omega)

/-- The model comment on `runN` as a theorem: under a monotone clock a timeout, once reported, is
reported by every later check and the poller state stays fixed — a script cannot get past the
timeout by being polled again. -/
theorem timeout_forever (F : TOps) (clk : Nat → Nat) (s : St) (n : Nat)
    (hmono : ∀ j, clk j ≤ clk (j + 1)) (h : pollAt F clk s n = .timeout) :
    ∀ m, pollAt F clk s (n + m) = .timeout ∧ runN F clk (n + m) s 0 = runN F clk n s 0 := by
  intro m
  induction m with
  | zero => exact ⟨h, rfl⟩
  | succ m ih =>
    obtain ⟨hp, hr⟩ := ih
    have hfix : runN F clk (n + m + 1) s 0 = runN F clk (n + m) s 0 := by
      rw [runN_succ_last]
      simpa [pollAt] using timeout_fixed_point F _ _ (by simpa [pollAt] using hp)
    refine ⟨?_, by rw [← Nat.add_assoc, hfix, hr]⟩
    unfold pollAt
    rw [← Nat.add_assoc, hfix]
    have := timeout_persists F (runN F clk (n + m) s 0) (clk (n + m)) (clk (n + m + 1))
      (by simpa [pollAt] using hp) (hmono _)
    rw [this]

example : pollAt F0 (fun j => 10 + 3 * (j + 1)) (new F0 0 0 1000 20 10) 6 = .timeout := by decide +kernel

/-! ## 4. the entry loop `firstTimeout` is "the least check that times out" -/

theorem firstTimeout_succ (F : TOps) (clk : Nat → Nat) (n : Nat) (s : St) (i : Nat) :
    firstTimeout F clk (n + 1) s i =
      if (check F s (clk i)).2 = .timeout then some i
      else firstTimeout F clk n (check F s (clk i)).1 (i + 1) := by
  rcases hc : check F s (clk i) with ⟨s', p⟩
  cases p <;> simp [firstTimeout, hc]

theorem firstTimeout_eq_find (F : TOps) (clk : Nat → Nat) (n : Nat) : ∀ (s : St) (i : Nat),
    firstTimeout F clk n s i =
      ((List.range n).find? fun k => (check F (runN F clk k s i) (clk (i + k))).2 = .timeout).map (i + ·) := by
  induction n with
  | zero => exact fun s i => rfl
  | succ n ih =>
    intro s i
    rw [firstTimeout_succ, List.range_succ_eq_map, List.find?_cons]
    by_cases h0 : (check F s (clk i)).2 = .timeout
    · simp [h0, runN]
    · -- check `k + 1` of the run from `s` is check `k` of the run from the state after the first check
      simp only [h0, runN, Nat.add_zero, decide_false, if_false, ih, List.find?_map, Option.map_map,
        Nat.add_right_comm i 1]
      rfl

theorem firstTimeout_eq_some_iff (F : TOps) (clk : Nat → Nat) (n : Nat) : ∀ (s : St) (i m : Nat),
    firstTimeout F clk n s i = some m ↔
      ∃ k, k < n ∧ m = i + k ∧ (check F (runN F clk k s i) (clk (i + k))).2 = .timeout ∧
        ∀ j, j < k → (check F (runN F clk j s i) (clk (i + j))).2 ≠ .timeout := by
  intro s i m
  simp only [firstTimeout_eq_find, Option.map_eq_some_iff, List.find?_range_eq_some, List.mem_range,
    decide_eq_true_eq, Bool.not_eq_true', decide_eq_false_iff_not]
  exact ⟨fun ⟨k, ⟨ht, hk, hb⟩, e⟩ => ⟨k, hk, e.symm, ht, hb⟩, fun ⟨k, hk, e, ht, hb⟩ => ⟨k, ⟨ht, hk, hb⟩, e.symm⟩⟩

/-- `firstTimeout` in the `pollAt` vocabulary of the slack theorems; together with
`every_instruction_polls` this ties the instruction loop `runInstrs` to `never_early_run` /
`bounded_slack_capped`. -/
theorem firstTimeout_iff_least (F : TOps) (clk : Nat → Nat) (n : Nat) (s : St) (m : Nat) :
    firstTimeout F clk n s 0 = some m ↔
      (m < n ∧ pollAt F clk s m = .timeout ∧ ∀ j, j < m → pollAt F clk s j ≠ .timeout) := by
  rw [firstTimeout_eq_some_iff]
  simp only [Nat.zero_add, pollAt]
  exact ⟨fun ⟨k, hk, e, h⟩ => e ▸ ⟨hk, h⟩, fun ⟨hm, h⟩ => ⟨m, hm, rfl, h⟩⟩

theorem firstTimeout_never_early (F : TOps) (clk : Nat → Nat) (n : Nat) (s : St) (m : Nat)
    (h : firstTimeout F clk n s 0 = some m) : s.deadline ≤ clk m :=
  KotoVerif.C08.never_early_run F clk s m ((firstTimeout_iff_least F clk n s m).1 h).2.1

example : firstTimeout F0 (fun j => 10 + 3 * (j + 1)) 10 (new F0 0 0 1000 20 10) 0 = some 6 := by
  decide +kernel

/-! ## 5. terminating scripts are unaffected by the limit -/

/-- "terminating scripts are unaffected": an instruction stream all of whose instructions start
before the deadline runs to its end without a timeout — for every polling policy, every float
implementation, every interval state (whatever the adaptive interval does, a poll before the
deadline never fires). -/
theorem runInstrs_unaffected (F : TOps) (polls : InstrKind → Bool) (clk : Nat → Nat)
    (ks : List InstrKind) :
    ∀ (s : St) (i : Nat), (∀ j, j < ks.length → clk (i + j) < s.deadline) →
      runInstrs F polls clk ks s i = none := by
  induction ks with
  | nil => intro s i _; rfl
  | cons k ks ih =>
    intro s i h
    have h0 : clk i < s.deadline := by simpa using h 0 (by simp)
    have hrest : ∀ s' : St, s'.deadline = s.deadline → runInstrs F polls clk ks s' (i + 1) = none := by
      intro s' hs'
      apply ih
      intro j hj
      rw [hs']
      have := h (j + 1) (by simp; omega)
      rwa [show i + (j + 1) = i + 1 + j by omega] at this
    unfold runInstrs
    split
    · have hne : (check F s (clk i)).2 ≠ .timeout := by
        intro ht
        have := KotoVerif.C08.never_early F s (clk i) ht
        omega
      have hd := check_deadline F s (clk i)
      rcases hc : check F s (clk i) with ⟨s', p⟩
      rw [hc] at hne hd
      cases p
      · simp [hrest s' hd]
      · simp [hrest s' hd]
      · exact absurd rfl hne
    · exact hrest s rfl

/-- … hence the outcome of a terminating stream does not depend on the configured limit at all:
any two limits whose deadlines lie after the stream's last instruction give the same result -/
theorem limit_transparent (F : TOps) (rate cap : UInt64) (maxI l1 l2 t0 : Nat) (clk : Nat → Nat)
    (ks : List InstrKind)
    (h1 : ∀ j, j < ks.length → clk j < t0 + l1) (h2 : ∀ j, j < ks.length → clk j < t0 + l2) :
    runInstrs F pollsEvery clk ks (new F rate cap maxI l1 t0) 0 =
      runInstrs F pollsEvery clk ks (new F rate cap maxI l2 t0) 0 := by
  rw [runInstrs_unaffected F pollsEvery clk ks _ 0 (by simpa [new] using h1),
    runInstrs_unaffected F pollsEvery clk ks _ 0 (by simpa [new] using h2)]

example : ∀ j, j < [InstrKind.call, .jumpBack].length → (fun j => 10 + 3 * (j + 1)) j < 10 + 20 := by
  intro j hj; simp at hj; simp; omega

theorem runInstrs_never_early (F : TOps) (clk : Nat → Nat) (ks : List InstrKind) (s : St) (m : Nat)
    (h : runInstrs F pollsEvery clk ks s 0 = some m) : m < ks.length ∧ s.deadline ≤ clk m := by
  rw [KotoVerif.C08.every_instruction_polls] at h
  exact ⟨((firstTimeout_iff_least F clk _ s m).1 h).1, firstTimeout_never_early F clk _ s m h⟩

example : runInstrs F0 pollsEvery (fun j => 10 + 3 * (j + 1))
    (List.replicate 10 .opPush) (new F0 0 0 1000 20 10) 0 = some 6 := by decide +kernel

/-! ## 6. the trace replayer used by the driver -/

theorem replay_length_le (F : TOps) (ts : List Nat) :
    ∀ (s : St) (calls : Nat), (replay F ts s calls).length ≤ ts.length := by
  induction ts with
  | nil => intro s calls; simp [replay]
  | cons t ts ih =>
    intro s calls
    simp only [replay]
    split <;> simp [ih]

/-- never early, on the replayer the correspondence runs: readings before the deadline are all
consumed and none is reported as a timeout -/
theorem replay_before_deadline (F : TOps) (ts : List Nat) :
    ∀ (s : St) (calls : Nat), s.sinceLast ≤ s.intervalInstr → (∀ t ∈ ts, t < s.deadline) →
      (replay F ts s calls).length = ts.length ∧ ∀ x ∈ replay F ts s calls, x.timedOut = false := by
  induction ts with
  | nil => intro s calls _ _; exact ⟨rfl, nofun⟩
  | cons t ts ih =>
    intro s calls hle hts
    rw [replay_cons_ok F t ts s calls hle (hts t List.mem_cons_self)]
    obtain ⟨h1, h2⟩ := ih
      { s with intervalInstr := nextInterval F (skipMany s (s.intervalInstr - s.sinceLast)) t,
               sinceLast := 0, lastCheck := t }
      (calls + (s.intervalInstr - s.sinceLast) + 1) (Nat.zero_le _)
      (fun t' ht' => hts t' (List.mem_cons_of_mem _ ht'))
    refine ⟨by rw [List.length_cons, h1, List.length_cons], fun x hx => ?_⟩
    rcases List.mem_cons.1 hx with rfl | hx
    · rfl
    · exact h2 x hx

example : (replay F0 [12, 15] (new F0 0 0 1000 20 10) 0).length = 2 := by decide +kernel

theorem replay_detects (F : TOps) (t : Nat) (ts : List Nat) (s : St) (calls : Nat)
    (hle : s.sinceLast ≤ s.intervalInstr) (ht : s.deadline ≤ t) :
    ∃ x, replay F (t :: ts) s calls = [x] ∧ x.timedOut = true ∧
      x.calls = calls + (s.intervalInstr - s.sinceLast) + 1 :=
  ⟨_, replay_cons_timeout F t ts s calls hle ht, rfl, rfl⟩

example : ((replay F0 [12, 31, 40] (new F0 0 0 1000 20 10) 0).map (·.timedOut)) = [false, true] := by
  decide +kernel

/-- One replay step IS the per-instruction run: for any clock that shows `t` at the next
clock-reading check, consuming `t < deadline` emits the snapshot of the state `runN` reaches after
`interval - since + 1` single checks and continues from that state (which again has
`since ≤ interval`, so the step iterates over a whole trace). This justifies the driver's `trace`
request against `runN`/`pollAt`, the vocabulary of the slack theorems. -/
theorem replay_step_runN (F : TOps) (clk : Nat → Nat) (s : St) (i t : Nat) (ts : List Nat) (calls : Nat)
    (hle : s.sinceLast ≤ s.intervalInstr)
    (hclk : clk (i + (s.intervalInstr - s.sinceLast)) = t) (ht : t < s.deadline) :
    replay F (t :: ts) s calls =
      { calls := calls + (s.intervalInstr - s.sinceLast) + 1,
        lastCheck := (runN F clk (s.intervalInstr - s.sinceLast + 1) s i).lastCheck,
        interval := (runN F clk (s.intervalInstr - s.sinceLast + 1) s i).intervalInstr,
        timedOut := false,
        sound := decide (UpdateSound F (skipMany s (s.intervalInstr - s.sinceLast)) t) } ::
        replay F ts (runN F clk (s.intervalInstr - s.sinceLast + 1) s i)
          (calls + (s.intervalInstr - s.sinceLast) + 1) ∧
    (runN F clk (s.intervalInstr - s.sinceLast + 1) s i).sinceLast
      ≤ (runN F clk (s.intervalInstr - s.sinceLast + 1) s i).intervalInstr := by
  rw [runN_succ_last, runN_skips F clk _ s i (Nat.le_refl _), hclk, check_due_ok F t hle ht]
  exact ⟨replay_cons_ok F t ts s calls hle ht, Nat.zero_le _⟩

/-- … and at a reading at or past the deadline the replayer's timeout is the run's timeout -/
theorem replay_timeout_runN (F : TOps) (clk : Nat → Nat) (s : St) (t : Nat)
    (hle : s.sinceLast ≤ s.intervalInstr)
    (hclk : clk (s.intervalInstr - s.sinceLast) = t) (ht : s.deadline ≤ t) :
    pollAt F clk s (s.intervalInstr - s.sinceLast) = .timeout := by
  unfold pollAt
  rw [runN_skips F clk _ s 0 (Nat.le_refl _), hclk, check_due_timeout F t hle ht]

example : ∃ s : St, s.sinceLast ≤ s.intervalInstr ∧ (fun _ => 12) (0 + (s.intervalInstr - s.sinceLast)) = 12 ∧
    12 < s.deadline :=
  ⟨new F0 0 0 1000 20 10, by decide +kernel⟩

/-! ## 7. delivery -/

theorem delivery_keeps_kind (stack : List Frame) :
    ∀ (kind k' : ErrKind) (ac : Bool), deliverFlat kind ac stack = .escaped k' → k' = kind := by
  induction stack with
  | nil => intro kind k' ac h; simp [deliverFlat] at h; exact h.symm
  | cons f rest ih =>
    intro kind k' ac h
    unfold deliverFlat at h
    split at h
    · cases h
    · split at h <;> exact ih _ _ _ h

theorem error_never_becomes_timeout (stack : List Frame) :
    deliverError stack ≠ .escaped .timeout := by
  rw [deliverError_flat]
  intro h
  cases delivery_keeps_kind stack _ _ _ h

/-- for ordinary errors the entry boundaries (`execution_barrier`) are invisible -/
theorem error_barriers_irrelevant (g : Frame → Bool) (stack : List Frame) :
    deliverError (stack.map fun f => { f with barrier := g f }) = deliverError stack := by
  rw [deliverError_flat, deliverError_flat]
  induction stack with
  | nil => rfl
  | cons f rest ih =>
    rw [List.map_cons]
    cases hc : f.catches with
    | nil => rw [deliverFlat_other_pass rest hc, deliverFlat_other_pass (f := ⟨[], g f⟩) _ rfl, ih]
    | cons h hs =>
      rw [deliverFlat_catch _ rest hc, deliverFlat_catch (f := ⟨h :: hs, g f⟩) _ _ rfl, List.length_map]

theorem error_escapes_iff (stack : List Frame) :
    deliverError stack = .escaped .other ↔ ∀ f ∈ stack, f.catches = [] := by
  rw [deliverError_flat]
  induction stack with
  | nil => simp [deliverFlat]
  | cons f rest ih =>
    cases hc : f.catches with
    | nil => rw [deliverFlat_other_pass rest hc, ih]; simp [hc]
    | cons h hs => simp [deliverFlat_catch _ rest hc, hc]

theorem deliver_fuel_irrelevant (f1 f2 : Nat) (kind : ErrKind) (ac : Bool) (stack : List Frame)
    (h1 : stack.length < f1) (h2 : stack.length < f2) :
    deliver f1 kind ac stack = deliver f2 kind ac stack := by
  rw [deliver_eq_flat f1 kind ac stack h1, deliver_eq_flat f2 kind ac stack h2]

example : ([⟨[1], true⟩] : List Frame).length < 2 ∧ ([⟨[1], true⟩] : List Frame).length < 5 := by decide +kernel

theorem error_skips_handler_free (pre rest : List Frame) (hpre : ∀ g ∈ pre, g.catches = []) :
    deliverError (pre ++ rest) = deliverError rest := by
  rw [deliverError_flat, deliverError_flat]
  induction pre with
  | nil => rfl
  | cons g pre ih =>
    rw [List.cons_append, deliverFlat_other_pass _ (hpre g List.mem_cons_self)]
    exact ih fun x hx => hpre x (List.mem_cons_of_mem _ hx)

example : ∀ g ∈ ([⟨[], true⟩, ⟨[], false⟩] : List Frame), g.catches = [] := by decide +kernel

theorem error_caught_at (pre : List Frame) (f : Frame) (post : List Frame) (h : Nat) (hs : List Nat)
    (hpre : ∀ g ∈ pre, g.catches = []) (hf : f.catches = h :: hs) :
    deliverError (pre ++ f :: post) = .caught h (post.length + 1) := by
  rw [error_skips_handler_free pre _ hpre, deliverError_flat]
  exact deliverFlat_catch _ post hf

example : deliverError ([⟨[], true⟩, ⟨[], false⟩] ++ ⟨[3, 4], true⟩ :: [⟨[9], true⟩]) = .caught 3 2 := by
  decide +kernel

end KotoVerif.C08Ext
