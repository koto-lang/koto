/-
C02 — Functions, closures and generators bind and capture as documented.

Models: Model/Bind.lean (runtime binding over register files, compiled unpack prologue, compile-time
register layout), Model/Capture.lean (the parser's capture analysis, declarative free variables,
closures, captured containers), Model/Gen.lean (generators as coroutines).
-/
import KotoVerif.Lemmas.C02Bind
import KotoVerif.Lemmas.C02Capture
import KotoVerif.Lemmas.C02Gen

namespace KotoVerif.C02
open KotoVerif KotoVerif.Bind KotoVerif.Capture KotoVerif.Gen

/-! ## Binding -/

/-- **bind_layout.** When the argument count is admissible, the callee starts with `self`, the
positional arguments, the defaults of exactly the missing optional arguments, the variadic tuple of
the extra arguments, then the captures — in this order, whatever temporaries (`junk`) follow the
arguments on the register stack. -/
theorem bind_layout (f : FnVal) (self : Val) (args junk : List Val)
    (hopt : f.optCount ≤ f.expected) (hcap : f.optCount ≤ f.captures.length)
    (h1 : f.required ≤ args.length) (h2 : f.variadic = true ∨ args.length ≤ f.expected) :
    callKoto (self :: (args ++ junk)) args.length f =
      .ok (self :: args.take f.expected
            ++ (f.captures.take f.optCount).drop (min args.length f.expected - f.required)
            ++ (if f.variadic then [Val.tuple (args.drop f.expected)] else [])
            ++ f.captures.drop f.optCount) :=
  callKoto_layout f self args junk hopt hcap h1 h2

example : callKoto [.null, .int 1, .int 7, .int 8] 1
    { argCount := 3, optCount := 1, variadic := true, captures := [.int 10, .int 77] }
    = .ok [.null, .int 1, .int 10, .tuple [], .int 77] := by rfl

/-- **bind_spec.** What each parameter holds, as the guide prescribes: parameter `i` holds the
`i`-th argument when supplied and otherwise *its own* default (default `i - required`); the variadic
parameter holds the tuple of the extra arguments; capture `j` follows the declared parameters. -/
theorem bind_spec (f : FnVal) (self : Val) (args junk : List Val) (rs : Regs)
    (hopt : f.optCount ≤ f.expected) (hcap : f.optCount ≤ f.captures.length)
    (hvar : f.variadic = true → f.argCount ≥ 1)
    (h : callKoto (self :: (args ++ junk)) args.length f = .ok rs) :
    getReg rs 0 = self
    ∧ (∀ i, i < f.expected → i < args.length → getReg rs (1 + i) = args.getD i .null)
    ∧ (∀ i, i < f.expected → args.length ≤ i → getReg rs (1 + i) = f.captures.getD (i - f.required) .null)
    ∧ (f.variadic = true → getReg rs (1 + f.expected) = .tuple (args.drop f.expected))
    ∧ (∀ j, j < f.captures.length - f.optCount →
        getReg rs (1 + f.argCount + j) = f.captures.getD (f.optCount + j) .null) := by
  obtain ⟨⟨h1, h2⟩, rfl⟩ := (callKoto_ok_iff f self args junk rs hopt hcap).1 h
  have he := expected_eq f hopt
  have hAD := params_filled f args hopt hcap h1
  have hA : (args.take f.expected).length = min f.expected args.length := List.length_take
  clear h2 hcap h
  unfold layout
  rw [List.append_assoc _ _ (f.captures.drop f.optCount)]
  obtain ⟨rA, rD, rT⟩ := getReg_frame self (args.take f.expected)
    ((f.captures.take f.optCount).drop (min args.length f.expected - f.required))
    ((if f.variadic then [Val.tuple (args.drop f.expected)] else []) ++ f.captures.drop f.optCount)
  rw [hAD] at rT
  refine ⟨rfl, fun i hi hia => ?_, fun i hi hia => ?_, fun hv => ?_, fun j hj => ?_⟩
  · rw [rA i (by omega), getD_take _ _ _ _ hi]
  · have hm : min args.length f.expected = args.length := Nat.min_eq_left (by omega)
    rw [hm] at rD hAD ⊢
    rw [Nat.min_comm, hm] at hA
    have e : args.length - f.required + (i - (args.take f.expected).length) = i - f.required := by omega
    rw [rD i (by omega) (by omega), getD_drop, e, getD_take _ _ _ _ (by omega)]
  · have := rT 0
    rw [hv] at this ⊢
    exact this
  · clear hA hAD h1 he hopt
    have hc := argCount_eq f hvar
    have e : 1 + f.argCount + j = 1 + f.expected + ((if f.variadic then 1 else 0) + j) := by omega
    rw [e, rT, getD_app_right _ _ _ _ (by rw [variadic_slot_length]; omega), variadic_slot_length,
      Nat.add_sub_cancel_left, getD_drop]

/-- **bind_errors.** A call fails with an argument-count error exactly when fewer arguments than
required are supplied, or more than declared and the function is not variadic. -/
theorem bind_errors (f : FnVal) (self : Val) (args junk : List Val)
    (hopt : f.optCount ≤ f.expected) (hcap : f.optCount ≤ f.captures.length) :
    (args.length < f.required →
        callKoto (self :: (args ++ junk)) args.length f = .error .insufficient)
    ∧ (f.variadic = false → args.length > f.expected →
        callKoto (self :: (args ++ junk)) args.length f = .error .tooMany)
    ∧ ((∃ e, callKoto (self :: (args ++ junk)) args.length f = .error e)
        ↔ (args.length < f.required ∨ (f.variadic = false ∧ args.length > f.expected))) := by
  refine ⟨callKoto_too_few f self args junk, callKoto_too_many f self args junk, ?_⟩
  constructor
  · intro ⟨e, he⟩
    by_cases h1 : f.required ≤ args.length
    · by_cases h2 : f.variadic = true ∨ args.length ≤ f.expected
      · rw [callKoto_layout f self args junk hopt hcap h1 h2] at he; cases he
      · right
        cases hv : f.variadic
        · exact ⟨rfl, by have := fun h => h2 (Or.inr h); omega⟩
        · exact absurd (Or.inl hv) h2
    · left; omega
  · intro h
    cases h with
    | inl h => exact ⟨_, callKoto_too_few f self args junk h⟩
    | inr h => exact ⟨_, callKoto_too_many f self args junk h.1 h.2⟩

/-- **packed_args_spec.** For any number of packed arguments at any positions — empty ones
included — `unpack_packed_arguments` leaves exactly the argument list in which every packed
argument is replaced by its elements, and the argument count is its length. Temporaries after the
index registers (`junk`) are untouched. -/
theorem packed_args_spec (iter : Val → Option (List Val)) (self : Val) (cargs : List CallArg)
    (junk : List Val) (off : Nat) (pre : List Val) (hoff : off = pre.length)
    (hit : allIterable iter cargs)
    (hlim : pre.length + cargs.length + (specArgs iter cargs).length ≤ 254) :
    unpackPacked iter
        (self :: (pre ++ cargs.map (·.1) ++ (packedIdxs off cargs).map (fun i => Val.int (i : Nat)) ++ junk))
        (pre.length + cargs.length) (packedIdxs off cargs).length
      = .ok (self :: (pre ++ specArgs iter cargs ++ junk), pre.length + (specArgs iter cargs).length) := by
  subst hoff
  unfold unpackPacked
  by_cases h0 : (packedIdxs pre.length cargs).length = 0
  · -- no packed argument at all: nothing happens, and specArgs = the arguments
    have hnil : packedIdxs pre.length cargs = [] := List.eq_nil_of_length_eq_zero h0
    simp [hnil, specArgs_of_packedIdxs_nil iter _ _ hnil]
  · simp only [h0, if_false]
    -- the index registers are read back and drained, then the loop runs
    have hlen : (pre ++ cargs.map (·.1)).length = pre.length + cargs.length := by simp
    have hread := read_idx_regs self (pre ++ cargs.map (·.1))
      ((packedIdxs pre.length cargs).map (fun i => Val.int (i : Nat))) junk
    have hdrain := drain_idx_regs self (pre ++ cargs.map (·.1))
      ((packedIdxs pre.length cargs).map (fun i => Val.int (i : Nat))) junk
    rw [hlen, List.length_map] at hread hdrain
    rw [hread, hdrain]
    rw [mapExcept_asIndex _ (fun i hi => by
      have := packedIdxs_lt pre.length cargs i hi
      omega)]
    exact unpackLoop_spec iter self junk cargs pre pre.length (pre.length + cargs.length) rfl hit hlim

example : unpackPacked elems
    [.null, .list [], .int 1, .tuple [.int 2, .int 3], .int 0, .int 2, .str [120]] 3 2
    = .ok ([.null, .int 1, .int 2, .int 3, .str [120]], 3) := by rfl

/-- **pipe_eq_call.** `a -> f b…` performs exactly the call `f(a, b…)`: same registers, same
argument count, same packed indices (shifted by one) — packed arguments included, for functions and
generators. -/
theorem pipe_eq_call (iter : Val → Option (List Val)) (f : FnVal) (a : Val) (args : List CallArg)
    (gen : Bool) :
    callPiped iter f a args gen = callPlain iter f ((a, false) :: args) gen := by
  simp [callPiped, callPlain, compileCall, packedIdxs, Nat.add_comm]

/-- **pipe_method_eq_call.** `a -> m.f b…` (also through a longer chain `x.y.m.f`) performs exactly
the call `m.f(a, b…)`: the piped value is the first argument and the method still receives its
container as `self`. -/
theorem pipe_method_eq_call (iter : Val → Option (List Val)) (f : FnVal) (m a : Val)
    (args : List CallArg) (gen : Bool) :
    callPipedInstance iter f m a args gen = callInstance iter f m ((a, false) :: args) gen := by
  simp [callPipedInstance, callInstance, compileCall, packedIdxs, Nat.add_comm]

example : (callPipedInstance elems { argCount := 2, optCount := 0, variadic := false, captures := [] }
    (.map [(.str [116], .int 7)]) (.int 1) [(.int 2, false)]).toOption
    = some [.map [(.str [116], .int 7)], .int 1, .int 2] := by rfl

/-- **creation_layout.** The captures list of a function after creation (and after the commit of
the assignment it is created in): the default values in order, then the captures in order — the
function's own name, whose `Capture` is deferred until the commit, lands in slot
`optional_arg_count + its capture index` like every other capture, and no default slot is touched by
it. -/
theorem creation_layout (defaults : List Val) (caps : List CapSrc) (fnVal : Val) :
    createCaptures defaults caps fnVal = defaults ++ caps.map (CapSrc.value fnVal) := by
  unfold createCaptures
  have h1 := applyDefaultCaps_spec defaults [] caps.length
  simp only [List.nil_append, List.length_nil] at h1
  simp only [h1]
  have h2 := applyCaptureOps_spec fnVal defaults caps [] (List.replicate caps.length Val.null) (by simp)
  simpa using h2

/-- two defaults, captures `x`, the function itself, `y`: the function sits in slot 2 + 1 -/
example : createCaptures [.int 10, .int 20] [.val (.int 1), .self, .val (.int 3)] (.str [102])
    = [.int 10, .int 20, .int 1, .str [102], .int 3] := by rfl

/-- **late_bound_spec.** An id that the body reads and that is neither a local nor a capture when
the function is created (e.g. a function exported later) resolves, when the function runs, to the
export of that name at that time — for any number of default arguments and captures: the function is
created with access to the non-locals as soon as one accessed id is not captured; the default values,
although they share the capture list, play no role. -/
theorem late_bound_spec (d : FnDef) (rs : Regs) (exports : List (Bind.Name × Val)) (n : Bind.Name)
    (v : Val) (hn : n ∈ d.lates) (hreg : regOf d n = none) (hv : lookupName n exports = some v) :
    d.nonLocalAccess = true ∧ readLate d rs exports n = .ok v := by
  have hpos : 0 < d.lates.length := List.length_pos_of_mem hn
  have hflag : d.nonLocalAccess = true := by
    simp only [FnDef.nonLocalAccess, decide_eq_true_eq]
    omega
  exact ⟨hflag, by simp [readLate, hreg, hflag, hv]⟩

example : readLate { params := [.id 1], optCount := 1, variadic := false, captures := [], lates := [5] }
    [.null, .int 1] [(5, .int 50)] 5 = .ok (.int 50) := by rfl

/-- `call_callable` on the registers `compile_call` lays out — frame base, the piped value if any
(`pre`), the arguments, the indices of the packed ones: the function, or the generator, is bound to
the argument list with the packed arguments spliced in. -/
theorem callCallable_spec (iter : Val → Option (List Val)) (f : FnVal) (cargs : List CallArg)
    (hit : allIterable iter cargs) (inst : Option Val) (pre : List Val) (gen : Bool)
    (hlim : pre.length + cargs.length + (specArgs iter cargs).length ≤ 254) :
    callCallable iter
        (Val.null :: (pre ++ cargs.map (·.1) ++ (packedIdxs pre.length cargs).map (fun i => Val.int (i : Nat))))
        inst (pre.length + cargs.length) (packedIdxs pre.length cargs).length f gen
      = callKoto (inst.getD .null :: (pre ++ specArgs iter cargs)) (pre.length + (specArgs iter cargs).length) f := by
  have hp := packed_args_spec iter (inst.getD .null) cargs [] pre.length pre rfl hit hlim
  simp only [List.append_nil] at hp
  have hg := callGenerator_eq f (inst.getD .null) (pre ++ specArgs iter cargs) []
  simp only [List.append_nil, List.length_append] at hg
  cases gen
  · simp only [callCallable, setReg, List.length_cons, Nat.zero_lt_succ, if_true, List.set_cons_zero,
      Bool.false_eq_true, if_false, hp, bind, Except.bind]
  · simp only [callCallable, setReg, List.length_cons, Nat.zero_lt_succ, if_true, List.set_cons_zero,
      hp, bind, Except.bind, hg]

/-- **call_spec.** End to end: a call built by `compile_call` (any form) binds the function, or the
generator function, to the argument list in which packed arguments are replaced by their elements;
register 0 of the callee is the instance for `m.f(…)` and null otherwise; a piped value is the first
argument. -/
theorem call_spec (iter : Val → Option (List Val)) (f : FnVal) (m a : Val) (cargs : List CallArg)
    (gen : Bool) (hit : allIterable iter cargs)
    (hlim : 1 + cargs.length + (specArgs iter cargs).length ≤ 254) :
    callPlain iter f cargs gen
        = callKoto (.null :: specArgs iter cargs) (specArgs iter cargs).length f
    ∧ callInstance iter f m cargs gen
        = callKoto (m :: specArgs iter cargs) (specArgs iter cargs).length f
    ∧ callPiped iter f a cargs gen
        = callKoto (.null :: a :: specArgs iter cargs) (1 + (specArgs iter cargs).length) f := by
  refine ⟨?_, ?_, ?_⟩
  · have := callCallable_spec iter f cargs hit none [] gen (by simp; omega)
    simpa [callPlain, compileCall] using this
  · have := callCallable_spec iter f cargs hit (some m) [] gen (by simp; omega)
    simpa [callInstance, compileCall] using this
  · have := callCallable_spec iter f cargs hit none [a] gen (by simp; omega)
    simpa [callPiped, compileCall, Nat.add_comm] using this

/-- **method_self.** In `m.f(args)` the function sees `m` as `self` (register 0); in `f(args)` it
sees null — whenever the call succeeds. -/
theorem method_self (iter : Val → Option (List Val)) (f : FnVal) (m : Val) (cargs : List CallArg)
    (rs : Regs) (hit : allIterable iter cargs)
    (hlim : 1 + cargs.length + (specArgs iter cargs).length ≤ 254)
    (hopt : f.optCount ≤ f.expected) (hcap : f.optCount ≤ f.captures.length) :
    (callInstance iter f m cargs = .ok rs → getReg rs 0 = m)
    ∧ (callPlain iter f cargs = .ok rs → getReg rs 0 = .null) := by
  have key : ∀ (self : Val),
      callKoto (self :: specArgs iter cargs) (specArgs iter cargs).length f = .ok rs → getReg rs 0 = self := by
    intro self h
    obtain ⟨_, rfl⟩ := (callKoto_ok_iff f self (specArgs iter cargs) [] rs hopt hcap).1
      (by rwa [List.append_nil])
    rfl
  obtain ⟨hp, hi, _⟩ := call_spec iter f m .null cargs false hit hlim
  exact ⟨fun h => key m (hi ▸ h), fun h => key .null (hp ▸ h)⟩

/-- **layout_agrees.** The compiler's frame layout (`Frame::new`) and the runtime binding agree:
the `j`-th captured name is assigned register `1 + #parameters + j`, which is where
`apply_captures` puts capture `j` (see `bind_spec`), provided no parameter has that name. -/
theorem layout_agrees (d : FnDef) (j : Nat) (n : Bind.Name) (hj : d.captures[j]? = some n)
    (hfirst : ∀ i, i < j → d.captures[i]? ≠ some n)
    (hnotparam : ∀ p ∈ d.params, topSlot p ≠ .assigned n) :
    regOf d n = some (1 + d.params.length + j) := by
  unfold regOf frameSlots
  -- the slot of `self` and those of the parameters are passed over; the name is met among the captures
  rw [List.cons_append, List.cons_append, findSlot, if_neg Slot.noConfusion, List.append_assoc,
    findSlot_append_of_ne n _ _ _ (fun s hs => by
      obtain ⟨p, hp, rfl⟩ := List.mem_map.mp hs
      exact hnotparam p hp),
    findSlot_map_assigned n d.captures _ _ j hj hfirst, List.length_map, Nat.zero_add]

/-- **wf_layout_fits.** For a well-formed parameter list (argument names pairwise distinct, /repo
7adfc01) the registers that `Frame::new` hands out — self, every top-level argument, the captures,
every unpacked name — are exactly the registers below `temporary_base` that are not reserved for body
locals: the compiler's per-occurrence layout and the parser's `local_count` (distinct ids) agree. -/
theorem wf_layout_fits (d : FnDef) (h : d.wellFormed = true) :
    (frameSlots d).length + d.bodyLocals = tempBase d := by
  unfold FnDef.wellFormed FnDef.paramNames at h
  have hd := dedup_length_of_nodup _ h
  have hp := params_length d.params
  simp only [frameSlots, tempBase, List.length_cons, List.length_append, List.length_map, hd]
  omega

/-- **dup_layout_overflows** (known finding F-C02-11, fixed by rejecting such lists). Without
well-formedness the layout does not fit: for `|a, (a, b)|` `Frame::new` hands out 5 registers while
`temporary_base` is 4, so the unpacked `b` lives in the first temporary register. -/
theorem dup_layout_overflows :
    let d : FnDef := { params := [.id 1, .tuple [.id 1, .id 2]], optCount := 0, variadic := false, captures := [] }
    d.wellFormed = false ∧ (frameSlots d).length = 5 ∧ tempBase d = 4 := by decide

/-- **single_ellipsis_binds_all** (F-C02-3, fixed in /repo 7cd4923; before the fix the prologue
sliced *up to index 0* and `xs` was empty). For every tuple or list argument, `|(xs...)|` binds `xs`
to the whole container: the prologue is `CheckSizeMin 0; SliceFrom 0`. -/
theorem single_ellipsis_binds_all (vs : List Val) :
    let d : FnDef := { params := [.tuple [.packed (some 1)]], optCount := 0, variadic := false, captures := [] }
    prologue d = [.checkSizeMin 1 0, .sliceFrom 2 1 0]
    ∧ enter d (callPlain elems (d.toVal [] []) [(.tuple vs, false)]) = .ok (.null, [Val.tuple vs])
    ∧ enter d (callPlain elems (d.toVal [] []) [(.list vs, false)]) = .ok (.null, [Val.list vs]) := by
  refine ⟨rfl, ?_, ?_⟩ <;>
  simp [enter, callPlain, compileCall, packedIdxs, callCallable, setReg, unpackPacked, callKoto,
    FnDef.toVal, FnVal.expected, applyOptional, applyVariadic, applyCaptures, bind, Except.bind,
    pure, Except.pure, prologue, compileParams, compileParam, sizeOp, hasPacked, compileTupleElems,
    regOr, regOf, frameSlots, findSlot, topSlot, nestedNames, nestedOfParam, patsNames, patNames,
    execUs, execU, getReg, Bind.sizeOf, slice, signedIndex, FnDef.names, topNames, readName]

example : (enter { params := [.tuple [.packed (some 1), .id 2]], optCount := 0, variadic := false, captures := [] }
    (callPlain elems { argCount := 1, optCount := 0, variadic := false, captures := [] }
      [(.tuple [.int 1, .int 2, .int 3], false)])).toOption.map (·.2)
    = some [Val.tuple [.int 1, .int 2], .int 3] := by rfl

/-! ## Captures -/

/-- **capture_by_copy** (creation). A function literal evaluates to a closure whose environment is
the creation-time environment restricted to the captured names: each captured name holds the value
it has *now*; nothing else of the environment is kept. -/
theorem capture_by_copy (capt : Analysis) (fuel : Nat) (ps : List Capture.Name) (body : List Ex)
    (env : Capture.Env) :
    eval capt (fuel + 1) (.fn ps body) env
        = .ok (.clo ps body (captureEnv (capt ps body) env) none, env)
    ∧ ∀ x, Capture.lookup x (captureEnv (capt ps body) env)
        = if (capt ps body).contains x then Capture.lookup x env else none :=
  ⟨rfl, fun x => lookup_captureEnv _ env x⟩

/-- **capture_by_copy_later.** Reassigning any other variable of the enclosing scope after the
closure was created does not change what a call `g()` of the closure returns (no arguments: they
would be evaluated in the enclosing scope). -/
theorem capture_by_copy_later (capt : Analysis) (fuel : Nat) (g y : Capture.Name) (w : V)
    (env : Capture.Env) (h : g ≠ y) :
    (eval capt fuel (.call g []) (Capture.update y w env)).map (·.1)
      = (eval capt fuel (.call g []) env).map (·.1) := by
  cases fuel with
  | zero => rfl
  | succ fuel =>
    simp only [eval, lookup_update_ne g y w env h]
    cases hg : Capture.lookup g env with
    | none => rfl
    | some f =>
      cases fuel with
      | zero => rfl
      | succ fuel =>
        simp only [evalArgs, bind, Except.bind]
        cases f with
        | clo ps body cenv self =>
          simp only
          cases bindParams ps [] with
          | none => rfl
          | some penv =>
            simp only
            generalize evalBlock capt (fuel + 1) body _ = r
            cases r <;> rfl
        | null => rfl
        | int n => rfl
        | bool b => rfl

/-- the guide's example `x = 1; f = |n| n + x; x = 100; f(2)` gives 3 under both analyses;
`x = 99; f = || x = x + 1; f() + f() + f()` gives 300 (same starting value in every call);
a recursive function reaches itself through the deferred capture -/
example : asInt (runScript accessed 30 guideCopyScript) = .ok 3
    ∧ asInt (runScript freeVars 30 guideCopyScript) = .ok 3
    ∧ asInt (runScript accessed 30 guideSameStartScript) = .ok 300
    ∧ asInt (runScript accessed 60 recScript) = .ok 10 := ⟨rfl, rfl, rfl, rfl⟩

/-- **capture_repaired_shapes** (F-C02-1 = DESIGN F27, fixed in /repo 86c848a; F-C02-2, fixed in
da73144). The two shapes on which the parser's analysis lost a capture before these fixes are recorded:
in `a = (if c then 2 else 3) - a` the read of `a` after the inline `if` (the assignment target is
"in progress", not assigned, while nested lists are finalized), and in `x + (x = 3)` the read of `x`
before the assignment (accesses are counted; the assignment discards one). The F27 script returns 1
under the parser's analysis as under the declarative one. -/
theorem capture_repaired_shapes :
    (1 : Capture.Name) ∈ freeVars [] f27Body ∧ (1 : Capture.Name) ∈ accessed [] f27Body
    ∧ asInt (runScript accessed 20 f27Script) = .ok 1
    ∧ asInt (runScript freeVars 20 f27Script) = .ok 1
    ∧ (1 : Capture.Name) ∈ freeVars [] erasedBody ∧ (1 : Capture.Name) ∈ accessed [] erasedBody := by
  refine ⟨by decide, by decide, rfl, rfl, by decide, by decide⟩

/-- **capture_complete_counterexample** (known finding F-C02-8). At full strength the statement is
false for the repaired analysis too, and this is the only way it fails (`capture_complete_partial`):
in `x = 1 + (|| x)` — a function literal strictly inside the right-hand side of an assignment to `x`
that reads `x` — the parser leaves `x` to the deferred self capture (meant for `x = |…| …`), so the
enclosing function does not record `x`. -/
theorem capture_complete_counterexample : ¬ CaptureComplete := by
  intro h
  have := h [] [.assign 1 (.add (.lit 1) (.fn [] [.var 1]))] 1 (by decide)
  revert this
  decide

/-- **capture_complete_partial.** The general statement for the repaired analysis, for *every*
parameter list and *every* body of the modelled syntax — assignments anywhere inside expressions
(reads of the target before, inside and after nested expression lists), inline `if`s, calls, function
literals nested to any depth with propagation through `add_nested_accessed_non_locals`, recursive
`x = |…| … x …` — with one explicit exclusion, `okBlock`: a function literal that is not itself the
right-hand side of the assignment must not have the target of an assignment whose right-hand side it
stands in among its free names (exactly the shape of `capture_complete_counterexample`).
Then every declaratively free variable is captured. -/
theorem capture_complete_partial (ps : List Capture.Name) (body : List Ex)
    (h : okBlock body = true) (x : Capture.Name) (hx : x ∈ freeVars ps body) :
    x ∈ accessed ps body :=
  (peBlock_ok body [] { assigned := ps } ps (okBlock_mem body h) ⟨rfl, fun _ => Iff.rfl⟩ nofun).2 x hx

/-- in the class: `a = (if c then 2 else 3) - a` (F-C02-1), `x + (x = 3)` (F-C02-2), and
`g = |n| if n < 1 then y else g(n - 1)` ⏎ `y = (y = g(2)) + y` with a nested recursive closure -/
example : okBlock f27Body = true ∧ okBlock erasedBody = true
    ∧ okBlock [.assign 7 (.fn [8] [.ite (.lt (.var 8) (.lit 1)) (.var 9) (.call 7 [.sub (.var 8) (.lit 1)])]),
               .assign 9 (.add (.paren (.assign 9 (.call 7 [.lit 2]))) (.var 9))] = true
    ∧ freeVars [] [.assign 7 (.fn [8] [.ite (.lt (.var 8) (.lit 1)) (.var 9) (.call 7 [.sub (.var 8) (.lit 1)])]),
               .assign 9 (.add (.paren (.assign 9 (.call 7 [.lit 2]))) (.var 9))] = [9] := by decide

/-! ## Captured containers and default values -/

/-- **shared_containers.** Capturing copies the *handle*: the closure's variable refers to the same
heap address as the enclosing scope's variable, so (1) the closure holds that address, (2) a push
made in the enclosing scope goes to that address, (3) a push made inside the closure body goes to
the same address, and (4) a push to an address is what every later read of that address sees. -/
theorem shared_containers (names : List Capture.Name) (s : SState) (x y : Capture.Name) (a : Nat)
    (n : Int) (hx : names.contains x = true) (hxe : slookup x s.env = some (.ref a))
    (hy : slookup y s.env = some (.ref a)) (hf : s.failed = false) :
    slookup x (sCapture names s.env) = some (.ref a)
    ∧ (sstep s (.push y n)).heap = heapPush s.heap a n
    ∧ (∀ (penv : SEnv) (h : Heap) (out : List Ev), slookup x (penv ++ sCapture names s.env) = some (.ref a) →
        runBody [.push x n] (penv ++ sCapture names s.env) h out = (heapPush h a n, out, false))
    ∧ (∀ (h : Heap) (old : List Int), h[a]? = some old → deref (heapPush h a n) (.ref a) = .list (old ++ [n])) := by
  refine ⟨?_, ?_, ?_, ?_⟩
  · rw [slookup_sCapture, hx]; simpa using hxe
  · simp [sstep, hf, hy]
  · intro penv h out hl
    simp [runBody, hl]
  · intro h old hold
    have hlt : a < h.length := by
      rcases Nat.lt_or_ge a h.length with hl | hl
      · exact hl
      · rw [List.getElem?_eq_none hl] at hold; cases hold
    have hget : h[a] = old := by
      have := List.getElem?_eq_getElem hlt
      rw [this] at hold
      exact Option.some.inj hold
    simp [heapPush, deref, List.getD_eq_getElem?_getD, hlt, hget]

/-- **scalars_by_copy.** Rebinding a variable of the enclosing scope (`x = n`) after closures were
created changes neither the closures nor the heap, and a later call produces the same output. -/
theorem scalars_by_copy (s : SState) (x : Capture.Name) (n : Int) (f : Capture.Name) :
    (sstep s (.setInt x n)).fns = s.fns
    ∧ (sstep s (.setInt x n)).heap = s.heap
    ∧ (sstep (sstep s (.setInt x n)) (.call f none)).out = (sstep s (.call f none)).out := by
  cases hf : s.failed
  · refine ⟨by simp [sstep, hf], by simp [sstep, hf], ?_⟩
    simp only [sstep, hf, Bool.false_eq_true, if_false]
    cases flookup f s.fns with
    | none => rfl
    | some c =>
      simp only
      cases c.param <;> cases c.default <;> rfl
  · simp [sstep, hf]

/-- **defaults_once.** A default value is evaluated when the function is created — the `tick` is
emitted then, once — and calls without the argument emit nothing for it and all see that same value. -/
theorem defaults_once (s : SState) (f p : Capture.Name) (tag : Nat) (n : Int) (hf : s.failed = false) :
    let s1 := sstep s (.mkFn f (some (p, some (.tick tag n))) [.emit p])
    s1.out = s.out ++ [.tick tag]
    ∧ (sstep s1 (.call f none)).out = s.out ++ [.tick tag, .int n]
    ∧ (sstep (sstep s1 (.call f none)) (.call f none)).out = s.out ++ [.tick tag, .int n, .int n] := by
  simp [sstep, hf, flookup, bodyNames, runBody, slookup, deref]

/-! ## Generators -/

/-- **gen_resume_exact.** A `next()` that returns `v` has run the generator's machine through some
emits and exactly one `yield`, and leaves it paused in the configuration right after that yield
(continuation stack and variables): the following `next()` continues from there. A `next()` that
reports the end has run the body until it returned; from then on every `next()` reports the end
again without running anything. -/
theorem gen_resume_exact (n : Nat) (c : Cfg) :
    (∀ es v c' m, next n c = .yielded es v c' m →
        ∃ k, run k c = (es.map Event.emit ++ [Event.yield v], c'))
    ∧ (∀ es c', next n c = .finished es c' →
        (∃ k, run k c = (es.map Event.emit, c')) ∧ Halted c' ∧ ∀ j, next (j + 1) c' = .finished [] c') := by
  refine ⟨fun es v c' m h => next_yielded n c es v c' m h, fun es c' h => ?_⟩
  obtain ⟨k, hk, hh⟩ := next_finished n c es c' h
  exact ⟨⟨k, hk⟩, hh, fun j => next_after_end j c' hh⟩

/-- **gen_interleave.** Consuming a generator with `for v in g` + `emit v`: whenever the loop ends
(the model's step budget is not exhausted), its trace is the straight-through run of the body with
every `yield v` replaced by the consumer's `emit v` — generator emits before a yield come before
the consumer sees the value, emits after it come after — and the loop ends exactly when the body
has returned. -/
theorem gen_interleave (n : Nat) (c : Cfg) (h : T.fuel ∉ consumeFor n none c) :
    ∃ k, consumeFor n none c = interleave (run k c).1 ∧ Halted (run k c).2 := by
  obtain ⟨k, hk, hh⟩ := consumeFor_interleave n none c h
  exact ⟨k, hk, hh rfl⟩

/-- **gen_next_spec.** Collecting a generator (`to_tuple`): whenever it ends, the collected values
are the yields of the straight-through run of the body, in order; the generator's own emits are
those of that run; and the run has reached the point where the body returned. -/
theorem gen_next_spec (n : Nat) (c : Cfg) (h : T.fuel ∉ (consumeAll n none c).1) :
    ∃ k, (consumeAll n none c).2 = yields (run k c).1
      ∧ (consumeAll n none c).1 = (emitsOf (run k c).1).map T.g
      ∧ Halted (run k c).2 := by
  rw [C02Ext.consumeAll_eq] at h ⊢
  obtain ⟨k, hk, hh⟩ := gen_interleave n c (fun hm => h ((C02Ext.fuel_mem_gpart _).mpr hm))
  exact ⟨k, by rw [hk, C02Ext.cvals_interleave], by rw [hk, C02Ext.gpart_interleave], hh⟩

/-- the guide's first generator: two values, then the end, again and again -/
example : consumeNexts 100 4 (mkGen [.yield (.lit 1), .yield (.lit 2)] [])
    = [.c 1, .c 2, .fin, .fin] := by decide

/-- emits before and after the yields, consumer in between; early `return` -/
example : consumeFor 100 none (mkGen [.emit (.lit 10), .yield (.lit 1), .emit (.lit 11), .yield (.lit 2),
      .emit (.lit 12), .ret, .yield (.lit 3)] [])
    = [.g 10, .c 1, .g 11, .c 2, .g 12] := by decide

/-- laziness: `take 1` of an endless-looking loop runs the body only up to the first yield -/
example : consumeAll 100 (some 1) (mkGen [.emit (.lit 10), .forRange 1 (.lit 0) (.lit 1000) [.yield (.var 1), .emit (.var 1)]] [])
    = ([.g 10], [0]) := by decide

end KotoVerif.C02
