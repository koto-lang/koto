/-
C18 — Modules: exports, imports and caching behave as documented.

Every theorem is about `Model/Modules.lean` and holds for EVERY file system `fs` (any module graph:
DAGs, diamonds, cycles, file and directory modules, failing modules), every setting `cfg`, every
history of host operations and every fuel (the fuel bounds the import nesting depth; statements are
of the form "whenever the run returns, …").
-/
import KotoVerif.Lemmas.C18Fuel

namespace KotoVerif.C18
open KotoVerif.Modules KotoVerif.C18L

/-! ## concrete data for the non-vacuity examples -/

def pA : Path := ⟨[], 1, false⟩      -- m1.koto
def pAdir : Path := ⟨[], 1, true⟩    -- m1/main.koto
def pB : Path := ⟨[], 2, false⟩      -- m2.koto
def pC : Path := ⟨[], 3, false⟩      -- m3.koto   (imports itself)
def pD : Path := ⟨[], 4, false⟩      -- m4.koto   (fails in @main after importing m2)
def pE : Path := ⟨[], 6, false⟩      -- m6.koto   (re-exports parts of m2 with an unpacking export)
def pF : Path := ⟨[], 7, false⟩      -- m7.koto   (exports set_flag = || export k60 = 1 and get_flag = || k60)

def itm (n : Name) (a : Option Name := none) : Item := { name := n, as_ := a }
def rf (n : Name) : Ref := { name := n }

/-- m1.koto and m1/main.koto both exist; m2 exports two values, reassigns one locally, has a test and
a main; m3 imports itself; m4 imports m2 and then fails in `@main` -/
def fsEx : FS := fun p =>
  if p = pA then some (.ok [.act (.print 1), .act (.export_ 60 5)])
  else if p = pAdir then some (.ok [.act (.print 2)])
  else if p = pB then some (.ok [.act (.print 3), .act (.export_ 60 7), .act (.assign 60 8), .act (.export_ 61 9),
      .defTest 70 4 [], .defMain 5 []])
  else if p = pC then some (.ok [.act (.print 6), .act (.importMods [itm 3])])
  else if p = pD then some (.ok [.act (.print 7), .act (.importMods [itm 2]), .defMain 8 [.fail 9]])
  else if p = pE then some (.ok [.act (.print 10), .act (.importMods [itm 2]),
      -- `export k63, {k60, k61 as k62}, _ = 1, m2, 5`
      .act (.assignPat true [.id 63, .mapPat [⟨60, some 60⟩, ⟨61, some 62⟩], .ignored] [.lit 1, .ref 2, .lit 5])])
  else if p = pF then some (.ok [.exportFn 70 11 [.export_ 60 1], .exportFn 71 12 [.show 13 60]])
  else none

def cfgEx : Cfg := { runImportTests := true, hostTests := false }

def opImport (m : Name) : Op := { dir := [], exportTop := false, body := [.act (.importMods [itm m])] }
def opTry (m : Name) (mk : Nat) : Op := { dir := [], exportTop := false, body := [.act (.tryImport { name := m, str := true } mk)] }

def outOf (ops : List Op) : Option (List Event) := (finalSt cfgEx fsEx 5 ops init).map (·.out)

/-! ## resolution_order — `name.koto` before `name/main.koto`, relative to the importing file -/

theorem normSegs_map_some (dir acc : List Name) : normSegs (dir.map some) acc = acc.reverse ++ dir := by
  induction dir generalizing acc with
  | nil => simp [normSegs]
  | cons d rest ih => simp [normSegs, ih]

theorem norm_canonical (dir : List Name) (n : Name) (b : Bool) :
    (⟨dir.map some, n, b⟩ : Path).norm = ⟨dir.map some, n, b⟩ := by
  simp [Path.norm, normSegs_map_some]

theorem norm_idem (p : Path) : p.norm.norm = p.norm :=
  norm_canonical (normSegs p.dir []) p.name p.isDir

/-- `find_module` as it is: in the importing file's directory extended by the path segments of the
import string, `name.koto` is tried before `name/main.koto` (the file system is asked at the normalised
path); what is returned is the cache key — normalised only in the `main.koto` branch unless
`cfg.canonFile` — and the file name keeps only `cfg.stem name` of the module name -/
theorem resolution_order_general (cfg : Cfg) (fs : FS) (dir : List Name) (r : Ref) :
    let f : Path := ⟨dir.map some ++ r.segs, cfg.stem r.name, false⟩
    let d : Path := ⟨dir.map some ++ r.segs, r.name, true⟩
    (fs f.norm ≠ none → findModule cfg fs dir r = some (if cfg.canonFile then f.norm else f)) ∧
    (fs f.norm = none → fs d.norm ≠ none → findModule cfg fs dir r = some d.norm) ∧
    (fs f.norm = none → fs d.norm = none → findModule cfg fs dir r = none) := by
  intro f d
  refine ⟨?_, ?_, ?_⟩
  · intro h
    simp only [findModule]
    rw [if_pos (Option.isSome_iff_ne_none.mpr h)]
  · intro h1 h2
    simp only [findModule]
    rw [if_neg (by rw [h1]; simp), if_pos (Option.isSome_iff_ne_none.mpr h2)]
  · intro h1 h2
    simp only [findModule]
    rw [if_neg (by rw [h1]; simp), if_neg (by rw [h2]; simp)]

/-- the documented rule, for a plain module name (an id or a string without path segments and without
a dotted suffix): `name.koto` before `name/main.koto` in the importing file's directory -/
theorem resolution_order (cfg : Cfg) (fs : FS) (dir : List Name) (r : Ref) (hplain : r.segs = [])
    (hstem : cfg.stem r.name = r.name) :
    let f : Path := ⟨dir.map some, r.name, false⟩
    let d : Path := ⟨dir.map some, r.name, true⟩
    (fs f ≠ none → findModule cfg fs dir r = some f) ∧
    (fs f = none → fs d ≠ none → findModule cfg fs dir r = some d) ∧
    (fs f = none → fs d = none → findModule cfg fs dir r = none) := by
  have h := resolution_order_general cfg fs dir r
  simp only [hplain, List.append_nil, hstem, norm_canonical] at h
  intro f d
  refine ⟨fun hf => ?_, h.2.1, h.2.2⟩
  rw [h.1 hf]
  split <;> rfl

-- both exist: the file wins
example : findModule cfgEx fsEx [] (rf 1) = some pA := by decide

theorem findModule_canon {cfg : Cfg} {fs : FS} {dir : List Name} {r : Ref} {p : Path}
    (hc : cfg.canonFile = true) (h : findModule cfg fs dir r = some p) : ∃ q : Path, p = q.norm ∧ fs q.norm ≠ none := by
  simp only [findModule, hc, if_true] at h
  split at h
  · next hh => cases h; exact ⟨_, rfl, Option.isSome_iff_ne_none.mp hh⟩
  · split at h
    · next hh => cases h; exact ⟨_, rfl, Option.isSome_iff_ne_none.mp hh⟩
    · cases h

/-- with the repaired `find_module` (`cfg.canonFile`) every cache key is a normalised path, so one
file has one key and `run_once` counts per file -/
theorem canonical_keys (cfg : Cfg) (fs : FS) (dir : List Name) (r : Ref) (p : Path)
    (hc : cfg.canonFile = true) (h : findModule cfg fs dir r = some p) : p.norm = p := by
  obtain ⟨q, rfl, _⟩ := findModule_canon hc h
  exact norm_idem q

/-- Negation witness (finding F-C18-3): as it is, `find_module` does not normalise the `name.koto`
branch, so the same file reached under two spellings (`m1` from the root, `'../m1'` from the folder
`m5/`) has two cache keys and its top level runs twice in one runtime; with `canonFile` it runs once -/
theorem file_runs_twice_under_two_spellings_witness :
    let ops : List Op :=
      [{ dir := [], exportTop := false, body := [.act (.importMods [itm 1])] },
       { dir := [5], exportTop := false,
         body := [.act (.importMods [{ name := 1, str := true, segs := [none], as_ := some 60 }])] }]
    (finalSt cfgEx fsEx 5 ops init).map (fun s => s.out.count (.print 1)) = some 2
    ∧ (finalSt { cfgEx with canonFile := true } fsEx 5 ops init).map (fun s => s.out.count (.print 1)) = some 1 := by
  decide +kernel

/-- Negation witness (finding F-C18-4): `with_extension` drops a dotted suffix of the module name, so
with name 200 spelled `m1.v2` (`stem 200 = 1`) the import of `'m1.v2'` loads `m1.koto` although
`m1.v2.koto` exists; with the repair (`stem = id`) it loads `m1.v2.koto` -/
theorem resolution_dotted_witness :
    let fs : FS := fun p => if p = ⟨[], 200, false⟩ ∨ p = ⟨[], 1, false⟩ then some (.ok []) else none
    findModule { cfgEx with stem := fun n => if n = 200 then 1 else n } fs [] { name := 200, str := true }
      = some ⟨[], 1, false⟩
    ∧ findModule cfgEx fs [] { name := 200, str := true } = some ⟨[], 200, false⟩ := by
  decide

/-- the imported module's own statements run in a frame of their own whose directory is the folder of the
module file, so that is where the module's imports are resolved (`runImport` asks `findModule` at `fr.dir`) -/
theorem resolution_relative (cfg : Cfg) (fs : FS) (fuel : Nat) (p : Path) (s : St) :
    loadModule fs (runUnit cfg fs (fuel + 1)) p s =
      (match runBody cfg fs (runUnit cfg fs fuel) cfg.runImportTests { dir := p.folder, self := some p } (bodyOf fs p)
          (emit (.enter p) { s with cache := upd s.cache p (some .inProgress), exports := {} }) with
       | none => none
       | some (none, st3) =>
         some (.ok (.mref p),
           emit (.done p) { st3 with cache := upd st3.cache p (some (.done st3.exports)), exports := s.exports })
       | some (some e, st3) =>
         some (.error e, emit (.failed p) { st3 with cache := upd st3.cache p none, exports := s.exports })) := rfl

example : (⟨[some 7], 1, true⟩ : Path).folder = [7, 1] ∧ (⟨[some 7, some 3, none], 1, false⟩ : Path).folder = [7] := by decide

/-! ## cycle_error — reaching a module that is in progress is an error and changes nothing -/

theorem cycle_error {cfg : Cfg} {fs : FS} {rec : Runner} {fr : Frame} {name : Ref} {s s1 : St}
    {p : Path} {b : Bool}
    (hnl : importHit cfg fr s name = none) (hfm : findModule cfg fs fr.dir name = some p)
    (hcm : compileModule fs p s = some (b, s1)) (hprog : s.cache p = some .inProgress) :
    runImport cfg fs rec fr name s = some (.error .recursive, s1)
      ∧ s1.cache = s.cache ∧ s1.exports = s.exports ∧ s1.out = s.out := by
  obtain ⟨hc, he, ho, _⟩ := compileModule_spec hcm
  refine ⟨?_, hc, he, ho⟩
  have : s1.cache p = some .inProgress := by rw [hc]; exact hprog
  simp [runImport, hnl, hfm, hcm, this]

/-- when the chunk of the module in progress is in the loader cache (`run_import` compiles before it
inserts the placeholder; `Inv` records this for completed modules only, hence the hypothesis `hl`), the
failing import leaves the whole runtime state untouched -/
theorem cycle_error_state_unchanged {cfg : Cfg} {fs : FS} {rec : Runner} {fr : Frame} {name : Ref}
    {s : St} {p : Path}
    (hnl : importHit cfg fr s name = none) (hfm : findModule cfg fs fr.dir name = some p)
    (hl : s.loader p = true) (hprog : s.cache p = some .inProgress) :
    runImport cfg fs rec fr name s = some (.error .recursive, s) :=
  (cycle_error hnl hfm (compileModule_loaded hl) hprog).1

-- m3 imports itself: the operation fails with the recursive-import error, m3 is not cached afterwards
example : (hostRun cfgEx fsEx 5 (opImport 3) init).map (fun r => (r.1, r.2.out, (r.2.cache pC).isNone))
    = some (some .recursive, [.enter pC, .print 6, .failed pC], true) := by decide +kernel

/-! ## failure_rollback -/

/-- a failed import of `p` removes `p`'s placeholder and gives the importer its exports map back -/
theorem failure_rollback {fs : FS} {rec : Runner} {p : Path} {s s' : St} {e : Err}
    (h : loadModule fs rec p s = some (.error e, s')) :
    s'.cache p = none ∧ s'.exports = s.exports := by
  obtain ⟨_, s3, _, ⟨_, hr, _⟩ | ⟨_, _, _, rfl⟩⟩ := loadModule_some h
  · cases hr
  · exact ⟨upd_same _ _ _, rfl⟩

/-- the importer's exports map is restored by every import, successful or not -/
theorem import_restores_exports {cfg : Cfg} {fs : FS} {rec : Runner} {fr : Frame} {name : Ref}
    {s s' : St} {r : Except Err V} (h : runImport cfg fs rec fr name s = some (r, s')) :
    s'.exports = s.exports := runImport_exports h

/-- after the failure the module is importable again: the next import of the same name executes the
module file afresh (it is neither reported as recursive nor served from the cache) -/
theorem reimport_after_failure {cfg : Cfg} {fs : FS} {rec : Runner} {fr : Frame} {name : Ref}
    {s' : St} {p : Path}
    (hnl : importHit cfg fr s' name = none) (hfm : findModule cfg fs fr.dir name = some p)
    (hl : s'.loader p = true) (hnone : s'.cache p = none) :
    runImport cfg fs rec fr name s' = loadModule fs rec p s' := by
  simp [runImport, hnl, hfm, compileModule_loaded hl, hnone]

/-- no placeholder survives a host operation, whether it succeeds, fails, or fails deep inside nested
imports -/
theorem no_placeholder_left {cfg : Cfg} {fs : FS} {fuel : Nat} {op : Op} {s s' : St} {r : Option Err}
    (hinv : Inv s) (h : hostRun cfg fs fuel op s = some (r, s')) (p : Path)
    (hp : s.cache p ≠ some .inProgress) : s'.cache p ≠ some .inProgress := by
  obtain ⟨_, rel⟩ := sound_hostRun h hinv
  cases hc : s.cache p with
  | none => exact rel.clean p hc
  | some en =>
    cases en with
    | inProgress => exact absurd hc hp
    | done e => rw [rel.done p e hc]; simp

-- m4 imports m2 (fine) and fails in @main: m4 leaves no entry, m2 stays imported, the host's exports
-- are what they were, and importing m4 again runs it again (and fails again)
example : (finalSt cfgEx fsEx 5 [opTry 4 20, opTry 4 21] init).map
      (fun s => ((s.cache pD).isNone, doneB s.cache pB, s.exports.data.length, s.out.count (.enter pD), s.out.count (.enter pB)))
    = some (true, true, 0, 2, 1) := by decide +kernel

/-! ## run_once -/

theorem reachable_inv {cfg : Cfg} {fs : FS} {fuel : Nat} {ops : List Op} {st : St}
    (h : finalSt cfg fs fuel ops init = some st) : Inv st :=
  (sound_finalSt ops h inv_init).1

/-- In any history, for every module file `p`: no placeholder is left between operations; the
completion of `p` is reported exactly once if `p` is cached and never otherwise; and the top level of
`p` started exactly as often as an import of `p` completed or failed — i.e. once per failed attempt
plus once for the (single) successful import. -/
theorem run_once {cfg : Cfg} {fs : FS} {fuel : Nat} {ops : List Op} {st : St}
    (h : finalSt cfg fs fuel ops init = some st) (p : Path) :
    st.cache p ≠ some .inProgress
    ∧ st.out.count (.done p) = (if doneB st.cache p then 1 else 0)
    ∧ st.out.count (.enter p) = st.out.count (.done p) + st.out.count (.failed p) := by
  obtain ⟨inv, rel⟩ := sound_finalSt ops h inv_init
  have hclean : st.cache p ≠ some .inProgress := rel.clean p rfl
  refine ⟨hclean, inv.cntDone p, ?_⟩
  have := inv.cntEnter p
  have hin : inProgB st.cache p = false := by
    unfold inProgB
    split
    · rename_i hh; exact absurd hh hclean
    · rfl
  rw [hin] at this
  simpa using this

/-- once a module is imported, no later operation executes it again, and its cached exports map stays
what it was, however many modules import it -/
theorem done_stable {cfg : Cfg} {fs : FS} {fuel : Nat} {op : Op} {s s' : St} {r : Option Err}
    (hinv : Inv s) (h : hostRun cfg fs fuel op s = some (r, s')) (p : Path) (e : Exports)
    (hd : s.cache p = some (.done e)) :
    s'.cache p = some (.done e) ∧ ∃ t, s'.out = s.out ++ t ∧ Event.enter p ∉ t :=
  (sound_hostRun h hinv).2.done_stable hd

/-- however many modules import it: importing a module that is already imported (from any frame,
at any depth) returns the one cached exports map and changes nothing at all — no statement of the
module runs -/
theorem cached_import {cfg : Cfg} {fs : FS} {rec : Runner} {fr : Frame} {name : Ref} {s : St}
    {p : Path} {e : Exports} (hinv : Inv s)
    (hnl : importHit cfg fr s name = none) (hfm : findModule cfg fs fr.dir name = some p)
    (hd : s.cache p = some (.done e)) :
    runImport cfg fs rec fr name s = some (.ok (.mref p), s) := by
  simp [runImport, hnl, hfm, compileModule_loaded (hinv.loaded p e hd), hd]

/-- the same for an import statement executed anywhere (nested in other imports, in `@main`, …) -/
theorem done_stable_import {cfg : Cfg} {fs : FS} {fuel : Nat} {fr : Frame} {name : Ref} {s s' : St}
    {r : Except Err V} (hinv : Inv s)
    (h : runImport cfg fs (runUnit cfg fs fuel) fr name s = some (r, s')) (p : Path) (e : Exports)
    (hd : s.cache p = some (.done e)) :
    s'.cache p = some (.done e) ∧ ∃ t, s'.out = s.out ++ t ∧ Event.enter p ∉ t :=
  (sound_runImport (recSound_runUnit cfg fs fuel) h hinv).2.done_stable hd

/-- order inside one execution of a module (or host script): all of the top level, then all tests
(only when enabled), then `@main` -/
theorem phase_order {cfg : Cfg} {fs : FS} {rec : Runner} {tests : Bool} {fr : Frame} {body : List TAct}
    {s s' : St} (h : runBody cfg fs rec tests fr body s = some (none, s')) :
    ∃ fr1 s1 s2,
      execTActs cfg fs rec body fr s = some (none, fr1, s1)
      ∧ (if tests then runTests cfg fs rec s1.exports.tests s1 else some (none, s1)) = some (none, s2)
      ∧ runMain cfg fs rec s2 = some (none, s') := by
  unfold runBody at h
  split at h
  · cases h
  · simp at h
  · rename_i fr1 s1 ha
    refine ⟨fr1, s1, ?_⟩
    unfold afterTop at h
    split at h
    · cases h
    · simp at h
    · rename_i s2 ht
      exact ⟨s2, ha, ht, h⟩

/-- `@main` (when defined) starts by printing its marker after everything printed before -/
theorem main_runs_last {cfg : Cfg} {fs : FS} {fuel : Nat} {s s' : St} {c : Closure} {r : Option Err}
    (hinv : Inv s) (hm : s.exports.main = some c) (hmk : c.marker ≠ 0)
    (h : runMain cfg fs (runUnit cfg fs fuel) s = some (r, s')) :
    ∃ t, s'.out = s.out ++ Event.print c.marker :: t := by
  unfold runMain at h
  rw [hm] at h
  dsimp only at h
  unfold runFn at h
  split at h
  · cases h
  · rename_i r1 fr1 s1 ha
    simp only [Option.some.injEq, Prod.mk.injEq] at h
    rw [← h.2]
    simp only [closureBody, hmk, if_false] at ha
    unfold execActs at ha
    simp only [execAct] at ha
    have inv1 : Inv (emit (Event.print c.marker) s) := (sound_emit_obs _ rfl s hinv).1
    obtain ⟨_, rel⟩ := (eff_execActs (W := fun _ => True) _ ha (fun _ _ _ _ => trivial)).1.sound
      (recSound_runUnit cfg fs fuel) inv1
    obtain ⟨t, ht, _⟩ := rel.out
    exact ⟨t, by rw [ht]; simp [emit]⟩

-- m2 imported three times in one history (twice by the host, once through m4): top level, test, main
-- ran once, in this order
example : outOf [opImport 2, opTry 4 20, opImport 2]
    = some [.enter pB, .print 3, .print 4, .print 5, .done pB,
            .enter pD, .print 7, .print 8, .failed pD, .caught 20 .thrown] := by decide +kernel

/-! ## export_visible -/

/-- `export k = v` makes `k` visible to later code of the module: as the local, and — for code that has
no local `k`, e.g. functions defined earlier — through the exports map -/
theorem export_visible_module {cfg : Cfg} {fs : FS} {rec : Runner} (k : Name) (v : Int) (fr : Frame) (s : St) :
    ∃ fr' s', execAct cfg fs rec (.export_ k v) fr s = some (none, fr', s')
      ∧ readId cfg fr' s' k = some (.int v)
      ∧ lookup k s'.exports.data = some (.int v)
      ∧ ∀ fr2 : Frame, fr2.wild = [] → fr2.home = none → nonLocal cfg fr2 s' k = some (.int v) := by
  refine ⟨bind k (.int v) fr, setData k (.int v) s, rfl, ?_, ?_, ?_⟩
  · simp [readId, bind_lookup_self]
  · exact setData_lookup_self k _ s
  · intro fr2 hw hh
    simp [nonLocal, modExports, hh, hw, wildGet, setData, lookup_insert_self]

/-- with the repaired lookup order (`cfg.exportsFirst`) the export is visible to every later non-local
read of the module, whatever its wildcard imports provide -/
theorem export_visible_module_fixed {cfg : Cfg} {fs : FS} {rec : Runner} (k : Name) (v : Int) (fr : Frame)
    (s : St) (hc : cfg.exportsFirst = true) :
    ∃ fr' s', execAct cfg fs rec (.export_ k v) fr s = some (none, fr', s')
      ∧ ∀ fr2 : Frame, fr2.home = none → nonLocal cfg fr2 s' k = some (.int v) := by
  refine ⟨Modules.bind k (.int v) fr, setData k (.int v) s, rfl, ?_⟩
  intro fr2 hh
  simp [nonLocal, hc, modExports, hh, setData, lookup_insert_self]

/-- Negation witness (finding F-C18-7): as it is, a wildcard import shadows the module's own export for
non-local reads. m1 exports k60 = 5; the script does `from m1 import *`, defines a test that reads k60,
then `export k60 = 100`: the test (run after the script) still sees 5; with `exportsFirst` it sees 100 -/
theorem export_shadowed_by_wildcard_witness :
    let op : Op := { dir := [], exportTop := false, body :=
      [.act (.fromAll (rf 1)), .defTest 70 40 [.show 41 60], .act (.export_ 60 100)] }
    (hostRun { cfgEx with hostTests := true } fsEx 5 op init).map (fun r => r.2.out.filter Event.obs)
      = some [.print 1, .print 40, .show 41 (.int 5)]
    ∧ (hostRun { cfgEx with hostTests := true, exportsFirst := true } fsEx 5 op init).map
        (fun r => r.2.out.filter Event.obs)
      = some [.print 1, .print 40, .show 41 (.int 100)] := by decide +kernel

/-- an `export` executed inside a callback of a core function or inside a generator body reaches the
exports map of the running module: after the callback saw the elements 1 … last, `exports[k] = last` -/
theorem callback_export_lands {cfg : Cfg} {fs : FS} {rec : Runner} (last : Nat) (k : Name) (fr : Frame) (s : St)
    (hl : last ≠ 0) :
    ∃ s', execAct cfg fs rec (.cbExport last k) fr s = some (none, fr, s')
      ∧ lookup k s'.exports.data = some (.int last) := by
  exact ⟨setData k (.int last) s, by simp [execAct, hl], setData_lookup_self k _ s⟩

/-- … and it stays visible: later statements that do not export `k` again keep the entry (nested
imports included, which swap the exports map and put it back) -/
theorem export_visible_later {cfg : Cfg} {fs : FS} {rec : Runner} (k : Name) (acts : List TAct)
    {fr fr' : Frame} {s s' : St} {r : Option Err}
    (h : execTActs cfg fs rec acts fr s = some (r, fr', s'))
    (hk : ∀ a ∈ acts, touchesT cfg.exportAlias cfg.exportStrAlias fr.exportTop k a = false) :
    lookup k s'.exports.data = lookup k s.exports.data :=
  (eff_execTActs (W := (· ≠ k)) acts h (fun a ha k' hk' heq => by rw [heq, hk a ha] at hk'; cases hk')).1.keeps
    (fun h => h rfl)

/-- to importing modules: a successful import yields a reference to the module whose entries are
exactly the exports map the module had when its `@main` returned -/
theorem export_visible_importer {fs : FS} {rec : Runner} {p : Path} {s s' : St} {v : V}
    (h : loadModule fs rec p s = some (.ok v, s')) :
    v = .mref p ∧ ∃ s3, rec (some p) p.folder (bodyOf fs p)
        (emit (.enter p) { s with cache := upd s.cache p (some .inProgress), exports := {} }) = some (none, s3)
      ∧ resolve s'.cache (.mref p) = some s3.exports.data := by
  obtain ⟨_, s3, hr, ⟨rfl, hv, rfl⟩ | ⟨_, _, hv, _⟩⟩ := loadModule_some h
  · cases hv; exact ⟨rfl, s3, hr, by simp [resolve, emit, upd]⟩
  · cases hv

-- the host sees m2's exports through `import m2` / `export x = m2`; k60 is the exported 7, not the
-- reassigned 8
example : (finalSt cfgEx fsEx 5
      [{ dir := [], exportTop := false, body := [.act (.importMods [itm 2]), .act (.exportId 62 2)] }] init).map
      (fun s => (s.exports.data, resolve s.cache (.mref pB)))
    = some ([(62, .mref pB)], some [(60, .int 7), (61, .int 9)]) := by decide +kernel

/-- exports ⊇ bound ids of every exported assignment: after `export t1, t2, … = …` (or any top-level
(multi-)assignment under export_top_level_ids) EVERY id bound by the targets — plain ids and the ids
bound inside map patterns, with or without `as` — is in the exports map, holding the value it was
bound to as a local -/
theorem export_pattern_visible {cfg : Cfg} {fs : FS} {rec : Runner} (exp : Bool) (targets : List Target)
    (rhs : List Rhs) {fr fr' : Frame} {s s' : St} (hexp : (exp || fr.exportTop) = true)
    (h : execAct cfg fs rec (.assignPat exp targets rhs) fr s = some (none, fr', s')) :
    ∀ k ∈ boundIds targets, ∃ v, lookup k fr'.locals = some v ∧ lookup k s'.exports.data = some v := by
  intro k hk
  simp only [execAct] at h
  split at h
  · simp at h
  · simp only [Option.some.injEq] at h
    rw [hexp] at h
    exact bindTargets_agree k targets h (Or.inl hk)

/-- … and, as for single exports, the entries stay until a later statement writes them
(`export_visible_later` with `touches` extended to patterns), so importers and the host see them -/
example : touches false false false 62 (.assignPat true [.id 63, .mapPat [⟨60, some 60⟩, ⟨61, some 62⟩]] []) = true
    ∧ touches false false false 61 (.assignPat true [.id 63, .mapPat [⟨60, some 60⟩, ⟨61, some 62⟩]] []) = false := by
  decide

-- m6 does `export k63, {k60, k61 as k62}, _ = 1, m2, 5`: an importer sees all three bound ids
example : (finalSt cfgEx fsEx 7 [opImport 6] init).map (fun s => resolve s.cache (.mref pE))
    = some (some [(63, .int 1), (60, .int 7), (62, .int 9)]) := by decide +kernel

/-- inside an exported function that is called after its module completed, non-local reads consult the
DEFINING module's exports map (stated for a frame without wildcard imports, which would be asked first) -/
theorem function_reads_home_exports (cfg : Cfg) (fr : Frame) (st : St) (p : Path) (e : Exports) (k : Name)
    (hh : fr.home = some p) (hd : st.cache p = some (.done e)) (hw : fr.wild = []) :
    nonLocal cfg fr st k = ((lookup k e.data).orElse fun _ => cfg.prelude k) := by
  simp [nonLocal, modExports, hh, hd, hw, wildGet]

/-- Negation witness (finding F-C18-6): `export` inside a function writes to the VM's ACTIVE exports
map — the caller's — not to the exports map of the module that defines the function. m7 exports
`k70 = || export k60 = 1` and `k71 = || k60`; after the host calls `m7.k70()` the entry `k60` is in the
HOST's exports and not in m7's, so m7's own later code (`m7.k71()`) does not see it:
"'k60' not found". -/
theorem function_export_goes_to_caller_witness :
    (hostRun cfgEx fsEx 5 { dir := [], exportTop := false, body :=
        [.act (.importMods [itm 7]), .callMember 7 70, .callMember 7 71] } init).map
      (fun r => (r.1, lookup 60 r.2.exports.data, (resolve r.2.cache (.mref pF)).map (fun d => lookup 60 d)))
    = some (some .idNotFound, some (.int 1), some none) := by decide +kernel

/-! ## reassign_keeps_export -/

/-- a plain assignment (without export_top_level_ids) changes nothing but the local -/
theorem reassign_keeps_export {cfg : Cfg} {fs : FS} {rec : Runner} (k : Name) (v : Int) (fr : Frame)
    (s : St) (het : fr.exportTop = false) :
    execAct cfg fs rec (.assign k v) fr s = some (none, bind k (.int v) fr, s) := by
  simp [execAct, exportIf, het]

/-- … so after `export k = v`, any number of plain reassignments (and other statements that do not
export `k`) leave the exported value `v` in place -/
theorem reassign_keeps_export_seq {cfg : Cfg} {fs : FS} {rec : Runner} (k : Name) (v : Int)
    (post : List TAct) {fr fr1 fr' : Frame} {s s1 s' : St} {r : Option Err}
    (het : fr.exportTop = false)
    (h1 : execAct cfg fs rec (.export_ k v) fr s = some (none, fr1, s1))
    (h2 : execTActs cfg fs rec post fr1 s1 = some (r, fr', s'))
    (hpost : ∀ a ∈ post, touchesT cfg.exportAlias cfg.exportStrAlias false k a = false) :
    lookup k s'.exports.data = some (.int v) := by
  simp only [execAct, Option.some.injEq, Prod.mk.injEq, true_and] at h1
  have hfr1 : fr1.exportTop = false := by rw [← h1.1]; exact het
  rw [export_visible_later k post h2 (by rw [hfr1]; exact hpost), ← h1.2]
  exact setData_lookup_self k _ s

example : touchesT false false false 60 (.act (.assign 60 8)) = false := by decide

/-! ## import_forms_bind -/

/-- `import m as n` / `import m` / `import 'm' as n`: the local named by the alias (or the module name)
holds the imported value (a string item without `as` binds nothing: `Item.binds`) -/
theorem import_binds {cfg : Cfg} {fs : FS} {rec : Runner} (it : Item) {fr fr' : Frame} {s s' : St}
    (hb : it.binds = true)
    (h : execAct cfg fs rec (.importMods [it]) fr s = some (none, fr', s')) :
    ∃ v s1, importRoot cfg fs rec fr it.toRef s = some (.ok v, s1)
      ∧ lookup it.target fr'.locals = some v := by
  obtain ⟨v, s1, hir, rfl, _⟩ := execAct_importMods_one h
  exact ⟨v, s1, hir, bindItem_lookup_target hb v fr⟩

theorem exportItem_cache (b al sa : Bool) (it : Item) (v : V) (s : St) :
    (exportItem b al sa it v s).cache = s.cache := by
  unfold exportItem; split
  · unfold exportIf; split <;> rfl
  · rfl

theorem fromItems_cache (al sa : Bool) (mv : V) (items : List Item) : ∀ {fr fr' : Frame} {s s' : St} {r : Option Err},
    fromItems al sa mv items fr s = (r, fr', s') → s'.cache = s.cache := by
  induction items with
  | nil => intro fr fr' s s' r h; simp only [fromItems, Prod.mk.injEq] at h; rw [← h.2.2]
  | cons it rest ih =>
    intro fr fr' s s' r h
    unfold fromItems at h
    split at h
    · simp only [Prod.mk.injEq] at h; rw [← h.2.2]
    · rw [ih h, exportItem_cache]

theorem fromItems_locals_other (al sa : Bool) (mv : V) (n : Name) (items : List Item) :
    ∀ {fr fr' : Frame} {s s' : St} {r : Option Err},
    fromItems al sa mv items fr s = (r, fr', s') → (∀ it ∈ items, it.target ≠ n) →
    lookup n fr'.locals = lookup n fr.locals := by
  induction items with
  | nil => intro fr fr' s s' r h _; simp only [fromItems, Prod.mk.injEq] at h; rw [← h.2.1]
  | cons it rest ih =>
    intro fr fr' s s' r h hn
    unfold fromItems at h
    split at h
    · simp only [Prod.mk.injEq] at h; rw [← h.2.1]
    · rw [ih h (fun i hi => hn i (by simp [hi]))]
      unfold bindItem
      split
      · simp only [Modules.bind]
        exact lookup_insert_ne _ _ _ _ (fun hh => hn it (by simp) hh.symm)
      · rfl

/-- `from m import a, b as c, 'd' as e, …`: every item is looked up in the module value and bound to
its alias (or its own name); with pairwise distinct targets each local holds its item -/
theorem from_import_binds (al sa : Bool) (mv : V) (items : List Item) :
    ∀ {fr fr' : Frame} {s s' : St},
    fromItems al sa mv items fr s = (none, fr', s') → (items.map Item.target).Nodup →
    ∀ it ∈ items, ∃ v, access s.cache mv it.name = .ok v ∧
      (it.binds = true → lookup it.target fr'.locals = some v) := by
  induction items with
  | nil => intro fr fr' s s' _ _ it hit; cases hit
  | cons it0 rest ih =>
    intro fr fr' s s' h hnd it hit
    simp only [List.map_cons, List.nodup_cons] at hnd
    unfold fromItems at h
    split at h
    · simp at h
    · rename_i v hacc
      rcases List.mem_cons.mp hit with hh | hh
      · subst hh
        refine ⟨v, hacc, fun hb => ?_⟩
        rw [fromItems_locals_other al sa mv it.target rest h
          (fun i hi heq => hnd.1 (by rw [← heq]; exact List.mem_map_of_mem hi))]
        exact bindItem_lookup_target hb v fr
      · obtain ⟨v', h1, h2⟩ := ih h hnd.2 it hh
        exact ⟨v', by rw [← exportItem_cache fr.exportTop al sa it0 v s]; exact h1, h2⟩

/-- `from m import *`: the module's entries become visible as non-locals of the frame, the most
recently added wildcard import first -/
theorem wildcard_binds (cache : Path → Option Entry) (k : Name) (w : List V) (mv : V)
    (es : List (Name × V)) (v : V) (hr : resolve cache mv = some es) (hk : lookup k es = some v) :
    wildGet cache k (w ++ [mv]) = some v := by
  simp [wildGet, hr, hk]

/-- the statement itself: after a successful `from m import *` the imported value is among the frame's
wildcard imports (added at the end unless the same map is already there) -/
theorem wildcard_import_adds {cfg : Cfg} {fs : FS} {rec : Runner} (m : Ref) {fr fr' : Frame} {s s' : St}
    (h : execAct cfg fs rec (.fromAll m) fr s = some (none, fr', s')) :
    ∃ mv, mv ∈ fr'.wild ∧ (mv ∉ fr.wild → fr'.wild = fr.wild ++ [mv])
      ∧ ∀ w ∈ fr'.wild, w ∈ fr.wild ∨ w = mv := by
  obtain ⟨mv, _, _, rfl⟩ := execAct_fromAll h
  exact ⟨mv, addWild_wild _ mv fr⟩

/-- a wildcard import over a nested from-path `from a.b import *` wildcard-imports the value reached at
the END of the path and nothing else: the frame's wildcard list grows by at most that one value — the
root `a` (and any intermediate level) is not added -/
theorem nested_wildcard_only_leaf {cfg : Cfg} {fs : FS} {rec : Runner} (m : Ref) {fr fr' : Frame} {s s' : St}
    (hsub : m.sub ≠ [])
    (h : execAct cfg fs rec (.fromAll m) fr s = some (none, fr', s')) :
    ∃ root s1 leaf, rootValue cfg fs rec fr m s = some (.ok root, s1)
      ∧ accessPath s1.cache root m.sub = .ok leaf
      ∧ ∀ w ∈ fr'.wild, w ∈ fr.wild ∨ w = leaf := by
  obtain ⟨mv, s2, hw, rfl⟩ := execAct_fromAll h
  simp only [wildRoot, List.isEmpty_eq_false_iff.mpr hsub, Bool.false_eq_true, if_false, importRoot] at hw
  cases hr : rootValue cfg fs rec fr m s with
  | none => rw [hr] at hw; cases hw
  | some res =>
    obtain ⟨r1, s1⟩ := res
    rw [hr] at hw
    cases r1 with
    | error e => cases hw
    | ok root =>
      dsimp only at hw
      cases ha : accessPath s1.cache root m.sub with
      | error e => rw [ha] at hw; cases hw
      | ok leaf =>
        rw [ha] at hw
        simp only [Option.some.injEq, Prod.mk.injEq] at hw
        have hmv : mv = leaf := by cases leaf <;> simp [importValue] at hw <;> exact hw.1.symm
        exact ⟨root, s1, leaf, rfl, ha, hmv ▸ (addWild_wild _ mv fr).2.2⟩

-- `from m2 import k60 as k62, k61` then `from m1 import *`: k62 = 7, k61 = 9, and k60 resolves
-- through the wildcard import of m1 (5)
example : (hostRun cfgEx fsEx 5 { dir := [], exportTop := false, body :=
      [.act (.fromImport (rf 2) [itm 60 (some 62), itm 61]), .act (.fromAll (rf 1)),
       .act (.show 30 62), .act (.show 31 61), .act (.show 32 60)] } init).map
      (fun r => (r.1, r.2.out.filter Event.obs))
    = some (none, [.print 3, .print 4, .print 5, .print 1, .show 30 (.int 7), .show 31 (.int 9), .show 32 (.int 5)]) := by
  decide +kernel

/-! ## top_level_export_final -/

/-- With export_top_level_ids, a top-level assignment `k = v` (or `export k = v`) ends up in the
exports map, and `exports[k]` still is `v` at the end of the script provided no later statement
writes `k` again (a later assignment of `k` is covered by applying the theorem to that one: the
*final* assignment wins). -/
theorem top_level_export_final {cfg : Cfg} {fs : FS} {rec : Runner} (k : Name) (v : Int)
    (pre post : List TAct) {fr fr' : Frame} {s s' : St} (het : fr.exportTop = true)
    (h : execTActs cfg fs rec (pre ++ TAct.act (.assign k v) :: post) fr s = some (none, fr', s'))
    (hpost : ∀ a ∈ post, touchesT cfg.exportAlias cfg.exportStrAlias true k a = false) :
    lookup k s'.exports.data = some (.int v) := by
  obtain ⟨fr1, s1, h1, h2⟩ := execTActs_append pre _ h
  have het1 : fr1.exportTop = true := by rw [(execTActs_ext pre h1).exportTop]; exact het
  unfold execTActs at h2
  simp only [execTAct, execAct] at h2
  rw [export_visible_later k post h2 (by simp only [bind_exportTop, het1]; exact hpost)]
  exact exportIf_lookup_self het1 k _ s1

/-- the same for `export k = v` (with or without export_top_level_ids) -/
theorem export_final {cfg : Cfg} {fs : FS} {rec : Runner} (k : Name) (v : Int)
    (pre post : List TAct) {fr fr' : Frame} {s s' : St}
    (h : execTActs cfg fs rec (pre ++ TAct.act (.export_ k v) :: post) fr s = some (none, fr', s'))
    (hpost : ∀ a ∈ post, touchesT cfg.exportAlias cfg.exportStrAlias fr.exportTop k a = false) :
    lookup k s'.exports.data = some (.int v) := by
  obtain ⟨fr1, s1, h1, h2⟩ := execTActs_append pre _ h
  have het1 : fr1.exportTop = fr.exportTop := (execTActs_ext pre h1).exportTop
  unfold execTActs at h2
  simp only [execTAct, execAct] at h2
  rw [export_visible_later k post h2 (by simp only [bind_exportTop, het1]; exact hpost)]
  exact setData_lookup_self k _ s1

-- non-vacuity: a host script with export_top_level_ids, k60 assigned twice with an import in between
example : (hostRun cfgEx fsEx 5 { dir := [], exportTop := true, body :=
      [.act (.assign 60 1), .act (.importMods [itm 1]), .act (.assign 60 2), .act (.assign 61 3)] } init).map
      (fun r => (r.1, lookup 60 r.2.exports.data, lookup 61 r.2.exports.data))
    = some (none, some (.int 2), some (.int 3)) := by decide +kernel

/-- compound assignments count: with export_top_level_ids, after `k op= b` at the top level the exports
entry `k` holds the new value — whether `k` is a local assigned earlier in the same script or is read
from the exports of an earlier script -/
theorem top_level_compound_export_final (cfg : Cfg) (k : Name) (op : COp) (b a : Int) (fr : Frame) (s : St)
    (het : fr.exportTop = true) (ha : readId cfg fr s k = some (.int a)) :
    ∃ fr' s', compoundStep cfg k op (.lit b) fr s = (none, fr', s')
      ∧ lookup k s'.exports.data = some (.int (op.apply a b))
      ∧ ((lookup k fr.locals).isSome = true → lookup k fr'.locals = some (.int (op.apply a b))) := by
  refine ⟨_, _, by simp only [compoundStep, evalRhs, Option.map, ha]; rfl, ?_, ?_⟩
  · exact exportIf_lookup_self het k _ s
  · intro hl
    rw [if_pos hl]; exact bind_lookup_self k _ fr

-- `k60 = 1; k60 += 2; k60 *= 10` in one script, then `k60 -= 5` in the next one, a loop and an `if`
example : (finalSt cfgEx fsEx 5
      [{ dir := [], exportTop := true, body :=
          [.act (.assign 60 1), .act (.compound 60 .add (.lit 2)), .act (.compound 60 .mul (.lit 10))] },
       { dir := [], exportTop := true, body :=
          [.act (.compound 60 .sub (.lit 5)), .act (.loopCompound 3 60 .add (.lit 1)), .act (.condAssign 0 61 7)] }]
      init).map (fun s => (lookup 60 s.exports.data, lookup 61 s.exports.data))
    = some (some (.int 28), some (.int 7)) := by decide +kernel

/-- What the code does for *import* bindings under export_top_level_ids: the imported value is exported
under `Item.exportKey?`. Id items: the code recorded in F-C18-1 (`cfg.exportAlias = false`) used the
name of the imported item even when the statement binds an alias. String items (`import 'm' as n`,
`from m import 'k' as n`): the code as it is exports nothing (`cfg.exportStrAlias = false`, finding
F-C18-5). So the top-level binding itself reaches the exports map only in the cases of
`top_level_import_export_fixed`. -/
theorem top_level_import_export_partial {cfg : Cfg} {fs : FS} {rec : Runner} (it : Item)
    {fr fr' : Frame} {s s' : St} (het : fr.exportTop = true) (hb : it.binds = true)
    (h : execAct cfg fs rec (.importMods [it]) fr s = some (none, fr', s')) :
    ∃ v, lookup it.target fr'.locals = some v
      ∧ ∀ k, it.exportKey? cfg.exportAlias cfg.exportStrAlias = some k → lookup k s'.exports.data = some v := by
  obtain ⟨v, s1, _, rfl, rfl⟩ := execAct_importMods_one h
  refine ⟨v, bindItem_lookup_target hb v fr, fun k hk => ?_⟩
  rw [exportItem, hk]; exact exportIf_lookup_self het k v s1

/-- with the repaired compiler (or for an id item without alias) the binding made by a top-level
import is in the exports map under the bound name -/
theorem top_level_import_export_fixed {cfg : Cfg} {fs : FS} {rec : Runner} (it : Item)
    {fr fr' : Frame} {s s' : St} (het : fr.exportTop = true) (hb : it.binds = true)
    (hal : (it.str = false ∧ (cfg.exportAlias = true ∨ it.as_ = none)) ∨ (it.str = true ∧ cfg.exportStrAlias = true))
    (h : execAct cfg fs rec (.importMods [it]) fr s = some (none, fr', s')) :
    ∃ v, lookup it.target fr'.locals = some v ∧ lookup it.target s'.exports.data = some v := by
  obtain ⟨v, h1, h2⟩ := top_level_import_export_partial it het hb h
  refine ⟨v, h1, h2 it.target ?_⟩
  unfold Item.exportKey?
  rcases hal with ⟨hs, hal⟩ | ⟨hs, hsa⟩
  · rcases hal with hal | hal
    · simp [hs, hal]
    · cases hc : cfg.exportAlias <;> simp [hs, Item.target, hal]
  · have : it.as_.isNone = false := by
      simp only [Item.binds, hs, Bool.true_and, Bool.not_eq_true'] at hb; exact hb
    cases ha : it.as_ with
    | none => rw [ha] at this; cases this
    | some a => simp [hs, hsa, Item.target, ha]

/-- Negation witness (finding F-C18-5): with export_top_level_ids, `import 'm1' as k64` binds `k64` in
its own script but exports nothing, so `k64` is lost for the next script of the same runtime -/
theorem top_level_string_alias_not_exported_witness :
    (hostRun cfgEx fsEx 5 { dir := [], exportTop := true, body :=
        [.act (.importMods [{ name := 1, str := true, as_ := some 64 }]), .act (.show 9 64)] } init).map
      (fun r => (r.1, r.2.out.filter Event.obs, r.2.exports.data))
    = some (none, [.print 1, .show 9 (.mref pA)], []) := by decide +kernel

/-- Negation witness (finding F-C18-1): with export_top_level_ids, the top-level binding made by
`import m1 as k64` does NOT end up in the exports map — `k64` is absent, `m1` is exported instead —
so the binding is lost for the next script of the same runtime (REPL line). -/
theorem top_level_alias_not_exported_witness :
    (hostRun cfgEx fsEx 5 { dir := [], exportTop := true, body := [.act (.importMods [itm 1 (some 64)])] } init).map
      (fun r => (r.1, lookup 64 r.2.exports.data, lookup 1 r.2.exports.data))
    = some (none, none, some (.mref pA)) := by decide +kernel

/-- A module whose import failed can be imported again, which executes its top level again: "runs
exactly once" is about the successful import (`run_once` counts one start per failed attempt plus one
for the successful import). Witness: m4 started twice in one runtime. -/
theorem rerun_after_failure_witness :
    (finalSt cfgEx fsEx 5 [opTry 4 20, opTry 4 21] init).map (fun s => s.out.count (.enter pD)) = some 2 := by
  decide +kernel

/-! ## fuel_adequate — the fuel never runs out -/

/-- Let `keys` list every cache key that module resolution can produce. Then every fuel above
`keys.length` suffices for every history — the run returns — and the result is the same for all such
fuels: the "for every fuel … whenever the run returns" form of the theorems above loses nothing. (The
import nesting depth is bounded by the number of keys that are not in progress: each nested execution
puts one more key in progress.) `hkeys` ranges over every directory and every import string: without
`cfg.canonFile` a file module has infinitely many keys (`'a/../a/../name'`, …) and no such list exists;
`fuel_adequate_canonical` is the instance that can be used. -/
theorem fuel_adequate (cfg : Cfg) (fs : FS) (keys : List Path)
    (hkeys : ∀ dir r p, findModule cfg fs dir r = some p → p ∈ keys) (ops : List Op) (n m : Nat)
    (hn : keys.length < n) (hm : keys.length < m) :
    runOps cfg fs n ops init = runOps cfg fs m ops init ∧ runOps cfg fs n ops init ≠ none :=
  (runOps_adequate cfg fs keys hkeys n m hn hm ops init inv_init).eq_ne

/-- with the repaired `find_module` the keys are the files: every fuel above the number of files
suffices (the driver uses `6 * files.length + 8`, `Drivers/C18.lean` `fuelFor`) -/
theorem fuel_adequate_canonical (cfg : Cfg) (fs : FS) (files : List Path) (hc : cfg.canonFile = true)
    (hfiles : ∀ p, fs p ≠ none → p ∈ files) (ops : List Op) (n m : Nat)
    (hn : files.length < n) (hm : files.length < m) :
    runOps cfg fs n ops init = runOps cfg fs m ops init ∧ runOps cfg fs n ops init ≠ none :=
  fuel_adequate cfg fs files
    (fun _ _ p h => let ⟨_, hp, hq⟩ := findModule_canon hc h; hfiles p (hp ▸ hq)) ops n m hn hm

/-- the same for one nested module execution in any reachable runtime -/
theorem fuel_adequate_unit (cfg : Cfg) (fs : FS) (keys : List Path)
    (hkeys : ∀ dir r p, findModule cfg fs dir r = some p → p ∈ keys) (n m : Nat)
    (hn : keys.length < n) (hm : keys.length < m)
    (self : Option Path) (dir : List Name) (body : List TAct) (s : St) (hinv : Inv s) :
    runUnit cfg fs n self dir body s = runUnit cfg fs m self dir body s
      ∧ runUnit cfg fs n self dir body s ≠ none :=
  (runUnit_adequate cfg fs keys hkeys (keys.length + 1) n m hn hm self dir body s hinv
    (by have := avail_le_length keys s; omega)).eq_ne

-- non-vacuity: the example file system has its files at seven paths
example : ∀ p, fsEx p ≠ none → p ∈ [pA, pAdir, pB, pC, pD, pE, pF] := by
  intro p h
  refine Decidable.byContradiction fun hn => h ?_
  simp only [List.mem_cons, List.not_mem_nil, or_false, not_or] at hn
  simp only [fsEx, hn, if_false]

end KotoVerif.C18
